/-
C12 — observed / cached properties are never stale and announce dependency changes.

Model: `Model/Property.lean` (what it transcribes is listed there, file:line).
Vocabulary (`Lemmas/PropertyInv.lean`, `Lemmas/PropertyCount.lean`):

* `Inv P g s`            the cache holds nothing, or `g` of the current heap
* `PartialGetter G g`    whenever the getter returns, it returns `g heap` (it may raise)
* `PureGetter G g`       the getter never raises and computes `g`
* `DependsOnly g E root` user contract: `g` is a function of what the observables
                         selected by the expression hold
* `ObserveSound P`       interface assumption on the observe machinery (property C08):
                         a notifying change of a matched observable calls the handler
* `ObserveTight P`       interface assumption (C08): the handler is called for nothing else
* `Quiet P s steps`      a history of reads / listener changes / non-relevant mutations

Every theorem quantifies over all expressions of the path fragment, all heaps
(any size, sharing, repetition, cycles), all getters satisfying the contract,
all sibling-reader placements and all histories.
-/
import TraitsVerif.Lemmas.PropertyExamples
import TraitsVerif.Generated.PropertyState
import TraitsVerif.Lemmas.PropertySource
namespace TraitsVerif.Props.C12
open TraitsVerif TraitsVerif.Model.Property

variable {Val : Type}

/-! ## The tie to the source: the functions the model transcribes are unchanged -/

/-- What `harness/translate/propstate.py` reads from the working tree
(`_create_property_observe_state` with its state dict and handler, the blocks of
`update_traits_class_dict` that wire `observe` / `depends_on` / `cached`, the
metadata `traits.Property` derives from the getter, `cached_property`'s wrapper, the legacy listener, `_init_trait_observers` / `_post_init…`, the
life-cycle order of `__setstate__`, `clone_traits`, C `has_traits_init`, and
the calls of C `trait_property_changed`) is the text the model was written
against.  In particular `post_init = False` and observers are installed before
`trait_set` / `copy_traits` / the constructor's `setattr`s. -/
theorem C12_source_as_modelled :
    Generated.PropertyState.postInit = Source.postInit
    ∧ Generated.PropertyState.dispatch = Source.dispatch
    ∧ Generated.PropertyState.handlerSrc = Source.handlerSrc
    ∧ Generated.PropertyState.observeStateSrc = Source.observeStateSrc
    ∧ Generated.PropertyState.wiringSrc = Source.wiringSrc
    ∧ Generated.PropertyState.propertyMetadataSrc = Source.propertyMetadataSrc
    ∧ Generated.PropertyState.cacheNameSrc = Source.cacheNameSrc
    ∧ Generated.PropertyState.cachedPropertySrc = Source.cachedPropertySrc
    ∧ Generated.PropertyState.legacyListenerSrc = Source.legacyListenerSrc
    ∧ Generated.PropertyState.initObserversSrc = Source.initObserversSrc
    ∧ Generated.PropertyState.postInitObserversSrc = Source.postInitObserversSrc
    ∧ Generated.PropertyState.setstateCalls = Source.setstateCalls
    ∧ Generated.PropertyState.cloneCalls = Source.cloneCalls
    ∧ Generated.PropertyState.cInitOrder = Source.cInitOrder
    ∧ Generated.PropertyState.cPropertyChangedCalls = Source.cPropertyChangedCalls :=
  ⟨rfl, rfl, rfl, rfl, rfl, rfl, rfl, rfl, rfl, rfl, rfl, rfl, rfl, rfl, rfl⟩

/-- The observer of a property is not a `post_init` observer. -/
theorem C12_observer_not_post_init : Generated.PropertyState.postInit = false := rfl

/-! ## The tie to the source, second form: the model's step functions ARE the interpreted source

`harness/translate/propsrc.py` turns `_create_property_observe_state.handler`, `cached_property`
(the assignment of `name` and the body of `decorator`) and the body of C `trait_property_changed`
into terms of the deep embedding `Model/PropL.lean`; the interpreter there runs them on the model state. -/

/-- For every environment and every state: the model's read is the interpretation of
`cached_property.decorator` (called with exactly the object, `getattr_property1`), the model's
`tpc` is the interpretation of the C body of `trait_property_changed` (with that read as
`has_traits_getattro`), and the model's invalidation handler is the interpretation of
`_create_property_observe_state.handler` (with that `tpc` as `instance.trait_property_changed`);
the C body returns `-1` exactly when somebody listens and the read raised (the getter's exception
propagates, `C12_getter_raises_in_handler`); the observer is not a `post_init` observer.
The `observe=` arm of `mutate` is built from these three functions (the `depends_on=` arm is tied
by `C12_depends_on_handler_is_source`, `setProp` by `C12_property_handlers_are_source`, the order
of `restore` by the text comparison `C12_source_as_modelled`), so what is proved below is
proved about the interpreted source. -/
theorem C12_step_is_source (P : Env Val) (s : St Val) :
    readProp P s = Model.PropL.readSrc Generated.PropertyProg.decoratorProg P s
    ∧ (∀ old, tpc P s old
        = Model.PropL.tpcSrc Generated.PropertyProg.tpcBody Generated.PropertyProg.decoratorProg P s old)
    ∧ (P.legacy = false → handlerObserve P s
        = Model.PropL.handlerSrc Generated.PropertyProg.handlerProg Generated.PropertyProg.tpcBody
            Generated.PropertyProg.decoratorProg P s)
    ∧ (∀ old, Model.PropL.tpcRcSrc Generated.PropertyProg.tpcBody Generated.PropertyProg.decoratorProg P s old
        = (if listening P s then (match (readProp P s).1 with | .error _ => -1 | .ok _ => 0) else 0))
    ∧ Generated.PropertyProg.postInit = Source.postInit
    ∧ Generated.PropertyProg.getterArgs = ["obj"] :=
  ⟨Model.PropL.readProp_is_source P s, fun old => Model.PropL.tpc_is_source P s old,
   fun hl => Model.PropL.handlerObserve_is_source P hl s,
   fun old => Model.PropL.tpcRc_is_source P s old, rfl, rfl⟩

def setterArgs : Nat → List Model.PropL.HArg
  | 0 => []
  | 1 => [.value]
  | 2 => [.obj, .value]
  | _ => [.obj, .name, .value]

/-- The C handlers behind a property, read from ctraits.c as data (`Generated.PropertyProg.handlers`),
and the Python glue that decides which of them is installed:

* a set / delete of the property in the model (`setProp`) is what the installed handlers do, for every
  environment, state and setter arity 0-3: deleting raises TraitError before anything else; without a
  validator `setattr_property[set_n]` calls `traitd->delegate_prefix` (the setter); with one,
  `setattr_validate_property` calls `traitd->validate` first, fails if it fails, and hands the VALIDATED
  value to the same `setattr_property[set_n]` (installed as `post_setattr`); a failing setter propagates;
* handler `n` of the setter / validator tables passes `()`, `(value)`, `(obj, value)`, `(obj, name, value)`,
  handler `n` of the getter table the first `n` of `(obj, name, trait)`, the getters call `trait->delegate_name`, the
  validators `trait->py_validate`; the tables are indexed by `get_n` / `set_n` / `validate_n` and
  `delegate_name, delegate_prefix, py_validate := get, set, validate`;
* `CTrait.property_fields` hands `_set_property` each callable followed by its arity,
  `len(inspect.signature(f).parameters)` (`0` for `None`), in the order `(fget, fset, fvalidate)`. -/
theorem C12_property_handlers_are_source :
    (∀ (Val : Type) (P : Env Val), P.setN ≤ 3 → ∀ s a,
        setProp P s a = Model.PropL.setSrc Generated.PropertyProg.handlers P s a)
    ∧ (∀ n, n ≤ 3 →
        Model.PropL.viaTable Generated.PropertyProg.handlers.install.getTable Generated.PropertyProg.handlers.get n
          = some ⟨.trait, .delegate_name, [.obj, .name, .trait].take n⟩
        ∧ (Model.PropL.viaTable Generated.PropertyProg.handlers.install.setTable Generated.PropertyProg.handlers.set n).map
            (fun h => (h.call.who, h.call.field, h.call.args))
          = some (.traitd, .delegate_prefix, setterArgs n)
        ∧ Model.PropL.viaTable Generated.PropertyProg.handlers.install.validateTable
            Generated.PropertyProg.handlers.validate n
          = some ⟨.trait, .py_validate, setterArgs n⟩)
    ∧ (Generated.PropertyProg.handlers.install.getIndexedBy, Generated.PropertyProg.handlers.install.plainSetIndexedBy,
        Generated.PropertyProg.handlers.install.validatedPostIndexedBy,
        Generated.PropertyProg.handlers.install.validatedValidateIndexedBy,
        Generated.PropertyProg.handlers.install.validatedSetattr, Generated.PropertyProg.handlers.install.validatedWhen)
        = ("get_n", "set_n", "set_n", "validate_n", "setattr_validate_property", "validate != Py_None")
    ∧ Generated.PropertyProg.handlers.install.fields
        = [("delegate_name", "get"), ("delegate_prefix", "set"), ("py_validate", "validate")]
    ∧ Generated.PropertyProg.noneArity = 0
    ∧ Generated.PropertyProg.arityOf = "len(signature.parameters)"
    ∧ Generated.PropertyProg.pairOrder = ["callable", "arity"]
    ∧ Generated.PropertyProg.fieldsOrder = ["fget", "fset", "fvalidate"] := by
  refine ⟨fun _ P hn s a => Model.PropL.setProp_is_source P hn s a, ?_, rfl, rfl, rfl, rfl, rfl, rfl⟩
  intro n hn
  have h4 : n = 0 ∨ n = 1 ∨ n = 2 ∨ n = 3 := by omega
  rcases h4 with h | h | h | h <;> subst h <;> decide

/-- Never stale also after a SET through the property's own setter: whatever dependency writes the setter
performs (any list of mutations, computed from the heap and the validated value), the invariant holds
afterwards and the next read returns `g` of the new heap; a rejected value, a read-only property and a
deletion change nothing. -/
theorem C12_setter_never_stale (P : Env Val) (g : Heap → Val) (hG : PartialGetter P.G g)
    (hD : DependsOnly g P.E P.root) (hS : ObserveSound P) (s : St Val) (a : SetArg) (hi : Inv P g s) :
    Inv P g (setProp P s a).2
    ∧ (∀ v, (readProp P (setProp P s a).2).1 = .ok v → v = g (setProp P s a).2.heap)
    ∧ (∀ e, (setProp P s a).1 = .error e → (setProp P s a).2 = s) := by
  have h := setProp_inv hG hD hS s a hi
  exact ⟨h, fun v hv => readProp_value hG _ h v hv,
    setProp_cases P s a (motive := fun r => ∀ e, r.1 = .error e → r.2 = s) (fun _ _ _ => rfl)
      (fun _ _ h => nomatch h)⟩

/-- Non-vacuity of the setter theorems: `exKids` with a validated arity-2 setter that writes the value to
`value` of the first kid; a set of 7 on the fixture state changes node 2, pops the cache, announces
`(9, 11)`; deleting and a rejected value change nothing. -/
example :
    let P : Env Int := { exKids with
      fset := some (fun h x => match (h 0).kids, x with
        | k :: _, some v => .ok [⟨k, .scalar .value v, false⟩]
        | _, _ => .ok []),
      fvalidate := some (fun x => if x < 0 then .error .traitError else .ok x) }
    (setProp P exKidsFinal (.value 7)).1 = .ok ()
    ∧ (readProp P (setProp P exKidsFinal (.value 7)).2).1 = .ok 11
    ∧ ((setProp P exKidsFinal (.value 7)).2.notes.drop exKidsFinal.notes.length).map (fun n => (n.old, n.new))
        = [(.val 9, 11)]
    ∧ (setProp P exKidsFinal (.value (-1))).1 = .error .traitError
    ∧ (setProp P exKidsFinal .delete).1 = .error .traitError
    ∧ Model.PropL.setSrc Generated.PropertyProg.handlers P exKidsFinal (.value 7) = setProp P exKidsFinal (.value 7) := by
  refine ⟨by decide, by decide, by decide, by decide, by decide, ?_⟩
  exact (Model.PropL.setProp_is_source _ (by decide) _ _).symm

/-- The legacy `depends_on` listener, read from `HasTraits._init_trait_property_listener`: `pre_notify`
(registered first, with `priority=True`) and `notify`, interpreted with the `cached + ':old'` dictionary
slot the model abstracts away.  For a cached `depends_on` property the model's dispatch of a firing change
is: run `pre_notify` on the state with an empty slot (it drops the cache entry and parks it in the slot),
the sibling handlers, then `notify` with that slot (it empties the slot and calls
`trait_property_changed(name, old)` unless the parked entry is `Undefined`), the later siblings; for an
uncached one `notify` is `trait_property_changed(name, None)`.  The slot is empty again afterwards. -/
theorem C12_depends_on_handler_is_source (P : Env Val) (hl : P.legacy = true) (s0 : St Val) (m : Mutation) :
    (P.cached = true →
      let c1 := Model.PropL.execL P (tpc P) Generated.PropertyProg.legacyPreNotifyProg { st := s0 }
      let c2 := Model.PropL.execL P (tpc P) Generated.PropertyProg.legacyNotifyProg
                  { st := sib P (P.sibPre m) c1.st, oldSlot := c1.oldSlot }
      dispatchFire P s0 m = sib P (P.sibPost m && s0.dyn) c2.st ∧ c2.oldSlot = none)
    ∧ (P.cached = false →
      dispatchFire P s0 m = sib P (P.sibPost m && s0.dyn)
        (Model.PropL.execL P (tpc P) Generated.PropertyProg.legacyNotifyUncachedProg
          { st := sib P (P.sibPre m) s0 }).st)
    ∧ Generated.PropertyProg.legacyRegistrations = ["pre_notify:priority", "notify"] := by
  refine ⟨fun hc => ?_, fun hc => ?_, rfl⟩
  · have h1 := Model.PropL.legacyPre_is_source P hl hc s0
    have h2 := Model.PropL.legacyNotify_is_source P (sib P (P.sibPre m) (popCache P s0)) (popOld P s0)
      (Model.PropL.popOld_legacy_ne_undefined P hl s0)
    simp only [h1.1, h1.2, h2.1, h2.2, dispatchFire, hl, if_true, and_self]
  · rw [Model.PropL.legacyNotifyUncached_is_source]
    have hp : popCache P s0 = s0 := by simp [popCache, hc]
    have ho : popOld P s0 = .none := by simp [popOld, hc, hl]
    simp only [dispatchFire, hl, if_true, hp, ho]

/-- Never stale for `depends_on=` properties, stated on the interpreted listener: from any state
satisfying the invariant (after the heap was changed, so only the weak invariant is assumed), running the
translated `pre_notify`, any sibling handlers, and the translated `notify` re-establishes the invariant. -/
theorem C12_never_stale_source_depends_on (P : Env Val) (g : Heap → Val) (hG : PartialGetter P.G g)
    (hl : P.legacy = true) (hc : P.cached = true) (s0 : St Val) (hw : NoEntryIfUncached P s0) (b : Bool) :
    let c1 := Model.PropL.execL P (tpc P) Generated.PropertyProg.legacyPreNotifyProg { st := s0 }
    Inv P g (Model.PropL.execL P (tpc P) Generated.PropertyProg.legacyNotifyProg
      { st := sib P b c1.st, oldSlot := c1.oldSlot }).st := by
  have h1 := Model.PropL.legacyPre_is_source P hl hc s0
  have h2 := Model.PropL.legacyNotify_is_source P (sib P b (popCache P s0)) (popOld P s0)
    (Model.PropL.popOld_legacy_ne_undefined P hl s0)
  simp only [h1.1, h1.2, h2.1]
  exact (inv_readStable hG).legacyNotify _ _ ((inv_readStable hG).sib b _ (popCache_inv s0 hw))

/-- Never stale, stated on the interpreted source: after any history, running the translated
`cached_property.decorator` returns what the getter computes from the heap as it is now, and
running the translated observer handler leaves the invariant intact. -/
theorem C12_never_stale_source (P : Env Val) (g : Heap → Val) (hG : PartialGetter P.G g)
    (hD : DependsOnly g P.E P.root) (hS : ObserveSound P) (hp : P.postInit = false) (hl : P.legacy = false)
    (steps : List Step) (s : St Val) (hi : Inv P g s) :
    (∀ v, (Model.PropL.readSrc Generated.PropertyProg.decoratorProg P (run P s steps)).1 = .ok v →
        v = g (run P s steps).heap)
    ∧ Inv P g (Model.PropL.handlerSrc Generated.PropertyProg.handlerProg Generated.PropertyProg.tpcBody
        Generated.PropertyProg.decoratorProg P (run P s steps)) := by
  have hr := run_inv hG hD hS hp steps s hi
  refine ⟨fun v hv => ?_, ?_⟩
  · rw [← Model.PropL.readProp_is_source] at hv
    exact readProp_value hG _ hr v hv
  · rw [← Model.PropL.handlerObserve_is_source P hl]
    exact handlerObserve_inv hG _ hr.weak

/-- Non-vacuity: the interpreted source, run on the fixture state (cached entry 9, a class-level
listener): the handler pops the entry, `trait_property_changed` finds a listener, re-reads through
the decorator (one getter call, entry refilled) and delivers `(9, 9)`. -/
example :
    let s' := Model.PropL.handlerSrc Generated.PropertyProg.handlerProg Generated.PropertyProg.tpcBody
      Generated.PropertyProg.decoratorProg exKids exKidsFinal
    s'.cache = some 9 ∧ s'.calls = exKidsFinal.calls + 1
      ∧ (s'.notes.drop exKidsFinal.notes.length).map (fun n => (n.old, n.new)) = [(.val 9, 9)] := by
  decide

/-! ## Never stale -/

/-- The invariant `cache = none ∨ cache = some (g heap)` is preserved by every
history of mutations (scalar, Instance, list / dict / set reassignment and
item mutation, anywhere in the heap), reads, listener changes, constructions
and copies. -/
theorem C12_never_stale (P : Env Val) (g : Heap → Val) (hG : PartialGetter P.G g)
    (hD : DependsOnly g P.E P.root) (hS : ObserveSound P) (hp : P.postInit = false)
    (steps : List Step) (s : St Val) (hi : Inv P g s) : Inv P g (run P s steps) :=
  run_inv hG hD hS hp steps s hi

/-- …in particular from every fresh object, whatever the heap around it. -/
theorem C12_never_stale_from_new (P : Env Val) (g : Heap → Val) (hG : PartialGetter P.G g)
    (hD : DependsOnly g P.E P.root) (hS : ObserveSound P) (hp : P.postInit = false)
    (h0 : Heap) (steps : List Step) : Inv P g (run P { heap := h0 } steps) :=
  run_inv hG hD hS hp steps _ (Or.inl rfl)

/-- After any history, a read that returns, returns what the getter computes
from the heap as it is now (cached or not). -/
theorem C12_read_correct (P : Env Val) (g : Heap → Val) (hG : PartialGetter P.G g)
    (hD : DependsOnly g P.E P.root) (hS : ObserveSound P) (hp : P.postInit = false)
    (steps : List Step) (s : St Val) (hi : Inv P g s) (v : Val)
    (hv : (readProp P (run P s steps)).1 = .ok v) : v = g (run P s steps).heap :=
  readProp_value hG _ (run_inv hG hD hS hp steps s hi) v hv

/-- With a getter that never raises, every read returns `g heap`. -/
theorem C12_read_correct_total (P : Env Val) (g : Heap → Val) (hG : PureGetter P.G g)
    (hD : DependsOnly g P.E P.root) (hS : ObserveSound P) (hp : P.postInit = false)
    (steps : List Step) (s : St Val) (hi : Inv P g s) :
    (readProp P (run P s steps)).1 = .ok (g (run P s steps).heap) :=
  readProp_ok hG _ (run_inv hG.partial hD hS hp steps s hi)

/-- Negation witness (sanity): without `ObserveSound` the invariant fails — a
machinery that misses the change of `value` leaves the cache stale. -/
theorem C12_never_stale_needs_ObserveSound :
    ∃ (P : Env Int) (g : Heap → Int) (s : St Int) (steps : List Step),
      PureGetter P.G g ∧ DependsOnly g P.E P.root ∧ P.postInit = false ∧ Inv P g s ∧
      ¬ Inv P g (run P s steps) := by
  refine ⟨{ E := [⟨[], .scalar .value⟩], root := 0, G := fun _ h => .ok (h 0).value,
            fires := fun _ _ => false },
          fun h => (h 0).value, { heap := fun _ => {} },
          [.read, .change ⟨0, .scalar .value 5, false⟩], fun _ _ => rfl, ?_, rfl, Or.inl rfl, by decide⟩
  exact dependsOnly_foldExpr (fun c => match c with | .int v => v | _ => 0) (fun _ _ => 0)
    [⟨[], .scalar .value⟩] 0 (fun l => l.headD 0)

/-! ## At most one getter run between two relevant changes -/

/-- However many reads, listener changes and non-relevant mutations follow,
the getter of a cached property runs at most once. -/
theorem C12_at_most_once_quiet (P : Env Val) (g : Heap → Val) (hG : PureGetter P.G g)
    (hc : P.cached = true) (hu : ∀ h, P.isUndef (g h) = false) (hT : ObserveTight P)
    (s : St Val) (seg : List Step) (hq : Quiet P s seg) :
    (run P s seg).calls ≤ s.calls + 1 :=
  Nat.le_trans (calls_le_phi P _) (Nat.le_trans (run_quiet_phi hG hc hu hT seg s hq) (phi_le P s))

/-- Between two relevant changes: from just before a change `m` (including
the recomputation done to notify listeners) up to the next relevant change the
getter runs at most once.  `hpre`: no sibling handler reads the property
before the invalidation (see `C12_sibling_read_before_invalidation_is_stale`). -/
theorem C12_at_most_once (P : Env Val) (g : Heap → Val) (hG : PureGetter P.G g)
    (hc : P.cached = true) (hu : ∀ h, P.isUndef (g h) = false) (hT : ObserveTight P)
    (s : St Val) (m : Mutation) (hpre : P.legacy = true ∨ P.sibPre m = false)
    (seg : List Step) (hq : Quiet P (mutate P s m) seg) :
    (run P (mutate P s m) seg).calls ≤ s.calls + 1 :=
  Nat.le_trans (calls_le_phi P _)
    (Nat.le_trans (run_quiet_phi hG hc hu hT seg _ hq) (mutate_fire_phi hG hc hu s m hpre))

/-- Negation witness: without `ObserveTight` (a machinery that also calls the
handler for a change of an unmatched observable — what F10 does on the real
code after a link reachable through itself was re-pointed) the getter reruns
although nothing relevant changed. -/
theorem C12_at_most_once_needs_ObserveTight :
    ∃ (P : Env Int) (g : Heap → Int) (s : St Int) (seg : List Step),
      PureGetter P.G g ∧ P.cached = true ∧ ObserveSound P ∧ Quiet P s seg ∧
      (run P s seg).calls = s.calls + 2 :=
  ⟨{ E := [⟨[], .scalar .value⟩], root := 0, G := fun _ h => .ok (h 0).value,
     fires := fun _ _ => true },
   fun h => (h 0).value, { heap := fun _ => {} },
   [.read, .change ⟨0, .scalar .aux 1, false⟩, .read],
   fun _ _ => rfl, rfl, fun _ _ _ => rfl, by decide, by decide⟩

/-! ## Announcing -/

/-- A change that alters what the getter computes delivers exactly one
property notification to the listeners present, carrying the recomputed new
value; when no sibling handler ran before the invalidation, `old` is the
cache entry that was dropped (`Undefined` / `None` when there was none). -/
theorem C12_announces (P : Env Val) (g : Heap → Val) (hG : PureGetter P.G g)
    (hD : DependsOnly g P.E P.root) (hS : ObserveSound P) (s : St Val) (m : Mutation)
    (hi : Inv P g s) (hL : listening P s = true)
    (hu : P.legacy = true → ∀ h, P.isUndef (g h) = false)
    (halt : g (apply m s.heap) ≠ g s.heap) :
    ∃ old, (mutate P s m).notes = s.notes ++ [mkNote P s old (g (apply m s.heap))]
      ∧ ((P.legacy = true ∨ P.sibPre m = false) → old = popOld P s) := by
  have hrel : relevant P.E P.root s.heap m = true := by
    cases hr : relevant P.E P.root s.heap m
    · exact absurd (hD _ _ (sameViews_of_not_relevant P.E P.root s.heap m hr)).symm halt
    · rfl
  have hch : changed s.heap m = true := by
    simp only [relevant, Bool.and_eq_true] at hrel
    exact hrel.1
  have hf := hS _ _ hrel
  refine ⟨if P.legacy then popOld P s else popOld P (sib P (P.sibPre m) { s with heap := apply m s.heap }), ?_, ?_⟩
  · unfold mutate
    simp only [hch, hf, if_true]
    refine dispatchFire_notes hG { s with heap := apply m s.heap } m (fun hc => hi.weak hc) hL ?_
    intro hl v hv
    cases hi with
    | inl h => rw [h] at hv; cases hv
    | inr h => rw [h.2] at hv; cases hv; exact hu hl _
  · intro hpre
    by_cases hl : P.legacy = true
    · simp [hl]
    · cases hpre with
      | inl h => exact absurd h hl
      | inr h => simp [hl, h, popOld_heap_irrel]

/-- The dropped entry was truthful: it is `g` of the heap before the change. -/
theorem C12_announces_old_truthful (P : Env Val) (g : Heap → Val) (s : St Val) (hi : Inv P g s)
    (v : Val) (ho : popOld P s = .val v) : v = g s.heap := by
  have hc := popOld_val ho
  exact hi.elim (fun h => by rw [h] at hc; cases hc) (fun h => by rw [h.2] at hc; cases hc; rfl)

/-! ## Copies -/

/-- Objects produced by `__init__(**kw)`, unpickling, `clone_traits` and
`copy.deepcopy` satisfy the invariant, and keep it along every later history
(also when a handler reads the property in the middle of the restore). -/
theorem C12_copies (P : Env Val) (g : Heap → Val) (hG : PartialGetter P.G g)
    (hD : DependsOnly g P.E P.root) (hS : ObserveSound P) (hp : P.postInit = false)
    (h0 : Heap) (ws : List Write) (steps : List Step) :
    Inv P g (restore P h0 ws) ∧ Inv P g (run P (restore P h0 ws) steps) :=
  ⟨restore_inv hG hD hS hp h0 ws,
   run_inv hG hD hS hp steps _ (restore_inv hG hD hS hp h0 ws)⟩

/-- Negation witness (the ordering matters): were the property's observer
installed after the values (`post_init = True`), a copy whose restore is
interleaved with one read (a static handler on `aux` reading the property)
comes out with a stale cache: `p = Property(observe="inst.value")`, node 1 has
`value = 7`, restoring `value, aux, inst, …` caches the getter's result for
`inst = None` at `aux` and keeps it after `inst = node 1`. -/
theorem C12_copies_order_matters :
    ∃ (P : Env Int) (g : Heap → Int) (h0 : Heap) (ws : List Write),
      PureGetter P.G g ∧ DependsOnly g P.E P.root ∧ ObserveSound P ∧ P.postInit = true ∧
      ¬ Inv P g (restore P h0 ws) := by
  let g : Heap → Int := fun h => match (h 0).inst with | none => -1 | some i => (h i).value
  refine ⟨{ E := [⟨[.inst], .scalar .value⟩], root := 0, G := fun _ h => .ok (g h),
            fires := firesSpec [⟨[.inst], .scalar .value⟩] 0, postInit := true,
            sibPre := fun m => decide (m.w.slot = .scalar .aux) },
          g, fun i => if i = 1 then { value := 7 } else {},
          rootWrites { aux := 1, inst := some 1 }, fun _ _ => rfl, ?_, fun _ _ h => h, rfl, by decide⟩
  have := dependsOnly_foldExpr (fun c => match c with | .int v => v | _ => 0)
    (fun c l => match c with | .ref none => -1 | _ => l.headD 0) [⟨[.inst], .scalar .value⟩] 0
    (fun l => l.headD 0)
  intro h h' hv
  have := this h h' hv
  simp only [foldExpr, foldView, List.map, targets, content, Obj.get, Link.slot, List.headD] at this
  show (match (h 0).inst with | none => -1 | some i => (h i).value)
     = (match (h' 0).inst with | none => -1 | some i => (h' i).value)
  cases h1 : (h 0).inst <;> cases h2 : (h' 0).inst <;> simp_all [Content.targets]

/-! ## Reads by sibling handlers during a dispatch -/

/-- FULL statement (false of the code as it is): every value a sibling handler
reads during the dispatch of a change is `g` of the heap after the change. -/
def NestedReadsCorrect (P : Env Val) (g : Heap → Val) : Prop :=
  ∀ (s : St Val) (m : Mutation), Inv P g s →
    ∀ v, .ok v ∈ (mutate P s m).nested → .ok v ∈ s.nested ∨ v = g (apply m s.heap)

/-- Proved part: it holds when no sibling handler precedes the property's
observer on a firing change (handlers attached later, and everything under the
legacy `depends_on`, whose invalidation has priority).  Missing: `@observe`
methods / static `_x_changed` methods on a dependency are dispatched before the
property's own observer, see the witness below. -/
theorem C12_nested_reads_correct_partial (P : Env Val) (g : Heap → Val) (hG : PartialGetter P.G g)
    (hD : DependsOnly g P.E P.root) (hS : ObserveSound P)
    (hpre : P.legacy = true ∨ ∀ m, P.sibPre m = false) : NestedReadsCorrect P g := by
  intro s m hi v
  have rs := nested_readStable hG (apply m s.heap) s.nested
  refine mutate_cases P s m (motive := fun t => .ok v ∈ t.nested → .ok v ∈ s.nested ∨ v = g (apply m s.heap))
    (fun _ => Or.inl) (fun _ hf => ?_) (fun _ _ => ?_)
  · exact (rs.dispatchQuiet _ m
      ⟨inv_apply hD s m (not_relevant_of_quiet hS (Or.inr hf)) hi, rfl, fun _ => Or.inl⟩).2.2 v
  · exact (rs.dispatchFire_pop { s with heap := apply m s.heap } m (hpre.imp id (fun h => h m))
      ⟨popCache_inv _ hi.weak, by simp, fun _ h => Or.inl (by simpa using h)⟩).2.2 v

/-- Negation witness (a defect of the tree, known finding): a static
`_value_changed` method (or an `@observe("value")` method) that reads a cached
`Property(observe="value")` is dispatched before the property's observer and
is handed the value cached before the change. -/
theorem C12_sibling_read_before_invalidation_is_stale :
    ∃ (P : Env Int) (g : Heap → Int),
      PureGetter P.G g ∧ DependsOnly g P.E P.root ∧ ObserveSound P ∧ ObserveTight P ∧
      P.postInit = false ∧ ¬ NestedReadsCorrect P g := by
  refine ⟨{ E := [⟨[], .scalar .value⟩], root := 0, G := fun _ h => .ok (h 0).value,
            fires := firesSpec [⟨[], .scalar .value⟩] 0,
            sibPre := fun m => decide (m.w.slot = .scalar .value) },
          fun h => (h 0).value, fun _ _ => rfl, ?_, fun _ _ h => h, fun _ _ _ h => h, rfl, ?_⟩
  · exact dependsOnly_foldExpr (fun c => match c with | .int v => v | _ => 0) (fun _ _ => 0)
      [⟨[], .scalar .value⟩] 0 (fun l => l.headD 0)
  · intro hN
    have := hN { heap := fun _ => {}, cache := some 0 } ⟨0, .scalar .value 5, false⟩
      (Or.inr ⟨rfl, rfl⟩) 0 (by decide)
    revert this
    decide

/-! ## A raising getter (cited by C19) -/

/-- A getter that raises writes no cache entry and changes nothing but the
call counter; the next read calls the getter again and, if that call succeeds,
returns and stores its value. -/
theorem C12_getter_raises (P : Env Val) (s : St Val) (e : Exc) (hmiss : s.cache = none)
    (hr : P.G s.calls s.heap = .error e) :
    readProp P s = (.error e, { s with calls := s.calls + 1 })
    ∧ (readProp P s).2.cache = none
    ∧ ∀ v, P.G (s.calls + 1) s.heap = .ok v →
        (readProp P (readProp P s).2).1 = .ok v
        ∧ (readProp P (readProp P s).2).2.cache = (if P.cached then some v else none) := by
  have h1 : readProp P s = (.error e, { s with calls := s.calls + 1 }) := by
    unfold readProp compute
    rw [hmiss, hr]
    simp
  refine ⟨h1, by rw [h1]; exact hmiss, ?_⟩
  intro v hv
  rw [h1]
  unfold readProp compute
  simp only [hmiss, hv]
  by_cases hc : P.cached = true <;> simp [hc]

/-- The same inside the invalidation handler: the entry is dropped, nothing is
stored, no notification is delivered, the invariant holds. -/
theorem C12_getter_raises_in_handler (P : Env Val) (s : St Val) (e : Exc)
    (hw : NoEntryIfUncached P s) (hr : P.G s.calls s.heap = .error e) :
    (handlerObserve P s).cache = none ∧ (handlerObserve P s).notes = s.notes := by
  have hc0 : (popCache P s).cache = none := by
    unfold popCache
    by_cases hc : P.cached = true
    · simp [hc]
    · simp only [Bool.not_eq_true] at hc
      simp only [hc]
      exact hw hc
  -- the read inside the handler is a read on a state without entry: `C12_getter_raises`
  obtain ⟨h1, h2, -⟩ := C12_getter_raises P (popCache P s) e hc0 (by simpa using hr)
  unfold handlerObserve tpc
  split
  · rw [show (readProp P (popCache P s)).1 = .error e by rw [h1]]
    exact ⟨h2, by simp⟩
  · exact ⟨hc0, by simp⟩

/-! ## The instances the correspondence check runs -/

/-- The getters the driver instantiates satisfy the user contract for every
expression; with `fires := firesSpec` (`firesSpec_sound`, `firesSpec_tight`) the environments
that are compared with the real code meet `DependsOnly`, `ObserveSound` and `ObserveTight`. -/
theorem C12_canonical_getters_depend_only (E : Expr) (root : Id) (undef : Bool) :
    DependsOnly (viewGetter E root) E root ∧ DependsOnly (sumGetter E root undef) E root
      ∧ DependsOnly (falsyGetter E root) E root :=
  ⟨dependsOnly_foldExpr _ _ E root (fun l => "&".intercalate l),
   dependsOnly_foldExpr sumLeaf _ E root
     (fun l => if undef && l.foldl (· + ·) 0 % 5 == 3 then "U" else toString (l.foldl (· + ·) 0)),
   dependsOnly_foldExpr sumLeaf _ E root
     (fun l => let t := l.foldl (· + ·) 0
       if t % 5 == 0 then "N" else if t % 5 == 1 then "0" else if t % 5 == 2 then "''"
       else if t % 5 == 3 then "[]" else toString t)⟩

/-- Never stale for those environments (`fires` is the specification, the getter
`viewGetter`): what remains assumed is that `P.G` returns `viewGetter` whenever it returns,
and `post_init = False`. -/
theorem C12_never_stale_canonical (P : Env String) (hf : P.fires = firesSpec P.E P.root)
    (hG : PartialGetter P.G (viewGetter P.E P.root)) (hp : P.postInit = false)
    (h0 : Heap) (steps : List Step) :
    Inv P (viewGetter P.E P.root) (run P { heap := h0 } steps) :=
  C12_never_stale_from_new P _ hG (C12_canonical_getters_depend_only P.E P.root false).1
    (firesSpec_sound P hf) hp h0 steps

/-! ## Non-vacuity: the hypotheses are satisfiable on non-trivial instances

Fixtures (`Lemmas/PropertyExamples.lean`): `exKids` is
`Property(observe="kids.items.value")` with a class-level listener and the getter
`exKidsG = sum(k.value for k in self.kids)`; `exKidsFinal` is the state after
`kids = [1, 2, 1]` (values 3, 5), a read, one occurrence of node 1 removed in place,
node 1 bumped to 4. -/

example : PureGetter exKids.G exKidsG := fun _ _ => rfl
example : ObserveSound exKids ∧ ObserveTight exKids := ⟨fun _ _ h => h, fun _ _ _ h => h⟩
example : DependsOnly exKidsG exKids.E exKids.root := by
  have := dependsOnly_foldExpr (fun c => match c with | .int v => v | _ => 0)
    (fun _ l => l.foldl (· + ·) 0) [⟨[.kids], .scalar .value⟩] 0 (fun l => l.headD 0)
  intro h h' hv
  have := this h h' hv
  simpa [foldExpr, foldView, targets, content, Obj.get, Link.slot, Content.targets, exKidsG] using this

example :
    exKidsFinal.cache = some 9 ∧ exKidsFinal.calls = 3 ∧ (readProp exKids exKidsFinal).1 = .ok 9
      ∧ exKidsFinal.notes.map (fun n => (n.old, n.new))
          = [(.undefined, 11), (.val 11, 8), (.val 8, 9)] := by
  decide

/-- `Quiet` is satisfiable on a segment that does change the heap: reads, a listener change and a
change of an unmatched object; and a relevant change that alters `g` exists. -/
example : Quiet exKids exKidsFinal [.read, .change ⟨3, .scalar .value 7, false⟩, .attach, .read,
    .change ⟨0, .scalar .aux 3, false⟩, .read] := by decide
example : exKidsG (apply ⟨1, .scalar .value 6, false⟩ exKidsFinal.heap) ≠ exKidsG exKidsFinal.heap := by decide
example : Inv exKids exKidsG exKidsFinal := by decide
/-- a restore that passes through an intermediate cached value -/
example : (restore exKids (fun i => if i = 1 then { value := 3 } else {})
    (rootWrites { value := 1, kids := [1, 1] })).notes.map (fun n => (n.old, n.new)) = [(.undefined, 6)] := by decide

end TraitsVerif.Props.C12
