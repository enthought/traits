/-
Property C07 — TraitSet refines set, its change events are faithful deltas, and
copies (copy / deepcopy / pickle) are equal sets that still validate.
The model is `Model/TraitSet.lean`; the lemmas about it are in `Lemmas/Set*.lean`, those
that tie it to the source in `Lemmas/PyLMapSet.lean`, `PyLObj.lean`, `PyLCtor.lean`.

All theorems are universally quantified over the member type, the set `s` (any
size), the operation with its operands (any number of iterables of any length,
set or non-set operands of the in-place operators), and the item validator
`v : Nat → α → Except Exc α` (an arbitrary partial function of call ordinal and
argument).
-/
import TraitsVerif.Lemmas.SetStep
import TraitsVerif.Lemmas.PyLMapSet
import TraitsVerif.Py.Dict
import TraitsVerif.Generated.Mutators
import TraitsVerif.Lemmas.PyLObj
import TraitsVerif.Generated.CtorCopy
import TraitsVerif.Model.CtorCopyAssumed
import TraitsVerif.Lemmas.PyLCtor
import TraitsVerif.Lemmas.MapSetObj
namespace TraitsVerif.Props.C07
open TraitsVerif TraitsVerif.Py TraitsVerif.Model.SetM
open TraitsVerif.Py.PSet (Op WF Equiv ofList)

variable {α : Type} [DecidableEq α]

/-! ### Refinement -/

/-- One `TraitSet` method call yields the same members, the
same return value and on failure the same exception class as the builtin set on
the validated items.  For `^=` (set operand) and `symmetric_difference_update`
this needs the validated new items to be absent from the set (finding F24: the
code tests containment on the raw items); every other operation needs no
hypothesis. -/
theorem C07_refines (v : Callback α α) (s : PSet α) (op : Op α) (h : SymHyp v s op) :
    SetRefines v s op :=
  step_refines v s op fun _ _ => h

/-- The hypothesis is vacuous for every operation but the two symmetric-difference ones. -/
theorem C07_refines_unconditional (v : Callback α α) (s : PSet α) (op : Op α)
    (h : (∀ xs, op ≠ .ixor true xs) ∧ ∀ xs, op ≠ .symmetricDifferenceUpdate xs) : SetRefines v s op := by
  refine step_refines v s op fun _ _ => ?_
  cases op <;> simp_all [SymHyp]

/-- With the identity validator the hypothesis of `C07_refines` holds (absent items stay absent): `^=` and
`symmetric_difference_update` refine the builtin. -/
theorem C07_refines_sym_identity (s : PSet α) (xs : List α) :
    SetRefines (fun _ x => .ok x) s (.symmetricDifferenceUpdate xs) ∧
    SetRefines (fun _ x => .ok x) s (.ixor true xs) := by
  constructor <;> refine step_refines _ s _ fun _ _ => ?_ <;> simp only [SymHyp, symRaw] <;> intro ws hws y hy <;>
    (rw [valAll_fixed fun _ _ _ => rfl] at hws; cases hws
     exact (PSet.mem_diff.mp hy).2 ∘ fun hs => PSet.mem_inter.mpr ⟨hs, (PSet.mem_diff.mp hy).1⟩)

/-- **Negation witness (F24).**  `TraitSet({3}, item_validator=int) ^= {'3'}`:
the model (like the code) leaves `{3}` and notifies nobody, the builtin set on
the validated operand `{3}` removes 3.  So the hypothesis of `C07_refines`
cannot be dropped. -/
theorem C07_refines_fails_at :
    ¬ SetRefines KAtom.intV [KAtom.int 3] (.ixor true [KAtom.str 3]) := by
  intro h
  have h1 : (TraitSet.step KAtom.intV [KAtom.int 3] (.ixor true [KAtom.str 3])).map SOut.proj =
      .ok ([KAtom.int 3], none) := rfl
  have h2 : setReference KAtom.intV [KAtom.int 3] (.ixor true [KAtom.str 3]) = .ok ([], none) := rfl
  unfold SetRefines at h
  rw [h1, h2] at h
  exact absurd ((h.1 (KAtom.int 3)).mp (by simp)) (by simp)

/-- The full-strength refinement statement (`Model.SetM.C07RefinesFull`) is false of
the code as it stands. -/
theorem C07_refines_full_fails : ¬ C07RefinesFull KAtom := by
  intro h
  exact C07_refines_fails_at (h _ _ _ (by decide))

/-- What the model computes on the F24 input and on the input the test suite
pins (`test_ixor_validator_args_with_added`: `{'1','2','3'} ^= {'2', 3, 4}` under
`str`), replayed on the real code by the oracle. -/
theorem C07_F24_model_behaviour :
    TraitSet.step KAtom.intV [KAtom.int 3] (.ixor true [KAtom.str 3]) = .ok { items := [KAtom.int 3] } ∧
    TraitSet.step KAtom.strV [KAtom.str 1, KAtom.str 2, KAtom.str 3] (.ixor true [KAtom.str 2, KAtom.int 3, KAtom.int 4]) =
      .ok { items := [KAtom.str 1, KAtom.str 3, KAtom.str 4],
            event := some ⟨[KAtom.str 2], [KAtom.str 4]⟩ } := ⟨rfl, rfl⟩

/-- Non-vacuity of `C07_refines`: a coercing validator with a partial overlap. -/
example : SymHyp KAtom.intV [KAtom.int 1, KAtom.int 2] (.symmetricDifferenceUpdate [KAtom.int 2, KAtom.str 5, KAtom.str 5]) ∧
    TraitSet.step KAtom.intV [KAtom.int 1, KAtom.int 2] (.symmetricDifferenceUpdate [KAtom.int 2, KAtom.str 5, KAtom.str 5]) =
      .ok { items := [KAtom.int 1, KAtom.int 5], event := some ⟨[KAtom.int 2], [KAtom.int 5]⟩ } := by
  refine ⟨?_, rfl⟩
  intro ws hws
  have : ws = [KAtom.int 5] := by
    have h : valAll KAtom.intV 0 (symRaw [KAtom.int 1, KAtom.int 2] [KAtom.int 2, KAtom.str 5, KAtom.str 5]) =
        .ok [KAtom.int 5] := rfl
    rw [h] at hws; cases hws; rfl
  subst this; decide

/-- `TraitSet(iterable, item_validator)` is `set` of the validated items. -/
theorem C07_init (v : Callback α α) (xs : List α) :
    TraitSet.init v xs = (valAll v 0 xs).map ofList ∧ ∀ s, TraitSet.init v xs = .ok s → WF s := by
  constructor
  · unfold TraitSet.init; cases valAll v 0 xs <;> rfl
  · intro s h; unfold TraitSet.init at h; split at h <;> cases h; exact PSet.wf_ofList _

/-! ### Failure atomicity -/

/-- A failing operation leaves the members as they were and
notifies nobody. -/
theorem C07_atomic (v : Callback α α) (s : PSet α) (op : Op α) (e : Exc)
    (h : TraitSet.step v s op = .error e) :
    TraitSet.next v s op = s ∧ TraitSet.notification v s op = none := by
  simp [TraitSet.next, TraitSet.notification, h]

/-- The only failures are the validator's exception (passed through), the
builtin's `KeyError` (`remove` of a non-member, `pop` on an empty set — raised
before anything is notified) and `TypeError` for a non-set operand of an in-place
operator. -/
theorem C07_failure_causes (v : Callback α α) (s : PSet α) (op : Op α) (e : Exc)
    (h : TraitSet.step v s op = .error e) :
    validateSetOp v s op = .error e ∨
      ((e = .keyError ∨ e = .typeError) ∧ ∃ op', validateSetOp v s op = .ok op' ∧ PSet.step s op' = .error e) := by
  have href := step_refines v s op fun o ho => by rw [h] at ho; cases ho
  unfold SetRefines setReference setReferenceOn at href
  rw [h] at href
  cases hv : validateSetOp v s op with
  | error e' => simp only [hv] at href; exact .inl (congrArg _ (Eq.symm href))
  | ok op' =>
    simp only [hv] at href
    cases hp : PSet.step s op' with
    | ok r => rw [hp] at href; exact href.elim
    | error e' =>
      rw [hp] at href; cases (href : e = e')
      exact .inr ⟨pset_step_error hp, op', rfl, hp⟩

/-! ### Events are faithful deltas -/

/-- For the notification `(removed, added)` of a successful
operation: `removed ⊆ pre`, `added ∩ pre = ∅`, `(pre − removed) ∪ added = post`,
and the two are not both empty. -/
theorem C07_delta (v : Callback α α) (s : PSet α) (hwf : WF s) (op : Op α) (o : SOut α) (e : SEvent α)
    (h : TraitSet.step v s op = .ok o) (he : o.event = some e) : Delta s o.items e :=
  (step_good h).delta e he

/-- An operation that leaves the set equal to what it was
notifies nobody. -/
theorem C07_silent (v : Callback α α) (s : PSet α) (hwf : WF s) (op : Op α) (o : SOut α)
    (h : TraitSet.step v s op = .ok o) (heq : Equiv o.items s) : o.event = none := by
  cases he : o.event with
  | none => rfl
  | some e => exact absurd heq (delta_not_equiv ((step_good h).delta e he))

/-- An operation that changes the set notifies (at most once
by construction of `SOut`; every notifier in the list receives the same pair). -/
theorem C07_one_event (v : Callback α α) (s : PSet α) (hwf : WF s) (op : Op α) (o : SOut α)
    (h : TraitSet.step v s op = .ok o) (hne : ¬ Equiv o.items s) : o.event.isSome = true := by
  cases he : o.event with
  | some e => rfl
  | none => exact absurd ((step_good h).quiet he) hne

/-- Non-vacuity of the event theorems: `^=` reporting both directions, `&=`
with a superset (silent), `update` with several iterables and a collision. -/
example :
    TraitSet.step (fun _ x => .ok x) [1, 2, 3] (.ixor true [2, 3, 5, 5]) =
      .ok { items := [1, 5], event := some ⟨[2, 3], [5]⟩ } ∧
    TraitSet.step (fun _ x => .ok x) [1, 2, 3] (.iand true [3, 2, 1, 0]) = .ok { items := [1, 2, 3] } ∧
    TraitSet.step (fun _ x => .ok (x % 5)) [1, 2] (.update [[6, 7], [], [12, 8]]) =
      .ok { items := [1, 2, 3], event := some ⟨[], [3]⟩ } := ⟨rfl, rfl, rfl⟩

/-! ### Invariants -/

/-- The duplicate-freeness representation invariant is preserved. -/
theorem C07_wf_preserved (v : Callback α α) (s : PSet α) (hwf : WF s) (op : Op α) :
    WF (TraitSet.next v s op) := by
  unfold TraitSet.next
  split
  · exact hwf
  · rename_i o h; exact (step_good h).wf hwf

/-- Cited by C04.  If every member of the
pre-state is an output of the validator, so is every member of the post-state. -/
theorem members_valid_preserved (v : Callback α α) (s : PSet α) (op : Op α)
    (hv : ∀ x ∈ s, TraitSet.ValidOut v x) : ∀ x ∈ TraitSet.next v s op, TraitSet.ValidOut v x := by
  unfold TraitSet.next
  split
  · exact hv
  · rename_i o h; exact (step_good h).valid hv

/-- A freshly constructed `TraitSet` satisfies the validity invariant. -/
theorem members_valid_init (v : Callback α α) (xs : List α) (s : PSet α)
    (h : TraitSet.init v xs = .ok s) : ∀ x ∈ s, TraitSet.ValidOut v x := by
  unfold TraitSet.init at h
  split at h <;> cases h
  rename_i ys hys
  exact fun x hx => (valAll_valid hys).2 x (PSet.mem_ofList.mp hx)

/-! ### Copies -/

/-- `copy.copy` and a pickle round trip always, and
`copy.deepcopy` whenever the validator accepts the members unchanged (every
idempotent validator does; finding F25 otherwise), yield a `TraitSet` with equal
members, the same validator, no notifiers, which still rejects what the
validator rejects. -/
theorem C07_copy {N : Type} (k : CopyKind) (o : TSObj α N) (_hwf : WF o.items)
    (hfix : k = .deepcopy → FixedOn o.validator o.items) : CopyOK k o := by
  have hadd : ∀ (items : PSet α) x e, o.validator 0 x = .error e →
      TraitSet.step o.validator items (.add x) = .error e := by
    intro items x e hx; simp [TraitSet.step, hx]
  cases k with
  | copy | pickle =>
    exact ⟨_, rfl, fun x => PSet.mem_ofList, PSet.wf_ofList _, rfl, rfl, hadd _⟩
  | deepcopy =>
    have := valAll_fixed (hfix rfl) 0
    refine ⟨{ items := ofList o.items, validator := o.validator, notifiers := [] }, ?_,
      fun x => PSet.mem_ofList, PSet.wf_ofList _, rfl, rfl, hadd _⟩
    simp [TraitSet.copyOp, TraitSet.init, this]

/-- `copy` and `pickle` need no hypothesis. -/
theorem C07_copy_unconditional {N : Type} (k : CopyKind) (hk : k ≠ .deepcopy) (o : TSObj α N)
    (hwf : WF o.items) : CopyOK k o :=
  C07_copy k o hwf (fun h => absurd h hk)

/-- What `deepcopy` does in general: the constructor re-validates the members. -/
theorem C07_deepcopy_revalidates {N : Type} (o : TSObj α N) :
    TraitSet.copyOp .deepcopy o =
      (valAll o.validator 0 o.items).map
        (fun ys => { items := ofList ys, validator := o.validator, notifiers := [] }) := by
  simp only [TraitSet.copyOp, TraitSet.init]
  cases valAll o.validator 0 o.items <;> rfl

/-- **Negation witness (F25).**  `copy.deepcopy(TraitSet([1], item_validator=lambda x: x + 1))`
(contents `{2}`) is `{3}`: the deep copy is not equal to the original, so the
hypothesis of `C07_copy` for `deepcopy` cannot be dropped. -/
theorem C07_copy_fails_at :
    ¬ CopyOK .deepcopy ({ items := [KAtom.int 2], validator := KAtom.incV, notifiers := ([] : List Nat) }) := by
  rintro ⟨o', ho, heq, -⟩
  have hv : valAll KAtom.incV 0 [KAtom.int 2] = .ok [KAtom.int 3] := rfl
  simp only [TraitSet.copyOp, TraitSet.init, hv] at ho
  cases ho
  have : KAtom.int 2 ∈ ofList [KAtom.int 3] := (heq (KAtom.int 2)).mpr (by simp)
  rw [PSet.mem_ofList] at this
  simp at this

theorem C07_copy_full_fails : ¬ C07CopyFull KAtom Nat :=
  fun h => C07_copy_fails_at
    (h .deepcopy { items := [KAtom.int 2], validator := KAtom.incV, notifiers := [] } (by decide))

/-- Non-vacuity of `C07_copy`: a rejecting validator whose members are fixed points. -/
example (v : Callback Int Int) (hv : v = fun _ x => if x < 0 then .error .traitError else .ok x) :
    FixedOn v [3, 1, 2] ∧
    CopyOK .deepcopy ({ items := [3, 1, 2], validator := v, notifiers := [7, 8] } : TSObj Int Nat) := by
  have hf : FixedOn v [3, 1, 2] := by
    subst hv; intro n x hx; simp at hx; rcases hx with h | h | h <;> subst h <;> rfl
  exact ⟨hf, C07_copy _ _ (by show PSet.WF [3, 1, 2]; decide) (fun _ => hf)⟩

/-! ### All histories -/

/-- Every clause above for one step from a duplicate-free state. -/
theorem C07_step_spec (v : Callback α α) (s : PSet α) (hwf : WF s) (op : Op α) : SetStepSpec v s op where
  atomic := fun e h => C07_atomic v s op e h
  wf := fun _ h => (step_good h).wf hwf
  delta := fun o e h he => C07_delta v s hwf op o e h he
  silent := fun o h heq => C07_silent v s hwf op o h heq
  one_event := fun o h hne => C07_one_event v s hwf op o h hne
  refines := fun h => C07_refines v s op h

/-- Along every finite history from a duplicate-free state (in
particular from any freshly constructed `TraitSet`) every step satisfies all
clauses. -/
theorem C07_history (v : Callback α α) (ops : List (Op α)) (s : PSet α) (hwf : WF s) :
    SetAlongRun v (fun pre op => WF pre ∧ SetStepSpec v pre op) s ops := by
  induction ops generalizing s with
  | nil => trivial
  | cons op ops ih => exact ⟨⟨hwf, C07_step_spec v s hwf op⟩, ih _ (C07_wf_preserved v s hwf op)⟩

/-- After any sequence of operations the `TraitSet`
history (members, return values, exception classes, step by step) equals — up
to the order in which members are stored — the history of a builtin set `b`
that starts equal and is driven by the validated operations, provided the
symmetric-difference hypothesis (F24) holds at each step and `pop` is given the
member the implementation popped. -/
theorem C07_history_refines (v : Callback α α) (ops : List (Op α)) (s b : PSet α) (hsb : Equiv s b)
    (hyp : SetAlongRun v (fun pre op => SymHyp v pre op ∧ GoodHint pre op) s ops) :
    ResEquivAll ((TraitSet.run v s ops).map (·.map SOut.proj)) (setRefRun v s b ops) := by
  induction ops generalizing s b with
  | nil => trivial
  | cons op ops ih =>
    obtain ⟨⟨hsym, hgood⟩, hrest⟩ := hyp
    have h1 : SetRefines v s op := step_refines v s op fun _ _ => hsym
    unfold SetRefines setReference at h1
    -- the builtin depends on the members only
    have h2 : ResEquiv (setReferenceOn v s s op) (setReferenceOn v s b op) := by
      unfold setReferenceOn
      cases hv : validateSetOp v s op with
      | error e => exact rfl
      | ok op' => exact step_congr hsb op' (goodHint_validated hv hgood)
    have h3 := h1.trans h2
    simp only [TraitSet.run, setRefRun, List.map_cons]
    refine ⟨h3, ?_⟩
    unfold TraitSet.next at hrest ⊢
    cases hs : TraitSet.step v s op <;> cases hr : setReferenceOn v s b op <;>
      simp only [hs, hr, Except.map, ResEquiv] at hrest h3 ⊢
    · exact ih s b hsb hrest
    · exact ih _ _ h3.1 hrest

/-- Non-vacuity of `C07_history_refines`: with the identity validator the
hypotheses hold along a history mixing every kind of operation (the builtin
starts from a differently ordered representation of the same set). -/
example :
    SetAlongRun (fun _ x => .ok x) (fun pre op => SymHyp (fun _ x => .ok x) pre op ∧ GoodHint pre op)
      ([1, 2, 3] : PSet Int)
      [.ixor true [2, 5], .pop (some 3), .update [[7], [1, 8]], .iand false [1], .remove 9,
       .intersectionUpdate [[1, 7, 8], [8, 1]], .clear, .pop none] ∧
    (TraitSet.run (fun _ x => .ok x) ([1, 2, 3] : PSet Int)
      [.ixor true [2, 5], .pop (some 3), .update [[7], [1, 8]], .iand false [1], .remove 9,
       .intersectionUpdate [[1, 7, 8], [8, 1]], .clear, .pop none]).map (·.map SOut.proj) =
      [.ok ([1, 3, 5], none), .ok ([1, 5], some 3), .ok ([1, 5, 7, 8], none), .error .typeError,
       .error .keyError, .ok ([1, 8], none), .ok ([], none), .error .keyError] ∧
    Equiv ([1, 2, 3] : PSet Int) [3, 1, 2] := by
  refine ⟨⟨⟨?_, trivial⟩, ⟨trivial, .inr ⟨3, rfl, by decide⟩⟩, ⟨trivial, trivial⟩, ⟨trivial, trivial⟩,
    ⟨trivial, trivial⟩, ⟨trivial, trivial⟩, ⟨trivial, trivial⟩, ⟨trivial, .inl (by decide)⟩, trivial⟩,
    rfl, fun x => by simp; omega⟩
  intro ws hws
  have h : valAll (fun _ x => (.ok x : Except Exc Int)) 0 (symRaw ([1, 2, 3] : PSet Int) [2, 5]) = .ok [5] := by
    decide
  rw [h] at hws; cases hws; decide

/-! ### Tie to the source by translation: the model is the interpreted source -/

/-- For every item validator, every set and every
operation with its operands, the hand-written `TraitSet.step` is exactly what the
interpreter of `Model/PyLMap.lean` computes on the method body translated from
the working tree (`Generated/MapSetProg.lean`, `translate/pylmap.py`): same
members (as stored), same return value (the in-place operators return the
receiver, `pop` the member), same notifications, same exception — and on an
exception the same (unchanged) members and no notification. -/
theorem C07_step_is_source (v : Callback α α) (s : PSet α) (op : Op α) :
    Model.PyLM.S.runTraitSetOp Generated.traitSetProg v s op
      = Model.PyLM.S.summaryOfStep s op (TraitSet.step v s op) :=
  Lemmas.PyLMS.ts_step_is_source v s op

/-- Atomicity read off the source: whenever the
interpreted source raises (including the `TypeError` Python raises when an
in-place operator returns `NotImplemented`), the set is unchanged and nobody has
been notified. -/
theorem C07_source_atomic (v : Callback α α) (s : PSet α) (op : Op α) (e : Exc)
    (items : PSet α) (evs : List (SEvent α))
    (h : Model.PyLM.S.runTraitSetOp Generated.traitSetProg v s op = .raised e items evs) :
    items = s ∧ evs = [] := by
  rw [C07_step_is_source] at h
  cases hs : TraitSet.step v s op <;> rw [hs] at h <;> cases h
  exact ⟨rfl, rfl⟩

/-- The source notifies at most once per call, and
exactly with the model's `(removed, added)`; members and return value are the
model's. -/
theorem C07_source_events (v : Callback α α) (s : PSet α) (op : Op α)
    (items : PSet α) (r : Model.PyLM.S.SRet α) (evs : List (SEvent α))
    (h : Model.PyLM.S.runTraitSetOp Generated.traitSetProg v s op = .done items r evs) :
    ∃ o, TraitSet.step v s op = .ok o ∧ items = o.items ∧ r = Model.PyLM.S.retOf op o.ret ∧
      evs = o.event.toList := by
  rw [C07_step_is_source] at h
  cases hs : TraitSet.step v s op <;> rw [hs] at h <;> cases h
  exact ⟨_, rfl, rfl, rfl, rfl⟩

/-- `TraitSetObject` overrides no mutator (so the `Set` trait's object runs the
`TraitSet` methods above), and `notify` takes `(removed, added)`. -/
theorem C07_source_object_overrides_none :
    Generated.traitSetObjectProg = [] ∧ Generated.traitSetNotifyParams = ["removed", "added"] := ⟨rfl, rfl⟩

/-- The constructors of `TraitSet` / `TraitSetObject` in the
working tree are, statement for statement, the ones the model assumes: every
"was it given?" / "is there an owner?" decision is an `is None` test. -/
theorem C07_init_source :
    [Generated.traitSetNewSource, Generated.traitSetInitSource, Generated.traitSetObjectInitSource]
      = setConstructorsAssumed := rfl

/-- Non-vacuity: the interpreted source on the F24 input and on a `&=` with a
list operand (`NotImplemented`, hence `TypeError`, nothing changed). -/
example :
    Model.PyLM.S.runTraitSetOp Generated.traitSetProg KAtom.intV [KAtom.int 3] (.ixor true [KAtom.str 3]) =
      .done [KAtom.int 3] .self [] ∧
    Model.PyLM.S.runTraitSetOp Generated.traitSetProg KAtom.intV [KAtom.int 3] (.iand false [KAtom.int 3]) =
      .raised .typeError [KAtom.int 3] [] := by
  rw [C07_step_is_source, C07_step_is_source]; exact ⟨rfl, rfl⟩

/-! ### The value of a `Set` trait (`TraitSetObject`): which copies still validate -/

/-- `TraitSetObject.validator` is the
interpretation of the `_validator` method translated from the working tree, for
every state of the attributes it reads, every inner trait, ordinal and value. -/
theorem C07_validator_is_source (σ : TSOSelf) (inner : Bool → Callback α α) :
    Model.PyLM.V.runValidator Generated.traitSetObjectValidator σ inner = TraitSetObject.validator σ inner := by
  funext n x; exact Lemmas.PyLMS.tso_validator_is_source σ inner n x

/-- The rule the code follows: the live
value of a `Set` trait validates with the inner trait and its owner; a deep copy
of it and the value whose owner has been garbage-collected validate with the
inner trait and owner `None`.  Hence (i) for an inner trait that does not
consult the owner they validate exactly like the live value, and (ii) in every
case an item the inner trait rejects without an owner is rejected by `add`
(also after further deep copies), the set being left as it was. -/
theorem C07_trait_value_still_validates (inner : Bool → Callback α α) :
    TraitSetObject.validator TSOSelf.live inner = inner true ∧
    TraitSetObject.validator TSOSelf.live.afterDeepcopy inner = inner false ∧
    TraitSetObject.validator TSOSelf.live.orphaned inner = inner false ∧
    TraitSetObject.validator TSOSelf.live.afterDeepcopy.afterDeepcopy inner = inner false ∧
    ((∀ n x, inner false n x = inner true n x) →
      TraitSetObject.validator TSOSelf.live.afterDeepcopy inner = TraitSetObject.validator TSOSelf.live inner ∧
      TraitSetObject.validator TSOSelf.live.orphaned inner = TraitSetObject.validator TSOSelf.live inner) ∧
    (∀ (s : PSet α) x e, inner false 0 x = .error e →
      TraitSet.step (TraitSetObject.validator TSOSelf.live.afterDeepcopy inner) s (.add x) = .error e ∧
      TraitSet.step (TraitSetObject.validator TSOSelf.live.orphaned inner) s (.add x) = .error e) := by
  -- each state fixes `object` and `trait`, so the validator computes to the inner trait
  refine ⟨rfl, rfl, rfl, rfl, fun h => ?_, fun s x e he => ?_⟩
  · have : inner false = inner true := by funext n x; exact h n x
    exact ⟨this, this⟩
  · show TraitSet.step (inner false) s (.add x) = _ ∧ TraitSet.step (inner false) s (.add x) = _
    simp [TraitSet.step, he]

set_option linter.unusedSectionVars false in
/-- What `__setstate__` leaves behind (a pickle round trip of the trait value;
also the own attributes of a `copy.copy`, whose `item_validator` however stays
the bound method of the original): no trait, so nothing is validated — by design
of `__getstate__`, which drops `trait` and `object` (DESIGN §5 C04/C14). -/
theorem C07_restored_trait_value_does_not_validate (inner : Bool → Callback α α) :
    TraitSetObject.validator TSOSelf.afterSetstate inner = fun _ x => .ok x := rfl

/-- **Negation witness for the seeded change C07-m7.**  A `_validator` that
skips validation whenever the owner is absent (`trait is None or object is None`
after dereferencing, the shape of `TraitDictObject._key_validator`) lets a deep
copy of a `Set(Int)`-like value accept what the inner trait rejects. -/
theorem C07_trait_value_needs_validation_without_owner :
    TraitSetObject.validator TSOSelf.live.afterDeepcopy (fun _ _ x => match x with | .int _ => .ok x | .str _ => .error .traitError)
        0 (KAtom.str 7) = .error .traitError ∧
    (fun (σ : TSOSelf) (inner : Bool → Callback KAtom KAtom) (n : Nat) (x : KAtom) =>
        match σ.object, σ.trait with
        | some true, some false => inner true n x
        | _, _ => (.ok x : Except Exc KAtom))
      TSOSelf.live.afterDeepcopy (fun _ _ x => match x with | .int _ => .ok x | .str _ => .error .traitError) 0 (KAtom.str 7)
        = .ok (KAtom.str 7) := by
  constructor <;> rfl

/-! ### Tie to the source: the notifier of a `Set` trait's value -/

open TraitsVerif.Model.PyLO TraitsVerif.Model.Obj in
/-- The modelled delivery gate of
`TraitSetObject.notifier` (`Model/ContainerObject.lean`) is the interpretation
of its source as translated by `translate/pylobj.py`, for every state of `self`;
and so is the item validator in the richer state space of that model (which
agrees with `TraitSetObject.validator` above). -/
theorem C07_notifier_gate_is_source {β : Type} (σ : OSelf) (inner : Bool → Callback β β) :
    runNotifier Generated.Obj.traitSetObjectNotifier σ = setNotifier σ ∧
    runValidator Generated.Obj.traitSetObjectItemValidator .item σ inner = setItemValidator σ inner ∧
    setItemValidator σ inner
      = TraitSetObject.validator ⟨σ.object, (traitOrNone σ).map (·.itemNone)⟩ inner := by
  refine ⟨Lemmas.PyLObj.set_notifier_is_source σ, ?_, ?_⟩
  · funext n x; exact Lemmas.PyLObj.set_item_validator_is_source σ inner n x
  · funext n x
    obtain ⟨tr, ob, ni, cu⟩ := σ
    rcases tr with _ | _ | t <;> rcases ob with _ | _ <;> simp [setItemValidator, TraitSetObject.validator, traitOrNone]

open TraitsVerif.Model.PyLO TraitsVerif.Model.Obj in
/-- The `<name>_items` event of a `Set` trait is
delivered — once, as `TraitSetEvent(removed=removed, added=added)` built from the
notifier's own arguments in that order — exactly when the trait has an items
event, the owner is alive and the set is still the owner's current value. -/
theorem C07_items_event_gate (σ : OSelf) (ds : List Delivery) :
    setNotifier σ = .ok ds →
      (ds = [⟨"TraitSetEvent", [("removed", 1), ("added", 2)]⟩] ∧
        σ.nameItems = true ∧ σ.object = some true ∧ σ.current = true ∧ ∃ t, σ.trait = some (some t)) ∨
      (ds = [] ∧ (σ.nameItems = false ∨ σ.object = some false ∨ σ.current = false)) :=
  deliver_gate σ setDelivery ds

open TraitsVerif.Model.PyLO TraitsVerif.Model.Obj in
/-- Non-vacuity: live value with / without items event, replaced value, collected owner. -/
example :
    runNotifier Generated.Obj.traitSetObjectNotifier (OSelf.live {} true) = .ok [setDelivery] ∧
    runNotifier Generated.Obj.traitSetObjectNotifier (OSelf.live {} false) = .ok [] ∧
    runNotifier Generated.Obj.traitSetObjectNotifier (OSelf.live {} true).detached = .ok [] ∧
    runNotifier Generated.Obj.traitSetObjectNotifier (OSelf.live {} true).orphaned = .ok [] := by
  refine ⟨?_, ?_, ?_, ?_⟩ <;> first | rfl | decide

/-- The copy / pickle methods of `TraitSet` and
`TraitSetObject` are, statement for statement, the ones `TraitSet.copyOp` /
`TraitSetObject.copyOp` (and so `C07_copy`, `C07_trait_value_still_validates`)
transcribe: `__deepcopy__` calls the constructor — which validates — with a deep
copy of `self.item_validator` / with `self.trait` and no owner;
`__getstate__` drops `notifiers` (and `object`, `trait`), keeps
`item_validator`; `__setstate__` restores `notifiers`; `__reduce_ex__`
rebuilds from `list(self)`. -/
theorem C07_copy_is_source :
    Generated.CtorCopy.traitSetCtorCopy = Model.CtorCopyAssumed.traitSetCtorCopy ∧
    Generated.CtorCopy.traitSetObjectCtorCopy = Model.CtorCopyAssumed.traitSetObjectCtorCopy :=
  ⟨rfl, rfl⟩

/-- `TraitSet.__init__` and `TraitSetObject.__init__`
as interpreted programs (`translate/ctorprog.py`, `Model/PyLCtor.lean`; the
latter run with `super().__init__` bound to the translated former): for every
iterable, validator and notifier argument / trait, owner and value they are the
modelled constructors, whose members are `TraitSet.init` of the chosen
validator — every initial member goes through it in order with the call ordinal
threaded, nothing is stored if one fails — i.e. what whole-value assignment of a
`Set` trait establishes (`C07_init`, `members_valid_init`); the validator is the
caller's iff one was given / the object's own `_validator`; the notifier list
is the one given (the caller's list object: `TraitSet` does not copy it) /
`[self.notifier]`; owner by weak reference iff not `None`, `name_items` iff the
trait has an items event. -/
theorem C07_init_is_source (C : Model.PyLC.Ctx α) (xs : List α) (iv : Option Model.PyLC.VSrc)
    (ns : Option Model.PyLC.NSrc) (t : Option Bool) (owner : Bool) :
    Model.PyLC.runListInit Generated.Ctor.traitSetInit C xs iv ns = Model.PyLC.setInit C xs iv ns ∧
    Model.PyLC.runListObjectInit Generated.Ctor.traitSetObjectInit Generated.Ctor.traitSetInit C t owner xs
      = Model.PyLC.setObjectInit C t owner xs ∧
    (Model.PyLC.setInit C xs (some .arg) ns).map (fun o => ofList o.items) = TraitSet.init C.given xs ∧
    (Model.PyLC.setObjectInit C t owner xs).map (fun o => ofList o.items) = TraitSet.init C.own xs ∧
    (∀ o, Model.PyLC.setObjectInit C t owner xs = .ok o →
      o.itemValidator = .own ∧ o.notifiers = .ownAlias ∧ o.object = some owner ∧ o.trait = some t ∧
      o.nameItems = some (t == some true)) := by
  refine ⟨Lemmas.PyLCtor.set_init_is_source C xs iv ns, Lemmas.PyLCtor.set_object_init_is_source C t owner xs, ?_, ?_, ?_⟩
  · simp only [Model.PyLC.setInit, TraitSet.init, Option.getD, Model.PyLC.Ctx.vOf]
    cases valAll C.given 0 xs <;> rfl
  · simp only [Model.PyLC.setObjectInit, TraitSet.init]
    cases valAll C.own 0 xs <;> rfl
  · intro o ho
    simp only [Model.PyLC.setObjectInit] at ho
    cases hv : valAll C.own 0 xs with
    | error e => simp [hv] at ho
    | ok ys => simp only [hv, Except.ok.injEq] at ho; subst ho; simp

/-! ### Tie to the source: the mutators that exist are the mutators modelled -/

/-- Every method of the running interpreter's builtin `set` is either a
non-mutator or a mutator that `TraitSet` overrides and `TraitSet.step` models
(tables regenerated from the working tree by `translate/mutators.py`). -/
theorem C07_mutators_covered :
    ∀ m ∈ Generated.setBuiltinMethods,
      m ∈ setNonMutators ∨ (m ∈ setModelledMutators ∧ m ∈ Generated.traitSetMethods) := by decide

end TraitsVerif.Props.C07
