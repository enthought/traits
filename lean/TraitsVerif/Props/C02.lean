/-
Property C02 — change handlers fire exactly once per real change, with truthful
old/new.  Only the property theorems and their non-vacuity examples live here;
the model is `Model/Wrappers`, `Model/Defaults`, `Model/SetAttr`, the
specification vocabulary (`counts`, `realChanges`, `Consistent`) is
`Lemmas/AttrSpec`, the proofs are in `Lemmas/Attr*.lean`.

Configuration quantified over (hypotheses of the theorems):
  `StdTrait t m orig po d`  a standard trait, comparison mode `m`, constant default `d`
  `Quiet E`      default non-re-raising exception handlers on both stacks, no vetoing value,
                 handlers may raise but do not unregister themselves
  `PostQuiet E`  a `post_setattr` hook (if any) does not raise
  `Clean E d`, `HistOk h`   `Uninitialized` is never a value
  `Inv k kind s` notifications enabled, handler `k` registered exactly once through a notifier of
                 kind `kind` (static / on_trait_change / observe), in any position of any handler mix
Everything else — the validator (any function of call ordinal and value), the
`==` / `!=` tables, which handlers raise and when, the other registered
handlers and their order, the history — is universally quantified.
-/
import TraitsVerif.Lemmas.AttrMore
import TraitsVerif.Lemmas.AttrSource
import TraitsVerif.Lemmas.AttrSourceTrait
import TraitsVerif.Lemmas.AttrSourceNotify
import TraitsVerif.Lemmas.WrapSource
namespace TraitsVerif.Props.C02
open TraitsVerif TraitsVerif.Model.Attr

/-! ### Tie to the source (Generated/Enums.lean is regenerated from /repo on every run) -/

/-- The constants and code shapes the model relies on are those of the source:
comparison-mode enum and flag encoding, the flag `setattr_trait` seeds `changed`
from, the operands of its two identity comparisons (old value vs. *validated*
value — finding F22 rests on this), the kind → handler tables. -/
theorem source_tie :
    Generated.comparisonModeMembers = [("none", 0), ("identity", 1), ("equality", 2)]
    ∧ Generated.comparisonModeSetCases =
        [(CMode.none.toNat, "TRAIT_COMPARISON_MODE_NONE"), (CMode.identity.toNat, "TRAIT_COMPARISON_MODE_IDENTITY"),
         (CMode.equality.toNat, "TRAIT_COMPARISON_MODE_EQUALITY")]
    ∧ Generated.comparisonModeGetCases =
        [("TRAIT_COMPARISON_MODE_NONE", 0), ("TRAIT_COMPARISON_MODE_IDENTITY", 1),
         ("TRAIT_COMPARISON_MODE_EQUALITY", 2)]
    ∧ Generated.setattrChangedSeedFlag = "TRAIT_COMPARISON_MODE_NONE"
    ∧ Generated.setattrIdentityComparisons = [("old_value", "value"), ("old_value", "value")]
    ∧ Generated.setattrByKind[Kind.trait.toNat]? = some "setattr_trait"
    ∧ Generated.setattrByKind[Kind.event.toNat]? = some "setattr_event"
    ∧ Generated.getattrByKind[Kind.trait.toNat]? = some "getattr_trait"
    ∧ Generated.getattrByKind[Kind.event.toNat]? = some "getattr_event"
    ∧ Generated.traitKindMembers.lookup "trait" = some 0 ∧ Generated.traitKindMembers.lookup "event" = some 2 := by
  decide

/-- The comparison-mode bits do not overlap the other flag bits the model reads,
and the three modes are told apart by `_get_trait_comparison_mode_int`. -/
theorem flags_tie (m : CMode) (o p : Bool) :
    testFlag (mkFlags m o p) Generated.TRAIT_COMPARISON_MODE_NONE = (m == .none)
    ∧ testFlag (mkFlags m o p) Generated.TRAIT_SETATTR_ORIGINAL_VALUE = o
    ∧ testFlag (mkFlags m o p) Generated.TRAIT_POST_SETATTR_ORIGINAL_VALUE = p
    ∧ comparisonModeInt (mkFlags m o p) = m.toNat :=
  ⟨testFlag_none m o p, testFlag_orig m o p, testFlag_postOrig m o p, comparisonModeInt_mkFlags m o p⟩

/-! ### The model is the source

`Generated/AttrProg.lean` is the *source text* of the attribute functions of
ctraits.c, translated on every run by `harness/translate/cattr.py` into the
deep-embedded language `Model/MiniC.lean`.  The theorems below say that the
hand-written model functions are the interpretation of those terms: for every
object state, assigned value, validator, `post_setattr` hook, default factory and
handler behaviour (`C : MiniC.IC` carries the environment `E` and the trait `t`),
whether or not `obj->obj_dict` / `obj->itrait_dict` exist yet (`dn`, `idn`).
The exactly-once / truthful / silent theorems further down are about these
model functions, hence about the interpreted source for the functions tied here. -/

open TraitsVerif.Model.MiniC in
/-- The macro `has_notifiers(tnotifiers, onotifiers)` computes the model's `hasNotifiers`. -/
theorem C02_has_notifiers_is_source (C : IC) (s : OSt) (dn idn : Bool) (tn on : Option (List Notifier)) (l1 l2 : Loc) :
    call C Generated.AttrProg.has_notifiers [nlv tn l1, nlv on l2] s dn idn
      = (.int (if hasNotifiers tn on then 1 else 0), s, none) :=
  Lemmas.AttrSource.has_notifiers_is_source C s dn idn tn on l1 l2

open TraitsVerif.Model.MiniC in
/-- `setattrEvent` is the interpretation of the source of `setattr_event`
(validate, then notify with old = Undefined; `del` does nothing). -/
theorem C02_setattr_event_is_source (C : IC) (value : Option Id) (s : OSt) (dn idn : Bool) :
    call C Generated.AttrProg.setattr_event [.trait, .trait, .self, .name, ofValue value] s dn idn
      = ofInt (setattrEvent C.E C.t value s) :=
  Lemmas.AttrSource.setattr_event_is_source C value s dn idn

open TraitsVerif.Model.MiniC in
/-- `getattrTrait` is the interpretation of the source of `getattr_trait`: the
default is computed, stored, `post_setattr`'d and announced with
old = Uninitialized, in this order; every error exit leaves what was done. -/
theorem C02_getattr_is_source (C : IC) (s : OSt) (dn idn : Bool) :
    call C Generated.AttrProg.getattr_trait [.trait, .self, .name] s dn idn = ofPtr (getattrTrait C.E C.t s) :=
  Lemmas.AttrSource.getattr_trait_is_source C s dn idn

open TraitsVerif.Model.MiniC in
/-- `has_traits_setattro` calls `setattr(trait, trait, obj, name, value)` of the trait its look-up yields and returns
the result.  WHICH dictionary yields it is not visible here: the instance-trait and the class-trait look-up both
evaluate to `Val.trait` (MiniC `dict_getitem`); "instance trait first" is `OSt.tn` / `World.traitOf` in the model. -/
theorem C02_setattro_is_source (C : IC) (value : Option Id) (s : OSt) (dn idn : Bool) :
    call C Generated.AttrProg.has_traits_setattro [.self, .name, ofValue value] s dn idn
      = ofInt (traitSetattr C.E C.t value s) :=
  Lemmas.AttrSource.has_traits_setattro_is_source C value s dn idn

open TraitsVerif.Model.MiniC in
/-- `getattro` is the interpretation of `has_traits_getattro`: the `__dict__`
short cut first, the `getattr` of the trait the look-up yields otherwise (see `C02_setattro_is_source`). -/
theorem C02_getattro_is_source (C : IC) (s : OSt) (dn idn : Bool) (hdn : dn = true → s.slot = none) :
    call C Generated.AttrProg.has_traits_getattro [.self, .name] s dn idn = ofPtr (getattro C.E C.t s) :=
  Lemmas.AttrSource.has_traits_getattro_is_source C s dn idn hdn

open TraitsVerif.Model.MiniC in
/-- `setattrTrait` is the interpretation of the source of `setattr_trait` on EVERY path: delete (absent value,
muted object, no notifier lists, `getattr` failure, identity comparison, post_setattr, notifiers) and assignment
(validation or its skipping for Undefined, creation of `__dict__`, the stored value chosen by
`TRAIT_SETATTR_ORIGINAL_VALUE`, the old value fetched only when somebody will be told — materialising the default
with its post_setattr —, `changed` seeded from the comparison-mode flag and or-ed with `old != validated value`,
the store, post_setattr with the value chosen by `TRAIT_POST_SETATTR_ORIGINAL_VALUE`, the notifiers with
(old, stored value)), every error exit included.  `hdn`: an object without `__dict__` has nothing stored.
Proved segment by segment (`Lemmas/AttrSourceTrait.lean`: program points 8, 16, 17, each for the machine state
every path has there; `del_block`: the delete block). -/
theorem C02_setattr_trait_is_source (C : IC) (value : Option Id) (s : OSt) (dn idn : Bool)
    (hdn : dn = true → s.slot = none) :
    call C Generated.AttrProg.setattr_trait [.trait, .trait, .self, .name, ofValue value] s dn idn
      = ofInt (setattrTrait C.E C.t value s) :=
  Lemmas.AttrSource.setattr_trait_is_source C value s dn idn hdn

open TraitsVerif.Model.MiniC in
/-- `callNotifiers` is the interpretation of the source of `call_notifiers`, for all notifier lists (NULL, empty, any
length), values, handler behaviours (raising, unregistering themselves, vetoing values) and states: nothing when
`HASTRAITS_NO_NOTIFY` is set; otherwise the two lists are copied into one new list (loop lemma `copy_loop`),
which is walked with the veto test before every call and left at the first raw exception (`loop3`).
`hveto`: the model's `veto` is "the new value is a HasTraits object whose VETO flag is set". -/
theorem C02_call_notifiers_is_source (C : IC) (hveto : ∀ v, C.E.veto v = (C.isHT v && C.vflag v))
    (tn on : Option (List Notifier)) (old new : Id) (s : OSt) (dn idn : Bool) :
    call C Generated.AttrProg.call_notifiers [nlv tn .t, nlv on .o, .self, .name, .obj old, .obj new] s dn idn
      = ofInt (callNotifiers C.E C.t tn on old new s) :=
  Lemmas.AttrSource.call_notifiers_is_source C hveto tn on old new s dn idn

open TraitsVerif.Model.MiniC in
/-- The dispatch-snapshot property of the interpreted source (what seeded change C02-m10 violated): whatever the
handlers do to the object's state while they are called — unregister themselves, create the instance trait,
register others —, the notifiers called are those of `snapshot tn on`, a function of the two list VALUES at entry
alone: the state `s` that the handlers transform is threaded through `notifyLoop` but never consulted for the list
being walked. -/
theorem C02_dispatch_snapshot_source (C : IC) (hveto : ∀ v, C.E.veto v = (C.isHT v && C.vflag v))
    (tn on : Option (List Notifier)) (old new : Id) (s : OSt) (dn idn : Bool) (hnn : s.noNotify = false) :
    call C Generated.AttrProg.call_notifiers [nlv tn .t, nlv on .o, .self, .name, .obj old, .obj new] s dn idn
      = ofInt (notifyLoop C.E C.t old new (snapshot tn on) s) := by
  rw [Lemmas.AttrSource.call_notifiers_is_source C hveto tn on old new s dn idn]
  simp [callNotifiers, hnn]

/-- Non-vacuity / the C02-m10 scenario on the model: two object-level handlers and no trait-level notifier; the first
unregisters itself when called; the second still hears that change, and only the second stays registered. -/
example :
    let E : Env := { cmp := ⟨fun _ _ => .no, fun _ _ => .yes⟩, validate := fun _ _ v => .ok v,
                     post := fun _ _ _ => .ok (), factory := fun _ _ _ => .error .typeError,
                     handler := fun h _ _ => if h = 0 then .ok .removeSelf else .ok .stay,
                     veto := fun _ => false, reraiseLegacy := false, reraiseObserve := false }
    let t : TraitCore := { flags := mkFlags .none false false }
    let s : OSt := { on := some [⟨.dynamic, 0, 1⟩, ⟨.dynamic, 1, 1⟩], slot := some 3 }
    let r := callNotifiers E t none s.on 3 4 s
    r.1 = none ∧ r.2.ctx.log.map (·.h) = [0, 1] ∧ r.2.on = some [⟨.dynamic, 1, 1⟩] := by
  decide

open TraitsVerif.Model.PyW in
/-- The Python wrapper layer is the model's: `Generated/WrapProg.lean` is the source text of the notifier wrappers
(traits/trait_notifiers.py, traits/observation), translated on every run by `harness/translate/pywrap.py`; for every
environment (`==` / `!=` tables that may raise, handler that returns, raises or unregisters the wrapper, both
re-raise flags), trait, object state and change `(C.old, C.new)`:
 1. `_change_accepted` computes `changeAccepted` and creates the instance trait unless old is Uninitialized;
 2. `ctrait_prevent_event` computes `preventEvent` and touches nothing;
 3. `AbstractStaticChangeNotifyWrapper.__call__` is `callWrapper` for a static notifier — it consults
    `_change_accepted` afresh on EVERY call and performs no comparison of its own;
 4. `TraitChangeNotifyWrapper._notify_function_listener` / `_notify_method_listener` (live owner) /`__call__` are
    `callWrapper` for an `on_trait_change` notifier; `_dispatch_change_event` is what the interpreter takes it to be
    when these call it (`dispatchSem`; `dispatch` itself: `Lemmas.WrapSource.dispatch_is_source`, not part of this statement);
 5. `TraitEventNotifier.__call__` is `callWrapper` for an `observe` notifier.
So `callNotifiers` — and with it `C02_exactly_once_*`, `C02_same_sequence*`, `C02_truthful`, `C02_handler_exception` —
speaks about the interpreted wrapper layer called from the interpreted `call_notifiers`. -/
theorem C02_wrappers_are_source (C : WC) (s : OSt) :
    run C Generated.WrapProg.change_accepted [.object, .name, .id C.old, .id C.new] s
        = (.ok (.bool (changeAccepted C.E.cmp C.t.kind C.t.flags C.old C.new)),
           if C.old = uninit then s else s.ensureItrait)
    ∧ run C Generated.WrapProg.ctrait_prevent_event [.event] s
        = (.ok (.bool (preventEvent C.E.cmp C.t.kind C.t.flags C.old C.new)), s)
    ∧ (C.n.kind = .static →
        run C Generated.WrapProg.AbstractStaticChangeNotifyWrapper_call [.self, .object, .name, .id C.old, .id C.new] s
          = ofWrapper (callWrapper C.E C.t C.n C.loc C.old C.new s))
    ∧ (C.n.kind = .dynamic →
        run C Generated.WrapProg.TraitChangeNotifyWrapper_notify_function_listener
            [.self, .object, .name, .id C.old, .id C.new] s
          = ofWrapper (callWrapper C.E C.t C.n C.loc C.old C.new s)
        ∧ (∀ k, C.wrapName = some k → C.ownerAlive = true →
            run C Generated.WrapProg.TraitChangeNotifyWrapper_notify_method_listener
              [.self, .object, .name, .id C.old, .id C.new] s
            = ofWrapper (callWrapper C.E C.t C.n C.loc C.old C.new s)))
    ∧ run C Generated.WrapProg.TraitChangeNotifyWrapper_call [.self, .object, .name, .id C.old, .id C.new] s
        = ofWrapper (callWrapper C.E C.t C.n C.loc C.old C.new s)
    ∧ run C Generated.WrapProg.TraitChangeNotifyWrapper_dispatch_change_event
        [.self, .object, .name, .id C.old, .id C.new, .handler] s = Lemmas.WrapSource.dispatchSem C s
    ∧ (C.n.kind = .observe →
        run C Generated.WrapProg.TraitEventNotifier_call [.self, .args, .args] s
          = ofWrapper (callWrapper C.E C.t C.n C.loc C.old C.new s)) :=
  ⟨Lemmas.WrapSource.change_accepted_is_source C C.old C.new s, Lemmas.WrapSource.prevent_event_is_source C s,
   Lemmas.WrapSource.static_call_is_source C s,
   fun h => ⟨Lemmas.WrapSource.notify_function_is_source C s h,
             fun k hk ha => Lemmas.WrapSource.notify_method_is_source C s h k hk ha⟩,
   Lemmas.WrapSource.dynamic_call_is_source C s, Lemmas.WrapSource.dispatch_change_event_is_source C s,
   Lemmas.WrapSource.observe_call_is_source C s⟩

open TraitsVerif.Model.PyW in
/-- `TraitChangeNotifyWrapper.equals` — which registered wrapper stands for a handler given to
`on_trait_change(handler, …)` (duplicate registration, `remove=True`) — is the interpretation of its source: the
wrapper itself; for a bound method the same method name and the SAME listener object, by identity (two distinct
listener objects that compare equal are two handlers, which is what the model's handler numbering assumes: every
registered handler is called exactly once per real change); otherwise a function wrapper for that very function. -/
theorem C02_wrapper_equals_is_source (C : WC) (s : OSt) :
    run C Generated.WrapProg.TraitChangeNotifyWrapper_equals [.self, Lemmas.WrapSource.candVal C.cand] s
      = (.ok (.bool (Lemmas.WrapSource.equalsSpec C)), s) :=
  Lemmas.WrapSource.equals_is_source C s

open TraitsVerif.Model.PyW in
/-- The rest of the wrapper layer's notification path.
 1. Dead owner: when the weak reference of a method wrapper no longer refers to its listener object, the wrapper calls
    nobody (the handler log is untouched) and raises nothing; only `_change_accepted` ran.
 2. `listener_deleted` (the weak reference's callback) removes the wrapper from the notifier list it sits in — the
    model's `removeSelf` — and raises nothing.
 3. Argument-count adaptation: the three `argument_transforms` tables — which
    components a handler of arity 0…4 receives from an `on_trait_change` wrapper, a `_name_changed` wrapper and an
    `_anytrait_changed` wrapper — are the source's.  That the tuple `self.argument_transform(object, name, old, new)`
    builds consists of the selected components of exactly those four values is the interpreter's reading of that call
    (`Val.tuple` in `Model/PyW.lean`), not part of this statement. -/
theorem C02_wrappers_rest_are_source (C : WC) (s : OSt) :
    (C.ownerAlive = false →
      run C Generated.WrapProg.TraitChangeNotifyWrapper_notify_method_listener
          [.self, .object, .name, .id C.old, .id C.new] s
        = (.ok .none, if C.old = uninit then s else s.ensureItrait))
    ∧ run C Generated.WrapProg.TraitChangeNotifyWrapper_listener_deleted [.self, .weak] s
        = (.ok .none, s.removeSelf C.n C.loc)
    ∧ Generated.WrapProg.TraitChangeNotifyWrapper_argument_transforms
        = [(0, []), (1, [.new]), (2, [.name, .new]), (3, [.obj, .name, .new]), (4, [.obj, .name, .old, .new])]
    ∧ Generated.WrapProg.StaticTraitChangeNotifyWrapper_argument_transforms
        = [(0, []), (1, [.obj]), (2, [.obj, .new]), (3, [.obj, .old, .new]), (4, [.obj, .name, .old, .new])]
    ∧ Generated.WrapProg.StaticAnytraitChangeNotifyWrapper_argument_transforms
        = [(0, []), (1, [.obj]), (2, [.obj, .name]), (3, [.obj, .name, .new]), (4, [.obj, .name, .old, .new])] :=
  ⟨Lemmas.WrapSource.notify_method_dead C s, Lemmas.WrapSource.listener_deleted_is_source C s,
   Lemmas.WrapSource.argument_transforms_are_source⟩

open TraitsVerif.Model.PyW in
/-- `TraitChangeNotifyWrapper.init` and `ExtendedTraitChangeNotifyWrapper` (continuation of
`C02_wrappers_rest_are_source`).
 1. `init(handler, owner, target)` is `initSpec`: a bound method with a live `__self__` gets a weak reference to its
    owner with `listener_deleted` as callback, the method name, the METHOD listener and the transform SELECTED by
    `argument_transforms[co_argcount - 1]`; a function (or a method without `__self__`) gets no name, the handler,
    the FUNCTION listener and `argument_transforms[co_argcount]` (after a weak reference to `target` when one is
    given); more than four arguments raise `TraitNotificationError` before a listener or transform is installed;
    the argument count is returned.  Together with the three tables this fixes what a handler of each arity receives.
 2. `ExtendedTraitChangeNotifyWrapper`: its `_dispatch_change_event` and function listener are the plain dispatch
    (`dispatchSem`: call the handler, route an exception to `handle_exception`) — NO `_change_accepted` filter (an
    Uninitialized old value and equal values are passed on, no instance trait is created) and no tracers; its method
    listener does the same for a live owner and nothing for a dead one. -/
theorem C02_wrapper_init_and_extended_are_source (C : WC) (s : OSt) (target : Bool)
    (hc : C.cand ≠ .self) (h1 : 1 ≤ C.candArgc) :
    runInit C Generated.WrapProg.TraitChangeNotifyWrapper_init
        [.self, Lemmas.WrapSource.candVal C.cand, .ownerList, if target then .target else .none] s
      = Lemmas.WrapSource.initSpec C target
    ∧ run C Generated.WrapProg.ExtendedTraitChangeNotifyWrapper_dispatch_change_event
        [.self, .object, .name, .id C.old, .id C.new, .handler] s = Lemmas.WrapSource.dispatchSem C s
    ∧ run C Generated.WrapProg.ExtendedTraitChangeNotifyWrapper_notify_function_listener
        [.self, .object, .name, .id C.old, .id C.new] s = Lemmas.WrapSource.dispatchSem C s
    ∧ (∀ k, C.wrapName = some k →
        run C Generated.WrapProg.ExtendedTraitChangeNotifyWrapper_notify_method_listener
          [.self, .object, .name, .id C.old, .id C.new] s
        = if C.ownerAlive then Lemmas.WrapSource.dispatchSem C s else (.ok .none, s)) :=
  ⟨Lemmas.WrapSource.init_is_source C s target hc h1, Lemmas.WrapSource.ext_dispatch_change_event_is_source C s,
   Lemmas.WrapSource.ext_notify_function_is_source C s,
   fun k hk => Lemmas.WrapSource.ext_notify_method_is_source C s k hk⟩

/-! ### Exactly once -/

/-- **Full statement** (all standard traits, including those that store the
value as assigned, `setattr_original_value`): for every history, comparison
mode, handler mix and subset of raising handlers, the call log of a registered
handler of any of the three kinds is the specification filter of the history.
FALSE for the pinned tree when `orig = true` (finding F22): see
`C02_exactly_once_fails_at_original_value`. -/
def C02_exactly_once_statement : Prop :=
  ∀ (E : Env) (t : TraitCore) (m : CMode) (orig po : Bool) (d : Id) (k : Nat) (kind : NKind)
    (h : List Op) (s : OSt),
    StdTrait t m orig po d → Quiet E → PostQuiet E → Clean E d →
    (kind ≠ .observe → m = .equality → Consistent E.cmp) → HistOk h → Inv k kind s →
    callsOf k (run E t s h).ctx.log =
      callsOf k s.ctx.log ++ realChanges E t m orig d ⟨s.slot, s.ctx.nval⟩ h

/-- The full statement restricted to traits that store the validated value
(`orig = false`: every trait type except Expression / AdaptsTo).  What is
missing for the full statement: `setattr_trait` would have to compare the old
value with the value it stores (`new_value`), not with the validated one. -/
theorem C02_exactly_once_partial
    {E : Env} {t : TraitCore} {m : CMode} {po : Bool} {d : Id} {k : Nat} {kind : NKind}
    (st : StdTrait t m false po d) (q : Quiet E) (pq : PostQuiet E) (cl : Clean E d)
    (hc : kind ≠ .observe → m = .equality → Consistent E.cmp)
    (h : List Op) (s : OSt) (H : HistOk h) (I : Inv k kind s) :
    callsOf k (run E t s h).ctx.log =
      callsOf k s.ctx.log ++ realChanges E t m false d ⟨s.slot, s.ctx.nval⟩ h :=
  exactly_once_run st q pq cl hc h s H I

/-- `observe` handlers need no hypothesis on `==` / `!=` at all. -/
theorem C02_exactly_once_observe
    {E : Env} {t : TraitCore} {m : CMode} {po : Bool} {d : Id} {k : Nat}
    (st : StdTrait t m false po d) (q : Quiet E) (pq : PostQuiet E) (cl : Clean E d)
    (h : List Op) (s : OSt) (H : HistOk h) (I : Inv k .observe s) :
    callsOf k (run E t s h).ctx.log =
      callsOf k s.ctx.log ++ realChanges E t m false d ⟨s.slot, s.ctx.nval⟩ h :=
  exactly_once_run st q pq cl (fun h => absurd rfl h) h s H I

/-- Event traits: every accepted assignment, with old = Undefined, for all three kinds. -/
theorem C02_exactly_once_event
    {E : Env} {t : TraitCore} {k : Nat} {kind : NKind} (hk : t.kind = .event) (q : Quiet E)
    (h : List Op) (s : OSt) (H : ∀ op ∈ h, op.isValue = true) (hnn : s.noNotify = false)
    (u : UniqueIn k kind (snapshot s.tn s.on)) :
    callsOf k (run E t s h).ctx.log = callsOf k s.ctx.log ++ realChangesEvent E t s.ctx.nval h :=
  exactly_once_event_run hk q h s H hnn u

/-! A concrete configuration used by the examples: ids 3, 4 are equal but not
identical, 5 is not equal to anything else, 6 is rejected; handler 1 always
raises; a static, an `on_trait_change` and an `observe` handler are attached. -/

def exCmp : Cmp :=
  { eqv := fun a b => if a = b ∨ (a = 3 ∧ b = 4) ∨ (a = 4 ∧ b = 3) then .yes else .no
    neq := fun a b => if a = b ∨ (a = 3 ∧ b = 4) ∨ (a = 4 ∧ b = 3) then .no else .yes }

def exEnv : Env :=
  { cmp := exCmp
    validate := fun _ _ v => if v = 6 ∨ v = 0 then .error .traitError else .ok v
    post := fun _ _ _ => .ok ()
    factory := fun _ _ _ => .error .typeError
    handler := fun h _ _ => if h = 1 then .error .runtimeError else .ok .stay
    veto := fun _ => false
    reraiseLegacy := false
    reraiseObserve := false }

def exTrait (m : CMode) (orig : Bool) : TraitCore :=
  { kind := .trait, flags := mkFlags m orig false, validate := some 0, dvt := Generated.CONSTANT_DEFAULT_VALUE,
    dv := some noneId }

def exState : OSt :=
  { cn := some [⟨.static, 0, 1⟩], it := some (some [⟨.static, 0, 1⟩, ⟨.dynamic, 1, 1⟩, ⟨.observe, 2, 1⟩]) }

def exHist : List Op := [.set 3, .set 3, .set 4, .set 6, .set 5, .get, .del, .del, .setq 3, .set 4, .set 5]

theorem exEnv_quiet : Quiet exEnv :=
  ⟨by intro h n a; simp only [exEnv]; split <;> simp, rfl, rfl, fun _ => rfl⟩

theorem exCmp_consistent : Consistent exCmp := by
  intro a b
  simp only [exCmp]
  split <;> simp

theorem exEnv_clean : Clean exEnv noneId :=
  ⟨by decide, by
    intro k n v w h
    simp only [exEnv] at h
    split at h
    · simp at h
    · rename_i hv
      simp at h
      subst h
      exact fun e => hv (Or.inr e)⟩

/-- Non-vacuity of `C02_exactly_once_partial`: its hypotheses hold for the
configuration above (equality mode, a raising handler in the mix) and the
specification filter it computes is non-trivial: 3 → 4 is not a change
(equal), 6 is rejected, the second `del` and `trait_setq` are silent. -/
example :
    StdTrait (exTrait .equality false) .equality false false noneId ∧ Quiet exEnv ∧ PostQuiet exEnv
    ∧ Clean exEnv noneId ∧ Consistent exEnv.cmp ∧ HistOk exHist ∧ Inv 0 .static exState
    ∧ Inv 1 .dynamic exState ∧ Inv 2 .observe exState
    ∧ realChanges exEnv (exTrait .equality false) .equality false noneId ⟨none, 0⟩ exHist
        = [(2, 3), (4, 5), (5, 2), (4, 5)]
    ∧ callsOf 1 (run exEnv (exTrait .equality false) exState exHist).ctx.log = [(2, 3), (4, 5), (5, 2), (4, 5)] := by
  exact ⟨⟨rfl, rfl, rfl, rfl⟩, exEnv_quiet, fun _ _ _ => rfl, exEnv_clean, exCmp_consistent, by decide,
    ⟨rfl, by decide, by decide⟩, ⟨rfl, by decide, by decide⟩, ⟨rfl, by decide, by decide⟩, by decide, by decide⟩

/-- **Negation witness** for the full statement (finding F22): identity mode,
`setattr_original_value`, a validator that returns a new object: assigning the
very same object twice notifies twice, the second time with `old is new`. -/
theorem C02_exactly_once_fails_at_original_value : ¬ C02_exactly_once_statement := by
  intro H
  let E : Env := { exEnv with validate := fun _ _ v => .ok (v + 10) }
  have q : Quiet E := ⟨exEnv_quiet.noRemove, rfl, rfl, fun _ => rfl⟩
  have cl : Clean E noneId := ⟨by decide, by
    intro k n v w h
    simp only [E] at h
    injection h with h
    subst h
    exact Nat.ne_of_gt (Nat.lt_of_lt_of_le (by decide : 0 < 10) (Nat.le_add_left 10 v))⟩
  have := H E (exTrait .identity true) .identity true false noneId 0 .static [.set 5, .set 5] exState
    ⟨rfl, rfl, rfl, rfl⟩ q (fun _ _ _ => rfl) cl (fun _ h => by cases h) (by decide) ⟨rfl, by decide, by decide⟩
  revert this
  decide

/-! ### Truthful old / new -/

/-- After any history of value operations, every handler invocation made by the
next operation carries (what was readable before, what is readable after). -/
theorem C02_truthful
    {E : Env} {t : TraitCore} {m : CMode} {orig po : Bool} {d : Id}
    (st : StdTrait t m orig po d) (q : Quiet E) (pq : PostQuiet E)
    (h : List Op) (op : Op) (s : OSt) (H : ∀ o ∈ h, o.isValue = true) (hop : op.isValue = true)
    (hnn : s.noNotify = false) :
    let s1 := run E t s h
    let s2 := (step E t s1 op).2
    ∀ x ∈ s2.ctx.log.drop s1.ctx.log.length, x.old = readable d s1.slot ∧ x.new = readable d s2.slot :=
  (step_truthful st q pq (run E t s h) op hop (run_noNotify st q pq h s H hnn)).2

example : ∃ x ∈ (run exEnv (exTrait .equality false) exState [.set 3, .set 5]).ctx.log.drop
      (run exEnv (exTrait .equality false) exState [.set 3]).ctx.log.length,
    x.old = 3 ∧ x.new = 5 := by decide

/-! ### The three mechanisms see the same sequence -/

/-- A static, an `on_trait_change` and an `observe` handler registered over the
same history receive the same sequence of (old, new).  `Consistent` is needed
only in equality mode (see the witness below). -/
theorem C02_same_sequence
    {E : Env} {t : TraitCore} {m : CMode} {po : Bool} {d : Id} {ks kd ko : Nat}
    (st : StdTrait t m false po d) (q : Quiet E) (pq : PostQuiet E) (cl : Clean E d)
    (hc : m = .equality → Consistent E.cmp)
    (h : List Op) (s : OSt) (H : HistOk h)
    (Is : Inv ks .static s) (Id' : Inv kd .dynamic s) (Io : Inv ko .observe s)
    (h0 : callsOf ks s.ctx.log = callsOf kd s.ctx.log ∧ callsOf kd s.ctx.log = callsOf ko s.ctx.log) :
    callsOf ks (run E t s h).ctx.log = callsOf kd (run E t s h).ctx.log
    ∧ callsOf kd (run E t s h).ctx.log = callsOf ko (run E t s h).ctx.log := by
  rw [exactly_once_run st q pq cl (fun _ => hc) h s H Is, exactly_once_run st q pq cl (fun _ => hc) h s H Id',
    exactly_once_run st q pq cl (fun _ => hc) h s H Io, h0.1, h0.2]
  exact ⟨rfl, rfl⟩

theorem C02_same_sequence_event
    {E : Env} {t : TraitCore} {ks kd ko : Nat} (hk : t.kind = .event) (q : Quiet E)
    (h : List Op) (s : OSt) (H : ∀ op ∈ h, op.isValue = true) (hnn : s.noNotify = false)
    (us : UniqueIn ks .static (snapshot s.tn s.on)) (ud : UniqueIn kd .dynamic (snapshot s.tn s.on))
    (uo : UniqueIn ko .observe (snapshot s.tn s.on))
    (h0 : callsOf ks s.ctx.log = callsOf kd s.ctx.log ∧ callsOf kd s.ctx.log = callsOf ko s.ctx.log) :
    callsOf ks (run E t s h).ctx.log = callsOf kd (run E t s h).ctx.log
    ∧ callsOf kd (run E t s h).ctx.log = callsOf ko (run E t s h).ctx.log := by
  rw [exactly_once_event_run hk q h s H hnn us, exactly_once_event_run hk q h s H hnn ud,
    exactly_once_event_run hk q h s H hnn uo, h0.1, h0.2]
  exact ⟨rfl, rfl⟩

/-- The hypothesis is needed: with `3 == 4` and `3 != 4` both true (the harness
class `_Inconsistent`), the legacy wrappers fire and the observer does not. -/
theorem C02_same_sequence_needs_consistency :
    ∃ (E : Env) (s : OSt) (h : List Op), Quiet E ∧ PostQuiet E ∧ Clean E noneId ∧ HistOk h
      ∧ Inv 0 .static s ∧ Inv 2 .observe s ∧ ¬ Consistent E.cmp
      ∧ callsOf 0 (run E (exTrait .equality false) s h).ctx.log
          ≠ callsOf 2 (run E (exTrait .equality false) s h).ctx.log := by
  let E : Env := { exEnv with cmp := { exCmp with neq := fun _ _ => .yes } }
  refine ⟨E, exState, [.set 3, .set 4], ⟨exEnv_quiet.noRemove, rfl, rfl, fun _ => rfl⟩, fun _ _ _ => rfl,
    ⟨exEnv_clean.dflt, exEnv_clean.val⟩, by decide, ⟨rfl, by decide, by decide⟩, ⟨rfl, by decide, by decide⟩, ?_,
    by decide⟩
  · intro hc
    have := (hc 3 4).2 (by decide)
    simp [E] at this

/-! ### Rejected assignments and default reads are silent -/

/-- A rejected assignment (standard trait or Event, any flags, any default
kind, any handler mix, no hypothesis on the handlers): the exception is the
validator's, nothing is stored, no handler is called; only the validator's call
ordinal advances. -/
theorem C02_rejected_silent (E : Env) (t : TraitCore) (s : OSt) (v : Id) (e : Exc) (nv : Nat)
    (hrej : specValidate E t (t.kind == .trait) s.ctx.nval v = (.error e, nv)) :
    step E t s (.set v) = ({ exc := some e }, s.withNval nv) :=
  step_set_rejected E t s v e nv hrej

example : step exEnv (exTrait .none false) exState (.set 6) = ({ exc := some .traitError }, exState.withNval 1) :=
  C02_rejected_silent exEnv _ exState 6 .traitError 1 rfl

/-- The first read of a default: returns the default, stores it, calls no
handler — whatever handlers are registered (the raw notification
`(Uninitialized, default)` is filtered by every wrapper). -/
theorem C02_default_read_silent
    {E : Env} {t : TraitCore} {m : CMode} {orig po : Bool} {d : Id}
    (st : StdTrait t m orig po d) (q : Quiet E) (pq : PostQuiet E) (s : OSt) (hs : s.slot = none) :
    (step E t s .get).1 = { val := some d }
    ∧ (step E t s .get).2.slot = some d
    ∧ (step E t s .get).2.ctx.log = s.ctx.log
    ∧ (step E t s .get).2.tn = s.tn ∧ (step E t s .get).2.on = s.on := by
  have p := step_get_view (E := E) st pq s
  simp only [hs, Option.getD_none] at p
  exact ⟨p.1, p.2.1, p.2.2.2.2.2.2.2, p.2.2.1, p.2.2.2.1⟩

example : (step exEnv (exTrait .none false) exState .get).1 = { val := some noneId }
    ∧ (step exEnv (exTrait .none false) exState .get).2.ctx.log = [] := by decide

/-! ### Handler exceptions -/

/-- Under the default, non-re-raising exception handlers, the whole final state
— the stored value, every handler's call sequence (the log records every
invocation, of raising handlers too), the notifier lists — does not depend on
which handlers raise, or when: it is the state reached with handlers that never
raise.  Any standard or Event trait, any flags, any default kind, any history
(registration operations included). -/
theorem C02_handler_exception (E : Env) (g : Nat → Callback (Id × Id) HAct)
    (q : Quiet E) (q' : Quiet { E with handler := g }) (t : TraitCore) (h : List Op) (s : OSt) :
    run E t s h = run { E with handler := g } t s h := by
  rw [run_silence q, run_silence q']
  rfl

example : (run exEnv (exTrait .none false) exState exHist).slot = some 5
    ∧ callsOf 0 (run exEnv (exTrait .none false) exState exHist).ctx.log
      = callsOf 1 (run exEnv (exTrait .none false) exState exHist).ctx.log
    ∧ (callsOf 0 (run exEnv (exTrait .none false) exState exHist).ctx.log).length = 8 := by decide

end TraitsVerif.Props.C02
