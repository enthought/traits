/-
Property C10 — defaults are per-instance, computed once, silent; instances are
isolated.  Only the property theorems and their non-vacuity examples live here;
the model is `Model/Defaults` (`default_value_for`, `TraitType.clone`, class
construction) and `Model/SetAttr` (`getattr_trait`, `setattr_trait`, `get_trait`,
`add_trait`, the world of several instances); proofs are in `Lemmas/Attr*.lean`.

`C10_first_read`, `C10_silent`, `C10_stable_read`, `C10_noninterference` hold for
EVERY environment (arbitrary handlers — raising, self-removing — arbitrary
validators and factories, re-raising exception handlers).  `C10_once` assumes
that default computations do not fail; `C10_fresh_partial` / `C10_isolated`
assume copy-promising defaults (`Good`), which the pinned tree does not provide
for a mutable default overridden by value in a subclass (finding F9).
-/
import TraitsVerif.Lemmas.AttrReset
import TraitsVerif.Lemmas.AttrSource
import TraitsVerif.Lemmas.AttrSourceTrait
namespace TraitsVerif.Props.C10
open TraitsVerif TraitsVerif.Model.Attr

/-! ### Tie to the source -/

/-- The `default_value_for` switch has exactly the eleven cases the model
distinguishes, `DefaultValue` maps its members to them, and the three `clone_*`
sets of trait_type.py are the ones `cloneDefault` consults. -/
theorem source_tie :
    Generated.defaultValueForCases =
      ["CONSTANT_DEFAULT_VALUE", "MISSING_DEFAULT_VALUE", "OBJECT_DEFAULT_VALUE", "LIST_COPY_DEFAULT_VALUE",
       "DICT_COPY_DEFAULT_VALUE", "TRAIT_LIST_OBJECT_DEFAULT_VALUE", "TRAIT_DICT_OBJECT_DEFAULT_VALUE",
       "CALLABLE_AND_ARGS_DEFAULT_VALUE", "CALLABLE_DEFAULT_VALUE", "TRAIT_SET_OBJECT_DEFAULT_VALUE",
       "DISALLOW_DEFAULT_VALUE"]
    ∧ Generated.defaultValueMembers =
      [("unspecified", -1), ("constant", 0), ("missing", 1), ("object", 2), ("list_copy", 3), ("dict_copy", 4),
       ("trait_list_object", 5), ("trait_dict_object", 6), ("callable_and_args", 7), ("callable", 8),
       ("trait_set_object", 9), ("disallow", 10)]
    ∧ [Generated.CONSTANT_DEFAULT_VALUE, Generated.MISSING_DEFAULT_VALUE, Generated.OBJECT_DEFAULT_VALUE,
       Generated.LIST_COPY_DEFAULT_VALUE, Generated.DICT_COPY_DEFAULT_VALUE, Generated.TRAIT_LIST_OBJECT_DEFAULT_VALUE,
       Generated.TRAIT_DICT_OBJECT_DEFAULT_VALUE, Generated.CALLABLE_AND_ARGS_DEFAULT_VALUE,
       Generated.CALLABLE_DEFAULT_VALUE, Generated.TRAIT_SET_OBJECT_DEFAULT_VALUE, Generated.DISALLOW_DEFAULT_VALUE]
      = [0, 1, 2, 3, 4, 5, 6, 7, 8, 9, 10]
    ∧ Generated.cloneCopiesDefaultValue = ["trait_list_object", "trait_dict_object", "trait_set_object"]
    ∧ Generated.cloneBecomesConstantDefaultValue = ["callable_and_args", "callable", "object", "list_copy", "dict_copy"]
    ∧ Generated.cloneNoOverrideDefaultValue = ["disallow"]
    ∧ Generated.getattrByKind[Kind.trait.toNat]? = some "getattr_trait" := by
  decide

/-! ### The model is the source (`Generated/AttrProg.lean`, translated from ctraits.c on every run) -/

open TraitsVerif.Model.MiniC in
/-- `defaultValueFor` is the interpretation of the source of `default_value_for`,
for all eleven default kinds, every default value (NULL included), factory,
validator, flag word and warning mode.  (`default_value_type` in range is what
`set_default_value` enforces.) -/
theorem C10_default_is_source (C : IC) (s : OSt) (dn idn : Bool)
    (hmax : C.t.dvt ≤ Generated.MAXIMUM_DEFAULT_VALUE_TYPE) :
    call C Generated.AttrProg.default_value_for [.trait, .self, .name] s dn idn
      = ofPtr (match defaultValueFor C.E C.t s.self s.name s.ctx with | (r, c) => (r, { s with ctx := c })) :=
  Lemmas.AttrSource.default_value_for_is_source C s dn idn hmax

open TraitsVerif.Model.MiniC in
/-- `getattrTrait` is the interpretation of the source of `getattr_trait`: default
computed (once per call), stored, `post_setattr`'d, announced with
old = Uninitialized; an error exit leaves the default stored. -/
theorem C10_getattr_is_source (C : IC) (s : OSt) (dn idn : Bool) :
    call C Generated.AttrProg.getattr_trait [.trait, .self, .name] s dn idn = ofPtr (getattrTrait C.E C.t s) :=
  Lemmas.AttrSource.getattr_trait_is_source C s dn idn

open TraitsVerif.Model.MiniC in
/-- `setattrTrait` is the interpretation of the source of `setattr_trait` on every path (= `C02_setattr_trait_is_source`;
restated here because `C10_once` / `C10_reset_default` rest on its old-value fetch: on the first assignment to a
never-read attribute with notifiers or a `post_setattr` hook the default is computed ONCE, STORED, and only then
`post_setattr`'d — seeded change C10-m12 dropped the store). -/
theorem C10_setattr_is_source (C : IC) (value : Option Id) (s : OSt) (dn idn : Bool)
    (hdn : dn = true → s.slot = none) :
    call C Generated.AttrProg.setattr_trait [.trait, .trait, .self, .name, ofValue value] s dn idn
      = ofInt (setattrTrait C.E C.t value s) :=
  Lemmas.AttrSource.setattr_trait_is_source C value s dn idn hdn

/-! ### First read -/

/-- The first read of a never-assigned standard trait (no `post_setattr` hook)
returns exactly what `default_value_for` computes for the trait in effect
(instance trait, else class trait) and stores it; a failing default computation
surfaces as the read's exception.  Every environment. -/
theorem C10_first_read (E : Env) (w : World) (i : Nat) (n : Name) (o : Inst) (td : TraitDef)
    (hi : w.insts[i]? = some o) (ht : w.traitOf o n = some td) (hk : td.core.kind = .trait)
    (hp : td.core.post = none) (hs : assocGet o.dict n = none) :
    (∀ v, (defaultValueFor E td.core o.oid n w.ctx).1 = .ok v →
      (World.step E w (.get i n)).1 = { val := some v }
      ∧ ∃ o', (World.step E w (.get i n)).2.insts[i]? = some o' ∧ assocGet o'.dict n = some v)
    ∧ (∀ e, (defaultValueFor E td.core o.oid n w.ctx).1 = .error e →
      (World.step E w (.get i n)).1 = { exc := some e }) :=
  first_read E w i n o td hi ht hk hp hs

/-- The declared default, kind by kind: a static value is returned as is and
nothing is allocated; the object kind returns the object; the five copying
kinds return a brand-new identity (the allocation counter, which no existing
object has) holding the elements of the template. -/
theorem C10_declared_default (E : Env) (P : Nat) (t : TraitCore) (obj : Id) (name : Name) (c : Ctx)
    (wf : CtxWF P c) :
    ((t.dvt = Generated.CONSTANT_DEFAULT_VALUE ∨ t.dvt = Generated.MISSING_DEFAULT_VALUE) →
      defaultValueFor E t obj name c = (.ok (t.dv.getD noneId), c))
    ∧ (t.dvt = Generated.OBJECT_DEFAULT_VALUE → defaultValueFor E t obj name c = (.ok obj, c))
    ∧ (copyKind t →
      (defaultValueFor E t obj name c).1 = .ok c.alloc
      ∧ heapGet c.heap c.alloc = none
      ∧ heapGet (defaultValueFor E t obj name c).2.heap c.alloc = some ((heapGet c.heap (t.dv.getD noneId)).getD [])
      ∧ ∀ x, x < c.alloc → heapGet (defaultValueFor E t obj name c).2.heap x = heapGet c.heap x) := by
  refine ⟨fun h => ?_, fun h => ?_, fun h => ?_⟩
  · unfold defaultValueFor; simp only [h, if_true]
  · unfold defaultValueFor
    simp only [h]
    rfl
  · have hfresh := heapGet_fresh_none wf c.alloc (Nat.le_refl _)
    have h1 : ¬ (t.dvt = Generated.CONSTANT_DEFAULT_VALUE ∨ t.dvt = Generated.MISSING_DEFAULT_VALUE) := by
      unfold copyKind at h
      rcases h with h | h | h | h | h <;> rw [h] <;> decide
    have h2 : ¬ t.dvt = Generated.OBJECT_DEFAULT_VALUE := by
      unfold copyKind at h
      rcases h with h | h | h | h | h <;> rw [h] <;> decide
    have hd : defaultValueFor E t obj name c =
        (.ok c.alloc, (c.copyOf (t.dv.getD noneId)).2) := by
      unfold defaultValueFor
      simp only [h1, if_false, h2]
      unfold copyKind at h
      simp only [h, if_true]
      rfl
    rw [hd]
    refine ⟨rfl, hfresh, ?_, fun x hx => ?_⟩
    · exact heapGet_append_self _ _ _ hfresh
    · exact heapGet_append_ne _ _ _ _ (Nat.ne_of_lt hx)

/-! ### Once -/

/-- Over any history without `del` (`OpTotal`; see `C10_reset_default`) of operations on any instances of any
classes, the default factory / `_name_default` of an attribute is invoked at most once per instance,
and once it has been invoked a value is stored.  (Hypothesis inside `OnceInv`:
default computations do not fail — a raising factory or a default rejected by
its own trait is retried by the next read, by design.) -/
theorem C10_once {E : Env} (w : World) (h : List WOp) (g : OnceInv E w) (H : ∀ op ∈ h, OpTotal E op)
    (i : Nat) (o : Inst) (hi : (World.run E w h).insts[i]? = some o) (n : Name) :
    (World.run E w h).fcount o.oid n ≤ 1
    ∧ ((World.run E w h).fcount o.oid n = 1 → (assocGet o.dict n).isSome = true) :=
  (run_onceInv h w g H).once i o hi n

/-- The invariant holds in a world without instances and without recorded calls. -/
theorem C10_once_initial {E : Env} (classes : List ClassRec) (c : Ctx) (hc : c.fcalls = [])
    (tot : ∀ k ∈ classes, ∀ p ∈ k.traits, TotalDefault E p.2.ctrait.core) :
    OnceInv E { classes := classes, insts := [], ctx := c } := by
  refine ⟨fun i o h => by simp at h, fun a b oa ob h => by simp at h, fun i o h => by simp at h,
    fun f hf => by simp [hc] at hf, fun t ht => ?_⟩
  rcases ht with ⟨k, hk, p, hp, rfl⟩ | ⟨o, ho, _⟩
  · exact tot k hk p hp
  · simp at ho

/-- Later reads return the same object and change nothing at all (every environment). -/
theorem C10_stable_read (E : Env) (w : World) (i : Nat) (n : Name) (o : Inst) (td : TraitDef) (v : Id)
    (hi : w.insts[i]? = some o) (ht : w.traitOf o n = some td) (hs : assocGet o.dict n = some v) :
    (World.step E w (.get i n)).1 = { val := some v }
    ∧ (World.step E w (.get i n)).2.ctx = w.ctx
    ∧ ∃ o', (World.step E w (.get i n)).2.insts[i]? = some o' ∧ o'.dict = assocSet o.dict n v := by
  have hslot : (w.focus o n).slot = some v := hs
  have h1 : Model.Attr.step E td.core (w.focus o n) .get = ({ val := some v }, w.focus o n) := by
    unfold Model.Attr.step getattro
    simp only [hslot]
  simp only [World.step, World.onAttr, hi, ht, h1]
  refine ⟨by first | rfl | trivial, by first | rfl | trivial, _, setInst_get_self w i o _ _ hi, ?_⟩
  unfold Inst.absorb
  simp only [hslot]

/-! ### A default factory that raises (atomicity, cited by C19) -/

/-- A read whose default factory / `_name_default` method raises `e` — for every
environment, every state with nothing stored for the attribute, both default
kinds that call user code (`callable_and_args`: `factory(*args, **kw)`;
`callable`: `_name_default(self)`, `Tuple`/`Union` `_get_default_value`), any
handlers registered anywhere:

* the read raises `surfaced E e`, which IS `e` — except on the one path where the
  code does not pass the exception through: an `AttributeError` makes Traits issue
  a `UserWarning` (`_warn_on_attribute_error`, ctraits.c:1794-1838), and when the
  warning filters turn warnings into errors that `UserWarning` (with the
  `AttributeError` as `__cause__`) is raised instead;
* the whole state afterwards equals the state before except for the record of
  the factory call: nothing is stored in the slot, no handler is called, no
  `post_setattr` runs, nothing is allocated, no notifier list changes;
* the NEXT read (no `post_setattr` hook) calls the factory again, with the next
  call ordinal; if this default computation succeeds with `v`, the read returns
  `v` and stores it; if it fails again, again nothing is stored. -/
theorem C10_default_raises (E : Env) (t : TraitCore) (s : OSt) (e : Exc)
    (hk : t.kind = .trait) (hu : callsUser t) (hs : s.slot = none)
    (hr : E.factory (t.dv.getD noneId) s.ctx.fcalls.length (factoryArg t s.self) = .error e) :
    (Model.Attr.step E t s .get).1 = { exc := some (surfaced E e) }
    ∧ (Model.Attr.step E t s .get).2 =
        { s with ctx := { s.ctx with fcalls := s.ctx.fcalls ++ [(t.dv.getD noneId, s.self, s.name)] } }
    ∧ (Model.Attr.step E t s .get).2.slot = none
    ∧ (Model.Attr.step E t s .get).2.ctx.log = s.ctx.log
    ∧ (Model.Attr.step E t s .get).2.ctx.postLog = s.ctx.postLog
    ∧ ((e ≠ .attributeError ∨ E.warnError = false) → surfaced E e = e)
    ∧ (t.post = none →
        let s1 := (Model.Attr.step E t s .get).2
        (Model.Attr.step E t s1 .get).2.ctx.fcalls =
          s.ctx.fcalls ++ [(t.dv.getD noneId, s.self, s.name), (t.dv.getD noneId, s.self, s.name)]
        ∧ (∀ v, (defaultValueFor E t s.self s.name s1.ctx).1 = .ok v →
            (Model.Attr.step E t s1 .get).1 = { val := some v } ∧ (Model.Attr.step E t s1 .get).2.slot = some v)
        ∧ (∀ e2, (defaultValueFor E t s.self s.name s1.ctx).1 = .error e2 →
            (Model.Attr.step E t s1 .get).1 = { exc := some e2 } ∧ (Model.Attr.step E t s1 .get).2.slot = none)) := by
  obtain ⟨h1, h2⟩ := default_raises E t s e hk hu hs hr
  refine ⟨by rw [h1], by rw [h1], by rw [h1]; exact hs, by rw [h1], by rw [h1], ?_, ?_⟩
  · intro h
    unfold surfaced
    rcases h with h | h
    · simp [h]
    · simp [h]
  · intro hp
    rw [h1]
    exact h2 hp _ rfl

/-! ### Reset -/

/-- `del obj.name` / `reset_traits` of an assigned attribute while a notifier list exists (any
default kind, any handler mix, any subset of raising handlers under the non-re-raising
exception handlers, no `post_setattr` hook): the default is computed exactly once (`c` is
the context `default_value_for` leaves), it is STORED, and the object stored — the one
every later read returns (`C10_stable_read`) — is the very object each handler is told as
`new`, with the deleted value as `old`.  (A reset re-arms the default: `C10_once` counts per
reset, which is why `del` is outside its histories.) -/
theorem C10_reset_default {E : Env} (q : Quiet E) (t : TraitCore) (s : OSt) (old v : Id) (c : Ctx)
    (hk : t.kind = .trait) (hp : t.post = none) (hs : s.slot = some old) (hn : s.noNotify = false)
    (hex : (s.tn.isSome || s.on.isSome) = true)
    (hd : defaultValueFor E t s.self s.name s.ctx = (.ok v, c)) :
    (Model.Attr.step E t s .del).1 = {}
    ∧ (Model.Attr.step E t s .del).2.slot = some v
    ∧ (Model.Attr.step E t s .del).2.ctx.fcalls = c.fcalls
    ∧ ∀ x ∈ (Model.Attr.step E t s .del).2.ctx.log.drop s.ctx.log.length, x.old = old ∧ x.new = v :=
  reset_default q t s old v c hk hp hs hn hex hd

/-! ### Silent -/

theorem getattro_log (E : Env) (t : TraitCore) (s : OSt) : (getattro E t s).2.ctx.log = s.ctx.log := by
  rw [getattro_eq]
  cases s.slot <;> cases t.kind <;> first | rfl | exact materialise_log E t s

/-- No read — in particular no first read of a default of any of the eleven
kinds — reaches a change handler, whatever handlers of whatever kind are
registered on the trait, the instance or the class, whatever the environment. -/
theorem C10_silent (E : Env) (w : World) (i : Nat) (n : Name) :
    (World.step E w (.get i n)).2.ctx.log = w.ctx.log := by
  simp only [World.step, World.onAttr]
  cases hi : w.insts[i]? with
  | none => rfl
  | some o =>
    simp only []
    cases ht : w.traitOf o n with
    | none => rfl
    | some td =>
      simp only []
      have := getattro_log E td.core (w.focus o n)
      unfold Model.Attr.step
      cases hg : getattro E td.core (w.focus o n) with
      | mk r s =>
        rw [hg] at this
        cases r <;> exact this

/-! ### Non-interference -/

/-- **Every environment, every world** (F9 worlds included): an operation on
instance `i` leaves untouched the class records, every other instance's record
(values, instance traits with their definitions and notifier lists, anytrait
notifiers), identity and class of `i`; the handler calls and factory calls it
adds are about `i`; a container that existed before keeps its contents unless
it is reachable from `i` afterwards, and stays a container. -/
theorem C10_noninterference (E : Env) (w : World) (op : WOp) (i : Nat) (ht : op.target = some i) :
    WFrame i w (World.step E w op).2 :=
  step_frame E w op i ht

/-- With copy-promising defaults (`Good`), operations on `i` and creations of
instances, in any interleaving and number, change nothing observable on another
instance `j`: its record, the contents of every object reachable from it, the
class records, the contents of the class-level default templates (hence the
defaults `j` and later instances have yet to materialise), the handler calls
and factory calls about `j`. -/
theorem C10_isolated {E : Env} {P : Nat} (i j : Nat) (hji : j ≠ i) (h : List WOp) (w : World) (g : Good E P w)
    (H : ∀ op ∈ h, OpOk E P op ∧ (op.target = some i ∨ op.target = none)) (hj : j < w.insts.length) :
    SameView j w (World.run E w h) :=
  run_sameView i j hji h w g H hj

/-! ### Freshness -/

/-- Mutable objects reachable from two different instances are disjoint. -/
def Separated (w : World) : Prop :=
  ∀ a b x, a ≠ b → w.ReachIdx a x → w.Mut x → ¬ w.ReachIdx b x

/-- What the model's class construction accepts as "a subclass overrides an
inherited default by value": the value is an already allocated flat container
of atoms (or the name is inherited unchanged). -/
def OverrideOk (P : Nat) (c : Ctx) (d : Decl) : Prop :=
  d.default = none ∧
  (d.member = none ∨ ∃ v ys, d.member = some (.value v) ∧ heapGet c.heap v = some ys ∧ ∀ y ∈ ys, y < P)

/-- **Full statement** (all default kinds of the property's list, including
subclass-overridden defaults): take a good base class, derive a subclass that
overrides inherited defaults by value, build it with the model of
`update_traits_class_dict` / `TraitType.clone`; then after every history the
instances are separated.  FALSE for the pinned tree (finding F9): see
`C10_fresh_fails_at_override`. -/
def C10_fresh_statement : Prop :=
  ∀ (E : Env) (P : Nat) (kb : ClassRec) (c1 : Ctx) (sub : List Decl) (ks : ClassRec) (c2 : Ctx) (h : List WOp),
    Good E P { classes := [kb], ctx := c1 } →
    (∀ d ∈ sub, OverrideOk P c1 d) →
    buildClass E (some kb) sub c1 = (.ok ks, c2) →
    (∀ op ∈ h, OpOk E P op) →
    Separated (World.run E { classes := [kb, ks], ctx := c2 } h)

/-- The statement for worlds whose trait definitions are all copy-promising
(`Good`: constant defaults are atoms, copied templates and factory results hold
atoms or fresh containers): after every history, mutable objects reachable from
two instances are disjoint, none of them is a default template, and the world
stays good.  What is missing for the full statement: `TraitType.clone` would have
to keep a copying default kind when a subclass overrides a mutable default. -/
theorem C10_fresh_partial {E : Env} {P : Nat} (w : World) (h : List WOp) (g : Good E P w)
    (H : ∀ op ∈ h, OpOk E P op) :
    Separated (World.run E w h)
    ∧ (∀ a x, (World.run E w h).ReachIdx a x → (World.run E w h).Mut x →
        ∀ t, (World.run E w h).Cores t → copyKind t → x ≠ t.dv.getD noneId)
    ∧ Good E P (World.run E w h) :=
  ⟨(run_good h w g H).sepI, (run_good h w g H).sepC, run_good h w g H⟩

/-- One default computation of a copy-promising trait yields an atom, the object
itself, or an identity allocated by this very computation. -/
theorem C10_fresh_value {E : Env} {P : Nat} (t : TraitCore) (obj : Id) (name : Name) (c : Ctx)
    (wf : CtxWF P c) (g : GoodCore E P c t) (v : Id) (hv : (defaultValueFor E t obj name c).1 = .ok v) :
    v < P ∨ v = obj ∨ (c.alloc ≤ v ∧ v < (defaultValueFor E t obj name c).2.alloc) :=
  (defaultValueFor_grow t obj name c wf g).2 v hv

/-! ### Examples and the negation witness -/

def exEnv : Env :=
  { cmp := { eqv := fun a b => if a = b then .yes else .no, neq := fun a b => if a = b then .no else .yes }
    validate := fun _ _ v => .ok v
    post := fun _ _ _ => .ok ()
    factory := fun _ _ _ => .error .typeError
    handler := fun h _ _ => if h = 1 then .error .runtimeError else .ok .stay
    veto := fun _ => false
    reraiseLegacy := false
    reraiseObserve := false }

/-- `x = Any([3, 4])` : a list_copy default whose template is object 10; handler 0 is `_x_changed`. -/
def exCore : TraitCore := { dvt := Generated.LIST_COPY_DEFAULT_VALUE, dv := some 10 }

def exBase : ClassRec :=
  { traits := [(0, { handler := exCore, ctrait := { core := exCore, notifiers := some [⟨.static, 0, 1⟩] } })] }

/-- objects 10 (template `[3, 4]`) and 11 (the list `[5]` a subclass will use as overriding default) exist -/
def exCtx : Ctx := { alloc := 12, heap := [(10, [3, 4]), (11, [5])] }

def exWorld : World := { classes := [exBase], ctx := exCtx }

theorem exHeap (x : Id) (ys : List Id) (h : heapGet exCtx.heap x = some ys) :
    (x = 10 ∧ ys = [3, 4]) ∨ (x = 11 ∧ ys = [5]) := by
  unfold heapGet exCtx at h
  simp only [List.find?] at h
  by_cases h1 : (10 : Nat) = x
  · subst h1; simp at h; exact Or.inl ⟨rfl, h.symm⟩
  · by_cases h2 : (11 : Nat) = x
    · subst h2; simp at h; exact Or.inr ⟨rfl, h.symm⟩
    · have e1 : ((10 : Nat) == x) = false := by simpa using h1
      have e2 : ((11 : Nat) == x) = false := by simpa using h2
      simp [e1, e2] at h

theorem exGood : Good exEnv 10 exWorld := by
  refine Good.initial _ rfl ⟨by decide, fun x ys h => ?_⟩ (by decide) fun k hk p hp => ?_
  · rcases exHeap x ys h with ⟨rfl, rfl⟩ | ⟨rfl, rfl⟩ <;> decide
  · simp only [exWorld, List.mem_singleton] at hk
    subst hk
    simp only [exBase, List.mem_singleton] at hp
    subst hp
    exact ⟨⟨fun h => by revert h; decide, fun _ => by decide, fun n a r h => by simp [exEnv] at h,
      fun k h => by simp [exCore] at h⟩, fun _ => by decide⟩

/-- Non-vacuity of `C10_fresh_partial` / `C10_isolated` (`Good`, `OpOk`): the
hypotheses hold for a concrete class with a list default and a static handler;
after instance 0 read and mutated its default and registered a handler, instance
1 and an instance created afterwards read a fresh, unmodified `[3, 4]`, and no
handler was called. -/
def exHist : List WOp :=
  [.new 0, .new 0, .get 0 0, .mutate 0 0 5, .regDyn 0 0 2, .mutate 0 0 6, .new 0, .get 1 0, .get 2 0]

example :
    Good exEnv 10 exWorld ∧ (∀ op ∈ exHist, OpOk exEnv 10 op)
    ∧ ((World.run exEnv exWorld exHist).insts.map (fun o => o.dict)) = [[(0, 14)], [(0, 16)], [(0, 17)]]
    ∧ heapGet (World.run exEnv exWorld exHist).ctx.heap 14 = some [3, 4, 5, 6]
    ∧ heapGet (World.run exEnv exWorld exHist).ctx.heap 16 = some [3, 4]
    ∧ heapGet (World.run exEnv exWorld exHist).ctx.heap 17 = some [3, 4]
    ∧ (World.run exEnv exWorld exHist).ctx.log = [] := by
  refine ⟨exGood, opOk_of_bool _ (by decide), by decide, by decide, by decide, by decide, by decide⟩

/-- `x = Any(factory=f)` with a factory (callable 1000) that returns a fresh `[3]`; handler 0 is `_x_changed`. -/
def exEnvF : Env := { exEnv with factory := fun _ _ _ => .ok (.fresh [.atom 3]) }

def exCoreF : TraitCore := { dvt := Generated.CALLABLE_AND_ARGS_DEFAULT_VALUE, dv := some 1000 }

def exWorldF : World :=
  { classes := [{ traits := [(0, { handler := exCoreF,
                                   ctrait := { core := exCoreF, notifiers := some [⟨.static, 0, 1⟩] } })] }],
    ctx := { alloc := 10 } }

/-- Non-vacuity of `C10_once` / `C10_first_read` / `C10_silent`: the invariant
holds initially for a class with a factory default; after reads, a repeated
read, an assignment and a read on a second instance the factory ran exactly
once per instance, the first read returned the fresh object the factory built,
and no handler was called by the reads (the one call is the assignment's). -/
example :
    OnceInv exEnvF exWorldF
    ∧ (World.step exEnvF (World.run exEnvF exWorldF [.new 0]) (.get 0 0)).1 = { val := some 11 }
    ∧ (let w := World.run exEnvF exWorldF [.new 0, .get 0 0, .get 0 0, .set 0 0 4, .get 0 0, .new 0, .get 1 0]
       w.fcount 10 0 = 1 ∧ w.fcount 12 0 = 1 ∧ w.ctx.log = [⟨10, 0, 11, 4⟩]) := by
  refine ⟨C10_once_initial _ _ rfl ?_, by decide, by decide⟩
  intro k hk p hp obj name c
  simp only [List.mem_singleton] at hk
  subst hk
  simp only [List.mem_singleton] at hp
  subst hp
  exact ⟨_, rfl⟩

/-- `x = Any(factory=f)` where `f` raises ValueError on its first call and returns a fresh `[3]` afterwards. -/
def exEnvR : Env :=
  { exEnv with factory := fun _ n _ => if n = 0 then .error .valueError else .ok (.fresh [.atom 3]) }

/-- Non-vacuity of `C10_default_raises`, on the world model: the first read raises
the factory's ValueError, stores nothing and calls nobody (a static handler is
attached); the second read calls the factory again, returns the fresh object 11
and stores it.  With an AttributeError and warnings-as-errors the caller sees
the UserWarning (`Exc.other`) instead. -/
example :
    ((World.runTrace exEnvR exWorldF [.new 0, .get 0 0, .get 0 0]).map
        (fun r => (r.1.exc, r.1.val, r.2.insts.map (fun o => o.dict), r.2.ctx.log, r.2.ctx.fcalls.length))
       = [(none, some 10, [[]], [], 0), (some .valueError, none, [[]], [], 1), (none, some 11, [[(0, 11)]], [], 2)])
    ∧ callsUser exCoreF
    ∧ surfaced { exEnvR with warnError := true } .attributeError = .other
    ∧ surfaced exEnvR .attributeError = .attributeError := by
  refine ⟨by rfl, Or.inl rfl, by decide, by decide⟩

/-- Non-vacuity of `C10_reset_default` on the world model (factory default, static handler 0):
assign, reset, read twice — the reset tells the handler the fresh object 12, which is what is
stored and what both later reads return; the factory ran once for the reset (and once before it,
for the old value `11` the assignment reported). -/
example :
    ((World.runTrace exEnvF exWorldF [.new 0, .set 0 0 4, .del 0 0, .get 0 0, .get 0 0]).map
        (fun r => (r.1.val, r.2.insts.map (fun o => o.dict), r.2.ctx.log.length, r.2.ctx.fcalls.length))
      = [(some 10, [[]], 0, 0), (none, [[(0, 4)]], 1, 1), (none, [[(0, 12)]], 2, 2),
         (some 12, [[(0, 12)]], 2, 2), (some 12, [[(0, 12)]], 2, 2)])
    ∧ (World.run exEnvF exWorldF [.new 0, .set 0 0 4, .del 0 0]).ctx.log.getLast? = some ⟨10, 0, 4, 12⟩ := by
  refine ⟨by rfl, by rfl⟩

/-- What `buildClass` produces for the subclass `x = [5]` (object 11) of `exBase`:
a CONSTANT default holding object 11 itself. -/
def exSub : ClassRec :=
  { traits := [(0, { handler := { exCore with dvt := Generated.CONSTANT_DEFAULT_VALUE, dv := some 11 },
                     ctrait := { core := { exCore with dvt := Generated.CONSTANT_DEFAULT_VALUE, dv := some 11 },
                                 notifiers := none } })] }

/-- **Negation witness** (finding F9): base class `x = Any([3, 4])`, subclass
`x = [5]`.  `TraitType.clone` turns the copying default into a *constant* one
(`clone_becomes_constant_default_value`), so two instances of the subclass read
the very same list object 11. -/
theorem C10_fresh_fails_at_override : ¬ C10_fresh_statement := by
  intro H
  have hb : buildClass exEnv (some exBase) [{ name := 0, member := some (.value 11) }] exCtx =
      (.ok exSub, exCtx) := by rfl
  have hsep := H exEnv 10 exBase exCtx [{ name := 0, member := some (.value 11) }] exSub exCtx
    [.new 1, .new 1, .get 0 0, .get 1 0] exGood
    (by
      intro d hd
      simp only [List.mem_singleton] at hd
      subst hd
      exact ⟨rfl, Or.inr ⟨11, [5], rfl, by decide, by decide⟩⟩)
    hb (opOk_of_bool _ (by decide))
  exact hsep 0 1 11 (by decide) ⟨_, rfl, 0, 11, by decide, Or.inl rfl⟩ (by unfold World.Mut; decide)
    ⟨_, rfl, 0, 11, by decide, Or.inl rfl⟩

end TraitsVerif.Props.C10
