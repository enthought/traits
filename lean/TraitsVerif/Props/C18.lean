/-
C18 - the compiled core is memory-safe and reference-neutral under any API use.

What is PROVED here (DESIGN §5 C18):

 (a) table-index safety of `func_index` / `__getstate__` / `__setstate__` /
     `trait_new` / `_trait_set_property` / `_trait_delegate` /
     `_trait_set_validate` / `_trait_set_default_value`, over the tables and
     guards TRANSLATED from the working tree's `ctraits.c`
     (`Generated/CTables.lean`): removing a table entry, widening a guard or
     adding an assignment of an unlisted function breaks a theorem below;
 (b) the reference ledger of the attribute core (`Model/RefLedger`): a
     rejected assignment is neutral, a successful one moves exactly the
     references of the slot written, and no operation, however it ends, changes
     a reference count that is not a slot.

 (c) reference ownership where the C code hands references over or replaces
     them: `_warn_on_attribute_error` (a failing default computation under any
     warnings filter) and the raw `CTrait` entry points with ALIASED arguments
     (`Model/RefLedger` `Warn`, `Raw`), plus the structural facts translated
     from the working tree that those models rest on (a stolen reference is not
     released again; a field is not released before it is stored again).

 (d) reference neutrality of the C TEXT, path by path (`Generated/RefPaths.lean`,
     translated from the working tree by `harness/translate/crefpaths.py`): on
     every control-flow path of 134 of the 153 functions of the file -
     including the allocation-failure paths no generator reaches - every
     reference acquired is released, returned, stolen or stored exactly once,
     and nothing is released that is not held (`C18_paths_balanced*`, no
     exceptions);
 (e) on the same paths (`Generated/RefBorrows.lean`, `harness/translate/crefborrows.py`),
     no value borrowed from a struct field is used after a call that can run
     arbitrary code without a protecting reference, the exceptions named in
     `knownStaleBorrows` aside.

What is NOT provable in a model and is searched for at run time instead
(harness/props/c18.py, sanitizer tier): out-of-bounds accesses, use after
free, undefined behaviour of the real machine code.
-/
import TraitsVerif.Lemmas.CTabIndex
import TraitsVerif.Lemmas.CTabLedger
import TraitsVerif.Lemmas.CTabRaw
import TraitsVerif.Generated.RefPaths
import TraitsVerif.Generated.RefBorrows
import TraitsVerif.Lemmas.RefPaths
namespace TraitsVerif.Props.C18
open TraitsVerif TraitsVerif.Generated TraitsVerif.Model.FuncIndex TraitsVerif.Lemmas.CTab

/-! ## (a) Table-index safety -/

/-- The unbounded `for` of `func_index` stops inside the array: every function
that any assignment in `ctraits.c` can put into a field is an entry of the
table `__getstate__` searches for that field, and the index returned names it. -/
theorem C18_func_index_total (f : Field) (fn : String) (h : fn ∈ assignable f) :
    ∃ i, funcIndex fn (stateTable f) = some i ∧ i < (stateTable f).length ∧
      (stateTable f)[i]? = some fn := by
  have := assignable_covered f (field_mem_all f) fn h
  obtain ⟨i, hi⟩ := Option.isSome_iff_exists.mp this
  exact ⟨i, hi, funcIndex_spec hi⟩

/-- The hand-written API model writes nothing the translated assignment sites
do not know: every field of every constructible trait is assignable. -/
theorem C18_constructible_assignable {t : Fns} (h : Constructible t) (f : Field) :
    t.get f ∈ assignable f :=
  (good_of_constructible h).1 f

/-- `__getstate__` of any trait a program can build returns, and all five
indices lie inside their tables. -/
theorem C18_getstate_in_bounds {t : Fns} (h : Constructible t) :
    ∃ i, getstateIdx t = some i ∧ ∀ f, i.get f < (stateTable f).length ∧
      (stateTable f)[i.get f]? = some (t.get f) := by
  obtain ⟨i, hi⟩ := getstateIdx_of_forall fun f =>
    assignable_covered f (field_mem_all f) _ (C18_constructible_assignable h f)
  exact ⟨i, hi, fun f => funcIndex_spec (getstateIdx_eq_some.mp hi f)⟩

/-- The indices `__getstate__` produced are valid subscripts of the tables
`__setstate__` reads (which are the same tables), so the five unchecked
subscripts of `_trait_setstate` stay inside their initialisers. -/
theorem C18_setstate_of_getstate_in_bounds {t : Fns} {i : Idx} (h : Constructible t)
    (hg : getstateIdx t = some i) :
    (∃ t', setstateIdx i = some t') ∧
      ∀ f, i.get f < (tableNamed (restoreTableName f)).length := by
  refine ⟨⟨t, setstate_getstate hg⟩, fun f => ?_⟩
  rw [restore_table_eq f (field_mem_all f)]
  exact (funcIndex_spec (getstateIdx_eq_some.mp hg f)).1

/-- Every integer the guards of `trait_new`, `_trait_set_property`,
`_trait_delegate` and `_trait_set_validate` let through subscripts its table
inside the initialiser, at an entry that is not `NULL`; `trait_new` moreover
installs exactly the handler pair of that `TraitKind` and never a property
handler (those dereference fields only `_trait_set_property` fills). -/
theorem C18_kind_in_bounds :
    (∀ k : Int, admitted "trait_new" "kind" k = true →
      k.toNat < (tableNamed "getattr_handlers").length ∧ k.toNat < (tableNamed "setattr_handlers").length ∧
      ent "getattr_handlers" k.toNat ≠ NULL ∧ ent "setattr_handlers" k.toNat ≠ NULL ∧
      requiresProperty (ent "getattr_handlers" k.toNat) = false ∧
      requiresProperty (ent "setattr_handlers" k.toNat) = false ∧
      kindHandlers[k.toNat]? = some (ent "getattr_handlers" k.toNat, ent "setattr_handlers" k.toNat)) ∧
    (∀ k : Int, admitted "_trait_set_property" "get_n" k = true →
      k.toNat < (tableNamed "getattr_property_handlers").length ∧ ent "getattr_property_handlers" k.toNat ≠ NULL) ∧
    (∀ k : Int, admitted "_trait_set_property" "set_n" k = true →
      k.toNat < (tableNamed "setattr_property_handlers").length ∧ ent "setattr_property_handlers" k.toNat ≠ NULL) ∧
    (∀ k : Int, admitted "_trait_set_property" "validate_n" k = true →
      k.toNat < (tableNamed "setattr_validate_handlers").length ∧ ent "setattr_validate_handlers" k.toNat ≠ NULL) ∧
    (∀ k : Int, admitted "_trait_delegate" "prefix_type" k = true →
      k.toNat < (tableNamed "delegate_attr_name_handlers").length ∧
      ent "delegate_attr_name_handlers" k.toNat ≠ NULL) ∧
    (ent "delegate_attr_name_handlers" 0 ≠ NULL ∧ 0 < (tableNamed "delegate_attr_name_handlers").length) ∧
    (∀ k : Int, admitted "_trait_set_validate" "kind" k = true →
      k.toNat < (tableNamed "validate_handlers").length ∧ ent "validate_handlers" k.toNat ≠ NULL) := by
  refine ⟨fun k hk => ?_, fun k hk => ?_, fun k hk => ?_, fun k hk => ?_, fun k hk => ?_, ?_, fun k hk => ?_⟩
  · obtain ⟨hg, hs, h5, h6, h7⟩ := new_facts _ (admitted_guardList hk).1
    exact ⟨hg.inBounds, hs.inBounds, hg.notNull, hs.notNull, h5, h6, h7⟩
  · have h := setProperty_facts.1 _ (admitted_guardList hk).1
    exact ⟨h.inBounds, h.notNull⟩
  · have h := (setProperty_facts.2.1 _ (admitted_guardList hk).1).1
    exact ⟨h.inBounds, h.notNull⟩
  · have h := setProperty_facts.2.2.1 _ (admitted_guardList hk).1
    exact ⟨h.inBounds, h.notNull⟩
  · have h := delegate_facts.1 _ (admitted_guardList hk).1
    exact ⟨h.inBounds, h.notNull⟩
  · have h := delegate_facts.1 _ delegate_facts.2
    exact ⟨h.notNull, h.inBounds⟩
  · have h := setValidate_facts _ (admitted_guardList hk).1
    exact ⟨h.inBounds, h.notNull⟩

/-- `has_traits_getattro` / `has_traits_setattro` call `trait->getattr` and
`trait->setattr` without a NULL test: they are never NULL. -/
theorem C18_getattr_setattr_never_null {t : Fns} (h : Constructible t) :
    t.getattr ≠ NULL ∧ t.setattr ≠ NULL :=
  ⟨(good_of_constructible h).2.1, (good_of_constructible h).2.2.1⟩

/-- Every `value_type` that `_trait_set_default_value` accepts has a `case` in
the `switch` of `default_value_for` (so that function never returns NULL
without an exception), and every case whose code subscripts the default-value
tuple is one whose tuple size `_trait_set_default_value` checked. -/
theorem C18_default_value_type_guard (vt : Int) (h : defaultValueTypeOk vt = true) :
    vt.toNat ∈ CTables.defaultValueForCases ∧
    ∀ size, (vt.toNat, size) ∈ CTables.defaultValueForTupleUse →
      ∃ size', size ≤ size' ∧ (vt.toNat, size') ∈ CTables.defaultValueCheckedTuples := by
  have fin : ∀ n ∈ List.range (CTables.defaultValueTypeGuard.2 + 1),
      CTables.defaultValueTypeGuard.1 ≤ n →
      n ∈ CTables.defaultValueForCases ∧
      ∀ p ∈ CTables.defaultValueForTupleUse, p.1 = n →
        ∃ q ∈ CTables.defaultValueCheckedTuples, q.1 = n ∧ p.2 ≤ q.2 := by decide
  simp only [defaultValueTypeOk, Bool.and_eq_true, decide_eq_true_eq] at h
  have hn : vt.toNat ∈ List.range (CTables.defaultValueTypeGuard.2 + 1) := by
    simp only [List.mem_range]; omega
  have hl : CTables.defaultValueTypeGuard.1 ≤ vt.toNat := by omega
  obtain ⟨h1, h2⟩ := fin _ hn hl
  refine ⟨h1, ?_⟩
  intro size hs
  obtain ⟨q, hq, hq1, hq2⟩ := h2 _ hs rfl
  refine ⟨q.2, hq2, ?_⟩
  have : q = (vt.toNat, q.2) := by rw [← hq1]
  rw [← this]; exact hq

/-- The state tuple is laid out consistently: every index `__getstate__` writes
at position `p` is read by `__setstate__` at position `p` with format unit `i`
into the variable that subscripts the same table; the tuple has as many items
as the format has units. -/
theorem C18_state_layout :
    CTables.getstateTupleSize = CTables.setstateFormat.length ∧
    CTables.setstateTargets.length = CTables.setstateFormat.length ∧
    ∀ r ∈ CTables.getstateIndexed,
      CTables.setstateFormat[r.1]? = some 'i' ∧
      ∃ s ∈ CTables.assignSites, s.1 = "_trait_setstate" ∧ s.2.1 = r.2.1 ∧ s.2.2.1 = "tbl" ∧
        s.2.2.2.1 = r.2.2 ∧ CTables.setstateTargets[r.1]? = some s.2.2.2.2 := by
  decide

/-- A widened guard or a reordered table cannot hide behind the other
theorems: fresh traits of kind `k` get the handlers of `TraitKind` `k`, and
nothing outside `0..8` is accepted. -/
theorem C18_kinds_as_modelled :
    guardList "trait_new" "kind" = List.range kindHandlers.length ∧
    (∀ k : Int, traitNew k = none ↔ ¬ (0 ≤ k ∧ k < kindHandlers.length)) := by
  have hg : guardList "trait_new" "kind" = List.range kindHandlers.length := by decide
  refine ⟨hg, ?_⟩
  intro k
  have key : admitted "trait_new" "kind" k = true ↔ (0 ≤ k ∧ k < kindHandlers.length) := by
    constructor
    · intro h
      obtain ⟨h1, h2⟩ := admitted_guardList h
      rw [hg, List.mem_range] at h1
      omega
    · intro ⟨h1, h2⟩
      have hm : k.toNat ∈ guardList "trait_new" "kind" := by
        rw [hg, List.mem_range]; omega
      have hgo : guardOf "trait_new" "kind" = some (guardList "trait_new" "kind") := by decide
      simp [admitted, hgo, h1, hm]
  unfold traitNew
  by_cases h : admitted "trait_new" "kind" k = true
  · simp [h, key.mp h]
  · simp only [h]
    simp only [Bool.false_eq_true, ↓reduceIte, true_iff]
    exact fun h' => h (key.mpr h')

/-- **No container steals a borrowed reference.**  `PyTuple_SET_ITEM` and
`PyList_SET_ITEM` take over the caller's reference: at every such statement of
`ctraits.c` the stored expression is a call returning a new reference, a
variable with `Py_INCREF` as the adjacent statement, or a variable last
assigned from a call returning a new reference - never the result of a
borrowing accessor (`PyTuple_GET_ITEM`, `PyList_GET_ITEM`, `PyDict_GetItem`, …).
(Translated from the working tree; dropping the `Py_INCREF` of the loop that
copies the leading items in `validate_trait_tuple_check` breaks it.) -/
theorem C18_stolen_references_owned :
    CTables.stolenReferences ≠ [] ∧
    ∀ r ∈ CTables.stolenReferences, r.2.2 = "call" ∨ r.2.2 = "incref" ∨ r.2.2 = "owned" := by
  decide

/-- **A dying object is invisible to the collector.**  Every `tp_dealloc` of
the file (both types are GC types) starts with `PyObject_GC_UnTrack`, so a
collection triggered from a finalizer while the fields are being cleared never
sees the object with reference count zero. -/
theorem C18_dealloc_untracks_first :
    CTables.deallocFirstStatement.length = 2 ∧
    ∀ r ∈ CTables.deallocFirstStatement, r.2 = "PyObject_GC_UnTrack" := by
  decide

/-- **A validated property is complete.**  `setattr_validate_property` calls
`traitd->validate` and `traitd->post_setattr` (which holds the property
setter) without a NULL test: for every constructible trait whose `setattr` is
that handler, both are there.  `_trait_set_property` installs the three
together, and `trait.post_setattr = …` no longer touches the slot of a
validated property (F77 repair; before it `trait.post_setattr = None` stored
NULL and `obj.p = 1` was a NULL call). -/
theorem C18_validated_property_complete {t : Fns} (h : Constructible t)
    (hs : t.setattr = "setattr_validate_property") : t.validate ≠ NULL ∧ t.postSetattr ≠ NULL :=
  (good_of_constructible h).2.2.2 hs

/-- Regression example, the input of finding F77: `CTrait(4)`,
`property_fields = (get, set, validate)`, `post_setattr = None` - the setter
is still in place. -/
example :
    (apply ⟨"getattr_property1", "setattr_validate_property", "setattr_property2", "setattr_validate1", NULL⟩
      (.setPostSetattr false)) =
      some ⟨"getattr_property1", "setattr_validate_property", "setattr_property2", "setattr_validate1", NULL⟩ := by
  decide

/-- **Bare kinds are answered, not dereferenced.**  `trait_new` installs, for
`TraitKind.delegate` and `TraitKind.constant`, handlers that read a field
`trait_new` leaves NULL (`delegate_name` / `delegate_attr_name`,
`default_value`); a directly built `CTrait(0)` with a container default type
has no `handler` for `call_class`.  After the NULL tests (repairs of F75, F76,
F78) the outcome of using such a trait is modelled (`probeGet/Set/Del`) and is
an exception class or a value: DelegationError (a TraitError) for an undefined
delegate, None / "Cannot modify the constant" for a constant without default,
TraitError for a container default without handler.  The correspondence
(`T|…;probe`) compares exactly these with the real extension. -/
theorem C18_bare_kinds_answered :
    (∃ t, traitNew 3 = some t ∧ probeGet { fns := t } = .traitError ∧ probeSet { fns := t } = .traitError ∧
      probeDel { fns := t } = .traitError) ∧
    (∃ t, traitNew 7 = some t ∧ probeGet { fns := t } = .ok ∧ probeSet { fns := t } = .traitError) ∧
    (∃ t, traitNew 0 = some t ∧ ∀ k ∈ [5, 6, 9], probeGet { fns := t, dvt := k } = .traitError) := by
  decide

/-! Non-vacuity: the hypotheses above are met by real, non-trivial traits. -/

/-- `Property(Int)`'s CTrait (the trait of finding F3) is constructible, its
state is `(10, 13, 2, _, 16, …)` and restoring it gives the same pointers. -/
example :
    let t : Fns := ⟨"getattr_property1", "setattr_validate_property", "setattr_property2",
                    "setattr_validate1", NULL⟩
    Constructible t ∧ getstateIdx t = some ⟨10, 13, 2, 16, 4⟩ ∧ setstateIdx ⟨10, 13, 2, 16, 4⟩ = some t := by
  refine ⟨?_, by decide, by decide⟩
  exact .step (.setProperty 1 2 1 true) (.new (k := 4) (t := ⟨"getattr_event", "setattr_event", NULL, NULL, NULL⟩)
    (by decide)) (by decide)

example : admitted "trait_new" "kind" 8 = true ∧ admitted "trait_new" "kind" 9 = false ∧
    admitted "trait_new" "kind" (-1) = false ∧ defaultValueTypeOk 7 = true ∧ defaultValueTypeOk 11 = false := by
  decide

/-! ## (b) Reference ledger -/

open TraitsVerif.Model.RefLedger TraitsVerif.Lemmas.Ledger

/-- An assignment the validator rejects changes nothing: not a slot, not a
stray reference.  (`refs` is what `sys.getrefcount` minus its baseline reads.) -/
theorem C18_fail_neutral (E : Env) (c : TraitCfg) (s : St) (name : String) (key v : Id) (e : Exc)
    (hc : c.hasValidate = true) (hv : E.validate 0 v = .error e) :
    step E c s (.set name key v) = (some e, s) ∧
      ∀ id, refs (step E c s (.set name key v)).2 id = refs s id := by
  have : step E c s (.set name key v) = (some e, s) := by
    simp [step, setattrTrait, hc, hv]
  exact ⟨this, fun id => by rw [this]⟩

/-- So does a read whose default-value factory raises. -/
theorem C18_fail_neutral_factory (E : Env) (c : TraitCfg) (s : St) (name : String) (key : Id) (e : Exc)
    (hl : lookup s.dict name = none) (hd : E.dflt 0 () = .error e) :
    step E c s (.get name key) = (some e, s) := by
  simp [step, getattr, hl, getattrTrait, hd]

/-- A successful assignment stores the validated (or, under
`TRAIT_SETATTR_ORIGINAL_VALUE`, the original) value in the slot `name`, leaves
every other slot alone, creates no stray reference, and for EVERY object `id`
the references held change exactly by: −1 if `id` was the slot's old value,
+1 if it is the stored value, +1 if it is the key object of a new entry. -/
theorem C18_success_delta {E : Env} {c : TraitCfg} {s s' : St} {name : String} {key v : Id}
    (h : step E c s (.set name key v) = (none, s')) :
    ∃ value, (if c.hasValidate then E.validate 0 v else .ok v) = .ok value ∧
      lookup s'.dict name = some (storedOf c v value) ∧
      (∀ m, m ≠ name → lookup s'.dict m = lookup s.dict m) ∧
      s'.stray = s.stray ∧
      ∀ id, held s' id + b2n (lookup s.dict name = some id)
        = held s id + b2n (storedOf c v value = id) + b2n (lookup s.dict name = none ∧ key = id) := by
  obtain ⟨value, h1, h2, h3, h4⟩ := setattrTrait_held h
  obtain ⟨d, hd⟩ := step_frame E c s (.set name key v)
  rw [h] at hd
  exact ⟨value, h1, h2, h3, (congrArg St.stray hd :), h4⟩

/-- Objects that are neither the stored value, nor the key, nor the value the
slot held before keep their count: nothing else is touched. -/
theorem C18_untouched {E : Env} {c : TraitCfg} {s s' : St} {name : String} {key v : Id}
    (h : step E c s (.set name key v) = (none, s')) (id : Id)
    (h1 : lookup s'.dict name ≠ some id) (h2 : key ≠ id) (h3 : lookup s.dict name ≠ some id) :
    held s' id = held s id := by
  obtain ⟨value, -, hl, -, -, hd⟩ := C18_success_delta h
  have := hd id
  rw [b2n_of_not h3, b2n_of_not fun h' => h1 (by rw [hl, h']), b2n_of_not fun h' => h2 h'.2] at this
  omega

/-- **Ledger exact.**  Whatever an operation does and however it ends - the
validator, the default factory, `post_setattr`, a notifier or the `__hash__` of
the attribute name raising at any point - every reference-count change it makes
is a slot of the resulting state: no stray reference.  (Before f934ab1 this
needed the hypothesis that the name can always be hashed: the
`PyDict_SetItem` failure path of `setattr_trait` released the borrowed `name`,
finding F74.) -/
theorem C18_ledger_exact (E : Env) (c : TraitCfg) (s : St) (op : Model.RefLedger.Op) :
    (step E c s op).2.stray = s.stray := by
  obtain ⟨d, hd⟩ := step_frame E c s op
  rw [hd]

/-- An assignment whose `PyDict_SetItem` cannot hash the name, on a trait
without `post_setattr` and without notifiers (no default is materialised
first), is neutral as well: nothing changes. -/
theorem C18_fail_neutral_setitem (E : Env) (c : TraitCfg) (s : St) (name : String) (key v value : Id)
    (hp : c.hasPost = false) (hn : s.hasNotifiers = false)
    (hv : (if c.hasValidate then E.validate 0 v else .ok v) = .ok value) (hh : E.hashOk 0 = false) :
    step E c s (.set name key v) = (some hashExc, s) := by
  simp [step, setattrTrait, hv, hp, hn, setFinish, hh]

/-- Regression example, the input of finding F74: `setattr(obj, n, 5)` with the
`__hash__` of `n` raising inside `PyDict_SetItem`.  The operation raises and the
name object `7` keeps its count (it read −1 before f934ab1). -/
example :
    let E : Env := { validate := fun _ x => .ok x, dflt := fun _ _ => .ok 9, post := fun _ _ => .ok (),
                     notify := fun _ _ => .ok (), hashOk := fun _ => false }
    (step E {} {} (.set "x" 7 5)).1 = some hashExc ∧ refs (step E {} {} (.set "x" 7 5)).2 7 = 0 := by
  decide

/-- **A rebuilt tuple owns its items - exactly.**  For the element-wise tuple
validator (`validate_trait_tuple_check`), every tuple, every element validator
at every position (accepting, converting to any object, raising) and every
object `id`: counting the new reference each element validator returns and
every `Py_INCREF` / `Py_DECREF` of the function (the release of a partly built
tuple on failure included), the net change of `id`'s reference count is the
number of slots of the NEW tuple that hold it - and zero when the value tuple
itself is returned or validation fails.  (The `Py_INCREF` of the loop copying
the leading items is what makes the first case true.) -/
theorem C18_tuple_rebuild_exact (ev : Nat → Id → Except Exc Id) (value : List Id) (id : Id) :
    match (tupleCheck ev value).result with
    | some (some l) => net (tupleCheck ev value).evs id = (l.count id : Int)
    | _ => net (tupleCheck ev value).evs id = 0 :=
  tupleLoop_exact ev value id value 0 none [] (by simp [net])

/-- Non-vacuity: `(v1, v2, v3)` with a converting validator at the LAST
position: the new tuple is `(v1, v2, v9)` and `v1` gained exactly one
reference; with a raising validator after a conversion everything is given back. -/
example :
    let conv : Nat → Id → Except Exc Id := fun i x => if i = 2 then .ok 9 else .ok x
    let fail : Nat → Id → Except Exc Id := fun i x => if i = 1 then .ok 9 else if i = 2 then .error .traitError else .ok x
    (tupleCheck conv [1, 2, 3]).result = some (some [1, 2, 9]) ∧ net (tupleCheck conv [1, 2, 3]).evs 1 = 1 ∧
      net (tupleCheck conv [1, 2, 3]).evs 3 = 0 ∧
      (tupleCheck fail [1, 2, 3]).result = none ∧ net (tupleCheck fail [1, 2, 3]).evs 1 = 0 ∧
      net (tupleCheck fail [1, 2, 3]).evs 9 = 0 := by
  decide

/-- **Dispatch is from a snapshot.**  Whatever the handlers do to the notifier
lists while a notification is being dispatched - remove themselves, remove an
earlier or a later handler, register new ones, on the trait or on the object -
the handlers called are exactly those registered when the change happened
(trait-level first, then object-level), each once, in order. -/
theorem C18_dispatch_snapshot (act : Id → HAct) (l : Lists) : (dispatch act l).1 = l.t ++ l.o :=
  dispatchLoop_calls act (l.t ++ l.o) l

/-- Non-vacuity, the input of a seeded defect: anytrait handlers `[1, 2, 3]`,
the first removes itself: all three are called now, `[2, 3]` at the next change. -/
example :
    let act : Id → HAct := fun h => if h = 1 then .removeSelf else .nothing
    (dispatch act ⟨[], [1, 2, 3]⟩).1 = [1, 2, 3] ∧ (dispatch act ⟨[], [1, 2, 3]⟩).2 = ⟨[], [2, 3]⟩ := by
  decide

/-- `call_notifiers` hands its loop the freshly allocated list and nothing else:
the only assignment to `all_notifiers` is from `PyList_New`, and the loop reads
its callables from `all_notifiers` (translated from the working tree). -/
theorem C18_call_notifiers_private_copy :
    CTables.callNotifiersListSources = ["PyList_New"] ∧ CTables.callNotifiersLoopReads = ["all_notifiers"] := by
  decide

/-! Non-vacuity of the ledger theorems: a trait with `post_setattr` and a
notifier, first assignment (default materialised, then the converted value
stored), then a rejected one. -/
example :
    let E : Env := { validate := fun _ x => if x = 5 then .ok 6 else .error .traitError,
                     dflt := fun _ _ => .ok 9, post := fun _ _ => .ok (), notify := fun _ _ => .ok (),
                     hashOk := fun _ => true }
    let c : TraitCfg := { hasPost := true }
    let s0 : St := { hasNotifiers := true, listsExist := true }
    let r1 := step E c s0 (.set "x" 7 5)
    let r2 := step E c r1.2 (.set "x" 7 4)
    r1.1 = none ∧ held r1.2 6 = 1 ∧ held r1.2 9 = 0 ∧ held r1.2 7 = 1 ∧ held r1.2 5 = 0 ∧
      r2 = (some .traitError, r1.2) := by
  decide

/-! ## (c) References handed over, references replaced -/

/-- **A stolen reference is not released again.**  In the working tree's
`ctraits.c`, no variable passed in a reference-STEALING argument position
(`PyException_SetCause` 2nd, `PyTuple_SET_ITEM` / `PyList_SET_ITEM` 3rd,
`PyErr_Restore` all three) is `Py_DECREF`ed / `Py_XDECREF`ed / `Py_CLEAR`ed
afterwards in the same function before being assigned again.  (Translated;
releasing `exc_value` after `PyException_SetCause` in
`_warn_on_attribute_error` breaks it.) -/
theorem C18_stolen_not_released :
    ("_warn_on_attribute_error", "PyException_SetCause", "exc_value", 0) ∈ CTables.stolenThenReleased ∧
    ∀ r ∈ CTables.stolenThenReleased, r.2.2.2 = 0 := by
  decide

open TraitsVerif.Model.RefLedger.Warn in
/-- **A failing default computation is reference-neutral** for the exception
object it raised, whatever the exception class and the warnings filter:
`_warn_on_attribute_error` ends owning no reference (`own = 0`), and the one
reference it started with (the error indicator's) is afterwards held by exactly
one owner - the error indicator again, or the `__cause__` slot of the
`UserWarning` that replaced the exception. -/
theorem C18_default_failure_neutral (attrErr : Bool) (m : Mode) :
    let l := warnOnAttributeError attrErr m
    l.own = 0 ∧ l.indicator + l.cause = 1 ∧ (l.warningRaised = true → l.indicator = 0 ∧ l.cause = 1) ∧
      (l.warningRaised = true ↔ (attrErr = true ∧ m = .error)) := by
  cases attrErr <;> cases m <;> decide

open TraitsVerif.Model.RefLedger.Warn in
/-- What every way of asking for the value observes: nothing is left over after what came out has been
released (`after = 0`); what came out holds exactly one reference to the exception object, unless the
caller swallowed it; the `UserWarning` has the exception as `__cause__`. -/
theorem C18_default_failure_observed (attrErr : Bool) (m : Mode) (a : Access) :
    let o := observe attrErr m a
    o.after = 0 ∧ (o.out = .swallowed → o.held = 0) ∧ (o.out ≠ .swallowed → o.held = 1) ∧
      (o.out = .warning → o.cause = true) ∧
      (o.out = .swallowed ↔ (attrErr = true ∧ m ≠ .error ∧ a.swallowsAttributeError = true)) := by
  cases attrErr <;> cases m <;> cases a <;> decide

example :
    (Model.RefLedger.Warn.observe true .error .hasattr).out = .warning ∧
    (Model.RefLedger.Warn.observe true .dflt .hasattr).out = .swallowed ∧
    (Model.RefLedger.Warn.observe false .error .hasattr).out = .orig := by decide

/-- **No field is released before it is stored again, and no store forgets
the old reference.**  In the working tree's `ctraits.c` no `Py_DECREF` /
`Py_XDECREF` is applied directly to a struct field that the same function
assigns afterwards (the release could run finalizers - and, when the new value
is the old one, free it - while the field still points to the released object:
F79, repaired d96fc77), and every store into a reference field of a trait
(`trait->F = …`, `&trait->F` handed to `PyArg_ParseTuple`) first puts the old
content into a local that is released after the store, or goes through
`set_value` (F79b, repaired 86511b4).  (Translated: releasing the target's fields
at the top of `trait_clone`, or dropping one of the late `Py_XDECREF(old_…)`,
breaks it.) -/
theorem C18_no_release_before_store :
    (∀ r ∈ CTables.fieldReleases, r.2.2 = false) ∧
    ("trait_clone", "handler", "saved") ∈ CTables.traitFieldStores ∧
    ("_trait_set_validate", "py_validate", "saved") ∈ CTables.traitFieldStores ∧
    ("_trait_setstate", "default_value", "saved") ∈ CTables.traitFieldStores ∧
    ∀ r ∈ CTables.traitFieldStores, r.2.2 = "saved" ∨ r.2.2 = "set_value" := by
  decide

/-- **`trait_clone` owns what it copies**: every reference-holding field of
`trait_object` that it copies from the source is INCREF'ed afterwards, the two
fields it does not copy are `notifiers` and `obj_dict`, and it releases no
field directly (previous theorem: only the remembered old contents, last). -/
theorem C18_clone_owns_what_it_copies :
    (∀ f ∈ CTables.traitObjectFields, (f, true) ∈ CTables.traitCloneCopies ∨ f = "notifiers" ∨ f = "obj_dict") ∧
    (∀ c ∈ CTables.traitCloneCopies, c.2 = true → c.1 ∈ CTables.traitObjectFields) ∧
    (∀ r ∈ CTables.fieldReleases, r.1 ≠ "trait_clone") := by
  decide

open TraitsVerif.Model.RefLedger.Raw TraitsVerif.Lemmas.Raw in
/-- **Raw `CTrait` calls keep every pointer backed by a reference - aliased
arguments included.**  For every modelled entry point (`set_value`: handler /
post_setattr / `__dict__`; `_trait_set_default_value`; `_trait_set_validate`;
`Py_CLEAR`; `_trait_set_property`; `trait_clone`;
`t.__setstate__(s.__getstate__())`; the getters; a field set again from its own
getter): if every slot was backed by a reference before the call, it is at every
point where foreign code can run during the call (after each DECREF) and after
it.  Slots, objects and sources are arbitrary: `t.clone(t)`, a setter given the
object the field already holds and cloning into a trait that holds objects are
instances (`WF`: the slots written by one call are different fields). -/
theorem C18_raw_calls_safe (s : MS) (h : s.Inv) (op : Raw.Op) (hwf : op.WF) :
    Safe (compile s op) s :=
  safe_compile s h op hwf

open TraitsVerif.Model.RefLedger.Raw TraitsVerif.Lemmas.Raw in
/-- **Raw `CTrait` calls are reference-neutral**: for every object, the
references that no slot accounts for (the caller's, or leaked ones) are the
same after the call as before - nothing is leaked and nothing is released that
a slot or the caller still owns, for `t.clone(t)` and cloning into a used trait
as for a fresh one. -/
theorem C18_raw_calls_neutral (s : MS) (op : Raw.Op) (hwf : op.WF) (hr : op.InRange s) (o : Nat) :
    (run (compile s op) s).slack o = s.slack o :=
  neutral_compile s op hwf hr o

open TraitsVerif.Model.RefLedger.Raw TraitsVerif.Lemmas.Raw in
/-- `_trait_set_validate` (store, then release - since d96fc77) is safe for every trait, every old and every
new validator. -/
theorem C18_raw_set_validate_safe (s : MS) (i new : Nat) (h : s.Inv) : Safe (compile s (.set i new)) s :=
  safe_compile s h (.set i new) trivial

open TraitsVerif.Model.RefLedger.Raw TraitsVerif.Lemmas.Raw in
/-- `Safe` can fail, and the order of the events is what decides: release-then-store (the code before d96fc77)
on a trait that owns the only reference to its validator. -/
example : soleValidator.Inv ∧ ¬ Safe [.incref 2, .decref 1, .store 0 (some 2)] soleValidator :=
  ⟨soleValidator_inv, release_before_store_unsafe⟩

open TraitsVerif.Model.RefLedger.Raw in
/-- Non-vacuity: a trait (slots 0-5) that owns the only reference to its four
objects is cloned onto itself and restored from its own state: the pointers and
every count are as before, no object is ever without a reference at a
checkpoint; replacing the validator shows the old one to nobody while it dies. -/
example :
    let s0 : MS := { ptr := [some 1, some 2, some 3, none, none, some 4],
                     rc := fun o => if 1 ≤ o ∧ o ≤ 4 then 1 else 0 }
    let b := [0, 1, 2, 3, 4, 5]
    let r1 := step s0 (.copy b b)
    let r2 := step s0 (.restate b b)
    r1.1.length = 4 ∧ r1.2.ptr = s0.ptr ∧ [1, 2, 3, 4].map r1.2.rc = [1, 1, 1, 1] ∧
    r1.1.all (fun c => [1, 2, 3, 4].all (fun o => decide (1 ≤ c.rc o))) = true ∧
    r2.2.ptr = s0.ptr ∧ [1, 2, 3, 4].map r2.2.rc = [1, 1, 1, 1] ∧
    visibleDying r2.1 [1, 2, 3, 4] = [] ∧
    visibleDying (step s0 (.set 1 7)).1 [1, 2, 3, 4] = [] ∧ (step s0 (.set 1 7)).2.rc 2 = 0 := by
  decide

/-! ## (d) Every control-flow path of the C text is reference-neutral

`Model/RefLedger` is a hand transcription of `getattr_trait` / `setattr_trait`:
its `stray` component collects every reference-count change that is not the
creation or release of a `__dict__` slot, and `C18_ledger_exact` proves that
`stray` never changes on any modelled path.  The theorems below say the same of
the C TEXT ITSELF: `harness/translate/crefpaths.py` reads the functions listed
in `Generated.RefPaths.covered` from the working tree's `ctraits.c`, enumerates
every control-flow path from entry to `return` (branches on `x == NULL` pruned,
loops unrolled 0-2 times) and records, per value, the ordered reference events
(`Model/RefPaths.Ev`).  `pathOk` demands of every value a path touches: no
release / return / hand-over of a reference the function does not hold at that
point, no `Py_DECREF` of a NULL, and - at the `return` - nothing held and
nothing owed.  This covers what the ledger model's generators cannot reach:
`PyDict_New`, `PyTuple_Pack`, `PyList_New` returning NULL, and every `goto
error` arm.  The transfers that make a function legitimately non-neutral are
events of their own (`ret`: the result handed to the caller; `store`: a
reference put into a struct field or a fresh tuple / list; `take`: the old
contents of an overwritten field) and the stores are pinned by
`C18_paths_stores`.

TRUSTED: the API tables of crefpaths.py (which calls return new / borrowed
references, which steal), that fields keep their value across calls, and the
unrolling bound. -/

/-! No exceptions.  Defects this analysis found in earlier trees, all repaired since (a regression changes the
generated table, `C18_paths_balanced` no longer checks, and the Python twin of the checker
(`harness/props/c18paths.py`) reports `refpath-imbalance:<function>:<value>`, matched by the `fixed` entries of
known_findings.json):
* F107/F107b the unchecked `delegate_attr_name` result in `getattr_delegate` / `setattr_delegate` (e4a9aa5), F108 the
  `args` of `setattr_property0`, F109 `daname` on the recursion-limit exit of `setattr_delegate` (3882e87);
* F120/F121 `_has_traits_trait` left through the `break`s at `temp_delegate == NULL` and
  `!PyHasTraits_Check(delegate)` without releasing `trait` (ec9b27d);
* F122 `validate_trait_tuple_check` returned NULL when `PyTuple_New(n)` failed without releasing `aitem` (5045620);
* F123/F123b `has_traits_new` returned NULL from its three error arms without releasing the new `obj`, in the third
  with a borrowed, never INCREFed `obj->ctrait_dict` stored in it (3c349f5);
* F124/F124b `get_trait` did not check `PyType_GenericAlloc` for NULL and did not release `itrait` when `PyList_New`
  or the final `PyDict_SetItem` failed (001e070). -/

/-- **Every control-flow path of every function of the working tree's `ctraits.c`
that the reader covers (`C18_paths_cover`; the rest is named in
`C18_paths_unread`) is reference-neutral** - no exception: every
value it touches ends with nothing held and nothing owed, and no prefix of the
path releases, returns or gives away a reference the function does not hold, or
releases / dereferences a NULL.  Removing a `Py_DECREF` from an error arm,
releasing twice (F74), dropping an `INCREF` of a copied field, jumping past a
release, or reverting one of the repairs listed above changes the generated table and this
proof no longer checks. -/
theorem C18_paths_balanced : ∀ p ∈ Generated.RefPaths.paths, Model.RefPaths.pathOk p = true :=
  Lemmas.RefPaths.pathOk_of_neutral Lemmas.RefPaths.paths_neutral

/-- The checker is not vacuous: it rejects the event lists the repaired paths had - a reference acquired and never
released (`_has_traits_trait`, `validate_trait_tuple_check`, `has_traits_new`, `get_trait`: `new` without release), and a
field access through a NULL (`get_trait`: `bad`). -/
example :
    Model.RefPaths.pathOk ⟨"_has_traits_trait", 0, "return NULL", true, [(0, .new)]⟩ = false ∧
    Model.RefPaths.pathOk ⟨"get_trait", 0, "return NULL", true, [(0, .bad)]⟩ = false ∧
    Model.RefPaths.pathOk ⟨"get_trait", 0, "return result", false, [(0, .new), (0, .ret)]⟩ = true := by
  decide

/-! The same, function by function, for nine functions of the assignment / read / notification / clone core
(a failure names the function). -/
theorem C18_paths_balanced_setattr_trait :
    ∀ p ∈ Generated.RefPaths.paths_setattr_trait, Model.RefPaths.pathOk p = true :=
  Lemmas.RefPaths.pathOk_of_neutral (by decide)
theorem C18_paths_balanced_getattr_trait :
    ∀ p ∈ Generated.RefPaths.paths_getattr_trait, Model.RefPaths.pathOk p = true :=
  Lemmas.RefPaths.pathOk_of_neutral (by decide)
theorem C18_paths_balanced_default_value_for :
    ∀ p ∈ Generated.RefPaths.paths_default_value_for, Model.RefPaths.pathOk p = true :=
  Lemmas.RefPaths.pathOk_of_neutral (by decide)
theorem C18_paths_balanced_call_notifiers :
    ∀ p ∈ Generated.RefPaths.paths_call_notifiers, Model.RefPaths.pathOk p = true :=
  Lemmas.RefPaths.pathOk_of_neutral (by decide)
theorem C18_paths_balanced_trait_clone :
    ∀ p ∈ Generated.RefPaths.paths_trait_clone, Model.RefPaths.pathOk p = true :=
  Lemmas.RefPaths.pathOk_of_neutral (by decide)
theorem C18_paths_balanced_trait_set_validate :
    ∀ p ∈ Generated.RefPaths.paths__trait_set_validate, Model.RefPaths.pathOk p = true :=
  Lemmas.RefPaths.pathOk_of_neutral (by decide)
theorem C18_paths_balanced_setattr_readonly :
    ∀ p ∈ Generated.RefPaths.paths_setattr_readonly, Model.RefPaths.pathOk p = true :=
  Lemmas.RefPaths.pathOk_of_neutral (by decide)
theorem C18_paths_balanced_setattr_event :
    ∀ p ∈ Generated.RefPaths.paths_setattr_event, Model.RefPaths.pathOk p = true :=
  Lemmas.RefPaths.pathOk_of_neutral (by decide)
theorem C18_paths_balanced_warn_on_attribute_error :
    ∀ p ∈ Generated.RefPaths.paths__warn_on_attribute_error, Model.RefPaths.pathOk p = true :=
  Lemmas.RefPaths.pathOk_of_neutral (by decide)

/-- What the executable checker's `true` means, for any path: every value the path
touches has net balance 0 (`+1` per `new` / `inc` / `take`, `-1` per `dec` /
`xdec` / `steal` / `ret` / `store`, in any order) and no prefix of the path
releases, returns or gives away a reference to it that the function does not
hold.  With the nine theorems above: e.g. every value on every path of
`setattr_trait` has `balance = 0`. -/
theorem C18_paths_checker_sound (p : Model.RefPaths.Path) (h : Model.RefPaths.pathOk p = true) :
    ∀ x ∈ p.evs, Model.RefPaths.balance p.evs x.1 = 0 ∧ Model.RefPaths.neverNegative p.evs x.1 = true := by
  intro x hx
  have := List.all_eq_true.mp h x hx
  exact Lemmas.RefPaths.valueOk_sound p.evs x.1 (by simpa using this)

/-- The 134 functions the path theorems speak about: every function definition of
`ctraits.c` that is not in `pathsUnread`, in source order. -/
def pathsCovered : List String := [
  "raise_trait_error", "fatal_trait_error", "invalid_attribute_error", "cant_set_items_error",
  "bad_trait_value_error", "bad_delegate_error", "bad_delegate_error2", "undefined_delegate_error",
  "delegation_recursion_error", "delegation_recursion_error2", "delete_readonly_error",
  "set_readonly_error", "set_disallow_error", "set_delete_property_error", "unknown_attribute_error",
  "dictionary_error", "get_value", "get_trait_flag", "set_trait_flag", "call_class", "has_traits_setattro",
  "has_traits_new", "has_traits_clear", "has_traits_getattro", "get_trait", "_has_traits_trait",
  "trait_property_changed", "_has_traits_property_changed", "_has_traits_notifications_enabled",
  "_has_traits_change_notify", "_has_traits_notifications_vetoed", "_has_traits_veto_notify",
  "_has_traits_init", "_has_traits_inited", "_has_traits_set_inited", "_has_traits_instance_traits",
  "_has_traits_class_traits", "_has_traits_notifiers", "get_has_traits_dict", "_warn_on_attribute_error",
  "default_value_for", "getattr_python", "getattr_generic", "getattr_event", "getattr_trait",
  "getattr_delegate", "getattr_disallow", "getattr_constant", "getattr_property0", "getattr_property1",
  "getattr_property2", "getattr_property3", "setattr_python", "setattr_generic", "call_notifiers",
  "setattr_event", "setattr_trait", "setattr_delegate", "setattr_property0", "setattr_property1",
  "setattr_property2", "setattr_property3", "setattr_validate_property", "setattr_validate0",
  "setattr_validate1", "setattr_validate2", "setattr_validate3", "setattr_disallow", "setattr_readonly",
  "setattr_constant", "trait_new", "trait_clear", "is_dunder_name", "trait_getattro",
  "_trait_set_default_value", "_trait_default_value", "_trait_default_value_for", "validate_trait_python",
  "call_validator", "type_converter", "validate_trait_type", "validate_trait_instance",
  "validate_trait_self_type", "as_integer", "validate_trait_integer", "validate_float",
  "_ctraits_validate_float", "validate_trait_float", "validate_complex_number",
  "_ctraits_validate_complex_number", "validate_trait_complex_number", "in_float_range",
  "validate_trait_float_range", "validate_trait_enum", "validate_trait_map", "validate_trait_tuple_check",
  "validate_trait_tuple", "validate_trait_coerce_type", "validate_trait_cast_type",
  "validate_trait_function", "_validate_trait_callable", "validate_trait_callable", "validate_trait_adapt",
  "validate_trait_complex_body", "validate_trait_complex", "_trait_set_validate", "_trait_get_validate", "_trait_validate",
  "post_setattr_trait_python", "delegate_attr_name_name", "delegate_attr_name_prefix",
  "delegate_attr_name_prefix_name", "delegate_attr_name_class_name", "_trait_delegate",
  "_set_trait_comparison_mode", "_get_trait_comparison_mode_int", "_trait_get_property",
  "_trait_set_property", "trait_clone", "_trait_clone", "_trait_notifiers", "func_index", "get_trait_dict",
  "get_trait_handler", "get_trait_post_setattr", "get_trait_property_flag",
  "get_trait_modify_delegate_flag", "set_trait_modify_delegate_flag",
  "get_trait_setattr_original_value_flag", "set_trait_setattr_original_value_flag",
  "get_trait_post_setattr_original_value_flag", "set_trait_post_setattr_original_value_flag",
  "get_trait_is_mapped_flag", "set_trait_is_mapped_flag"]

/-- The 19 function definitions the reader does NOT cover (why: `Generated.RefPaths.unread`). -/
def pathsUnread : List String := [
  "set_value", "dict_getitem", "get_prefix_trait", "has_traits_init", "has_traits_dealloc",
  "has_traits_traverse", "_has_traits_items_event", "set_has_traits_dict", "trait_dealloc",
  "trait_traverse", "_trait_getstate", "_trait_setstate", "set_trait_dict", "set_trait_handler",
  "set_trait_post_setattr", "_ctraits_list_classes", "_ctraits_adapt", "_ctraits_ctrait", "PyInit_ctraits"]

/-- Non-vacuity of `C18_paths_balanced`: the table speaks about exactly the
functions of `pathsCovered`; every one has at least one path (`pathCounts`, whose
counts add up to the length of `paths`); every function of the core that can fail
has a path that reports an error and a path that does not, and its table is
tagged with its name. -/
theorem C18_paths_cover :
    Generated.RefPaths.covered = pathsCovered ∧
    Generated.RefPaths.pathCounts.map (·.1) = pathsCovered ∧
    (Generated.RefPaths.pathCounts.all fun c => decide (c.2.2 ≥ 1)) = true ∧
    (Generated.RefPaths.pathCounts.map (·.2.2)).sum = Generated.RefPaths.paths.length ∧
    (Generated.RefPaths.paths_setattr_trait.any (·.isErr) && Generated.RefPaths.paths_setattr_trait.any (!·.isErr) &&
      Generated.RefPaths.paths_setattr_trait.all (·.fn == "setattr_trait")) = true ∧
    (Generated.RefPaths.paths_getattr_trait.any (·.isErr) && Generated.RefPaths.paths_getattr_trait.any (!·.isErr) &&
      Generated.RefPaths.paths_getattr_trait.all (·.fn == "getattr_trait")) = true ∧
    (Generated.RefPaths.paths_default_value_for.any (·.isErr) && Generated.RefPaths.paths_default_value_for.any (!·.isErr) &&
      Generated.RefPaths.paths_default_value_for.all (·.fn == "default_value_for")) = true ∧
    (Generated.RefPaths.paths_call_notifiers.any (·.isErr) && Generated.RefPaths.paths_call_notifiers.any (!·.isErr) &&
      Generated.RefPaths.paths_call_notifiers.all (·.fn == "call_notifiers")) = true ∧
    (Generated.RefPaths.paths__trait_set_validate.any (·.isErr) && Generated.RefPaths.paths__trait_set_validate.any (!·.isErr) &&
      Generated.RefPaths.paths__trait_set_validate.all (·.fn == "_trait_set_validate")) = true ∧
    (Generated.RefPaths.paths_setattr_readonly.any (·.isErr) && Generated.RefPaths.paths_setattr_readonly.any (!·.isErr) &&
      Generated.RefPaths.paths_setattr_readonly.all (·.fn == "setattr_readonly")) = true ∧
    (Generated.RefPaths.paths_setattr_event.any (·.isErr) && Generated.RefPaths.paths_setattr_event.any (!·.isErr) &&
      Generated.RefPaths.paths_setattr_event.all (·.fn == "setattr_event")) = true ∧
    Generated.RefPaths.paths_setattr_trait.length ≥ 40 := by
  refine ⟨rfl, rfl, by decide, ?_, by decide, by decide, by decide,
    by decide, by decide, by decide, by decide, by decide⟩
  unfold Generated.RefPaths.paths
  simp only [List.length_append]
  -- by the kernel alone: `decide` would have the elaborator evaluate the 134 tables first, and that exceeds its limits
  decide +kernel

/-- The function definitions of `ctraits.c` the path theorems do NOT speak about,
by name (reasons in `Generated.RefPaths.unread`: statement forms the reader does
not understand - `#if`, `Py_VISIT` callbacks, `PyObject **` helpers, out-parameters
into fields, assignments to globals, a backward `goto` -, a size cap, a by-design
borrowed return, or a call into one of these).  The list can only change knowingly. -/
theorem C18_paths_unread : Generated.RefPaths.unread.map (·.1) = pathsUnread := rfl

/-- The transfers of references into struct fields, all of them, with where the
stored value comes from: fresh `__dict__` / instance-trait dictionaries / notifier
lists of objects that had none, the six fields `trait_clone` copies (each `store`
paid by the `Py_XINCREF` that follows, each overwritten value `take`n and
released - since 86511b4), the arguments the `CTrait` setters keep after
`Py_INCREF`, the class-trait dictionary of `has_traits_new` and the copies of
`get_trait`.  A new store of a reference into a field anywhere in the covered
functions changes this table. -/
theorem C18_paths_stores :
    Generated.RefPaths.stores = [
      ("has_traits_new", "obj->ctrait_dict", "PyDict_GetItem()"),
      ("get_trait", "itrait->notifiers", "PyList_New()"),
      ("get_trait", "itrait->obj_dict", "trait->obj_dict"),
      ("get_trait", "obj->itrait_dict", "PyDict_New()"),
      ("_has_traits_instance_traits", "obj->itrait_dict", "PyDict_New()"),
      ("_has_traits_notifiers", "obj->notifiers", "PyList_New()"),
      ("get_has_traits_dict", "obj->obj_dict", "PyDict_New()"),
      ("getattr_trait", "obj->obj_dict", "PyDict_New()"),
      ("setattr_python", "obj->obj_dict", "PyDict_New()"),
      ("setattr_trait", "obj->obj_dict", "PyDict_New()"),
      ("_trait_set_default_value", "trait->default_value", "PyArg_ParseTuple()"),
      ("_trait_set_validate", "trait->py_validate", "PyArg_ParseTuple()"),
      ("_trait_delegate", "trait->delegate_name", "PyArg_ParseTuple()"),
      ("_trait_delegate", "trait->delegate_prefix", "PyArg_ParseTuple()"),
      ("_trait_set_property", "trait->delegate_name", "PyArg_ParseTuple()"),
      ("_trait_set_property", "trait->delegate_prefix", "PyArg_ParseTuple()"),
      ("_trait_set_property", "trait->py_validate", "PyArg_ParseTuple()"),
      ("trait_clone", "trait->default_value", "source->default_value"),
      ("trait_clone", "trait->delegate_name", "source->delegate_name"),
      ("trait_clone", "trait->delegate_prefix", "source->delegate_prefix"),
      ("trait_clone", "trait->handler", "source->handler"),
      ("trait_clone", "trait->py_post_setattr", "source->py_post_setattr"),
      ("trait_clone", "trait->py_validate", "source->py_validate"),
      ("_trait_notifiers", "trait->notifiers", "PyList_New()"),
      ("get_trait_dict", "trait->obj_dict", "PyDict_New()")] := rfl

/-- The three repaired defects, as the analysis saw them before the repairs (the
event lists of the then generated table, values renumbered): the leaked `args`
of `setattr_property0` (F108), the `daname` leaked on the recursion-limit exit
of `setattr_delegate` after one round (F109), and the `Py_DECREF` of the
unchecked NULL name in `getattr_delegate` (F107) are each rejected. -/
example :
    Model.RefPaths.pathOk ⟨"setattr_property0", 2, "return 0", false,
      [(0, .new), (1, .new), (1, .dec)]⟩ = false ∧
    Model.RefPaths.pathOk ⟨"setattr_delegate", 0, "return delegation_recursion_error(...)", true,
      [(0, .inc), (1, .new), (0, .dec)]⟩ = false ∧
    Model.RefPaths.pathOk ⟨"getattr_delegate", 5, "return result", false,
      [(0, .inc), (1, .new), (2, .bad), (0, .dec), (1, .ret)]⟩ = false := by
  decide

/-- The checker can say no: `setattr_trait`'s `PyDict_SetItem` failure arm as it
was before the repair of F74 (`Py_DECREF(name)` of the borrowed name, value 0),
a leaked tuple (value 1), a double release (value 2), a `Py_DECREF` of NULL;
and the idiom `PyList_SET_ITEM(l, i, item); Py_INCREF(item);` is accepted. -/
example :
    Model.RefPaths.pathOk ⟨"f", 0, "return -1", true, [(0, .dec)]⟩ = false ∧
    Model.RefPaths.pathOk ⟨"f", 0, "return -1", true, [(1, .new)]⟩ = false ∧
    Model.RefPaths.pathOk ⟨"f", 0, "return -1", true, [(2, .new), (2, .dec), (2, .dec)]⟩ = false ∧
    Model.RefPaths.pathOk ⟨"f", 0, "return -1", true, [(3, .bad)]⟩ = false ∧
    Model.RefPaths.pathOk ⟨"f", 0, "return 0", false, [(4, .store), (4, .inc), (5, .new), (5, .ret)]⟩ = true := by
  decide

/-! ## (e) No stale borrow on any control-flow path

`harness/translate/crefborrows.py` runs the same reader over the same functions
and records, per path, when a value is acquired FIELD-BORROWED (read from an
object field of a struct, or taken out of a field-borrowed tuple / of a list or
dict without `Py_INCREF`), when it is protected (`Py_INCREF` .. `Py_DECREF`),
when a call that can run arbitrary Python code returns (`acall`: the trusted
table `crefpaths.ACALL` / `ACALL_FIELDS` closed over the call graph of the
file; releases and dictionary operations on attribute names deliberately left
out) and when the value is used.  A use after an `acall` that found neither the
value nor an ancestor tuple protected is a stale borrow - the defect class of
the use-after-free repaired in baa32de (`validate_trait_complex` walked
`trait->py_validate` while a member validator replaced it).  The repaired code
passes because its wrapper keeps `trait->py_validate` alive around
`validate_trait_complex_body` (`CALLER_PROTECTS`, verified by the translator at
every call site). -/

/-- The exceptions, by name: (function, value).  Found on the pinned tree by the
analysis; not confirmed at run time unless said so (known_findings F130..):
* `getattr_trait`, `setattr_trait`: `dict = obj->obj_dict` is used for the
  `PyDict_SetItem` / `PyDict_GetItem` after the default computation / the
  validator ran (which may replace `obj.__dict__`);
* `setattr_trait`, `trait_property_changed`: the notifier lists
  `traito->notifiers` / `obj->notifiers` are read before `post_setattr` /
  `has_traits_getattro` run and handed to `call_notifiers` afterwards;
* `setattr_delegate`: the delegate object and the delegated trait taken out of
  dictionaries (`temp_delegate`, `traitd`) without `Py_INCREF` are used after
  `delegate_attr_name` / `has_traits_getattro` / `get_prefix_trait`;
* `validate_trait_adapt`: `type = PyTuple_GET_ITEM(trait->py_validate, 1)` is used
  after the `adapt` call;
* `validate_trait_tuple` hands `PyTuple_GET_ITEM(trait->py_validate, 1)` to
  `validate_trait_tuple_check`, which keeps using it after member validators ran
  (`Generated.RefBorrows.usesParamsLate`: a callee that uses a parameter after
  arbitrary code makes the unprotected argument a stale use in the CALLER) - this
  one IS confirmed at run time (a member validator that replaces the validator
  crashes the interpreter);
* `_has_traits_trait`, `getattr_delegate`, `setattr_delegate` hand
  `trait->delegate_name` to `has_traits_getattro`, which uses the name after the
  lookup ran arbitrary code. -/
def knownStaleBorrows : List (String × String) := [
  ("getattr_trait", "obj->obj_dict"),
  ("setattr_trait", "obj->obj_dict"),
  ("setattr_trait", "traito->notifiers"),
  ("setattr_trait", "obj->notifiers"),
  ("trait_property_changed", "trait->notifiers"),
  ("trait_property_changed", "obj->notifiers"),
  ("setattr_delegate", "temp_delegate"),
  ("setattr_delegate", "temp_delegate~2"),
  ("setattr_delegate", "traitd~2"),
  ("setattr_delegate", "traitd~3"),
  ("validate_trait_adapt", "type"),
  ("validate_trait_tuple", "PyTuple_GET_ITEM()"),
  ("_has_traits_trait", "trait->delegate_name"),
  ("_has_traits_trait", "trait->delegate_name~2"),
  ("getattr_delegate", "trait->delegate_name"),
  ("setattr_delegate", "traitd->delegate_name"),
  ("setattr_delegate", "traitd->delegate_name~2")]

/-- Indices (in `Generated.RefBorrows.values`) of the values excepted on path `p`. -/
def knownStaleSkip (p : Model.RefBorrows.BPath) : List Nat :=
  (knownStaleBorrows.filter (·.1 == p.fn)).map (fun k => Generated.RefBorrows.values.idxOf k.2)

def borrowOkKnown (p : Model.RefBorrows.BPath) : Bool := Model.RefBorrows.borrowOkExcept (knownStaleSkip p) p

/-- **On no control-flow path of the covered functions is a field-borrowed value
used after a call that can run arbitrary code without a protecting reference**,
the named exceptions aside.  Reverting baa32de (or dropping the `Py_INCREF` of a
borrowed delegate in `getattr_delegate`) changes the generated table and this
proof no longer checks. -/
theorem C18_paths_no_stale_borrow : ∀ p ∈ Generated.RefBorrows.borrowPaths, borrowOkKnown p = true :=
  List.all_eq_true.mp (by decide +kernel)

/-- The exceptions are real, not slack: each listed value is used stale on some path of its function. -/
theorem C18_paths_known_stale_borrows_real :
    (knownStaleBorrows.all fun k => Generated.RefBorrows.borrowPaths.any fun p =>
      p.fn == k.1 && (Model.RefBorrows.staleBorrows p).contains (Generated.RefBorrows.values.idxOf k.2)) = true := by
  decide +kernel

/-- The repaired walk is among the paths (non-vacuity: `validate_trait_complex_body`
has field-borrowed items used after arbitrary calls, all under the caller's
protection), none of the borrow analyses was given up, `validate_trait_tuple_check`
is known to use its first parameter after arbitrary code, and the functions
named are reported as able to run arbitrary code. -/
theorem C18_paths_borrow_cover :
    Generated.RefBorrows.unread = [] ∧
    Generated.RefBorrows.usesParamsLate.lookup "validate_trait_tuple_check" = some [0, 1, 2, 3] ∧
    (["validate_trait_complex_body", "validate_trait_complex", "getattr_delegate", "setattr_trait"].all
      fun f => Generated.RefBorrows.covered.contains f) = true ∧
    (["validate_trait_complex_body", "call_notifiers", "default_value_for", "raise_trait_error"].all
      fun f => Generated.RefBorrows.arbitrary.contains f) = true := by
  decide +kernel

/-- The shape of the defect repaired in baa32de and of its repair: the tuple of
alternatives (value 0) read from `trait->py_validate`, an item (value 1) taken
out of it, a member validator called, the item used: stale - and not when the
tuple is protected first, nor when the item is read again after the call. -/
example :
    Model.RefBorrows.borrowOk ⟨"f", 0, [(0, .fborrow none), (1, .fborrow (some 0)), (0, .acall), (1, .use)]⟩ = false ∧
    Model.RefBorrows.borrowOk ⟨"f", 0, [(0, .fborrow none), (0, .protect), (1, .fborrow (some 0)), (0, .acall),
      (1, .use), (0, .use), (0, .unprotect)]⟩ = true ∧
    Model.RefBorrows.borrowOk ⟨"f", 0, [(0, .fborrow none), (0, .acall), (0, .fborrow none), (0, .use)]⟩ = true ∧
    Model.RefBorrows.borrowOk ⟨"f", 0, [(0, .fborrow none), (0, .protect), (0, .unprotect), (0, .acall), (0, .use)]⟩ = false := by
  decide

end TraitsVerif.Props.C18
