/-
C08 — observe handlers track exactly the objects currently reachable.

Model: TraitsVerif/Model/{Heap,ObsGraph,Hooks,Register,Maintain}.lean (transcription
of traits/observation/*.py and of `call_notifiers` / `setattr_trait` in ctraits.c;
tied to the code by the correspondence check of harness/props/c08.py).

Specification (from scratch, Model/ObsGraph.lean + Model/Hooks.lean):
`hookList h k true g x` = the notifiers a registration of `g` on `x` owes in heap
`h`, one per path; `reach h k g x o` = number of paths ending in a notifying node
at `o`; `specCnt h regs o q` = what all active registrations owe at `(o, q)`;
`cnt H o q` = what the hooks `H` actually hold there.

Only property theorems and their non-vacuity examples live here; lemmas are in
TraitsVerif/Lemmas/Obs*.lean and, for the source ties, {Maintain,Notifier}Source.lean.
-/
import TraitsVerif.Lemmas.ObsMutate
import TraitsVerif.Lemmas.ObsQuiet
import TraitsVerif.Lemmas.ObsOnce
import TraitsVerif.Lemmas.ObsInvList
import TraitsVerif.Lemmas.ObsInvSetItems
import TraitsVerif.Lemmas.ObsInvDictItems
import TraitsVerif.Lemmas.ObsInvAddTrait
import TraitsVerif.Lemmas.ObsInvContDefault
import TraitsVerif.Lemmas.ObsInvDel
import TraitsVerif.Lemmas.MaintainSource
import TraitsVerif.Lemmas.ObsInvFiltered
import TraitsVerif.Lemmas.ObsSource
import TraitsVerif.Lemmas.NotifierSource
namespace TraitsVerif.Props.C08
open TraitsVerif TraitsVerif.Model.Obs

/-! ### registration installs exactly the from-scratch hooks -/

/-- L1.  A registration that does not raise adds, at every observable and for every
notifier key, exactly the from-scratch items — nothing else changes. -/
theorem C08_add_spec (h : Heap) (k : HKey) (g : Graph) (x : W) (H : Hooks)
    (hok : (addRemove h k false true g x H).err = none) :
    ∀ o q, cnt (addRemove h k false true g x H).H o q = cnt H o q + cntItems (hookList h k true g x) o q :=
  (addRemove_add h k g true x H hok).2.1

/-- In particular the user notifier's reference count on `o` grows by the number
of paths reaching `o` (`reach`), and stays absent where nothing is reached. -/
theorem C08_add_refcount_is_reach (h : Heap) (k : HKey) (g : Graph) (x : W) (H : Hooks)
    (hok : (addRemove h k false true g x H).err = none) (o : Observable) :
    cnt (addRemove h k false true g x H).H o (.user k) = cnt H o (.user k) + reach h k g x o :=
  C08_add_spec h k g x H hok o (.user k)

/-- A registration raises iff the walk meets a failing `iter_observables` /
`iter_objects` (missing non-optional trait, non-container where a container is
required): a property of the heap alone. -/
theorem C08_add_ok_iff (h : Heap) (k : HKey) (g : Graph) (x : W) (H : Hooks) :
    (addRemove h k false true g x H).err = none ↔ walkOk h true g x = true :=
  ⟨fun hok => (addRemove_add h k g true x H hok).1, addRemove_add_ok h k g true x H⟩

open TraitsVerif.Model.ObsL in
/-- SOURCE TIE.  The registration these theorems speak about is the interpreted source: the ObsL term
`Generated.observeProg`, regenerated on every run by harness/translate/obsl.py from the text of
traits/observation/_observe.py, run on an outermost `add_or_remove_notifiers(object=x, graph=g, …)`
(for every heap, graph, handler key and well-formed hooks; fuel `need g` = three calls per level),
ends with the hooks and the exception of `Model.Obs.addRemove`. -/
theorem C08_registration_is_source (h : Heap) (k : HKey) (g : Graph) (rm : Bool) (x : W) (H : Hooks) (hw : WF H)
    (n : Nat) (hn : need g ≤ n) :
    run h Generated.observeProg n (.fn "add_or_remove_notifiers" (ownArgs x (.plain g) k rm)) (H, []) =
      (((addRemove h k rm true g x H).H, [[]]), flowOf (addRemove h k rm true g x H).err) :=
  run_owner_addRemove h k g rm true x H hw _ (fun n => run_arn_owner h n x _ k rm H) n hn

open TraitsVerif.Model.ObsL in
/-- `C08_add_spec` about the INTERPRETED SOURCE: when the translated registration returns normally, every
count has grown by exactly the from-scratch items (`hookList`, one per path), e.g. the user
notifier's reference count by `reach`; and it returns normally iff the walk of the heap meets no
failing `iter_observables` / `iter_objects`. -/
theorem C08_add_spec_source (h : Heap) (k : HKey) (g : Graph) (x : W) (H : Hooks) (hw : WF H)
    (n : Nat) (hn : need g ≤ n) :
    ((run h Generated.observeProg n (.fn "add_or_remove_notifiers" (ownArgs x (.plain g) k false)) (H, [])).2 = .next
      ↔ walkOk h true g x = true) ∧
    ((run h Generated.observeProg n (.fn "add_or_remove_notifiers" (ownArgs x (.plain g) k false)) (H, [])).2 = .next →
      ∀ o q, cnt (run h Generated.observeProg n
        (.fn "add_or_remove_notifiers" (ownArgs x (.plain g) k false)) (H, [])).1.1 o q =
          cnt H o q + cntItems (hookList h k true g x) o q) := by
  rw [C08_registration_is_source h k g false x H hw n hn]
  have hflow : flowOf (addRemove h k false true g x H).err = .next ↔ (addRemove h k false true g x H).err = none := by
    cases (addRemove h k false true g x H).err <;> simp [flowOf]
  refine ⟨?_, ?_⟩
  · simp only [hflow]
    exact C08_add_ok_iff h k g x H
  · intro hr
    exact C08_add_spec h k g x H (hflow.1 hr)

open TraitsVerif.Model.NotL in
/-- SOURCE TIE for the per-observable de-duplication C08 rests on ("calls the handler exactly once"): the
user notifier found by `add_to` is the first one `equals` accepts, and `equals` is handler `==`, target
`is`, dispatcher `==` as written in the source (rows regenerated by harness/translate/notl.py); the
equality of observer graphs used for maintainers (`Graph.beq`: equal nodes, children compared as
sets) is the interpretation (`NotL.geq`) of the rows of `ObserverGraph.__eq__`, and `__hash__` hashes the
same fields with the children as a frozenset (text tie). -/
theorem C08_dedup_is_source (eqo : Id → Id → Bool) (k : HKey) (ns : List Notifier) (a b : NKey) :
    runMethod NKey.equals Generated.userAddProg (.user k) ns = some (userAdd k ns, none) ∧
    rowsHold eqo (equalsRows a) a b = some (NKey.equals a b) ∧
    (∀ g g' : Graph, (decodeGraphRows Generated.graphEqRows).map (fun m => geq m g g') = some (Graph.beq g g')) ∧
    Generated.graphHashFields = ["type:name", "node", "children:frozenset"] :=
  ⟨userAdd_is_source k ns, equals_is_source eqo a b, graph_beq_is_source, rfl⟩

/-- After the registration of one graph (an outermost `add_or_remove_notifiers`) on objects without
hooks, the hooks are the from-scratch specification of the single registration (the refinement
invariant is established). -/
theorem C08_observe_establishes (h : Heap) (k : HKey) (g : Graph) (x : Id)
    (hok : (addRemove h k false true g (some x) Hooks.empty).err = none) :
    HooksEqReach h (addRemove h k false true g (some x) Hooks.empty).H [⟨k, g, x⟩] :=
  .of_observe h k g x hok

/-! ### the refinement invariant under mutation -/

/-- FULL-STRENGTH statement: the hooks equal the from-scratch hooks of the current
heap after every mutation.  FALSE of the code (finding F10): see
`C08_hooks_eq_reach_fails_at`. -/
def C08_hooks_eq_reach : Prop :=
  ∀ (E : Env) (st : St) (regs : List Reg) (m : Mutation), HooksEqReach st.h st.H regs →
    (mutate E st m).err = none → HooksEqReach (mutate E st m).st.h (mutate E st m).st.H regs

/-- FULL-STRENGTH corollary: a change at `o.n` calls handler key `k` exactly once
iff some registration of `k` reaches `o.n` through a notifying node.  FALSE of the
code (F10): see `C08_fires_iff_reachable_false`. -/
def C08_fires_iff_reachable : Prop :=
  ∀ (E : Env) (st : St) (regs : List Reg) (ms : List Mutation) (o : Id) (n : Name) (v : Val) (k : HKey),
    HooksEqReach st.h st.H regs →
    let st' := (ms.foldl (fun s m => (mutate E s m).st) st)
    let calls := ((mutate E st' (.setField o n v 0)).delivered.filter (fun d => d.key == k)).length
    calls ≤ 1 ∧
    (calls = 1 ↔ 0 < specCnt st'.h regs (.trait o n) (.user k) ∧ fieldVal st'.h (some o) n ≠ v ∧ E.dead k = false)

/-! #### negation witness (F10): `a.child = a; a.observe(h, 'child:child:value'); a.child = b; b.value += 1` -/

def fld (n : Name) (v : Val) : Field := ⟨n, false, .val (if n == nValue then .int 0 else .none), v, .equality⟩

def f10Heap : Heap :=
  [(0, .inst [fld nValue (.int 0), fld nChild (.ref 0), fld nTraitAdded .unset]),
   (1, .inst [fld nValue (.int 0), fld nChild .none, fld nTraitAdded .unset])]

/-- `child:child:value` -/
def f10Graph : Graph :=
  .node (.named nChild false false) [.node (.named nChild false false) [.node (.named nValue true false) []]]

def f10Key : HKey := ⟨0, 0⟩
def f10Regs : List Reg := [⟨f10Key, f10Graph, 0⟩]

/-- after `a.observe(h, 'child:child:value')` -/
def f10St1 : St := ⟨f10Heap, (addRemove f10Heap f10Key false true f10Graph (some 0) Hooks.empty).H⟩
/-- after `a.child = b` -/
def f10St2 : St := (mutate {} f10St1 (.setField 0 nChild (.ref 1) 0)).st

/-- `b` is at depth 1 only (`b.child` is None), so nothing reaches `b.value`; yet
the hooks hold a user notifier there, and bumping `b.value` calls the handler. -/
theorem C08_hooks_eq_reach_fails_at :
    (addRemove f10Heap f10Key false true f10Graph (some 0) Hooks.empty).err = none ∧
    (mutate {} f10St1 (.setField 0 nChild (.ref 1) 0)).err = none ∧
    specCnt f10St2.h f10Regs (.trait 1 nValue) (.user f10Key) = 0 ∧
    cnt f10St2.H (.trait 1 nValue) (.user f10Key) = 1 ∧
    (mutate {} f10St2 (.setField 1 nValue (.int 1) 0)).delivered = [.trait f10Key 1 nValue (.int 0) (.int 1)] := by
  decide

theorem C08_hooks_eq_reach_false : ¬ C08_hooks_eq_reach := by
  intro hfull
  obtain ⟨h1, h2, h3, h4, _⟩ := C08_hooks_eq_reach_fails_at
  have inv1 : HooksEqReach f10St1.h f10St1.H f10Regs := C08_observe_establishes f10Heap f10Key f10Graph 0 h1
  have inv2 := hfull {} f10St1 f10Regs (.setField 0 nChild (.ref 1) 0) inv1 h2
  have := inv2.2 (.trait 1 nValue) (.user f10Key)
  rw [show (mutate {} f10St1 (.setField 0 nChild (.ref 1) 0)).st = f10St2 from rfl, h3, h4] at this
  omega

theorem C08_fires_iff_reachable_false : ¬ C08_fires_iff_reachable := by
  intro hfull
  obtain ⟨h1, _, h3, _, h5⟩ := C08_hooks_eq_reach_fails_at
  have inv1 : HooksEqReach f10St1.h f10St1.H f10Regs := C08_observe_establishes f10Heap f10Key f10Graph 0 h1
  have key : ((mutate {} f10St2 (.setField 1 nValue (.int 1) 0)).delivered.filter
      (fun d => d.key == f10Key)).length = 1 := by rw [h5]; decide
  have h0 : 0 < specCnt f10St2.h f10Regs (.trait 1 nValue) (.user f10Key) :=
    ((hfull {} f10St1 f10Regs [.setField 0 nChild (.ref 1) 0] 1 nValue (.int 1) f10Key inv1).2.1 key).1
  omega

/-! #### proved fragment of the invariant

`SetFrag` (Lemmas/ObsInvSet.lean) collects the hypotheses:
* the object has the trait; no `filtered` node (`*`, `+metadata`) in any active registration;
* no weak reference is dead; the assigned value is not a trait-name string;
* the walks the maintainers perform from the old / new value meet no failing `iter_*`;
* `noSelfReach` — below the OLD value the maintained sub-graphs never come back to the mutated
  trait (the hypothesis F10 violates; cycles, sharing and duplicates elsewhere are allowed);
* `eqStruct` — among the sub-graphs involved, `ObserverGraph.__eq__` is structural equality
  (no two differ only in the order of parallel branches).
`ListCore` (Lemmas/ObsInvList.lean) is the analogue for a mutation of an observed list
(`nsrItems` / `nsrLive`: below the current, removed and added items the maintained
sub-graphs never come back to the list itself, which also makes the iteration over the
LIVE notifier list equal to one over a copy).
`SetCore` (Lemmas/ObsInvSetItems.lean) and `DictCore` (Lemmas/ObsInvDictItems.lean) are the same for a
mutation of an observed set / dict.
`AddCore` (Lemmas/ObsInvAddTrait.lean) is the fragment for `add_trait` of a new name.
Container defaults (`List` / `Dict` / `Set` traits read for the first time) are covered by
`C08_default_materialise_container_partial` (Lemmas/ObsInvContDefault.lean: allocation of an unreferenced cell).
NOT covered (stay correspondence-checked only): extended-slice assignment `l[i::step] = xs`
(`Mutation.listStride`), the announcement of a companion `<name>_items` trait (`Mutation.announce`), the arms of
`clear` on an EMPTY container (no event, only the heap cell changes), `del obj.trait` beyond the three harmless arms of
`C08_hooks_eq_reach_partial_del` (F99: `C08_del_rehooks_default_twice`), `filtered` nodes in `read` / `fires_iff` (assignment, list / set / dict mutations and `add_trait` allow them:
`C08_hooks_eq_reach_partial_*_filtered` below), the silent default of F80. -/

/-- Assignment `o.n = v` to a materialised trait: the hooks are again exactly the
from-scratch hooks of the new heap, and nothing raises.  Series and parallel
graphs of named / list / dict / set observers, any number of registrations and
handlers, arbitrary sharing and cycles subject to `noSelfReach`. -/
theorem C08_hooks_eq_reach_partial (E : Env) (st : St) (regs : List Reg) (o : Id) (n : Name) (v : Val)
    (fresh : Id) (fs : List Field) (f : Field) (hinv : HooksEqReach st.h st.H regs)
    (fr : SetFrag E st regs o n v fs f) (hset : f.val ≠ .unset) :
    HooksEqReach (mutate E st (.setField o n v fresh)).st.h (mutate E st (.setField o n v fresh)).st.H regs ∧
    (mutate E st (.setField o n v fresh)).err = none :=
  setField_preserves E st regs o n v fresh fs f hinv fr hset

/-- Mutations of an observed list — `append`, `insert`, `del l[i]`, `l[i] = x`,
`clear`, `extend` — preserve the invariant and raise nothing: the same object may
occur several times (present twice and removed once keeps one registration's worth
of reference counts), items may be shared with other containers and registrations,
graphs may branch. -/
theorem C08_hooks_eq_reach_partial_list (E : Env) (st : St) (regs : List Reg) (c : Id) (items : List Id)
    (hinv : HooksEqReach st.h st.H regs) :
    (∀ x, ListCore E st regs c items (items ++ [x]) (.list items.length [] [x]) →
      HooksEqReach (mutate E st (.listAppend c x)).st.h (mutate E st (.listAppend c x)).st.H regs ∧
      (mutate E st (.listAppend c x)).err = none) ∧
    (∀ i x, i ≤ items.length → ListCore E st regs c items (items.take i ++ x :: items.drop i) (.list i [] [x]) →
      HooksEqReach (mutate E st (.listInsert c i x)).st.h (mutate E st (.listInsert c i x)).st.H regs ∧
      (mutate E st (.listInsert c i x)).err = none) ∧
    (∀ i y, items[i]? = some y → ListCore E st regs c items (items.eraseIdx i) (.list i [y] []) →
      HooksEqReach (mutate E st (.listDel c i)).st.h (mutate E st (.listDel c i)).st.H regs ∧
      (mutate E st (.listDel c i)).err = none) ∧
    (∀ i x y, items[i]? = some y → ListCore E st regs c items (items.set i x) (.list i [y] [x]) →
      HooksEqReach (mutate E st (.listSet c i x)).st.h (mutate E st (.listSet c i x)).st.H regs ∧
      (mutate E st (.listSet c i x)).err = none) ∧
    (items.isEmpty = false → ListCore E st regs c items [] (.list 0 items []) →
      HooksEqReach (mutate E st (.listClear c)).st.h (mutate E st (.listClear c)).st.H regs ∧
      (mutate E st (.listClear c)).err = none) ∧
    (∀ xs, xs.isEmpty = false → ListCore E st regs c items (items ++ xs) (.list items.length [] xs) →
      HooksEqReach (mutate E st (.listExtend c xs)).st.h (mutate E st (.listExtend c xs)).st.H regs ∧
      (mutate E st (.listExtend c xs)).err = none) :=
  ⟨fun x core => listAppend_preservesF E st regs c x items hinv core.toF,
   fun i x hi core => listInsert_preservesF E st regs c i x items hi hinv core.toF,
   fun i y hy core => listDel_preservesF E st regs c i y items hy hinv core.toF,
   fun i x y hy core => listSet_preservesF E st regs c i x y items hy hinv core.toF,
   fun hne core => listClear_preservesF E st regs c items hne hinv core.toF,
   fun xs hne core => listExtend_preservesF E st regs c xs items hne hinv core.toF⟩

/-- Slice assignment `l[i:j] = xs` on an observed list, any lengths — in particular a
same-length assignment that keeps the objects but changes their MULTIPLICITIES
(`[a, a, b]` ↦ `[a, b, b]`): every object's reference count follows the number of its
occurrences, so a later `pop` cannot leave a still-present object unhooked. -/
theorem C08_hooks_eq_reach_partial_slice (E : Env) (st : St) (regs : List Reg) (c : Id) (i j : Nat) (xs items : List Id)
    (hij : i ≤ j ∧ j ≤ items.length)
    (hne : (((items.drop i).take (j - i)).isEmpty && xs.isEmpty) = false)
    (hinv : HooksEqReach st.h st.H regs)
    (core : ListCore E st regs c items (items.take i ++ xs ++ items.drop j) (.list i ((items.drop i).take (j - i)) xs)) :
    HooksEqReach (mutate E st (.listSlice c i j xs)).st.h (mutate E st (.listSlice c i j xs)).st.H regs ∧
    (mutate E st (.listSlice c i j xs)).err = none :=
  listSlice_preservesF E st regs c i j xs items hij hne hinv core.toF

/-- Mutations of an observed SET container — `add`, `discard` / `remove`, `clear` — preserve
the invariant and raise nothing (`SetCore`, Lemmas/ObsInvSetItems.lean, is the analogue of
`ListCore`); `add` of a present element and `discard` of an absent one change nothing and
deliver nothing.  Items may be shared with other containers and registrations, graphs may
branch.  `items.Nodup`: the items of a set cell are distinct (Model/Heap.lean), an invariant of
the three operations (`nodup_insertSorted`, `nodup_filter_ne`). -/
theorem C08_hooks_eq_reach_partial_set (E : Env) (st : St) (regs : List Reg) (c : Id) (items : List Id)
    (hinv : HooksEqReach st.h st.H regs) :
    (∀ x, x ∉ items → SetCore E st regs c items (insertSorted x items) (.set [] [x]) →
      HooksEqReach (mutate E st (.setAdd c x)).st.h (mutate E st (.setAdd c x)).st.H regs ∧
      (mutate E st (.setAdd c x)).err = none) ∧
    (∀ x, x ∈ items → items.Nodup → SetCore E st regs c items (items.filter (· != x)) (.set [x] []) →
      HooksEqReach (mutate E st (.setDiscard c x)).st.h (mutate E st (.setDiscard c x)).st.H regs ∧
      (mutate E st (.setDiscard c x)).err = none) ∧
    (items.isEmpty = false → SetCore E st regs c items [] (.set items []) →
      HooksEqReach (mutate E st (.setClear c)).st.h (mutate E st (.setClear c)).st.H regs ∧
      (mutate E st (.setClear c)).err = none) ∧
    (∀ x, st.h.get c = .set items → x ∈ items →
      (mutate E st (.setAdd c x)).st = st ∧ (mutate E st (.setAdd c x)).delivered = [] ∧
      (mutate E st (.setAdd c x)).err = none) ∧
    (∀ x, st.h.get c = .set items → x ∉ items →
      (mutate E st (.setDiscard c x)).st = st ∧ (mutate E st (.setDiscard c x)).delivered = [] ∧
      (mutate E st (.setDiscard c x)).err = none) :=
  ⟨fun x hx core => setAdd_preservesF E st regs c x items hx hinv core.toF,
   fun x hx hnd core => setDiscard_preservesF E st regs c x items hx hnd hinv core.toF,
   fun hne core => setClear_preservesF E st regs c items hne hinv core.toF,
   fun x hc hx => setAdd_present E st c x items hc hx,
   fun x hc hx => setDiscard_absent E st c x items hc hx⟩

/-- Mutations of an observed DICT container — `d[k] = x` for a new key and for an existing one
(reported as old value removed + new value added), `del d[k]` / `pop`, `clear` — preserve the
invariant and raise nothing (`DictCore`, Lemmas/ObsInvDictItems.lean, is the analogue of
`ListCore`; the objects below a dict are its values).  The same object may sit under several
keys: removed under one key it keeps the other keys' share of the reference counts.  Only the
KEYS are distinct (`(d.map (·.1)).Nodup`, Model/Heap.lean; an invariant of the four operations:
`dict_keys_nodup_append`, `dict_keys_overwrite`, `dict_keys_nodup_filter`). -/
theorem C08_hooks_eq_reach_partial_dict (E : Env) (st : St) (regs : List Reg) (c : Id) (d : List (Key × Id))
    (hinv : HooksEqReach st.h st.H regs) :
    (∀ k x, d.find? (·.1 == k) = none → DictCore E st regs c d (d ++ [(k, x)]) (.dict [] [(k, x)]) →
      HooksEqReach (mutate E st (.dictSet c k x)).st.h (mutate E st (.dictSet c k x)).st.H regs ∧
      (mutate E st (.dictSet c k x)).err = none) ∧
    (∀ k k' x y, d.find? (·.1 == k) = some (k', y) → (d.map (·.1)).Nodup →
      DictCore E st regs c d (d.map (fun kv => if kv.1 == k then (k, x) else kv)) (.dict [(k, y)] [(k, x)]) →
      HooksEqReach (mutate E st (.dictSet c k x)).st.h (mutate E st (.dictSet c k x)).st.H regs ∧
      (mutate E st (.dictSet c k x)).err = none) ∧
    (∀ k k' y, d.find? (·.1 == k) = some (k', y) → (d.map (·.1)).Nodup →
      DictCore E st regs c d (d.filter (·.1 != k)) (.dict [(k, y)] []) →
      HooksEqReach (mutate E st (.dictDel c k)).st.h (mutate E st (.dictDel c k)).st.H regs ∧
      (mutate E st (.dictDel c k)).err = none) ∧
    (d.isEmpty = false → DictCore E st regs c d [] (.dict d []) →
      HooksEqReach (mutate E st (.dictClear c)).st.h (mutate E st (.dictClear c)).st.H regs ∧
      (mutate E st (.dictClear c)).err = none) :=
  ⟨fun k x hk core => dictSet_new_preservesF E st regs c k x d hk hinv core.toF,
   fun k k' x y hk hnd core => dictSet_overwrite_preservesF E st regs c k k' x y d hk hnd hinv core.toF,
   fun k k' y hk hnd core => dictDel_preservesF E st regs c k k' y d hk hnd hinv core.toF,
   fun hne core => dictClear_preservesF E st regs c d hne hinv core.toF⟩

/-- `o.add_trait(n, …)`.  For a NEW name the invariant is preserved and nothing raises: every
path of a registration that reaches `o` at a `named n` node (necessarily an optional one, or the
registration would have failed) has left a `trait_added` maintainer on `o.trait_added`; called with
`new = n` it hooks exactly the own items of that node on `o.n` (user notifier if the node
notifies, one maintainer per child), and nothing below, the new trait being absent from
`__dict__` — which is what the from-scratch walk of the new heap adds (`add_dec`,
Lemmas/ObsInvAddTrait.lean).  Any number of registrations, paths and handlers; users and
maintainers observing `trait_added` itself are allowed (`AddCore.okNone`).  For an EXISTING name
the hooks do not change, nothing is delivered, nothing raises. -/
theorem C08_hooks_eq_reach_partial_add_trait (E : Env) (st : St) (regs : List Reg) (o : Id) (n : Name)
    (tagged : Bool) (d : Dflt) (fs : List Field) :
    (HooksEqReach st.h st.H regs → AddCore E st regs o n tagged d fs → findField fs n = none →
      HooksEqReach (mutate E st (.addTrait o n tagged d)).st.h (mutate E st (.addTrait o n tagged d)).st.H regs ∧
      (mutate E st (.addTrait o n tagged d)).err = none) ∧
    (∀ f, st.h.get o = .inst fs → findField fs n = some f →
      (mutate E st (.addTrait o n tagged d)).st.H = st.H ∧ (mutate E st (.addTrait o n tagged d)).delivered = [] ∧
      (mutate E st (.addTrait o n tagged d)).err = none) :=
  ⟨fun hinv core hn => addTrait_preservesF E st regs o n tagged d fs hinv core.toF hn,
   fun f ho hf => addTrait_existing E st o n tagged d fs f ho hf⟩

/-- A default materialised after registration (non-container default `d`, read of
an unset trait) gets hooked by the maintainers — the invariant holds in the new
heap — and delivers nothing to the user. -/
theorem C08_default_materialise_partial (E : Env) (st : St) (regs : List Reg) (o : Id) (n : Name) (d : Val)
    (fresh : Id) (fs : List Field) (f : Field) (hinv : HooksEqReach st.h st.H regs)
    (fr : SetFrag E st regs o n d fs f) (hunset : f.val = .unset) (hdflt : f.dflt = .val d) :
    HooksEqReach (mutate E st (.read o n fresh)).st.h (mutate E st (.read o n fresh)).st.H regs ∧
    (mutate E st (.read o n fresh)).err = none ∧ (mutate E st (.read o n fresh)).delivered = [] :=
  read_preserves E st regs o n d fresh fs f hinv fr hunset hdflt

/-- A CONTAINER default (`List` / `Dict` / `Set` trait never read: `default_value_for` builds a
fresh empty container, cell `fresh`) materialised after registration gets hooked by the
maintainers — an items node below the trait leaves its user notifier and item maintainers on the
fresh container — the invariant holds in the new heap, nothing raises and nothing is delivered.
`Unref st.h fresh` / `r.x ≠ fresh`: no cell refers to the fresh identity and it is no
registration's root (then allocating it changes no from-scratch hook list, `alloc_preserves`);
`fr` is the assignment fragment of `C08_hooks_eq_reach_partial` IN THE ALLOCATED HEAP for the value
`.ref fresh`: the read is the assignment of an existing empty container to the unset trait. -/
theorem C08_default_materialise_container_partial (E : Env) (st : St) (regs : List Reg) (o : Id) (n : Name)
    (fresh : Id) (fs : List Field) (f : Field) (hinv : HooksEqReach st.h st.H regs)
    (hu : Unref st.h fresh) (hroots : ∀ r ∈ regs, r.x ≠ fresh) (hunset : f.val = .unset) :
    (f.dflt = .newList → SetFrag E ⟨st.h.upd fresh (.list []), st.H⟩ regs o n (.ref fresh) fs f →
      HooksEqReach (mutate E st (.read o n fresh)).st.h (mutate E st (.read o n fresh)).st.H regs ∧
      (mutate E st (.read o n fresh)).err = none ∧ (mutate E st (.read o n fresh)).delivered = []) ∧
    (f.dflt = .newDict → SetFrag E ⟨st.h.upd fresh (.dict []), st.H⟩ regs o n (.ref fresh) fs f →
      HooksEqReach (mutate E st (.read o n fresh)).st.h (mutate E st (.read o n fresh)).st.H regs ∧
      (mutate E st (.read o n fresh)).err = none ∧ (mutate E st (.read o n fresh)).delivered = []) ∧
    (f.dflt = .newSet → SetFrag E ⟨st.h.upd fresh (.set []), st.H⟩ regs o n (.ref fresh) fs f →
      HooksEqReach (mutate E st (.read o n fresh)).st.h (mutate E st (.read o n fresh)).st.H regs ∧
      (mutate E st (.read o n fresh)).err = none ∧ (mutate E st (.read o n fresh)).delivered = []) :=
  ⟨fun hd fr => read_alloc_preserves E st regs o n fresh (.list []) fs f hinv hu hroots (by intro _ e; cases e)
     (by rw [hd]; rfl) fr hunset,
   fun hd fr => read_alloc_preserves E st regs o n fresh (.dict []) fs f hinv hu hroots (by intro _ e; cases e)
     (by rw [hd]; rfl) fr hunset,
   fun hd fr => read_alloc_preserves E st regs o n fresh (.set []) fs f hinv hu hroots (by intro _ e; cases e)
     (by rw [hd]; rfl) fr hunset⟩

/-- "Exactly once iff reachable", on the proved fragment: an assignment that really
changes the value (not prevented by `ctrait_prevent_event`) calls handler key `k`
exactly once if some registration of `k` reaches `o.n` through a notifying node —
however many paths reach it, the same object inserted twice, several registrations —
and not at all otherwise.  `UniqueUsers` (at most one user notifier per key on an
observable) is an invariant of every operation, see `C08_unique_users`. -/
theorem C08_fires_iff_reachable_partial (E : Env) (st : St) (regs : List Reg) (o : Id) (n : Name) (v : Val)
    (fresh : Id) (fs : List Field) (f : Field) (hinv : HooksEqReach st.h st.H regs)
    (fr : SetFrag E st regs o n v fs f) (hset : f.val ≠ .unset) (hu : UniqueUsers st.H) (hne : f.val ≠ v)
    (hprev : preventTrait E (storeField st.h o n v) o n f.val v = false) (k : HKey) :
    ((mutate E st (.setField o n v fresh)).delivered.filter (fun d => d.key == k)).length =
      if 0 < specCnt st.h regs (.trait o n) (.user k) then 1 else 0 :=
  setField_calls E st regs o n v fresh fs f hinv fr hset hu hne hprev k

/-- Equal user notifiers are reference-counted, never duplicated: at most one per
handler key and observable, after any registration, removal (successful or not)
and any mutation. -/
theorem C08_unique_users (E : Env) (st : St) (m : Mutation) (h : Heap) (k : HKey) (g : Graph) (rm : Bool) (x : W)
    (hu : UniqueUsers st.H) :
    UniqueUsers (mutate E st m).st.H ∧ UniqueUsers (addRemove h k rm true g x st.H).H :=
  ⟨mutate_unique E st m hu, addRemove_unique h k g rm true x st.H hu⟩

/-- Detached objects are silent, reachable ones only are called: wherever the
invariant holds, an assignment delivers to handler key `k` only if some
registration of `k` reaches the assigned trait through a notifying node. -/
theorem C08_detached_silent (E : Env) (st : St) (regs : List Reg) (o : Id) (n : Name) (v : Val) (fresh : Id)
    (hinv : HooksEqReach st.h st.H regs) :
    ∀ d ∈ (mutate E st (.setField o n v fresh)).delivered,
      0 < specCnt st.h regs (.trait o n) (.user d.key) := by
  intro d hd
  obtain ⟨k, old, rc, rfl, _, hm⟩ := setField_delivered E st o n v fresh d hd
  rw [← hinv.2]
  exact cntList_pos_of_mem hm (hinv.1 _ k rc hm)

/-! ### quiet links, event identity -/

/-- Links written with ':' (`notify=False`) deliver nothing: if no node of any
graph held for handler key `k` notifies, then after ANY mutation (no hypothesis on
the shape of the heap — cycles, sharing, F10 situations included) this is still so
and nothing was delivered to `k`. -/
theorem C08_quiet_links (E : Env) (st : St) (k : HKey) (m : Mutation) (hq : QuietInv st.H k) :
    QuietInv (mutate E st m).st.H k ∧ ∀ d ∈ (mutate E st m).delivered, d.key ≠ k :=
  mutate_quiet E st k m hq

/-- … and registering an all-quiet graph establishes that state. -/
theorem C08_quiet_registration (h : Heap) (k : HKey) (g : Graph) (x : W) (H : Hooks) (hq : QuietInv H k)
    (hg : g.quiet = true) : QuietInv (addRemove h k false true g x H).H k :=
  addRemove_quiet h k k g (fun _ => hg) false true x H hq

/-- The event identifies the object and trait that actually changed: every
delivered event sits on the observable the mutation targets. -/
theorem C08_event_identifies (E : Env) (st : St) (m : Mutation) :
    ∀ d ∈ (mutate E st m).delivered, some d.observable = m.target :=
  fun d hd => (mutate_delivered E st m d hd).1

/-- For a trait assignment the event carries the assigned value as `new`, a
different value as `old` (unless the trait is declared `comparison_mode=none`, which
reports every assignment), and comes from a user notifier hooked on that trait. -/
theorem C08_event_identifies_assignment (E : Env) (st : St) (o : Id) (n : Name) (v : Val) (fresh : Id) :
    ∀ d ∈ (mutate E st (.setField o n v fresh)).delivered,
      ∃ k old rc, d = .trait k o n old v ∧ (old = v → fieldCmp st.h o n = .none) ∧
        Notifier.user k rc ∈ st.H.get (.trait o n) :=
  setField_delivered E st o n v fresh

/-! ### non-vacuity -/

def exHeap : Heap :=
  [(0, .inst [fld nValue (.int 0), fld nChild (.ref 1), fld nTraitAdded .unset]),
   (1, .inst [fld nValue (.int 3), fld nChild .none, fld nTraitAdded .unset])]
def exGraph : Graph := .node (.named nChild true false) [.node (.named nValue true false) []]

/-- `child.value` on `a.child = b`: registration succeeds, reaches `b.value` once,
and bumping `b.value` delivers exactly one event naming it. -/
example :
    (addRemove exHeap f10Key false true exGraph (some 0) Hooks.empty).err = none ∧
    reach exHeap f10Key exGraph (some 0) (.trait 1 nValue) = 1 ∧
    (mutate {} ⟨exHeap, (addRemove exHeap f10Key false true exGraph (some 0) Hooks.empty).H⟩
      (.setField 1 nValue (.int 4) 0)).delivered = [.trait f10Key 1 nValue (.int 3) (.int 4)] := by decide

def xHeap : Heap :=
  [(0, .inst [fld nValue (.int 0), fld nChild (.ref 1), fld nTraitAdded .unset]),
   (1, .inst [fld nValue (.int 3), fld nChild .none, fld nTraitAdded .unset]),
   (2, .inst [fld nValue (.int 5), fld nChild (.ref 0), fld nTraitAdded .unset])]
def xSt : St := ⟨xHeap, (addRemove xHeap f10Key false true exGraph (some 0) Hooks.empty).H⟩
def xRegs : List Reg := [⟨f10Key, exGraph, 0⟩]
def xFs : List Field := [fld nValue (.int 0), fld nChild (.ref 1), fld nTraitAdded .unset]

theorem xHooks : xSt.H.get (.trait 0 nChild) =
    [.user f10Key 1, .maint .trait (.node (.named nValue true false) []) f10Key] := rfl

theorem xVisits : visits xSt.h 0 nChild exGraph (some 0) = [.node (.named nValue true false) []] := rfl

/-- The hypotheses of `C08_hooks_eq_reach_partial` hold on a concrete state with a
cycle (`c.child = a`, `a.child = b`, `child.value` observed on `a`) for `a.child = c`. -/
theorem xFrag : SetFrag {} xSt xRegs 0 nChild (.ref 2) xFs (fld nChild (.ref 1)) :=
  .of_single rfl rfl (fun _ => rfl) (by intro m; simp)
    (by intro c k hm; rw [xHooks] at hm; simp at hm; exact hm)
    rfl (by decide) xVisits (by decide) (by decide)

/-- … and the theorem applies: after `a.child = c` the hooks are the from-scratch
hooks (`c.value` hooked, `b.value` released). -/
example : HooksEqReach (mutate {} xSt (.setField 0 nChild (.ref 2) 0)).st.h
    (mutate {} xSt (.setField 0 nChild (.ref 2) 0)).st.H xRegs :=
  (C08_hooks_eq_reach_partial {} xSt xRegs 0 nChild (.ref 2) 0 xFs (fld nChild (.ref 1))
    (C08_observe_establishes xHeap f10Key exGraph 0 (by decide)) xFrag (by simp [fld])).1

/-- and `a.child = c` itself is delivered exactly once to the handler (`child` notifies) -/
example : ((mutate {} xSt (.setField 0 nChild (.ref 2) 0)).delivered.filter (fun d => d.key == f10Key)).length = 1 := by
  rw [C08_fires_iff_reachable_partial {} xSt xRegs 0 nChild (.ref 2) 0 xFs (fld nChild (.ref 1))
    (C08_observe_establishes xHeap f10Key exGraph 0 (by decide)) xFrag (by simp [fld])
    (addRemove_unique xHeap f10Key exGraph false true (some 0) Hooks.empty UniqueUsers_empty)
    (by simp [fld]) (by decide) f10Key]
  decide

example : cnt (mutate {} xSt (.setField 0 nChild (.ref 2) 0)).st.H (.trait 2 nValue) (.user f10Key) = 1 ∧
    cnt (mutate {} xSt (.setField 0 nChild (.ref 2) 0)).st.H (.trait 1 nValue) (.user f10Key) = 0 := by decide

def lHeap : Heap :=
  [(0, .inst [fld nKids (.ref 100), fld nTraitAdded .unset]),
   (1, .inst [fld nValue (.int 3), fld nTraitAdded .unset]),
   (100, .list [1, 1])]
def lGraph : Graph := .node (.named nKids true false) [.node (.listItems true false) [.node (.named nValue true false) []]]
def lSt : St := ⟨lHeap, (addRemove lHeap f10Key false true lGraph (some 0) Hooks.empty).H⟩
def lRegs : List Reg := [⟨f10Key, lGraph, 0⟩]

theorem lHooks : lSt.H.get (.cont 100) =
    [.user f10Key 1, .maint .list (.node (.named nValue true false) []) f10Key] := rfl
theorem lVisits : Gen.visits (listSite 100) actTrue lSt.h lGraph (some 0) = [.node (.named nValue true false) []] := rfl

/-- The hypotheses of `C08_hooks_eq_reach_partial_list` hold on a concrete state where the
SAME object sits twice in the observed list (`a.kids = [b, b]`, `kids.items.value`). -/
theorem lCore : ListCore {} lSt lRegs 100 [1, 1] ([1, 1].eraseIdx 0) (.list 0 [1] []) :=
  .ofCont rfl (by intro r hr; simp [lRegs] at hr; subst hr; decide)
    (.of_single (fun _ => rfl) (by intro mk g k hm; rw [lHooks] at hm; simp at hm; exact ⟨hm.2.1, hm.2.2⟩)
      rfl lVisits (by decide) (by decide) (by decide))

/-- … the theorem applies to `del a.kids[0]`, and the reference count on `b.value` goes 2 ↦ 1 -/
example : HooksEqReach (mutate {} lSt (.listDel 100 0)).st.h (mutate {} lSt (.listDel 100 0)).st.H lRegs :=
  ((C08_hooks_eq_reach_partial_list {} lSt lRegs 100 [1, 1]
    (C08_observe_establishes lHeap f10Key lGraph 0 (by decide))).2.2.1 0 1 rfl lCore).1

example : cnt lSt.H (.trait 1 nValue) (.user f10Key) = 2 ∧
    cnt (mutate {} lSt (.listDel 100 0)).st.H (.trait 1 nValue) (.user f10Key) = 1 := by decide

/-- `a.kids = [b, b, c]`, `kids.items.value`; `kids[0:3] = [b, c, c]`; `del kids[2]`: `c` is still
in the list, its reference count is 1 and bumping `c.value` calls the handler once. -/
example :
    let h0 : Heap := [(0, .inst [fld nKids (.ref 100), fld nTraitAdded .unset]),
                      (1, .inst [fld nValue (.int 0), fld nTraitAdded .unset]),
                      (2, .inst [fld nValue (.int 0), fld nTraitAdded .unset]),
                      (100, .list [1, 1, 2])]
    let s0 : St := ⟨h0, (addRemove h0 f10Key false true lGraph (some 0) Hooks.empty).H⟩
    let s1 := (mutate {} s0 (.listSlice 100 0 3 [1, 2, 2])).st
    let s2 := (mutate {} s1 (.listDel 100 2)).st
    cnt s1.H (.trait 2 nValue) (.user f10Key) = 2 ∧ cnt s2.H (.trait 2 nValue) (.user f10Key) = 1 ∧
    (mutate {} s2 (.setField 2 nValue (.int 1) 0)).delivered = [.trait f10Key 2 nValue (.int 0) (.int 1)] := by
  decide

/-- an all-quiet graph exists and `QuietInv` holds of the empty hooks -/
example : (Graph.node (.named nChild false false) [.node (.named nValue false false) []]).quiet = true ∧
    QuietInv Hooks.empty f10Key := ⟨by decide, by intro o n hn; simp [Hooks.empty] at hn⟩

/-! non-vacuity of `C08_hooks_eq_reach_partial_set`: `a.group = {b, c}`, `group.items.value`
observed on `a` (state `SetWitness.sSt`, hypotheses `SetWitness.sCoreDiscard` / `sCoreAdd` /
`sCoreClear` proved in Lemmas/ObsInvSetItems.lean) -/
open SetWitness in
/-- the theorem applies to `a.group.discard(b)` … -/
example : HooksEqReach (mutate {} sSt (.setDiscard 100 1)).st.h (mutate {} sSt (.setDiscard 100 1)).st.H sRegs :=
  ((C08_hooks_eq_reach_partial_set {} sSt sRegs 100 [1, 2]
    (C08_observe_establishes sHeap sKey sGraph 0 (by decide))).2.1 1 (by decide) (by decide) sCoreDiscard).1

open SetWitness in
/-- … `b.value` is released and `c.value` stays hooked -/
example : cnt sSt.H (.trait 1 nValue) (.user sKey) = 1 ∧
    cnt (mutate {} sSt (.setDiscard 100 1)).st.H (.trait 1 nValue) (.user sKey) = 0 ∧
    cnt (mutate {} sSt (.setDiscard 100 1)).st.H (.trait 2 nValue) (.user sKey) = 1 := by decide

open SetWitness in
/-- … and to `a.group.add(d)`: `d.value` gets hooked, and bumping it is delivered once -/
example : HooksEqReach (mutate {} sSt (.setAdd 100 3)).st.h (mutate {} sSt (.setAdd 100 3)).st.H sRegs :=
  ((C08_hooks_eq_reach_partial_set {} sSt sRegs 100 [1, 2]
    (C08_observe_establishes sHeap sKey sGraph 0 (by decide))).1 3 (by decide) sCoreAdd).1

open SetWitness in
example : cnt sSt.H (.trait 3 nValue) (.user sKey) = 0 ∧
    cnt (mutate {} sSt (.setAdd 100 3)).st.H (.trait 3 nValue) (.user sKey) = 1 ∧
    (mutate {} (mutate {} sSt (.setAdd 100 3)).st (.setField 3 nValue (.int 8) 0)).delivered =
      [.trait sKey 3 nValue (.int 7) (.int 8)] := by decide

open SetWitness in
/-- … and to `a.group.clear()`: everything below the set is released, one event is delivered -/
example : HooksEqReach (mutate {} sSt (.setClear 100)).st.h (mutate {} sSt (.setClear 100)).st.H sRegs :=
  ((C08_hooks_eq_reach_partial_set {} sSt sRegs 100 [1, 2]
    (C08_observe_establishes sHeap sKey sGraph 0 (by decide))).2.2.1 (by decide) sCoreClear).1

open SetWitness in
example : cnt (mutate {} sSt (.setClear 100)).st.H (.trait 1 nValue) (.user sKey) = 0 ∧
    cnt (mutate {} sSt (.setClear 100)).st.H (.trait 2 nValue) (.user sKey) = 0 ∧
    (mutate {} sSt (.setClear 100)).delivered = [.set sKey 100 [1, 2] []] := by decide

/-! non-vacuity of `C08_hooks_eq_reach_partial_dict`: `a.byname = {1: b, 2: b}` — the SAME object
under two keys —, `byname.items.value` observed on `a` (state `DictWitness.dSt`, hypotheses
`DictWitness.dCoreDel` / `dCoreOverwrite` / `dCoreNew` / `dCoreClear` proved in
Lemmas/ObsInvDictItems.lean) -/
open DictWitness in
/-- the theorem applies to `del a.byname[1]` … -/
example : HooksEqReach (mutate {} dSt (.dictDel 100 1)).st.h (mutate {} dSt (.dictDel 100 1)).st.H dRegs :=
  ((C08_hooks_eq_reach_partial_dict {} dSt dRegs 100 [(1, 1), (2, 1)]
    (C08_observe_establishes dHeap dKey dGraph 0 (by decide))).2.2.1 1 1 1 rfl (by decide) dCoreDel).1

open DictWitness in
/-- … the reference count on `b.value` goes 2 ↦ 1 (`b` is still there under key 2) and a later
`b.value = 4` is delivered once -/
example : cnt dSt.H (.trait 1 nValue) (.user dKey) = 2 ∧
    cnt (mutate {} dSt (.dictDel 100 1)).st.H (.trait 1 nValue) (.user dKey) = 1 ∧
    (mutate {} (mutate {} dSt (.dictDel 100 1)).st (.setField 1 nValue (.int 4) 0)).delivered =
      [.trait dKey 1 nValue (.int 3) (.int 4)] := by decide

open DictWitness in
/-- … to `a.byname[2] = c` (existing key): `b.value` 2 ↦ 1, `c.value` 0 ↦ 1, one event `{2: b} → {2: c}` -/
example : HooksEqReach (mutate {} dSt (.dictSet 100 2 2)).st.h (mutate {} dSt (.dictSet 100 2 2)).st.H dRegs :=
  ((C08_hooks_eq_reach_partial_dict {} dSt dRegs 100 [(1, 1), (2, 1)]
    (C08_observe_establishes dHeap dKey dGraph 0 (by decide))).2.1 2 2 2 1 rfl (by decide) dCoreOverwrite).1

open DictWitness in
example : cnt (mutate {} dSt (.dictSet 100 2 2)).st.H (.trait 1 nValue) (.user dKey) = 1 ∧
    cnt (mutate {} dSt (.dictSet 100 2 2)).st.H (.trait 2 nValue) (.user dKey) = 1 ∧
    (mutate {} dSt (.dictSet 100 2 2)).delivered = [.dict dKey 100 [(2, 1)] [(2, 2)]] := by decide

open DictWitness in
/-- … to `a.byname[3] = c` (new key): `c.value` gets hooked, `b.value` keeps its two references -/
example : HooksEqReach (mutate {} dSt (.dictSet 100 3 2)).st.h (mutate {} dSt (.dictSet 100 3 2)).st.H dRegs :=
  ((C08_hooks_eq_reach_partial_dict {} dSt dRegs 100 [(1, 1), (2, 1)]
    (C08_observe_establishes dHeap dKey dGraph 0 (by decide))).1 3 2 rfl dCoreNew).1

open DictWitness in
example : cnt dSt.H (.trait 2 nValue) (.user dKey) = 0 ∧
    cnt (mutate {} dSt (.dictSet 100 3 2)).st.H (.trait 2 nValue) (.user dKey) = 1 ∧
    cnt (mutate {} dSt (.dictSet 100 3 2)).st.H (.trait 1 nValue) (.user dKey) = 2 := by decide

open DictWitness in
/-- … and to `a.byname.clear()`: both references to `b.value` are released -/
example : HooksEqReach (mutate {} dSt (.dictClear 100)).st.h (mutate {} dSt (.dictClear 100)).st.H dRegs :=
  ((C08_hooks_eq_reach_partial_dict {} dSt dRegs 100 [(1, 1), (2, 1)]
    (C08_observe_establishes dHeap dKey dGraph 0 (by decide))).2.2.2 (by decide) dCoreClear).1

open DictWitness in
example : cnt (mutate {} dSt (.dictClear 100)).st.H (.trait 1 nValue) (.user dKey) = 0 ∧
    (mutate {} dSt (.dictClear 100)).delivered = [.dict dKey 100 [(1, 1), (2, 1)] []] := by decide

/-! non-vacuity of `C08_hooks_eq_reach_partial_add_trait`: `a.child = b`, `b` without a `value`
trait, graph `child` → optional `value` → optional `child` observed on `a` (state
`AddWitness.aSt`, hypotheses `AddWitness.aCore` proved in Lemmas/ObsInvAddTrait.lean) -/
open AddWitness in
/-- the theorem applies to `b.add_trait("value", …)` … -/
example : HooksEqReach (mutate {} aSt (.addTrait 1 nValue false (.val (.int 0)))).st.h
    (mutate {} aSt (.addTrait 1 nValue false (.val (.int 0)))).st.H aRegs :=
  ((C08_hooks_eq_reach_partial_add_trait {} aSt aRegs 1 nValue false (.val (.int 0)) aFs).1
    (C08_observe_establishes aHeap aKey aGraph 0 (by decide)) aCore rfl).1

open AddWitness in
/-- … `b.value` gets the user notifier and the maintainer for the link below it (nothing was
there before), and a later `b.value = 4` is delivered to the handler -/
example : cnt aSt.H (.trait 1 nValue) (.user aKey) = 0 ∧
    cnt (mutate {} aSt (.addTrait 1 nValue false (.val (.int 0)))).st.H (.trait 1 nValue) (.user aKey) = 1 ∧
    cnt (mutate {} aSt (.addTrait 1 nValue false (.val (.int 0)))).st.H (.trait 1 nValue)
      (.maint .trait (.node (.named nChild true true) []) aKey) = 1 ∧
    ((mutate {} (mutate {} aSt (.addTrait 1 nValue false (.val (.int 0)))).st
      (.setField 1 nValue (.int 4) 0)).delivered.filter (fun d => d.key == aKey)).length = 1 := by decide

/-! non-vacuity of `C08_default_materialise_container_partial`: `a.kids` a `List` trait never read,
`kids.items.value` observed on `a` (state `ContDefaultWitness.cSt`; `cUnref`, `cFrag` proved in
Lemmas/ObsInvContDefault.lean) -/
open ContDefaultWitness in
/-- the theorem applies to the first read of `a.kids` (fresh list = cell 100) … -/
example : HooksEqReach (mutate {} cSt (.read 0 nKids 100)).st.h (mutate {} cSt (.read 0 nKids 100)).st.H cRegs :=
  ((C08_default_materialise_container_partial {} cSt cRegs 0 nKids 100 cFs kidsF
    (C08_observe_establishes cHeap cKey cGraph 0 (by decide)) cUnref
    (by intro r hr; simp [cRegs] at hr; subst hr; decide) rfl).1 rfl cFrag).1

open ContDefaultWitness in
/-- … the fresh list carries the user notifier and the item maintainer, nothing was delivered,
and a later `a.kids.append(b)` hooks `b.value` -/
example : cnt (mutate {} cSt (.read 0 nKids 100)).st.H (.cont 100) (.user cKey) = 1 ∧
    cnt (mutate {} cSt (.read 0 nKids 100)).st.H (.cont 100)
      (.maint .list (.node (.named nValue true false) []) cKey) = 1 ∧
    (mutate {} cSt (.read 0 nKids 100)).delivered = [] ∧
    cnt (mutate {} (mutate {} cSt (.read 0 nKids 100)).st (.listAppend 100 1)).st.H (.trait 1 nValue) (.user cKey) = 1 := by
  decide


/-! ### `filtered` nodes (`*`, `+metadata`) inside the fragments -/

/-- Assignment `o.n = v` to a materialised trait when the registrations MAY contain `filtered`
nodes (`*`, `+metadata`): the hooks are again exactly the from-scratch hooks of the new heap and
nothing raises.  `C08_hooks_eq_reach_partial` without `noFiltered`; what replaces it is
`SetFragF.shape`: `f` is the only field of `o` called `n` (trait names of an object are distinct,
`Shape.of_nodup`) — a filter's verdict on a trait depends on its name and metadata, which an
assignment does not change.  A `filtered` node standing on `o` whose filter matches `n` reads the
assigned trait among all the other matching traits of `o`; those are left alone (`shapeCell`,
Lemmas/ObsInvFiltered.lean).  `noSelfReach` (F10) and `eqStruct` stay. -/
theorem C08_hooks_eq_reach_partial_filtered (E : Env) (st : St) (regs : List Reg) (o : Id) (n : Name) (v : Val)
    (fresh : Id) (f : Field) (pre post : List Field) (hinv : HooksEqReach st.h st.H regs)
    (fr : SetFragF E st regs o n v f pre post) (hset : f.val ≠ .unset) :
    HooksEqReach (mutate E st (.setField o n v fresh)).st.h (mutate E st (.setField o n v fresh)).st.H regs ∧
    (mutate E st (.setField o n v fresh)).err = none :=
  setField_preservesF E st regs o n v fresh f pre post hinv fr hset

/-! non-vacuity of `C08_hooks_eq_reach_partial_filtered`: `a.child = b`, a quiet `*` node on `a`
above an optional notifying `value` (state `FilteredWitness.wSt`, hypotheses `FilteredWitness.wFrag`
proved in Lemmas/ObsInvFiltered.lean); `a.child = c` -/
open FilteredWitness in
example : HooksEqReach (mutate {} wSt (.setField 0 nChild (.ref 2) 0)).st.h
    (mutate {} wSt (.setField 0 nChild (.ref 2) 0)).st.H wRegs :=
  (C08_hooks_eq_reach_partial_filtered {} wSt wRegs 0 nChild (.ref 2) 0 (FilteredWitness.fld nChild (.ref 1))
    [FilteredWitness.fld nValue (.int 0)] [FilteredWitness.fld nTraitAdded .unset] wInv wFrag
    (by simp [FilteredWitness.fld])).1

open FilteredWitness in
/-- `c.value` hooked, `b.value` released, and `c.value = 6` is delivered once -/
example : cnt wSt.H (.trait 1 nValue) (.user wKey) = 1 ∧
    cnt (mutate {} wSt (.setField 0 nChild (.ref 2) 0)).st.H (.trait 2 nValue) (.user wKey) = 1 ∧
    cnt (mutate {} wSt (.setField 0 nChild (.ref 2) 0)).st.H (.trait 1 nValue) (.user wKey) = 0 ∧
    (mutate {} (mutate {} wSt (.setField 0 nChild (.ref 2) 0)).st (.setField 2 nValue (.int 6) 0)).delivered =
      [.trait wKey 2 nValue (.int 5) (.int 6)] := by decide

/-- Mutations of an observed list when the registrations MAY contain `filtered` nodes (`*`,
`+metadata`), above or below the list: `C08_hooks_eq_reach_partial_list` / `_slice` with `ListCoreF`
= `ListCore` WITHOUT `noFiltered` and no hypothesis in its place — a container cell is neither read
nor yielded by a `filtered` node (Lemmas/ObsCont.lean: `contCell_ok`, `contCell_rel`). -/
theorem C08_hooks_eq_reach_partial_list_filtered (E : Env) (st : St) (regs : List Reg) (c : Id) (items : List Id)
    (hinv : HooksEqReach st.h st.H regs) :
    (∀ x, ListCoreF E st regs c items (items ++ [x]) (.list items.length [] [x]) →
      HooksEqReach (mutate E st (.listAppend c x)).st.h (mutate E st (.listAppend c x)).st.H regs ∧
      (mutate E st (.listAppend c x)).err = none) ∧
    (∀ i x, i ≤ items.length → ListCoreF E st regs c items (items.take i ++ x :: items.drop i) (.list i [] [x]) →
      HooksEqReach (mutate E st (.listInsert c i x)).st.h (mutate E st (.listInsert c i x)).st.H regs ∧
      (mutate E st (.listInsert c i x)).err = none) ∧
    (∀ i y, items[i]? = some y → ListCoreF E st regs c items (items.eraseIdx i) (.list i [y] []) →
      HooksEqReach (mutate E st (.listDel c i)).st.h (mutate E st (.listDel c i)).st.H regs ∧
      (mutate E st (.listDel c i)).err = none) ∧
    (∀ i x y, items[i]? = some y → ListCoreF E st regs c items (items.set i x) (.list i [y] [x]) →
      HooksEqReach (mutate E st (.listSet c i x)).st.h (mutate E st (.listSet c i x)).st.H regs ∧
      (mutate E st (.listSet c i x)).err = none) ∧
    (items.isEmpty = false → ListCoreF E st regs c items [] (.list 0 items []) →
      HooksEqReach (mutate E st (.listClear c)).st.h (mutate E st (.listClear c)).st.H regs ∧
      (mutate E st (.listClear c)).err = none) ∧
    (∀ xs, xs.isEmpty = false → ListCoreF E st regs c items (items ++ xs) (.list items.length [] xs) →
      HooksEqReach (mutate E st (.listExtend c xs)).st.h (mutate E st (.listExtend c xs)).st.H regs ∧
      (mutate E st (.listExtend c xs)).err = none) ∧
    (∀ i j xs, i ≤ j ∧ j ≤ items.length → (((items.drop i).take (j - i)).isEmpty && xs.isEmpty) = false →
      ListCoreF E st regs c items (items.take i ++ xs ++ items.drop j) (.list i ((items.drop i).take (j - i)) xs) →
      HooksEqReach (mutate E st (.listSlice c i j xs)).st.h (mutate E st (.listSlice c i j xs)).st.H regs ∧
      (mutate E st (.listSlice c i j xs)).err = none) :=
  ⟨fun x core => listAppend_preservesF E st regs c x items hinv core,
   fun i x hi core => listInsert_preservesF E st regs c i x items hi hinv core,
   fun i y hy core => listDel_preservesF E st regs c i y items hy hinv core,
   fun i x y hy core => listSet_preservesF E st regs c i x y items hy hinv core,
   fun hne core => listClear_preservesF E st regs c items hne hinv core,
   fun xs hne core => listExtend_preservesF E st regs c xs items hne hinv core,
   fun i j xs hij hne core => listSlice_preservesF E st regs c i j xs items hij hne hinv core⟩

/-! non-vacuity: `a.kids = [b]` observed through a quiet `*` node on `a` (`*` → optional `items` →
`value`; state `FilteredListWitness.wSt`, hypotheses `wCore`); `a.kids.append(c)` -/
open FilteredListWitness in
example : HooksEqReach (mutate {} wSt (.listAppend 100 2)).st.h (mutate {} wSt (.listAppend 100 2)).st.H wRegs :=
  ((C08_hooks_eq_reach_partial_list_filtered {} wSt wRegs 100 [1] wInv).1 2 wCore).1

open FilteredListWitness in
example : cnt wSt.H (.trait 2 nValue) (.user wKey) = 0 ∧
    cnt (mutate {} wSt (.listAppend 100 2)).st.H (.trait 2 nValue) (.user wKey) = 1 ∧
    cnt (mutate {} wSt (.listAppend 100 2)).st.H (.trait 1 nValue) (.user wKey) = 1 := by decide

/-- Mutations of an observed SET container when the registrations MAY contain `filtered` nodes:
`C08_hooks_eq_reach_partial_set` with `SetCoreF` = `SetCore` WITHOUT `noFiltered`, nothing in its
place (Lemmas/ObsInvSetItems.lean). -/
theorem C08_hooks_eq_reach_partial_set_filtered (E : Env) (st : St) (regs : List Reg) (c : Id) (items : List Id)
    (hinv : HooksEqReach st.h st.H regs) :
    (∀ x, x ∉ items → SetCoreF E st regs c items (insertSorted x items) (.set [] [x]) →
      HooksEqReach (mutate E st (.setAdd c x)).st.h (mutate E st (.setAdd c x)).st.H regs ∧
      (mutate E st (.setAdd c x)).err = none) ∧
    (∀ x, x ∈ items → items.Nodup → SetCoreF E st regs c items (items.filter (· != x)) (.set [x] []) →
      HooksEqReach (mutate E st (.setDiscard c x)).st.h (mutate E st (.setDiscard c x)).st.H regs ∧
      (mutate E st (.setDiscard c x)).err = none) ∧
    (items.isEmpty = false → SetCoreF E st regs c items [] (.set items []) →
      HooksEqReach (mutate E st (.setClear c)).st.h (mutate E st (.setClear c)).st.H regs ∧
      (mutate E st (.setClear c)).err = none) :=
  ⟨fun x hx core => setAdd_preservesF E st regs c x items hx hinv core,
   fun x hx hnd core => setDiscard_preservesF E st regs c x items hx hnd hinv core,
   fun hne core => setClear_preservesF E st regs c items hne hinv core⟩

/-- Mutations of an observed DICT container when the registrations MAY contain `filtered` nodes:
`C08_hooks_eq_reach_partial_dict` with `DictCoreF` = `DictCore` WITHOUT `noFiltered`. -/
theorem C08_hooks_eq_reach_partial_dict_filtered (E : Env) (st : St) (regs : List Reg) (c : Id) (d : List (Key × Id))
    (hinv : HooksEqReach st.h st.H regs) :
    (∀ k x, d.find? (·.1 == k) = none → DictCoreF E st regs c d (d ++ [(k, x)]) (.dict [] [(k, x)]) →
      HooksEqReach (mutate E st (.dictSet c k x)).st.h (mutate E st (.dictSet c k x)).st.H regs ∧
      (mutate E st (.dictSet c k x)).err = none) ∧
    (∀ k k' x y, d.find? (·.1 == k) = some (k', y) → (d.map (·.1)).Nodup →
      DictCoreF E st regs c d (d.map (fun kv => if kv.1 == k then (k, x) else kv)) (.dict [(k, y)] [(k, x)]) →
      HooksEqReach (mutate E st (.dictSet c k x)).st.h (mutate E st (.dictSet c k x)).st.H regs ∧
      (mutate E st (.dictSet c k x)).err = none) ∧
    (∀ k k' y, d.find? (·.1 == k) = some (k', y) → (d.map (·.1)).Nodup →
      DictCoreF E st regs c d (d.filter (·.1 != k)) (.dict [(k, y)] []) →
      HooksEqReach (mutate E st (.dictDel c k)).st.h (mutate E st (.dictDel c k)).st.H regs ∧
      (mutate E st (.dictDel c k)).err = none) ∧
    (d.isEmpty = false → DictCoreF E st regs c d [] (.dict d []) →
      HooksEqReach (mutate E st (.dictClear c)).st.h (mutate E st (.dictClear c)).st.H regs ∧
      (mutate E st (.dictClear c)).err = none) :=
  ⟨fun k x hk core => dictSet_new_preservesF E st regs c k x d hk hinv core,
   fun k k' x y hk hnd core => dictSet_overwrite_preservesF E st regs c k k' x y d hk hnd hinv core,
   fun k k' y hk hnd core => dictDel_preservesF E st regs c k k' y d hk hnd hinv core,
   fun hne core => dictClear_preservesF E st regs c d hne hinv core⟩

/-! non-vacuity: `a.group = {b, c}` / `a.byname = {1: b, 2: b}` observed through a quiet `*` node on `a`
(`*` → optional items → `value`; `FilteredSetWitness` / `FilteredDictWitness` in Lemmas/ObsInvSetItems.lean, ObsInvDictItems.lean) -/
open FilteredSetWitness in
example : HooksEqReach (mutate {} wSt (.setDiscard 100 1)).st.h (mutate {} wSt (.setDiscard 100 1)).st.H wRegs :=
  ((C08_hooks_eq_reach_partial_set_filtered {} wSt wRegs 100 [1, 2] wInv).2.1 1 (by decide) (by decide) wCore).1

open FilteredSetWitness in
example : cnt wSt.H (.trait 1 nValue) (.user wKey) = 1 ∧
    cnt (mutate {} wSt (.setDiscard 100 1)).st.H (.trait 1 nValue) (.user wKey) = 0 ∧
    cnt (mutate {} wSt (.setDiscard 100 1)).st.H (.trait 2 nValue) (.user wKey) = 1 := by decide

open FilteredDictWitness in
/-- the same object under two keys, one key deleted: reference count 2 ↦ 1 -/
example : HooksEqReach (mutate {} wSt (.dictDel 100 1)).st.h (mutate {} wSt (.dictDel 100 1)).st.H wRegs :=
  ((C08_hooks_eq_reach_partial_dict_filtered {} wSt wRegs 100 [(1, 1), (2, 1)] wInv).2.2.1 1 1 1 rfl (by decide) wCore).1

open FilteredDictWitness in
example : cnt wSt.H (.trait 1 nValue) (.user wKey) = 2 ∧
    cnt (mutate {} wSt (.dictDel 100 1)).st.H (.trait 1 nValue) (.user wKey) = 1 := by decide

/-- `o.add_trait(n, …)` for a NEW name when the registrations MAY contain `filtered` nodes:
`C08_hooks_eq_reach_partial_add_trait` (first conjunct) with `AddCoreF` = `AddCore` WITHOUT
`noFiltered`, nothing in its place.  A `filtered` node standing on `o` whose filter matches the new
trait (always for `*`, iff `tagged` for `+tag`) gains the observable `o.n` next to those it already
had, like a `named n` node; its `trait_added` maintainer matches and hooks exactly that
(Lemmas/ObsInvAddTrait.lean: `AddRel`, `add_dec`, `added_at`, `addG_gains`). -/
theorem C08_hooks_eq_reach_partial_add_trait_filtered (E : Env) (st : St) (regs : List Reg) (o : Id) (n : Name)
    (tagged : Bool) (d : Dflt) (fs : List Field) (hinv : HooksEqReach st.h st.H regs)
    (core : AddCoreF E st regs o n tagged d fs) (hn : findField fs n = none) :
    HooksEqReach (mutate E st (.addTrait o n tagged d)).st.h (mutate E st (.addTrait o n tagged d)).st.H regs ∧
    (mutate E st (.addTrait o n tagged d)).err = none :=
  addTrait_preservesF E st regs o n tagged d fs hinv core hn

/-! non-vacuity: `a.child = b`, `child.*` observed on `a` (notifying `*` node on `b`; state
`FilteredAddWitness.aSt`, hypotheses `aCore`); `b.add_trait("value", …)` -/
open FilteredAddWitness in
example : HooksEqReach (mutate {} aSt (.addTrait 1 nValue false (.val (.int 0)))).st.h
    (mutate {} aSt (.addTrait 1 nValue false (.val (.int 0)))).st.H aRegs :=
  (C08_hooks_eq_reach_partial_add_trait_filtered {} aSt aRegs 1 nValue false (.val (.int 0)) aFs aInv aCore rfl).1

open FilteredAddWitness in
/-- the new trait is hooked by the `*` node, and a later `b.value = 4` is delivered once -/
example : cnt aSt.H (.trait 1 nValue) (.user aKey) = 0 ∧
    cnt (mutate {} aSt (.addTrait 1 nValue false (.val (.int 0)))).st.H (.trait 1 nValue) (.user aKey) = 1 ∧
    ((mutate {} (mutate {} aSt (.addTrait 1 nValue false (.val (.int 0)))).st
      (.setField 1 nValue (.int 4) 0)).delivered.filter (fun d => d.key == aKey)).length = 1 := by decide

/-! ### the maintainer is the interpreted source -/

open TraitsVerif.Model.ObsL in
/-- SOURCE TIE.  What a `.trait` maintainer does when its link changes — `maintTrait … .trait` = `removeOld` (walk
the downstream graph from the old value with remove=True unless the value is Undefined / Uninitialized / None,
swallowing NotifierNotFound) then `addNew` — is the interpretation of `observer_change_handler`
(_has_traits_helpers.py) as translated by harness/translate/obsl.py, including the `UNOBSERVABLE_VALUES` list (its
three names are part of the generated term and are compared by identity), for every heap, graph, handler key,
old / new value and well-formed hooks. -/
theorem C08_maintain_is_source (h : Heap) (k : HKey) (g : Graph) (o : Id) (old new : Val) (H : Hooks) (hw : WF H)
    (n : Nat) (hn : need g ≤ n) :
    run h Generated.observeProg (n + 1) (.fn "observer_change_handler" (handlerArgs old new g k)) (H, []) =
      (((maintTrait h .trait g k o old new H).H, []), flowOf (maintTrait h .trait g k o old new H).err) ∧
    Generated.observeProg.unobservable = ["Undefined", "Uninitialized", "None"] :=
  ⟨run_change_handler h k g o old new H hw n hn, rfl⟩

/-! ### `del obj.trait` (`Mutation.delField`, ctraits.c:2441-2489) -/

/-- STATED EXCEPTION (finding F99, known).  `HooksEqReach` is NOT preserved by `del obj.trait` when
the default is an object: `a.child` holds its dynamic default `d`, `a.observe(h, "child.value")`,
the invariant holds; `del a.child` reads the attribute back through `getattr_trait`, which announces
`Uninitialized -> d`, and (when the value changed) announces `old -> d` again: `d.value` carries the
user notifier with reference count 2 where exactly one path reaches it, and after `a.child = other`
the detached `d` still calls the handler (without the `del` it does not). -/
theorem C08_del_rehooks_default_twice :
    (HooksEqReach DelWitness.wSt.h DelWitness.wSt.H DelWitness.wRegs ∧
      ¬ HooksEqReach DelWitness.wDel.h DelWitness.wDel.H DelWitness.wRegs) ∧
    (cnt DelWitness.wDel.H (.trait 1 nValue) (.user DelWitness.wKey) = 2 ∧
      specCnt DelWitness.wDel.h DelWitness.wRegs (.trait 1 nValue) (.user DelWitness.wKey) = 1) ∧
    (let s1 := (mutate {} DelWitness.wDel (.setField 0 nChild (.ref 2) 0)).st
     specCnt s1.h DelWitness.wRegs (.trait 1 nValue) (.user DelWitness.wKey) = 0 ∧
     (mutate {} s1 (.setField 1 nValue (.int 4) 0)).delivered =
       [.trait DelWitness.wKey 1 nValue (.int 3) (.int 4)]) :=
  ⟨DelWitness.del_breaks_invariant,
   ⟨DelWitness.wDel_facts.2.2.2.2.1, DelWitness.wDel_facts.2.2.2.2.2⟩,
   DelWitness.detached_default_still_notifies⟩

/-- `del obj.trait` preserves `HooksEqReach` (and raises nothing) on the fragment where the double
announcement is harmless: (1) the trait is not in `__dict__` — nothing happens at all
(ctraits.c:2451-2454); (2) its default `d` holds no object (None / Undefined): `Uninitialized -> d`
hooks nothing and `old -> d` is the ordinary assignment of `d`; (3) the trait carries no notifier:
the default comes back silently.  (2) and (3) under the hypotheses `SetFrag` of the assignment
theorem `C08_hooks_eq_reach_partial` for the value `d`.  The full statement — for every default —
is false: `C08_del_rehooks_default_twice`. -/
theorem C08_hooks_eq_reach_partial_del (E : Env) (st : St) (regs : List Reg) (o : Id) (n : Name) (d : Val)
    (fresh : Id) (fs : List Field) (f : Field) (hinv : HooksEqReach st.h st.H regs) :
    (st.h.get o = .inst fs → findField fs n = some f → f.val = .unset →
      mutate E st (.delField o n fresh) = ⟨st, [], none⟩) ∧
    (SetFrag E st regs o n d fs f → f.dflt = .val d → valObjects d = [] →
      HooksEqReach (mutate E st (.delField o n fresh)).st.h (mutate E st (.delField o n fresh)).st.H regs ∧
      (mutate E st (.delField o n fresh)).err = none) ∧
    (SetFrag E st regs o n d fs f → f.dflt = .val d → st.H.get (.trait o n) = [] →
      HooksEqReach (mutate E st (.delField o n fresh)).st.h (mutate E st (.delField o n fresh)).st.H regs ∧
      (mutate E st (.delField o n fresh)).err = none ∧ (mutate E st (.delField o n fresh)).delivered = []) :=
  ⟨fun ho hf hu => delField_unset_noop E st o n fresh fs f ho hf hu,
   fun fr hd hn => delField_preserves_scalar_default E st regs o n d fresh fs f hinv fr hd hn,
   fun fr hd he => delField_preserves_unhooked E st regs o n d fresh fs f hinv fr hd he⟩

/-- non-vacuity of `C08_hooks_eq_reach_partial_del` (2): `mate` holds `d`, its default is None;
`del a.mate` unhooks `d.value` and delivers the one change event -/
example :
    cnt DelWitness.pSt.H (.trait 1 nValue) (.user DelWitness.wKey) = 1 ∧
    cnt (mutate {} DelWitness.pSt (.delField 0 nMate 100)).st.H (.trait 1 nValue) (.user DelWitness.wKey) = 0 ∧
    (mutate {} DelWitness.pSt (.delField 0 nMate 100)).delivered =
      [.trait DelWitness.wKey 0 nMate (.ref 1) .none] := by
  decide

open TraitsVerif.Model.ObsL in
/-- SOURCE TIE.  What an item maintainer does when its container changes — `maintCont`: walk the downstream graph
from every removed item with remove=True, then from every added item with remove=False, each walk an outermost
call with its own undo log, the first exception propagating — is the interpretation of the three
`_observer_change_handler` functions (_list_item_observer.py, _dict_item_observer.py — over `.values()` —,
_set_item_observer.py) as translated by harness/translate/obsl.py, for every heap, graph, handler key, change
event and well-formed hooks. -/
theorem C08_maintain_items_is_source (h : Heap) (k : HKey) (g : Graph) (ev : CEvent) (H : Hooks) (hw : WF H)
    (n : Nat) (hn : need g ≤ n) :
    run h Generated.observeProg (n + 1) (.fn (contHandlerName ev) (contHandlerArgs ev g k)) (H, []) =
      (((maintCont h g k ev H).H, []), flowOf (maintCont h g k ev H).err) :=
  run_cont_handler h k g ev H hw n hn

end TraitsVerif.Props.C08
