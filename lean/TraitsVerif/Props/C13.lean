/-
C13 — every attribute name is governed by the right trait and its access policy.

Only property theorems and non-vacuity examples live here; the model is
Model/Resolve.lean, helper lemmas are Lemmas/Resolve*.lean.

Vocabulary (Lemmas/):
  `Governs c o name isSet r`   the property's resolution order, declaratively
  `Dispatch c o name isSet r`  the trait the model's lookup dispatches to
  `Inv w`                      no delegate traits + every class dictionary is
                               "declared traits + coherent cache"
                                 (`NoDeleg w`, which also says that no object has
                               a `trait_added` listener that adds traits)
  `SafeHist E w ops`           every class definition in `ops` derives from
                               classes whose cache is still empty at that moment
  `GovAt P w oi name`          every trait the lookup of `name` on object `oi`
                               can be dispatched to (now or after any cache
                               fill) satisfies `P`
  `DictAt w oi name r`         `obj.__dict__.get(name) = r`

Where the code deviates from the universally quantified statement the full
statement is kept as a `def … : Prop`, the proved part is `…_partial`-style
(here: the theorem with its explicit hypothesis) and a negation witness is
proved; the oracle of harness/props/c13.py replays the same witnesses on the
real code (known findings F50-F54).
-/
import TraitsVerif.Lemmas.ResolvePolicy
import TraitsVerif.Lemmas.ResolveSourcePolicy
import TraitsVerif.Lemmas.ResolveSourceMethods
import TraitsVerif.Lemmas.ResolveSource3
import TraitsVerif.Lemmas.ResolveSource4
import TraitsVerif.Generated.PrefixTable
namespace TraitsVerif.Props.C13
open TraitsVerif TraitsVerif.Model.Resolve

/-! ## The tie to the source: how the wildcard table of a class is built -/

open TraitsVerif.Model.PrefixTable in
/-- `harness/translate/prefixtable.py` reads every statement of
`update_traits_class_dict` that touches `prefix_list` / stores into
`prefix_traits`, **in source order**, as steps (`Generated/PrefixTable.lean`:
start empty; declaration loop — a name ending in `_` is a wildcard for
`name[:-1]`; merge of the bases' tables, a prefix only if not yet present;
`''` ↦ `Python()` when absent; `prefix_traits["*"] = prefix_list`;
`prefix_list.sort(key=len, reverse=True)`).  For **all** bases and declarations
the model's table `(mkClass bases decls).prefixes` is the interpretation of
those steps — so their order (e.g. sorting before the bases are merged), the
wildcard test, the stem, the guard of the merge, the default key and the sort
key / direction are the source's. -/
theorem C13_prefix_table_is_source (bases : List Cls) (decls : List (Name × Trait)) :
    tableOf bases decls Generated.PrefixTable.steps = some (mkClass bases decls).prefixes := by
  simp only [tableOf, Generated.PrefixTable.steps, List.foldl, stepT]
  simp only [mkClass, ensureDefault, ownPrefixes, endsUnderscore, stem, bne, Bool.not_not]
  rfl

/-! ## The tie to the source: the lookup code itself

`harness/translate/resolve_c.py` and `resolve_py.py` turn the source text of
`get_prefix_trait`, `has_traits_setattro`, `has_traits_getattro`, `get_trait`,
`setattr_python / _disallow / _readonly / _constant`, `getattr_event /
_disallow / _constant` and the error helpers (ctraits.c) and of
`HasTraits.__prefix_trait__`, `add_trait`, `remove_trait`, `trait`,
`base_trait` (has_traits.py) into programs of the deep-embedded language
`Model/ResL.lean` (Generated/ResolveC.lean, Generated/ResolvePy.lean).  The
theorems below say that the hand-written functions of `Model/Resolve.lean` are
**equal to the interpretation of those programs, for all inputs**.

`ResL.user7 E` is the function environment in which the translated functions
are bound to (the interpretation of) their generated programs (`user8` adds
`_has_traits_trait`; `trait` / `base_trait` are tied by their text only,
`C13_trait_methods_are_modelled`); `St.init w oi o c nI nO` is the start state, `nI` / `nO` saying that the C pointers
`obj->itrait_dict` / `obj->obj_dict` are NULL (only possible while the
dictionary is empty): the theorems hold for both values, i.e. the code treats a
NULL and an empty dictionary alike.  `NoStar c`: no wildcard prefix of the class
is literally `*` (the key under which the code stores the prefix list itself).
The `as…` functions read an interpreter result back into the model's result
type; they return `none` when the interpreter was stuck (unknown statement,
unknown callee, ill-typed primitive call), so every equality below also says
that the interpretation is never stuck. -/

open TraitsVerif.Model.ResL in
/-- `trait->setattr` / `trait->getattr` (the model's `setattrKind` /
`getattrKind`) for the kinds whose handlers are translated: row `kind` of
`setattr_handlers[]` / `getattr_handlers[]` is the named C function, and the
model's arm for that kind equals the interpretation of that function's source
(`setattr_python`, `setattr_disallow`, `setattr_readonly` — including the calls
of `setattr_python` it makes —, `setattr_constant`, `getattr_event`,
`getattr_disallow`, `getattr_constant`; which exception each of them raises is
read from `set_disallow_error`, `set_readonly_error`, `delete_readonly_error`,
`unknown_attribute_error`, whose sources are interpreted as well). -/
theorem C13_policy_is_source (E : Env) (st : St) (t t' : Trait) (k : Name) (value : Option Val)
    (hO : st.nullO = true → st.o.dict = []) :
    (Generated.ResolveC.setattrHandlers[1]? = some .setattr_python ∧
     Generated.ResolveC.setattrHandlers[5]? = some .setattr_disallow ∧
     Generated.ResolveC.setattrHandlers[6]? = some .setattr_readonly ∧
     Generated.ResolveC.setattrHandlers[7]? = some .setattr_constant ∧
     Generated.ResolveC.getattrHandlers[2]? = some .getattr_event ∧
     Generated.ResolveC.getattrHandlers[4]? = some .getattr_event ∧
     Generated.ResolveC.getattrHandlers[5]? = some .getattr_disallow ∧
     Generated.ResolveC.getattrHandlers[7]? = some .getattr_constant) ∧
    (t.kind = .python → asDict (user7 E .setattr_python [.trait t', .trait t, .obj, .name k, vOpt value] st)
        = some (setattrKind E t st.o.dict k value)) ∧
    (t.kind = .disallow → asDict (user7 E .setattr_disallow [.trait t', .trait t, .obj, .name k, vOpt value] st)
        = some (setattrKind E t st.o.dict k value)) ∧
    (t.kind = .readonly → asDict (user7 E .setattr_readonly [.trait t', .trait t, .obj, .name k, vOpt value] st)
        = some (setattrKind E t st.o.dict k value)) ∧
    (t.kind = .constant → asDict (user7 E .setattr_constant [.trait t', .trait t, .obj, .name k, vOpt value] st)
        = some (setattrKind E t st.o.dict k value)) ∧
    (t.kind = .event → asValDict (user7 E .getattr_event [.trait t, .obj, .name k] st)
        = some (getattrKind E t st.o.dict k)) ∧
    (t.kind = .disallow → asValDict (user7 E .getattr_disallow [.trait t, .obj, .name k] st)
        = some (getattrKind E t st.o.dict k)) ∧
    (t.kind = .constant → asValDict (user7 E .getattr_constant [.trait t, .obj, .name k] st)
        = some (getattrKind E t st.o.dict k)) := by
  -- `user7` binds each handler to the program `user2` / `user3` binds it to
  refine ⟨by decide, ?_, ?_, fun hk => setattr_readonly_src E st t' t k value hk hO, ?_, ?_, ?_, ?_⟩ <;>
    intro hk
  · simp only [setattrKind, hk]; exact setattr_python_src E st t' t k value hO
  · simp only [setattrKind, hk]; exact setattr_disallow_src E st t' t k value
  · simp only [setattrKind, hk]; exact setattr_constant_src E st t' t k value
  · simp only [getattrKind, hk]; exact getattr_event_src E st t k
  · simp only [getattrKind, hk]; exact getattr_disallow_src E st t k
  · simp only [getattrKind, hk]; exact getattr_constant_src E st t k

open TraitsVerif.Model.ResL in
/-- `HasTraits.__prefix_trait__(name, is_set)`: the model's `prefixTrait` (the
`__xxx__` rules, the `name_` delegate shadow through `self._trait(name[:-1],
0)`, the first match in `prefix_traits["*"]`, SystemError when nothing matches)
is the interpretation of the method's source.  The loop is interpreted for
lists of **any** length (induction in `Lemmas/ResolveSource2.prefix_loop`). -/
theorem C13_prefix_trait_is_source (E : Env) (w : World) (oi : Nat) (o : Obj) (c : Cls) (name : Name) (isSet : Bool)
    (nI nO : Bool) (hI : nI = true → o.itraits = []) (hstar : NoStar c) :
    asTrait (user7 E .m_prefix_trait [.obj, .name name, .int (if isSet then 1 else 0)] (St.init w oi o c nI nO))
      = some (prefixTrait c o name isSet) := by
  rw [show user7 E .m_prefix_trait [.obj, .name name, .int (if isSet then 1 else 0)] (St.init w oi o c nI nO)
    = user5 E .m_prefix_trait [.obj, .name name, .int (if isSet then 1 else 0)] (St.init w oi o c nI nO) from rfl,
    prefix_trait_src E _ name isSet hI hstar]
  unfold prefixTraitV
  simp only [St.init]
  cases h : prefixTrait c o name isSet <;> simp [asTrait]

open TraitsVerif.Model.ResL in
/-- `get_prefix_trait(obj, name, is_set)`: call `__prefix_trait__`, **store the
result in the class dictionary**, fire `trait_added`, resolve the name again
with `get_trait(obj, name, 0)` — the model's `getPrefixTrait` is the
interpretation of the C source (and of the sources it calls). -/
theorem C13_get_prefix_trait_is_source (E : Env) (w : World) (oi : Nat) (o : Obj) (c : Cls) (name : Name)
    (isSet : Bool) (nI nO : Bool) (hI : nI = true → o.itraits = []) (hstar : NoStar c) :
    asWorldTrait (user7 E .get_prefix_trait [.obj, .name name, .int (if isSet then 1 else 0)]
        (St.init w oi o c nI nO))
      = some (getPrefixTrait w oi o c name isSet) := by
  rw [user7_get_prefix_trait]
  cases hpt : prefixTrait c o name isSet with
  | error x =>
    obtain ⟨hm, hr⟩ := get_prefix_trait_error E w oi o c nI nO name isSet _ rfl hI hstar hpt
    rw [hm, St.init, hr]; rfl
  | ok t =>
    obtain ⟨tt, hm, hr⟩ := get_prefix_trait_ok E w oi o c nI nO name isSet _ rfl hI hstar hpt
    rw [hm, St.init, hr]; rfl

open TraitsVerif.Model.ResL in
/-- **The lookup is the source.**  `setattr` / `delattr` (`value = none`) and
`getattr` of the model are the interpretation of `has_traits_setattro` and
`has_traits_getattro`: the `__dict__` short cut of reads, instance-trait
dictionary before class-trait dictionary, `PyObject_GenericGetAttr` before the
prefix fallback on reads, `get_prefix_trait` (with its caching into the class
dictionary) last, then the dispatch through `trait->setattr` / `trait->getattr`,
and `-1` / `NULL` with the pending exception on every failure path. -/
theorem C13_lookup_is_source (E : Env) (w : World) (oi : Nat) (o : Obj) (c : Cls) (name : Name)
    (nI nO : Bool) (hI : nI = true → o.itraits = []) (hO : nO = true → o.dict = []) (hstar : NoStar c) :
    (∀ value : Option Val,
      asSet (user7 E .has_traits_setattro [.obj, .name name, vOpt value] (St.init w oi o c nI nO))
        = some (setattro E w oi o c name value)) ∧
    asGet (user7 E .has_traits_getattro [.obj, .name name] (St.init w oi o c nI nO))
      = some (getattro E w oi o c name) :=
  ⟨fun value => setattro_src E (St.init w oi o c nI nO) name value hI hstar,
   getattro_src E (St.init w oi o c nI nO) name hI hO hstar⟩

open TraitsVerif.Model.ResL in
/-- … and so is what `step` does for `get` / `set` / `del` on an existing object. -/
theorem C13_step_is_source (E : Env) {w : World} {oi : Nat} {o : Obj} {c : Cls}
    (ho : w.objs[oi]? = some o) (hc : w.classes[o.cls]? = some c) (name : Name)
    (nI nO : Bool) (hI : nI = true → o.itraits = []) (hO : nO = true → o.dict = []) (hstar : NoStar c) :
    (∀ v, some (step E w (.set oi name v)) =
      asSet (user7 E .has_traits_setattro [.obj, .name name, .val v] (St.init w oi o c nI nO))) ∧
    some (step E w (.del oi name)) =
      asSet (user7 E .has_traits_setattro [.obj, .name name, .null] (St.init w oi o c nI nO)) ∧
    some (step E w (.get oi name)) =
      asGet (user7 E .has_traits_getattro [.obj, .name name] (St.init w oi o c nI nO)) := by
  refine ⟨fun v => ?_, ?_, ?_⟩
  · rw [step_set_eq E ho hc]; exact (setattro_src E (St.init w oi o c nI nO) name (some v) hI hstar).symm
  · rw [step_del_eq E ho hc]; exact (setattro_src E (St.init w oi o c nI nO) name none hI hstar).symm
  · rw [step_get_eq E ho hc]; exact (getattro_src E (St.init w oi o c nI nO) name hI hO hstar).symm

open TraitsVerif.Model.ResL in
/-- The full-strength statement for `get_trait(obj, name, instance)`: **every**
`instance` (`1`: existing instance trait or None; `0`: existing instance or
class trait or None; negative: force the prefix resolution; `≥ 2`: clone the
resolved trait into the instance-trait dictionary, creating the dictionary when
`obj->itrait_dict` is still NULL), no condition on `trait_added` listeners. -/
def C13_get_trait_is_source_full : Prop :=
  ∀ (E : Env) (w : World) (oi : Nat) (o : Obj) (c : Cls) (name : Name) (inst : Int) (nI nO : Bool),
    (nI = true → o.itraits = []) → NoStar c → w.objs[oi]? = some o →
    asGetTrait (user7 E .get_trait [.obj, .name name, .int inst] (St.init w oi o c nI nO))
      = some (getTrait w oi o c name inst)

open TraitsVerif.Model.ResL in
/-- The model's `getTrait` is the interpretation of the C source of `get_trait`,
at full strength.  The case that needs care is `nI = true` with a firing
listener (finding F106, repaired in /repo by 80abfdf): a `trait_added` handler
creates the instance-trait dictionary during `get_prefix_trait`, so the function
must re-read `obj->itrait_dict` after that call instead of testing the NULL it
read before; the example below runs this case. -/
theorem C13_get_trait_is_source : C13_get_trait_is_source_full := by
  intro E w oi o c name inst nI nO hI hstar ho
  exact get_trait_src E (St.init w oi o c nI nO) name inst hI hstar ho

open TraitsVerif.Model.ResL in
/-- The Python method `_trait(name, instance)`: `has_traits_methods[]` binds it to
`_has_traits_trait`, whose source (read with `PyArg_ParseTuple(args, "Oi",
&name, &instance)` as the binding of its two parameters) returns exactly what
`get_trait(obj, name, instance)` returns for every `instance ≥ -1` — which is
why the interpreter runs the program of `get_trait` for `self._trait(...)`
(`Fn.m_trait`).  The delegate chain of `instance = -2` (`base_trait`) is not
interpreted. -/
theorem C13_trait_call_is_source (E : Env) (st : St) (name : Name) (inst : Int) (hinst : -1 ≤ inst) :
    Generated.ResolveC.traitMethodRow = ("_has_traits_trait", "METH_VARARGS") ∧
    asGetTrait (user8 E .has_traits_trait [.obj, .name name, .int inst] st) =
      asGetTrait (user7 E .get_trait [.obj, .name name, .int inst] st) ∧
    user7 E .m_trait [.obj, .name name, .int inst] st = user7 E .get_trait [.obj, .name name, .int inst] st :=
  ⟨rfl, has_traits_trait_src E st name inst hinst, rfl⟩

/-- An object without instance-trait dictionary whose `trait_added` listener adds
an instance trait for every new name. -/
def staleObj : Obj := { cls := 0, hooks := [([], { kind := .trait, dflt := .int 7, tag := 9 })] }
def staleCls : Cls := { ctraits := [], prefixes := [([], pythonDefault)], decl := [] }
def staleWorld : World := { classes := [staleCls], objs := [staleObj] }

open TraitsVerif.Model.ResL in
/-- Regression for F106, on the interpretation of the repaired source: after
`_trait('a', 2)` on that object (NULL dictionary, listener fires during the
resolution) the instance trait the listener added is still there and governs. -/
example :
    (asGetTrait (user7 Env.sample .get_trait [.obj, .name ['a'], .int 2]
        (St.init staleWorld 0 staleObj staleCls true false))).map
      (fun r => (r.1.objs.map (fun o => (o.itraits.get ['a']).map (·.tag)), r.2)) =
    some ([some 9], .ok (.trait (some { kind := .trait, dflt := .int 7, tag := 9 }))) := by
  decide +kernel

open TraitsVerif.Model.ResL in
/-- `add_trait(name, trait)` and `remove_trait(name)` of the model are the
interpretation of the Python methods (statements about companion `_items` /
mapped traits and about static notifiers are `ghost`: their text is pinned by
the translator, anything else in their place makes the interpreter stuck). -/
theorem C13_add_remove_is_source (E : Env) (w : World) (oi : Nat) (o : Obj) (c : Cls) (name : Name)
    (nI nO : Bool) (hI : nI = true → o.itraits = []) (ho : w.objs[oi]? = some o) :
    (∀ t : Trait, asPy (user7 E .m_add_trait [.obj, .name name, .trait t] (St.init w oi o c nI nO))
        = some (addTrait w oi o c name t)) ∧
    asPy (user7 E .m_remove_trait [.obj, .name name] (St.init w oi o c nI nO))
      = some (removeTrait w oi o c name) :=
  ⟨fun t => add_trait_src E (St.init w oi o c nI nO) name t hI, remove_trait_src E (St.init w oi o c nI nO) name hI ho⟩

open TraitsVerif.Model.ResL in
/-- `trait(name, force, copy)` is `_trait(name, -1 if force else 0)` (cloned when
`copy`), `base_trait(name)` is `_trait(name, -2)`: the translated bodies are
the ones `Op.getTrait` was written for (a rigid tie: any edit breaks it). -/
theorem C13_trait_methods_are_modelled :
    Generated.ResolvePy.trait_method.body =
      [.expr (.asg .l0 (.lit (.int 0))),
       .ite (.var .p2) [.expr (.asg .l0 (.lit (.int (-1))))] [],
       .expr (.asg .l1 (.call .m_trait [.var .p0, .var .p1, .var .l0])),
       .ite (.or (.not (.var .p3)) (.call .eq [.var .l1, .lit .none])) [.ret (.var .l1)] [],
       .ret (.call .clone_trait [.var .l1])] ∧
    Generated.ResolvePy.trait_method.params = [.p0, .p1, .p2, .p3] ∧
    Generated.ResolvePy.trait_method_defaults = ["False", "False"] ∧
    Generated.ResolvePy.base_trait.body = [.ret (.call .m_trait [.var .p0, .var .p1, .lit (.int (-2))])] ∧
    Generated.ResolvePy.base_trait.params = [.p0, .p1] :=
  ⟨rfl, rfl, rfl, rfl, rfl⟩

/-! ## Longest prefix -/

/-- For **all** wildcard lists and **all** names: the first entry, in the list
sorted by descending length, whose prefix equals `name[:len(prefix)]`
(i) is an entry of the list and a prefix of the name, (ii) has maximal length
among all matching entries, (iii) is the only matching prefix of that length;
(iv) the '' wildcard makes the search total; (v) no match found means none
exists; (vi) the sort is a stable permutation sorted longest first. -/
theorem C13_longest_prefix (ps : List (Name × Trait)) (name : Name) :
    (∀ e, firstMatch (sortPrefixes ps) name = some e →
        e ∈ ps ∧ e.1 <+: name ∧
        (∀ e' ∈ ps, e'.1 <+: name → e'.1.length ≤ e.1.length) ∧
        (∀ e' ∈ ps, e'.1 <+: name → e'.1.length = e.1.length → e'.1 = e.1)) ∧
    ((∃ t, ([], t) ∈ ps) → ∃ e, firstMatch (sortPrefixes ps) name = some e) ∧
    (firstMatch (sortPrefixes ps) name = none → ∀ e ∈ ps, ¬ e.1 <+: name) ∧
    ((sortPrefixes ps).Perm ps ∧ Sorted (sortPrefixes ps) ∧
      ∀ n, (sortPrefixes ps).filter (fun x => x.1.length = n) = ps.filter (fun x => x.1.length = n)) := by
  refine ⟨?_, ?_, ?_, sortPrefixes_perm ps, sortPrefixes_sorted ps, sortPrefixes_stable ps⟩
  · intro e h
    obtain ⟨hm, hp⟩ := firstMatch_some h
    have hmax := firstMatch_longest (sortPrefixes_sorted ps) h
    refine ⟨mem_sortPrefixes.mp hm, hp, fun e' he' => hmax e' (mem_sortPrefixes.mpr he'), ?_⟩
    intro e' _ hp' hlen
    exact prefix_eq_of_length_eq hp' hp hlen
  · intro ⟨t, ht⟩
    exact firstMatch_total ⟨t, mem_sortPrefixes.mpr ht⟩ name
  · intro h e he
    exact firstMatch_none h e (mem_sortPrefixes.mpr he)

/-- With distinct wildcard prefixes (keys of a `dict`) the result is determined
by the *set* of wildcards: whichever entry is a longest match is the one found. -/
theorem C13_longest_prefix_unique (ps : List (Name × Trait)) (hn : NodupKeys ps) (name : Name)
    (e e' : Name × Trait) (h : firstMatch (sortPrefixes ps) name = some e) (he' : e' ∈ ps)
    (hp' : e'.1 <+: name) (hmax : ∀ x ∈ ps, x.1 <+: name → x.1.length ≤ e'.1.length) : e' = e :=
  firstMatch_unique (sortPrefixes_sorted ps) (hn.perm (sortPrefixes_perm ps).symm) h
    (mem_sortPrefixes.mpr he') hp' (fun x hx => hmax x (mem_sortPrefixes.mp hx))

example : firstMatch (sortPrefixes [(['x'], anyTrait), ([], pythonDefault), (['x', 'y'], genericTrait)])
    ['x', 'y', 'z'] = some (['x', 'y'], genericTrait) := by decide

/-! ## Resolution order -/

/-- In every coherent world, for every object, every name: a write (set / del)
is dispatched to the trait the property names — instance trait, else declared
class trait (own or inherited), else the longest matching wildcard ('' = class
default) — and so is every read that reaches the trait lookup, for every name
that is not of the form `__xxx__`.  (A write of an undeclared `__xxx__` name is
dispatched as `Governs` says with its two extra rules, not as the property
text says: `C13_strict_fails_dunder_write`.) -/
theorem C13_order {w : World} (hw : Inv w) {oi : Nat} {o : Obj} {c : Cls}
    (ho : w.objs[oi]? = some o) (hc : w.classes[o.cls]? = some c) (name : Name) :
    Governs c o name true (resolveSet w oi o c name).2 ∧
    (isDunder name = false → Governs c o name false (resolveGet w oi o c name).2) := by
  have hci := hw.cls c (List.mem_of_getElem? hc)
  have hcp := hw.nd.cls c (List.mem_of_getElem? hc)
  have hop := hw.nd.obj o (List.mem_of_getElem? ho)
  have hh := hw.nd.hooks o (List.mem_of_getElem? ho)
  exact ⟨(resolveSet_spec w c name hh ho).2.governs hci hcp hop (Or.inl rfl),
    fun hdu => (resolveGet_spec w c name hh ho).2.governs hci hcp hop (Or.inr hdu)⟩

/-- `resolveGet` is the lookup `getattr` performs (after the `__dict__` and
type-attribute short cuts), `resolveSet` the one `setattr` performs (`delattr`
alike, `Lemmas/ResolveGov.step_del_eq`; not restated here). -/
theorem C13_order_is_about_step (E : Env) {w : World} {oi : Nat} {o : Obj} {c : Cls}
    (ho : w.objs[oi]? = some o) (hc : w.classes[o.cls]? = some c) (name : Name) :
    (∀ v, step E w (.set oi name v) =
      match resolveSet w oi o c name with
      | (w', .error e) => (w', .error e)
      | (w', .ok t) =>
        match setattrKind E t o.dict name (some v) with
        | .error e => (w', .error e)
        | .ok d => (setDict w' oi d, .ok .done)) ∧
    (o.dict.get name = none → E.classAttr name = none →
      step E w (.get oi name) =
        match resolveGet w oi o c name with
        | (w', .error e) => (w', .error e)
        | (w', .ok t) =>
          match getattrKind E t o.dict name with
          | .error e => (w', .error e)
          | .ok (v, d) => (setDict w' oi d, .ok (.val v))) := by
  refine ⟨fun v => ?_, fun hd hca => ?_⟩
  · rw [step_set_eq E ho hc]; rfl
  · rw [step_get_eq E ho hc]; exact getattro_eq_resolveGet E w oi o c name hd fun _ => hca

/-- Hierarchies: the tables of a class built from **any** list of bases.
Declared class traits: own exact declaration, else the first base that has one
(bases are themselves merged classes, so this is "own or inherited");
wildcards: own, else the first base's, else `Python()` for ''; the table is
sorted longest first and contains ''. -/
theorem C13_order_hierarchy (bases : List Cls) (decls : List (Name × Trait))
    (hnd : NodupKeys (ownPrefixes decls)) :
    (∀ n, (mkClass bases decls).decl.get n = match (ownTraits decls).get n with
        | some t => some t
        | none => firstSome (bases.map (fun b => b.decl.get n))) ∧
    (∀ p, Map.get (mkClass bases decls).prefixes p = match Map.get (ownPrefixes decls) p with
        | some t => some t
        | none => match firstSome (bases.map (fun b => Map.get b.prefixes p)) with
          | some t => some t
          | none => if p = [] then some pythonDefault else none) ∧
    Sorted (mkClass bases decls).prefixes ∧ Total (mkClass bases decls) ∧
    NodupKeys (mkClass bases decls).prefixes :=
  ⟨mkClass_decl_get bases decls, mkClass_prefix_get hnd, mkClass_sorted _ _, mkClass_hasDefault _ _,
   mkClass_nodup hnd⟩

/-- Lifted to histories: after **any** history of class definitions, object
creations, get / set / del, add_trait, remove_trait, `_trait` — without delegate
traits (`Op.Plain`) and in which classes are not derived from an already-used
class — the order holds for every object and every name. -/
theorem C13_order_history (E : Env) (ops : List Op) (hplain : ∀ op ∈ ops, op.Plain)
    (hsafe : SafeHist E World.init ops) {oi : Nat} {o : Obj} {c : Cls}
    (ho : (run E World.init ops).1.objs[oi]? = some o)
    (hc : (run E World.init ops).1.classes[o.cls]? = some c) (name : Name) :
    Governs c o name true (resolveSet (run E World.init ops).1 oi o c name).2 ∧
    (isDunder name = false → Governs c o name false (resolveGet (run E World.init ops).1 oi o c name).2) :=
  C13_order (Inv_run E inv_init hplain hsafe) ho hc name

/-- The full-strength statement (every name, reads included). -/
def C13_order_full : Prop :=
  ∀ (w : World), Inv w → ∀ (o : Obj) (c : Cls), o ∈ w.objs → w.classes[o.cls]? = some c →
    ∀ (name : Name) (b : Bool) (r : Except Exc Trait), Dispatch c o name b r → Governs c o name b r

/-- A class whose dictionary holds the `Any` trait an earlier *write* to
`__f__` cached (this is the state reached by `a.__f__ = 1`, see the example). -/
def dunderCls : Cls :=
  { ctraits := [(['_', '_', 'f', '_', '_'], anyTrait)], prefixes := [([], pythonDefault)], decl := [] }

def dunderWorld : World := { classes := [dunderCls], objs := [{ cls := 0 }] }

/-- Negation witness (known finding F54): once any instance of the class has *written* a `__xxx__`
name, reads of that name on every instance are dispatched to the cached `Any`
trait (value `None`) instead of raising AttributeError. -/
theorem C13_order_fails_dunder_read_after_write : ¬ C13_order_full := by
  intro h
  have hinv : Inv dunderWorld := by
    refine ⟨⟨?_, ?_, ?_⟩, ?_⟩
    · intro c hc; simp [dunderWorld] at hc; subst hc
      exact ⟨by decide, by decide⟩
    · intro o ho; simp [dunderWorld] at ho; subst ho; intro e he; simp at he
    · intro o ho; simp [dunderWorld] at ho; subst ho; rfl
    · intro c hc; simp [dunderWorld] at hc; subst hc
      refine ⟨by unfold Sorted; decide, ⟨pythonDefault, by decide⟩, ?_, ?_⟩
      · intro n t hn; simp [dunderCls] at hn
      · intro n t hn _
        simp only [dunderCls, Map.get_cons, Map.get_nil] at hn
        split at hn
        · rename_i heq; cases hn; subst heq; exact ⟨true, by decide⟩
        · cases hn
  have := h dunderWorld hinv { cls := 0 } dunderCls (by simp [dunderWorld]) (by simp [dunderWorld])
    ['_', '_', 'f', '_', '_'] false (.ok anyTrait) (.cls (by decide) (by decide))
  generalize hr : (Except.ok anyTrait : Except Exc Trait) = r at this
  cases this with
  | inst h' => simp at h'
  | declared _ h' => simp [dunderCls] at h'
  | dunderClass _ _ h' => revert h'; decide
  | dunderSet _ _ _ _ hs => cases hs
  | dunderGet _ _ _ _ _ => cases hr
  | wildcard _ _ hdu _ _ _ => revert hdu; decide

/-- The same on a real history: `b.__f__` raises AttributeError, but after
`a.__f__ = 1` on *another* instance it returns `None`. -/
example :
    (run Env.sample World.init
      [.mkClass [1] [], .new 3, .new 3, .get 1 "__f__".toList]).2.getLast? = some (.error .attributeError) ∧
    (run Env.sample World.init
      [.mkClass [1] [], .new 3, .new 3, .set 0 "__f__".toList (.int 1), .get 1 "__f__".toList]).2.getLast?
      = some (.ok (.val .none)) := by decide

/-! ## Cache coherence -/

/-- After **any** history (from any coherent world) without delegate traits
(`Op.Plain`; the example below shows why) in which no class is derived from a
class whose cache is already populated, every entry of the class dictionary of
every object's class is either a declared class trait or exactly what an uncached
resolution of that name by any object of the class returns now (for names that
are not `__xxx__`: for reads and writes alike). -/
theorem C13_cache_coherent (E : Env) {w₀ : World} (h₀ : Inv w₀) (ops : List Op)
    (hplain : ∀ op ∈ ops, op.Plain) (hsafe : SafeHist E w₀ ops) :
    ∀ o ∈ (run E w₀ ops).1.objs, ∀ c, (run E w₀ ops).1.classes[o.cls]? = some c →
      ∀ n t, c.ctraits.get n = some t →
        c.decl.get n = some t ∨
        (c.decl.get n = none ∧ (∃ b, prefixTrait c o n b = .ok t) ∧
          (isDunder n = false → ∀ b, prefixTrait c o n b = .ok t)) := by
  intro o ho c hc n t hct
  have hw := Inv_run E h₀ hplain hsafe
  have hcm := List.mem_of_getElem? hc
  have hci := hw.cls c hcm
  cases hd : c.decl.get n with
  | some t' =>
    left
    have := hci.declSub n t' hd
    rw [hct] at this; cases this; rfl
  | none =>
    right
    obtain ⟨b, hb⟩ := hci.coherent n t hct hd
    have heq := fun b' => prefixTrait_plain_eq (hw.nd.cls c hcm) (hw.nd.obj o ho) n b'
    refine ⟨rfl, ⟨b, by rw [heq]; exact hb⟩, ?_⟩
    intro hdu b'
    rw [heq, resolve₀_not_dunder hdu b' b]; exact hb

/-- `op.Plain` (no delegate trait is declared or added) is a real restriction
(known finding F56): the `name_` shadow of a delegate that only *one instance*
has is cached in the *class* dictionary, so afterwards `w_` is a delegate on an
instance that never had `w` (first history: `b.w_ = 1` is a plain attribute
write; second: the same write fails in the delegate setter). -/
example :
    (run Env.sample World.init [.new 0, .new 0, .set 1 ['w', '_'] (.int 1)]).2.getLast? = some (.ok .done) ∧
    (run Env.sample World.init
      [.new 0, .new 0, .addTrait 0 ['w'] { kind := .delegate, tag := 5 }, .get 0 ['w', '_'],
       .set 1 ['w', '_'] (.int 1)]).2.getLast? = some (.error .traitError) := by decide

/-- The usual shape of a program — all classes defined, then used — satisfies
the hypothesis. -/
theorem C13_cache_coherent_defs_first (E : Env) (defs uses : List Op)
    (hd : ∀ op ∈ defs, op.isDef = true) (hu : ∀ op ∈ uses, op.isMkClass = false)
    (hplain : ∀ op ∈ defs ++ uses, op.Plain) :
    ∀ o ∈ (run E World.init (defs ++ uses)).1.objs, ∀ c,
      (run E World.init (defs ++ uses)).1.classes[o.cls]? = some c →
      ∀ n t, c.ctraits.get n = some t →
        c.decl.get n = some t ∨
        (c.decl.get n = none ∧ (∃ b, prefixTrait c o n b = .ok t) ∧
          (isDunder n = false → ∀ b, prefixTrait c o n b = .ok t)) :=
  C13_cache_coherent E inv_init (defs ++ uses) hplain (SafeHist_defs_then_use E allClean_init defs uses hd hu)

/-- The full-strength statement: coherence after every history. -/
def C13_cache_coherent_full : Prop :=
  ∀ (E : Env) (ops : List Op), (∀ op ∈ ops, op.Plain) → Inv (run E World.init ops).1

def intTrait : Trait := { kind := .trait, dflt := .int 0, validator := some 0, tag := 1 }
def strTrait : Trait := { kind := .trait, dflt := .str "", validator := some 1, tag := 2 }

/-- Non-vacuity of the start-state hypotheses of `C13_step_is_source` (empty
dictionaries, `NoStar`) on a concrete world: a fresh instance of
`class A(HasTraits): x_ = Int`, on which the model's `a.xy = 1` succeeds. -/
example :
    ∃ o c, (run Env.sample World.init [.mkClass [0] [(['x', '_'], intTrait)], .new 3]).1.objs[0]? = some o ∧
      (run Env.sample World.init [.mkClass [0] [(['x', '_'], intTrait)], .new 3]).1.classes[o.cls]? = some c ∧
      o.itraits = [] ∧ o.dict = [] ∧ TraitsVerif.Model.ResL.NoStar c ∧
      (step Env.sample (run Env.sample World.init [.mkClass [0] [(['x', '_'], intTrait)], .new 3]).1
        (.set 0 ['x', 'y'] (.int 1))).2 = .ok .done := by
  refine ⟨{ cls := 3 }, mkClass [clsHasTraits] [(['x', '_'], intTrait)], by decide, by decide, rfl, rfl, ?_, by decide⟩
  intro e he
  have : (mkClass [clsHasTraits] [(['x', '_'], intTrait)]).prefixes.map (·.1) =
      ["_traits_cache_".toList, ['x'], []] := by decide
  have hm := List.mem_map_of_mem (f := (·.1)) he
  rw [this] at hm
  simp only [List.mem_cons, List.mem_nil_iff, or_false] at hm
  rcases hm with h | h | h <;> rw [h] <;> decide

/-- `class A(HasTraits): x_ = Int`; `A().xy`; `class B(A): xy_ = Str`; `B()`. -/
def lateSubclass : List Op :=
  [.mkClass [0] [(['x', '_'], intTrait)], .new 3, .get 0 ['x', 'y'],
   .mkClass [3] [(['x', 'y', '_'], strTrait)], .new 4]

/-- Negation witness (known finding F50): a class defined after its base was
used inherits the base's *resolved* entry `xy ↦ Int` as if it were a declared
class trait, although its own longest matching wildcard `xy_` says `Str`. -/
theorem C13_cache_fails_late_subclass : ¬ C13_cache_coherent_full := by
  intro h
  have hinv := h Env.sample lateSubclass (by decide)
  have hc : (run Env.sample World.init lateSubclass).1.classes[4]? = some
      (run Env.sample World.init lateSubclass).1.classes[4]! := by decide
  have hci := hinv.cls _ (List.mem_of_getElem? hc)
  obtain ⟨b, hb⟩ := hci.coherent ['x', 'y'] intTrait (by decide) (by decide)
  cases b <;> revert hb <;> decide

/-- … and what the object sees: `B().xy` is governed by `Int`, not by `Str`. -/
example : (run Env.sample World.init
    (lateSubclass ++ [.set 1 ['x', 'y'] (.str "a"), .get 1 ['x', 'y']])).2.drop 5 =
    [.error .traitError, .ok (.val (.int 0))] := by decide

/-- Non-vacuity of `SafeHist`/`Inv`: a three-level hierarchy used by two objects. -/
example : SafeHist Env.sample World.init
    [.mkClass [0] [(['x', '_'], intTrait)], .mkClass [3] [(['x', 'y', '_'], strTrait)], .new 4, .new 3,
     .set 0 ['x', 'y', 'z'] (.str "a"), .get 1 ['x', 'y', 'z']] := by
  refine SafeHist_defs_then_use Env.sample allClean_init
    [.mkClass [0] [(['x', '_'], intTrait)], .mkClass [3] [(['x', 'y', '_'], strTrait)], .new 4, .new 3]
    [.set 0 ['x', 'y', 'z'] (.str "a"), .get 1 ['x', 'y', 'z']] (by decide) (by decide)

/-! ## Strict classes -/

def IsDisallow (t : Trait) : Prop := t.kind = .disallow

/-- Wherever every trait the lookup of `name` on `oi` can reach is `Disallow`
(undeclared name on a strict class): reading raises AttributeError, writing and
deleting raise TraitError, nothing is stored — and this stays so along **every**
history that does not `add_trait` a non-Disallow trait of that name to that
very object. -/
theorem C13_strict (E : Env) {w : World} (hw : NoDeleg w) {oi : Nat} {name : Name}
    (hg : GovAt IsDisallow w oi name) (hd : DictAt w oi name none) (hca : E.classAttr name = none) :
    (step E w (.get oi name)).2 = .error .attributeError ∧
    (∀ v, (step E w (.set oi name v)).2 = .error .traitError) ∧
    (step E w (.del oi name)).2 = .error .traitError ∧
    ∀ ops : List Op, (∀ op ∈ ops, op.Plain) →
      (∀ op ∈ ops, ∀ t, op = .addTrait oi name t → IsDisallow t) →
      NoDeleg (run E w ops).1 ∧ GovAt IsDisallow (run E w ops).1 oi name ∧
        DictAt (run E w ops).1 oi name none := by
  obtain ⟨o, t, w', -, -, ht, hset, hdel⟩ := setattro_outcome E hw hg
  refine ⟨?_, fun v => by rw [hset, setattrKind_disallow ht], by rw [hdel, setattrKind_disallow ht], ?_⟩
  · obtain ⟨o, -, h⟩ := getattro_outcome E hw hg hd hca
    rcases h with ⟨h, _⟩ | ⟨t, ht, h⟩
    · exact h
    · rw [h, getattrKind_disallow ht]; rfl
  · intro ops hplain hadd
    refine GovDict_run E hw hg hd ?_ ?_ hplain hadd (fun _ _ _ => rfl)
    · intro t d value d' ht _ hk; rw [setattrKind_disallow ht] at hk; cases hk
    · intro t d v d' ht _ _ hk; rw [getattrKind_disallow ht] at hk; cases hk

def traitAdded : Name := "trait_added".toList
def traitModified : Name := "trait_modified".toList
def traitsCache : Name := "_traits_cache_".toList

/-- `HasStrictTraits` and every linear hierarchy below it: for **every** name
that is not `__xxx__`, not one of the three names `HasTraits` itself declares,
not declared exactly and not matched by a wildcard declared in the hierarchy,
the class-level rule is `Disallow`. -/
theorem C13_strict_HasStrictTraits (levels : List (List (Name × Trait))) (name : Name)
    (hdu : isDunder name = false)
    (hlib : name ≠ traitAdded ∧ name ≠ traitModified ∧ ¬ traitsCache <+: name)
    (hown : ∀ l ∈ levels, (ownTraits l).get name = none)
    (hwild : ∀ l ∈ levels, ∀ e ∈ ownPrefixes l, ¬ e.1 <+: name) :
    ClassGov IsDisallow (chain clsHasStrictTraits levels) name ∧ Total (chain clsHasStrictTraits levels) := by
  have htot : Total clsHasStrictTraits := mkClass_hasDefault _ _
  have hs : Sorted clsHasStrictTraits.prefixes := mkClass_sorted _ _
  refine ⟨chain_classGov htot hdu ?_ ?_ hs hown hwild, chain_total htot levels⟩
  · have : clsHasStrictTraits.ctraits = [(traitModified, { kind := .event, tag := 908 }),
        (traitAdded, { kind := .event, validator := some 1, tag := 907 })] := by decide
    rw [this]
    simp only [Map.get_cons, Map.get_nil]
    rw [if_neg (Ne.symm hlib.2.1), if_neg (Ne.symm hlib.1)]
  · have : clsHasStrictTraits.prefixes = [(traitsCache, { kind := .trait, dflt := .none, tag := 901 }),
        ([], { kind := .disallow, dflt := .undef, tag := 902 })] := by decide
    rw [this]
    intro e he hp _
    simp only [List.mem_cons, List.mem_nil_iff, or_false] at he
    rcases he with he | he
    · subst he; exact absurd hp hlib.2.2
    · subst he; rfl

def IsPrivateAny (t : Trait) : Prop := t = { kind := .trait, dflt := .none, validator := none, tag := 903 }

/-- `HasPrivateTraits` and every linear hierarchy below it: an undeclared name
that does not start with `_` is `Disallow`ed; an undeclared name with a leading
underscore (not `__xxx__`, not `_traits_cache_…`) is the untyped `Any`. -/
theorem C13_strict_HasPrivateTraits (levels : List (List (Name × Trait))) (name : Name)
    (hdu : isDunder name = false)
    (hlib : name ≠ traitAdded ∧ name ≠ traitModified ∧ ¬ traitsCache <+: name)
    (hown : ∀ l ∈ levels, (ownTraits l).get name = none)
    (hwild : ∀ l ∈ levels, ∀ e ∈ ownPrefixes l, ¬ e.1 <+: name) :
    (¬ ['_'] <+: name → ClassGov IsDisallow (chain clsHasPrivateTraits levels) name) ∧
    (['_'] <+: name → ClassGov IsPrivateAny (chain clsHasPrivateTraits levels) name) ∧
    Total (chain clsHasPrivateTraits levels) := by
  have hct : clsHasPrivateTraits.ctraits.get name = none := by
    have : clsHasPrivateTraits.ctraits = [(traitModified, { kind := .event, tag := 908 }),
        (traitAdded, { kind := .event, validator := some 1, tag := 907 })] := by decide
    rw [this]
    simp only [Map.get_cons, Map.get_nil]
    rw [if_neg (Ne.symm hlib.2.1), if_neg (Ne.symm hlib.1)]
  have hpf : clsHasPrivateTraits.prefixes = [(traitsCache, { kind := .trait, dflt := .none, tag := 901 }),
      (['_'], { kind := .trait, dflt := .none, tag := 903 }),
      ([], { kind := .disallow, dflt := .undef, tag := 902 })] := by decide
  have htot : Total clsHasPrivateTraits := mkClass_hasDefault _ _
  have hs : Sorted clsHasPrivateTraits.prefixes := mkClass_sorted _ _
  refine ⟨fun hpub => ?_, fun hpriv => ?_, chain_total htot levels⟩
  · refine chain_classGov htot hdu hct ?_ hs hown hwild
    rw [hpf]
    intro e he hp _
    simp only [List.mem_cons, List.mem_nil_iff, or_false] at he
    rcases he with he | he | he
    · subst he; exact absurd hp hlib.2.2
    · subst he; exact absurd hp hpub
    · subst he; rfl
  · refine chain_classGov htot hdu hct ?_ hs hown hwild
    rw [hpf]
    intro e he hp hmax
    simp only [List.mem_cons, List.mem_nil_iff, or_false] at he
    rcases he with he | he | he
    · subst he; exact absurd hp hlib.2.2
    · subst he; rfl
    · subst he
      have := hmax (['_'], { kind := .trait, dflt := .none, tag := 903 }) (by simp) hpriv
      simp at this

/-- The full-strength strictness clause: *every* undeclared name. -/
def C13_strict_full : Prop :=
  ∀ (name : Name) (v : Val), name ≠ traitAdded → name ≠ traitModified → ¬ traitsCache <+: name →
    (run Env.sample World.init [.new 1, .set 0 name v]).2.getLast? = some (.error .traitError)

/-- Negation witness (known finding F52): `HasStrictTraits().__f__ = 1` succeeds —
writes to `__xxx__` names are mapped to `Any` before the wildcard table (and
with it `_ = Disallow`) is consulted. -/
theorem C13_strict_fails_dunder_write : ¬ C13_strict_full := by
  intro h
  have := h "__f__".toList (.int 1) (by decide) (by decide) (by decide)
  revert this
  decide

/-- The full-strength wildcard clause for reads: with `_ = Int` declared, *every*
name `HasTraits` does not declare itself reads as the wildcard's default. -/
def C13_wildcard_read_full : Prop :=
  ∀ (name : Name), name ≠ traitAdded → name ≠ traitModified → ¬ traitsCache <+: name →
    (run Env.sample World.init [.mkClass [0] [(['_'], intTrait)], .new 3, .get 0 name]).2.getLast?
      = some (.ok (.val (.int 0)))

/-- Negation witness (known finding F53): reading an unset `__f__` raises
AttributeError before the wildcard table is consulted.  (`Governs` above has the
two `__xxx__` rules of the code as explicit constructors; the property text has
no such clause — `C13_order` is therefore the *partial* form of the text's
resolution order, exact for every name that is not `__xxx__`.) -/
theorem C13_wildcard_read_fails_dunder : ¬ C13_wildcard_read_full := by
  intro h
  have := h "__f__".toList (by decide) (by decide) (by decide)
  revert this
  decide

/-- Non-vacuity: a fresh `HasStrictTraits` subclass instance and an undeclared name. -/
example : GovAt IsDisallow (run Env.sample World.init [.mkClass [1] [(['x'], intTrait)], .new 3]).1 0 ['f', 'o', 'o'] ∧
    DictAt (run Env.sample World.init [.mkClass [1] [(['x'], intTrait)], .new 3]).1 0 ['f', 'o', 'o'] none := by
  have h := C13_strict_HasStrictTraits [[(['x'], intTrait)]] ['f', 'o', 'o'] (by decide)
    (by decide) (by decide) (by decide)
  refine ⟨⟨{ cls := 3 }, chain clsHasStrictTraits [[(['x'], intTrait)]], by decide, by decide, ?_, h.1, h.2⟩,
    ⟨{ cls := 3 }, by decide, by decide⟩⟩
  intro t ht; simp at ht

/-! ## ReadOnly -/

def IsReadOnly (t : Trait) : Prop := t.kind = .readonly ∧ t.dflt = .undef

/-- A name governed by `ReadOnly` accepts exactly one defining assignment:
(1) while the slot is empty or holds `Undefined`, any assignment is accepted and
stores the value; (2) once a value other than `Undefined` is stored, it is read
back, every further assignment and every deletion raise TraitError, and this
stays so along **every** history without `add_trait` / `remove_trait` of that
name on that object. -/
theorem C13_readonly_once (E : Env) {w : World} (hw : NoDeleg w) {oi : Nat} {name : Name}
    (hg : GovAt IsReadOnly w oi name) :
    (∀ v, (DictAt w oi name none ∨ DictAt w oi name (some .undef)) →
        (step E w (.set oi name v)).2 = .ok .done ∧ DictAt (step E w (.set oi name v)).1 oi name (some v)) ∧
    (∀ v, v ≠ .undef → DictAt w oi name (some v) →
        (step E w (.get oi name)).2 = .ok (.val v) ∧
        (∀ v', (step E w (.set oi name v')).2 = .error .traitError) ∧
        (step E w (.del oi name)).2 = .error .traitError ∧
        ∀ ops : List Op, (∀ op ∈ ops, op.Plain) →
          (∀ op ∈ ops, (∀ t, op ≠ .addTrait oi name t) ∧ op ≠ .removeTrait oi name) →
          NoDeleg (run E w ops).1 ∧ GovAt IsReadOnly (run E w ops).1 oi name ∧
            DictAt (run E w ops).1 oi name (some v)) := by
  obtain ⟨o, t, w', ho, hw', ht, hset, hdel⟩ := setattro_outcome E hw hg
  have hro := setattrKind_readonly_set (E := E) ht.1 ht.2 o.dict name
  refine ⟨fun v hd => ?_, fun v hv hd => ?_⟩
  · rw [hset, hro, if_pos (hd.imp (·.get ho) (·.get ho))]
    exact ⟨rfl, Map.get_set_same o.dict name v ▸ DictAt.setDict (hw' ▸ ho) _ name⟩
  · have hdv := hd.get ho
    have hfull : ∀ d : Map Val, d.get name = some v → ¬(d.get name = none ∨ d.get name = some .undef) := by
      intro d hd; rw [hd]; simp [hv]
    refine ⟨?_, fun v' => by rw [hset, hro, if_neg (hfull _ hdv)], by rw [hdel, setattrKind_readonly_del ht.1], ?_⟩
    · obtain ⟨o', c, ho', hc, _⟩ := hg
      rw [ho] at ho'; cases ho'
      rw [step_get_eq E ho hc, getattro, hdv]
    · intro ops hplain hno
      refine GovDict_run E hw hg hd ?_ ?_ hplain (fun op hop t heq => absurd heq ((hno op hop).1 t))
        fun op hop heq => absurd heq (hno op hop).2
      · intro t d value d' ht hdv hk
        cases value with
        | none => rw [setattrKind_readonly_del ht.1] at hk; cases hk
        | some v' => rw [setattrKind_readonly_set ht.1 ht.2, if_neg (hfull d hdv)] at hk; cases hk
      · intro t d v' d' _ hdv hnone _; rw [hdv] at hnone; cases hnone

/-- `ReadOnly(value)` (a default other than `Undefined`): never assignable. -/
theorem C13_readonly_with_default (E : Env) {w : World} (hw : NoDeleg w) {oi : Nat} {name : Name}
    (hg : GovAt (fun t => t.kind = .readonly ∧ t.dflt ≠ .undef) w oi name) :
    (∀ v, (step E w (.set oi name v)).2 = .error .traitError) ∧
    (step E w (.del oi name)).2 = .error .traitError := by
  obtain ⟨o, t, w', -, -, ht, hset, hdel⟩ := setattro_outcome E hw hg
  exact ⟨fun v => by rw [hset, setattrKind_readonly_default ht.1 ht.2],
    by rw [hdel, setattrKind_readonly_default ht.1 ht.2]⟩

def roTrait : Trait := { kind := .readonly, dflt := .undef, tag := 3 }

/-- Non-vacuity of the hypotheses: `r = ReadOnly` declared in a subclass of `HasTraits`. -/
example : GovAt IsReadOnly (run Env.sample World.init [.mkClass [0] [(['r'], roTrait)], .new 3]).1 0 ['r'] ∧
    DictAt (run Env.sample World.init [.mkClass [0] [(['r'], roTrait)], .new 3]).1 0 ['r'] none ∧
    NoDeleg (run Env.sample World.init [.mkClass [0] [(['r'], roTrait)], .new 3]).1 :=
  ⟨GovAt.of_class_trait (o := { cls := 3 }) (c := mkClass [clsHasTraits] [(['r'], roTrait)]) (t := roTrait)
      (by decide) (by decide) (by decide) (by decide) ⟨rfl, rfl⟩ (mkClass_hasDefault _ _),
   ⟨{ cls := 3 }, by decide, by decide⟩, NoDeleg_run _ noDeleg_init (by decide)⟩

/-- Non-vacuity, on a wildcard (`r_ = ReadOnly`), reading before the assignment. -/
example : (run Env.sample World.init
    [.mkClass [0] [(['r', '_'], roTrait)], .new 3, .get 0 ['r', 'q'], .set 0 ['r', 'q'] (.int 1),
     .set 0 ['r', 'q'] (.int 2), .get 0 ['r', 'q'], .del 0 ['r', 'q']]).2.drop 2 =
    [.ok (.val .undef), .ok .done, .error .traitError, .ok (.val (.int 1)), .error .traitError] := by decide

/-! ## Constant -/

def IsConstant (k : Val) (t : Trait) : Prop := t.kind = .constant ∧ t.dflt = k

/-- A name governed by `Constant(k)` reads `k`, refuses every assignment and
deletion with TraitError, stores nothing — along **every** history that does not
`add_trait` another trait of that name to that object. -/
theorem C13_constant (E : Env) {w : World} (hw : NoDeleg w) {oi : Nat} {name : Name} {k : Val}
    (hg : GovAt (IsConstant k) w oi name) (hd : DictAt w oi name none) (hca : E.classAttr name = none) :
    (step E w (.get oi name)).2 = .ok (.val k) ∧
    (∀ v, (step E w (.set oi name v)).2 = .error .traitError) ∧
    (step E w (.del oi name)).2 = .error .traitError ∧
    ∀ ops : List Op, (∀ op ∈ ops, op.Plain) →
      (∀ op ∈ ops, ∀ t, op = .addTrait oi name t → IsConstant k t) →
      NoDeleg (run E w ops).1 ∧ GovAt (IsConstant k) (run E w ops).1 oi name ∧
        DictAt (run E w ops).1 oi name none := by
  obtain ⟨o, t, w', -, -, ht, hset, hdel⟩ := setattro_outcome E hw hg
  refine ⟨?_, ?_, ?_, ?_⟩
  · obtain ⟨o, -, h⟩ := getattro_outcome E hw hg hd hca
    rcases h with ⟨_, hP⟩ | ⟨t, ht, h⟩
    · exact absurd hP.1 (by decide)
    · rw [h, getattrKind_constant ht.1, ht.2]; rfl
  · intro v; rw [hset, setattrKind_constant ht.1]
  · rw [hdel, setattrKind_constant ht.1]
  · intro ops hplain hadd
    refine GovDict_run E hw hg hd ?_ ?_ hplain hadd (fun _ _ _ => rfl)
    · intro t d value d' ht _ hk; rw [setattrKind_constant ht.1] at hk; cases hk
    · intro t d v d' ht hdn _ hk; rw [getattrKind_constant ht.1] at hk; cases hk; exact hdn

def constTrait : Trait := { kind := .constant, dflt := .int 9, tag := 7 }

/-- Non-vacuity of the hypotheses: `k = Constant(9)` inherited by a subclass. -/
example : GovAt (IsConstant (.int 9))
      (run Env.sample World.init [.mkClass [0] [(['k'], constTrait)], .mkClass [3] [], .new 4]).1 0 ['k'] ∧
    DictAt (run Env.sample World.init [.mkClass [0] [(['k'], constTrait)], .mkClass [3] [], .new 4]).1 0 ['k'] none :=
  ⟨GovAt.of_class_trait (o := { cls := 4 }) (c := mkClass [mkClass [clsHasTraits] [(['k'], constTrait)]] [])
      (t := constTrait) (by decide) (by decide) (by decide) (by decide) ⟨rfl, rfl⟩ (mkClass_hasDefault _ _),
   ⟨{ cls := 4 }, by decide, by decide⟩⟩

/-- Non-vacuity: `k = Constant(9)` declared two levels up, read through a subclass. -/
example : (run Env.sample World.init
    [.mkClass [0] [(['k'], constTrait)], .mkClass [3] [], .new 4, .get 0 ['k'], .set 0 ['k'] (.int 9),
     .del 0 ['k'], .get 0 ['k']]).2.drop 3 =
    [.ok (.val (.int 9)), .error .traitError, .error .traitError, .ok (.val (.int 9))] := by decide

/-! ## Event -/

def IsEvent (vd : Option Nat) (t : Trait) : Prop := t.kind = .event ∧ t.validator = vd

/-- A name governed by an `Event` can be written but not read: reading raises
AttributeError; writing succeeds exactly when the event's validator (if any)
accepts the value, and raises the validator's error otherwise; deleting is a
no-op; nothing is ever stored — along **every** history that does not `add_trait`
another trait of that name to that object. -/
theorem C13_event_write_only (E : Env) {w : World} (hw : NoDeleg w) {oi : Nat} {name : Name} {vd : Option Nat}
    (hg : GovAt (IsEvent vd) w oi name) (hd : DictAt w oi name none) (hca : E.classAttr name = none) :
    (step E w (.get oi name)).2 = .error .attributeError ∧
    (∀ v, (step E w (.set oi name v)).2 = match vd with
        | none => .ok .done
        | some i => (E.validate i 0 v).map (fun _ => Out.done)) ∧
    (step E w (.del oi name)).2 = .ok .done ∧
    ∀ ops : List Op, (∀ op ∈ ops, op.Plain) →
      (∀ op ∈ ops, ∀ t, op = .addTrait oi name t → IsEvent vd t) →
      NoDeleg (run E w ops).1 ∧ GovAt (IsEvent vd) (run E w ops).1 oi name ∧
        DictAt (run E w ops).1 oi name none := by
  refine ⟨?_, ?_, ?_, ?_⟩
  · obtain ⟨o, -, h⟩ := getattro_outcome E hw hg hd hca
    rcases h with ⟨h, _⟩ | ⟨t, ht, h⟩
    · exact h
    · rw [h, getattrKind_event ht.1]; rfl
  · intro v
    obtain ⟨o, t, w', -, -, ht, hset, -⟩ := setattro_outcome E hw hg
    rw [hset, setattrKind_event ht.1, ht.2]
    cases vd with
    | none => rfl
    | some i => simp only; cases E.validate i 0 v <;> rfl
  · obtain ⟨o, t, w', -, -, ht, -, hdel⟩ := setattro_outcome E hw hg
    rw [hdel, setattrKind_event ht.1]
  · intro ops hplain hadd
    refine GovDict_run E hw hg hd ?_ ?_ hplain hadd (fun _ _ _ => rfl)
    · intro t d value d' ht hdn hk; rw [setattrKind_event_dict ht.1 hk]; exact hdn
    · intro t d v d' ht _ _ hk; rw [getattrKind_event ht.1] at hk; cases hk

def evIntTrait : Trait := { kind := .event, dflt := .undef, validator := some 0, tag := 8 }

/-- Non-vacuity of the hypotheses: `e = Event(Int)` declared on a `HasStrictTraits` subclass. -/
example : GovAt (IsEvent (some 0))
      (run Env.sample World.init [.mkClass [1] [(['e'], evIntTrait)], .new 3]).1 0 ['e'] ∧
    DictAt (run Env.sample World.init [.mkClass [1] [(['e'], evIntTrait)], .new 3]).1 0 ['e'] none :=
  ⟨GovAt.of_class_trait (o := { cls := 3 }) (c := mkClass [clsHasStrictTraits] [(['e'], evIntTrait)])
      (t := evIntTrait) (by decide) (by decide) (by decide) (by decide) ⟨rfl, rfl⟩ (mkClass_hasDefault _ _),
   ⟨{ cls := 3 }, by decide, by decide⟩⟩

/-- Non-vacuity: `e_ = Event(Int)` as a wildcard. -/
example : (run Env.sample World.init
    [.mkClass [0] [(['e', '_'], evIntTrait)], .new 3, .set 0 ['e', 'x'] (.int 1), .get 0 ['e', 'x'],
     .set 0 ['e', 'x'] (.str "a"), .del 0 ['e', 'x']]).2.drop 2 =
    [.ok .done, .error .attributeError, .error .traitError, .ok .done] := by decide

/-! ## HasPrivateTraits: private names -/

/-- A name governed by the untyped private `Any` of `HasPrivateTraits` (see
`C13_strict_HasPrivateTraits`): initial value `None`, any value accepted. -/
theorem C13_private_untyped (E : Env) {w : World} (hw : NoDeleg w) {oi : Nat} {name : Name}
    (hg : GovAt IsPrivateAny w oi name) (hd : DictAt w oi name none) (hca : E.classAttr name = none) :
    (step E w (.get oi name)).2 = .ok (.val .none) ∧
    (∀ v, (step E w (.set oi name v)).2 = .ok .done) := by
  refine ⟨?_, ?_⟩
  · obtain ⟨o, -, h⟩ := getattro_outcome E hw hg hd hca
    rcases h with ⟨_, hP⟩ | ⟨t, ht, h⟩
    · exact absurd hP (by unfold IsPrivateAny; decide)
    · rw [h, ht, getattrKind_trait rfl]; rfl
  · intro v
    obtain ⟨o, t, w', -, -, ht, hset, -⟩ := setattro_outcome E hw hg
    rw [hset, ht, setattrKind_trait_untyped rfl rfl]

/-! ## remove_trait restores the class-level rule -/

/-- Whatever happens in between — in particular `add_trait` of arbitrary
instance traits for that name — after `remove_trait(name)` the name has no
instance trait and every get / set / del of it is dispatched to a trait
satisfying the class-level rule `P` that held before (instantiate `P` with
`IsDisallow`, `IsReadOnly`, `IsConstant k`, `IsEvent vd`, … to get the `GovAt`
hypothesis of the policy theorems above back). `remove_trait` returns whether an
instance trait existed. -/
theorem C13_remove_restores (E : Env) {P : Trait → Prop} {w : World} (hw : NoDeleg w) {oi : Nat} {name : Name}
    (hc : ClassGovAt P w oi name) (ops : List Op) (hplain : ∀ op ∈ ops, op.Plain) :
    GovAt P (run E w (ops ++ [.removeTrait oi name])).1 oi name ∧
    NoDeleg (run E w (ops ++ [.removeTrait oi name])).1 ∧
    ∃ o o', (run E w ops).1.objs[oi]? = some o ∧
      (run E w (ops ++ [.removeTrait oi name])).1.objs[oi]? = some o' ∧
      o'.itraits.get name = none ∧
      (step E (run E w ops).1 (.removeTrait oi name)).2 = .ok (.bool (o.itraits.get name).isSome) := by
  have hw1 := NoDeleg_run E hw hplain
  have hc1 := ClassGovAt_run E hw hc hplain
  rw [run_snoc]
  obtain ⟨o, c, ho, hcc, _, _⟩ := hc1
  obtain ⟨o', ho', hi', _, _, hret, _⟩ := step_removeTrait_spec E ho hcc name
  obtain ⟨o2, c2, ho2, hc2, hcg2, htot2⟩ := ClassGovAt_step E hw1 ⟨o, c, ho, hcc, ‹_›, ‹_›⟩ (.removeTrait oi name)
  rw [ho'] at ho2; cases ho2
  refine ⟨⟨o', c2, ho', hc2, ?_, hcg2, htot2⟩, NoDeleg_step E hw1 trivial, o, o', ho, ho', hi', hret⟩
  intro t ht; rw [hi'] at ht; cases ht

def disTrait : Trait := { kind := .disallow, dflt := .undef, tag := 9 }

/-- Non-vacuity: a strict class; an instance trait makes `u` usable; after
`remove_trait` the class-level `Disallow` governs again (and the value is gone). -/
example : (run Env.sample World.init
    [.mkClass [1] [], .new 3, .set 0 ['u'] (.int 1), .addTrait 0 ['u'] intTrait, .set 0 ['u'] (.int 3),
     .get 0 ['u'], .removeTrait 0 ['u'], .get 0 ['u'], .set 0 ['u'] (.int 1), .removeTrait 0 ['u']]).2.drop 2 =
    [.error .traitError, .ok .done, .ok .done, .ok (.val (.int 3)), .ok (.bool true),
     .error .attributeError, .error .traitError, .ok (.bool false)] := by decide

/-- Known finding F51, in the model as in the code: a value assigned *before*
`add_trait` stays readable through the `__dict__` short cut of
`has_traits_getattro`, whatever the new instance trait says (here an `Event`
and a `Disallow`); this is why the read clauses above carry `DictAt … none`. -/
example : (run Env.sample World.init
    [.new 0, .set 0 ['x'] (.int 5), .addTrait 0 ['x'] evIntTrait, .get 0 ['x'],
     .addTrait 0 ['x'] disTrait, .get 0 ['x']]).2.drop 3 =
    [.ok (.val (.int 5)), .ok .done, .ok (.val (.int 5))] := by decide

/-! ## Re-entrancy: an instance trait added *during* the resolution governs -/

/-- `get_prefix_trait` fires `trait_added` after caching the wildcard trait and
then resolves the name **again** (ctraits.c:633-637).  So when a `trait_added`
listener of the object adds an instance trait for the very name that is being
resolved for the first time (`hooks = … ++ [(p, t')] ++ rest`, `p` a prefix of
the name, no later listener matching), that first write is dispatched to the
new instance trait `t'` — not to the wildcard trait `t` that was just cached —
the object ends up with `t'` as instance trait of the name, the class
dictionary with `t`; and `step` hands the value to the setter of `t'`. -/
theorem C13_reentrant_add_governs (E : Env) {w : World} {oi : Nat} {o : Obj} {c : Cls} {name : Name}
    {t t' : Trait} {p : Name} {before rest : List (Name × Trait)}
    (ho : w.objs[oi]? = some o) (hc : w.classes[o.cls]? = some c)
    (hi : o.itraits.get name = none) (hct : c.ctraits.get name = none)
    (hp : prefixTrait c o name true = .ok t)
    (hhooks : o.hooks = before ++ [(p, t')] ++ rest) (hmatch : p <+: name)
    (hrest : ∀ h ∈ rest, ¬ h.1 <+: name) :
    (resolveSet w oi o c name).2 = .ok t' ∧
    (∃ o', (resolveSet w oi o c name).1.objs[oi]? = some o' ∧ o'.itraits.get name = some t' ∧
        o'.dict = o.dict ∧ o'.cls = o.cls) ∧
    (∃ c', (resolveSet w oi o c name).1.classes[o.cls]? = some c' ∧ c'.ctraits.get name = some t) ∧
    ∀ v, (step E w (.set oi name v)).2 = (setattrKind E t' o.dict name (some v)).map (fun _ => Out.done) := by
  have hfire : (fireTraitAdded o name).itraits.get name = some t' ∧
      (fireTraitAdded o name).dict = o.dict ∧ (fireTraitAdded o name).cls = o.cls := by
    refine ⟨?_, fireTraitAdded_dict o name⟩
    -- of the listeners that match, `(p, t')` is the last: its trait is in front
    have hr : rest.filter (fun h => prefixMatches h.1 name) = [] :=
      List.filter_eq_nil_iff.mpr fun h hh hm => hrest h hh (prefixMatches_iff.mp hm)
    rw [fireTraitAdded_eq, hhooks]
    simp [List.filter_append, hr, prefixMatches_iff.mpr hmatch, Map.get_cons]
  have hrs : resolveSet w oi o c name =
      ({ classes := w.classes.set o.cls { c with ctraits := c.ctraits.set name t },
         objs := w.objs.set oi (fireTraitAdded o name) }, .ok t') := by
    unfold resolveSet
    rw [hi, hct]
    simp only [getPrefixTrait, hp, hfire.1]
  refine ⟨by rw [hrs], ⟨fireTraitAdded o name, ?_, hfire.1, hfire.2.1, hfire.2.2⟩,
    ⟨{ c with ctraits := c.ctraits.set name t }, ?_, Map.get_set_same _ _ _⟩, ?_⟩
  · rw [hrs]; exact getElem?_set_self' ho
  · rw [hrs]; exact getElem?_set_self' hc
  · intro v
    rw [step_set_eq E ho hc]
    unfold setattro
    rw [hrs]
    simp only
    cases setattrKind E t' o.dict name (some v) <;> rfl

/-- On a history: `f_ = Int` on a strict class, a listener
that gives names starting with `f_s` their own `Str` trait.  The first read
returns `''` (not `0`), the first write of a string is accepted and an int is
then refused; a name the listener does not touch follows the wildcard; after
`remove_trait` the wildcard governs again; a name first resolved by *another*
instance is cached in the class and the listener never hears of it. -/
example : (run Env.sample World.init
    [.mkClass [1] [(['f', '_', '_'], intTrait)], .new 3, .new 3, .hook 0 ['f', '_', 's'] strTrait,
     .get 0 ['f', '_', 's', '1'], .get 0 ['f', '_', 'n', '1'],
     .set 0 ['f', '_', 's', '2'] (.str "text"), .set 0 ['f', '_', 's', '2'] (.int 3),
     .removeTrait 0 ['f', '_', 's', '2'], .get 0 ['f', '_', 's', '2'],
     .get 1 ['f', '_', 's', '3'], .get 0 ['f', '_', 's', '3']]).2.drop 4 =
    [.ok (.val (.str "")), .ok (.val (.int 0)), .ok .done, .error .traitError, .ok (.bool true),
     .ok (.val (.int 0)), .ok (.val (.int 0)), .ok (.val (.int 0))] := by decide

end TraitsVerif.Props.C13
