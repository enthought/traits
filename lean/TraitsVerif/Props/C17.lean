/-
C17 — adaptation finds an adapter chain iff one exists, and a shortest one.

Only property theorems (+ full-strength statements kept as `def … : Prop` where the
code does not satisfy them, their negation witnesses, and non-vacuity examples).
Model: `Model/Adapt.lean`; vocabulary (`ValidChain`, `SucceedsFrom`, `Deterministic`,
`Homogeneous`, `OneStep`, `WeakOn`): `Lemmas/AdaptSpec.lean`, `Lemmas/AdaptExtra.lean`.
-/
import TraitsVerif.Lemmas.AdaptWitness
import TraitsVerif.Lemmas.AdaptSource3
namespace TraitsVerif.Props.C17
open TraitsVerif TraitsVerif.Model.Adapt TraitsVerif.Lemmas.Adapt
variable {α : Type}

/-! ## identity -/

/-- An adaptee whose type already provides the protocol is returned unchanged — whatever
it is, the object `None` included (finding F15) — and no factory
is called; `supports_protocol` is True. -/
theorem C17_identity (cfg : Cfg) (f : Factory α) (srcType : Nat) (adaptee : α) (target : Nat)
    (hasDefault : Bool) (hp : cfg.provides srcType target = true) :
    adapt cfg f srcType adaptee target hasDefault = (.self, []) ∧
    supportsProtocol cfg f srcType adaptee target = (.ok true, []) := by
  simp [adapt, supportsProtocol, hp]

-- `adapt(None, object)`: type 0 = NoneType provides protocol 0 = object; with or without a default
example : adapt (α := Unit) ⟨fun _ _ => true, fun _ => [], []⟩ okFactory 0 () 0 false = (.self, []) ∧
    adapt (α := Unit) ⟨fun _ _ => true, fun _ => [], []⟩ okFactory 0 () 0 true = (.self, []) ∧
    supportsProtocol (α := Unit) ⟨fun _ _ => true, fun _ => [], []⟩ okFactory 0 () 0 = (.ok true, []) :=
  ⟨rfl, rfl, rfl⟩

/-! ## soundness -/

/-- For a registry with homogeneous buckets (`Homogeneous`: what distinct protocol names give,
`C17_model_facts`), whatever the factories do (deterministic or not, raising or not): if `adapt`
returns an adapter, the adaptee's type did not provide the protocol, the chain of
offers used is applicable step by step, uses every offer at most once, ends at a
protocol providing the target, and the adapter is what the chain's factories
produced, each one having succeeded. -/
theorem C17_sound {cfg : Cfg} {f : Factory α} {srcType : Nat} {adaptee : α}
    {target : Nat} {hasDefault : Bool} {path : List Offer} {a : α} {tr : List CallRec}
    (hh : Homogeneous cfg)
    (h : adapt cfg f srcType adaptee target hasDefault = (.adapted path a, tr)) :
    cfg.provides srcType target = false ∧ ValidChain cfg srcType target path ∧
      ∃ k, SucceedsFrom f k path adaptee a := by
  obtain ⟨hp, hin⟩ := adapt_adapted.1 h
  exact ⟨hp, adaptInner_sound hh hin⟩

/-- Without the naming precondition soundness is false (finding F16): with two
protocols sharing a bucket, an offer is applied to a type that does not provide its
`from_protocol`. -/
def C17_sound_any_registry : Prop :=
  ∀ (cfg : Cfg) (f : Factory Unit) (srcType target : Nat) (path : List Offer) (a : Unit)
    (tr : List CallRec),
    adapt cfg f srcType () target false = (.adapted path a, tr) →
    ValidChain cfg srcType target path

theorem C17_sound_needs_homogeneous : ¬ C17_sound_any_registry := by
  intro h
  have hv := h collideCfg okFactory 0 2 [⟨1, 1, 2, 0⟩] () [⟨1, .ok⟩] (by decide)
  have := hv.applicable
  simp [Applicable, collideCfg, providesOf] at this

example : adapt chainCfg (refusing [0]) 3 () 2 false =
    (.adapted [⟨1, 0, 1, 0⟩, ⟨2, 1, 2, 1⟩] (), [⟨0, .none⟩, ⟨1, .ok⟩, ⟨2, .ok⟩]) := by decide

/-! ## completeness -/

/-- With factories that are functions of (offer, adaptee) and do not raise, and homogeneous
buckets, `_adapt` returns `None` exactly when no applicable, offer-simple chain from the adaptee's type
to the protocol has factories that all succeed. -/
theorem C17_complete {cfg : Cfg} {f : Factory α} {srcType : Nat} {adaptee : α} {target : Nat}
    (hdet : Deterministic f) (hnr : NoRaise f) (hh : Homogeneous cfg) :
    (adaptInner cfg f srcType adaptee target).1 = .notFound ↔
      ¬ ∃ chain a, ValidChain cfg srcType target chain ∧ SucceedsFrom f 0 chain adaptee a := by
  refine ⟨fun h ⟨chain, a, hv, hs⟩ => (adaptInner_spec hdet hh hv hs).1 h, fun hne => ?_⟩
  rcases adaptInner_cases hnr cfg srcType adaptee target with h | ⟨p, a, tr, h⟩
  · exact h
  · obtain ⟨hv, k, hs⟩ := adaptInner_sound hh h
    exact absurd ⟨p, a, hv, SucceedsFrom_det hdet _ _ _ _ _ hs⟩ hne

/-- The same at the level of `adapt`, for a type that does not itself provide the protocol: an
adapter comes back iff a successful chain exists. -/
theorem C17_complete_adapt {cfg : Cfg} {f : Factory α} {srcType : Nat} {adaptee : α}
    {target : Nat} {hasDefault : Bool}
    (hdet : Deterministic f) (hnr : NoRaise f) (hh : Homogeneous cfg)
    (hp : cfg.provides srcType target = false) :
    (∃ path a, (adapt cfg f srcType adaptee target hasDefault).1 = .adapted path a) ↔
      ∃ chain a, ValidChain cfg srcType target chain ∧ SucceedsFrom f 0 chain adaptee a := by
  constructor
  · rintro ⟨p, a, h⟩
    obtain ⟨hv, k, hs⟩ := adaptInner_sound hh (adapt_adapted.1 (Prod.ext h rfl)).2
    exact ⟨p, a, hv, SucceedsFrom_det hdet _ _ _ _ _ hs⟩
  · rintro ⟨chain, a, hv, hs⟩
    rcases adaptInner_cases hnr cfg srcType adaptee target with h | ⟨p, a', tr, h⟩
    · exact absurd h (adaptInner_spec hdet hh hv hs).1
    · exact ⟨p, a', by simp [adapt, hp, h]⟩

/-- Full strength without the determinism hypothesis.  False: a factory that answers by
call ordinal can refuse every call `_adapt` actually makes although, tried first, it
would have accepted. -/
def C17_complete_any_factory : Prop :=
  ∀ (cfg : Cfg) (f : Factory Unit) (srcType target : Nat), NoRaise f → Homogeneous cfg →
    ((adaptInner cfg f srcType () target).1 = .notFound ↔
      ¬ ∃ chain a, ValidChain cfg srcType target chain ∧ SucceedsFrom f 0 chain () a)

theorem C17_complete_needs_determinism : ¬ C17_complete_any_factory := by
  intro h
  have h1 := (h twoCfg firstCallOnly 0 1
    (by intro k o a e hf; simp only [firstCallOnly] at hf; split at hf <;> cases hf)
    twoCfg_homogeneous).1 (by decide)
  apply h1
  refine ⟨[⟨1, 0, 1, 0⟩], (), ⟨by simp, ?_, by simp [OfferSimple], by decide⟩, ⟨(), by decide, rfl⟩⟩
  exact ⟨⟨_, List.mem_cons_self, by simp⟩, by decide, trivial⟩

-- The configuration is an argument of every call: the theorems speak about the subclass relation
-- current at that call.  Before `Printable.register(Legacy)` no chain exists for LegacyChild and
-- `_adapt` finds none; after it, with the same offers, the chain exists and is found.
example : (adaptInner (lateCfg false) okFactory 2 () 3).1 = .notFound ∧
    adaptInner (lateCfg true) okFactory 2 () 3 = (.found [⟨0, 0, 3, 0⟩] (), [⟨0, .ok⟩]) := by decide

example : (adaptInner chainCfg (refusing [0, 2]) 3 () 2).1 = .notFound := by decide
example : (adaptInner chainCfg (refusing [0]) 3 () 2).1 ≠ .notFound := by decide

/-! ## minimality -/

/-- With deterministic factories (and homogeneous buckets), the returned chain has the minimum
number of adapters among all valid chains whose factories succeed. -/
theorem C17_minimal {cfg : Cfg} {f : Factory α} {srcType : Nat} {adaptee : α} {target : Nat}
    (hdet : Deterministic f) (hh : Homogeneous cfg) {path : List Offer} {a : α} {tr : List CallRec}
    (h : adaptInner cfg f srcType adaptee target = (.found path a, tr)) :
    ∀ chain a', ValidChain cfg srcType target chain → SucceedsFrom f 0 chain adaptee a' →
      path.length ≤ chain.length :=
  fun _ _ hv hs => (adaptInner_spec hdet hh hv hs).2 path a tr h

example : adaptInner chainCfg (refusing [0]) 3 () 2 =
    (.found [⟨1, 0, 1, 0⟩, ⟨2, 1, 2, 1⟩] (), [⟨0, .none⟩, ⟨1, .ok⟩, ⟨2, .ok⟩]) := by decide

/-! ## specificity -/

/-- With deterministic factories (and homogeneous buckets): when the chain returned is a single
offer, no offer that adapts in one step and whose factory accepts has a smaller MRO distance
from the adaptee's type to its `from_protocol`. -/
theorem C17_specific {cfg : Cfg} {f : Factory α} {srcType : Nat} {adaptee : α} {target : Nat}
    (hdet : Deterministic f) (hh : Homogeneous cfg) {o : Offer} {a : α} {tr : List CallRec}
    (h : adaptInner cfg f srcType adaptee target = (.found [o] a, tr))
    {o' : Offer} (h' : OneStep cfg f srcType adaptee target o') :
    ∃ d d', dist cfg srcType o.frm = some d ∧ dist cfg srcType o'.frm = some d' ∧ d ≤ d' := by
  obtain ⟨d, d', hd, hd', hor⟩ := one_step_order (edgeLt_compat_dist cfg) (fun _ _ => trivial) hdet hh h h'
  refine ⟨d, d', hd, hd', ?_⟩
  rcases hor with heq | hn
  · simp only [Prod.mk.injEq] at heq; omega
  · have : ¬ d' < d := hn
    omega

-- the Sub offer (distance 0) wins over the Base offer (distance 1) registered before it
example : adaptInner distCfg okFactory 1 () 2 = (.found [⟨1, 1, 2, 1⟩] (), [⟨1, .ok⟩]) := by decide
example : OneStep distCfg okFactory 1 () 2 ⟨0, 0, 2, 0⟩ :=
  ⟨⟨_, List.mem_cons_self, by simp⟩, by decide, by decide, ⟨(), rfl⟩⟩
example : dist distCfg 1 0 = some 1 ∧ dist distCfg 1 1 = some 0 := by decide

/-- Full strength of the second clause: at equal distance an offer registered for a
strict subclass is preferred.  False (finding F14). -/
def C17_specific_subclass_full : Prop :=
  ∀ (cfg : Cfg) (f : Factory Unit) (srcType target : Nat) (o : Offer) (a : Unit) (tr : List CallRec)
    (o' : Offer),
    Deterministic f → Homogeneous cfg →
    adaptInner cfg f srcType () target = (.found [o] a, tr) →
    OneStep cfg f srcType () target o' →
    dist cfg srcType o'.frm = dist cfg srcType o.frm →
    ¬ (o'.frm ≠ o.frm ∧ cfg.provides o'.frm o.frm = true)

/-- Foo provides IChild(IBase) and IOther; offers registered IBase→T, IOther→T,
IChild→T: the IBase offer is used. -/
theorem C17_specific_fails_at : ¬ C17_specific_subclass_full := by
  intro h
  have := h specCfg okFactory 3 4 ⟨0, 0, 4, 0⟩ () [⟨0, .ok⟩] ⟨2, 1, 4, 1⟩ okFactory_det
    specCfg_homogeneous (by decide)
    ⟨⟨[⟨2, 1, 4, 1⟩], by simp [specCfg], by simp⟩, by decide, by decide, ⟨(), rfl⟩⟩ (by decide)
  exact this ⟨by decide, by decide⟩

/-- What does hold: when the comparison is a strict weak order on the offers
applicable to the adaptee's type (e.g. their `from_protocol`s at each distance are
totally ordered by `issubclass`, or pairwise unrelated), an offer for a strict
subclass at the same distance is never passed over. -/
theorem C17_specific_subclass_partial {cfg : Cfg} {f : Factory α} {srcType : Nat} {adaptee : α}
    {target : Nat} (hdet : Deterministic f) (hh : Homogeneous cfg)
    (hw : WeakOn cfg (applicable cfg srcType []))
    {o : Offer} {a : α} {tr : List CallRec}
    (h : adaptInner cfg f srcType adaptee target = (.found [o] a, tr))
    {o' : Offer} (h' : OneStep cfg f srcType adaptee target o')
    (heq : dist cfg srcType o'.frm = dist cfg srcType o.frm) :
    ¬ (o'.frm ≠ o.frm ∧ cfg.provides o'.frm o.frm = true) := by
  obtain ⟨d, d', hd, hd', hor⟩ := one_step_order hw.compat (fun _ hx => hx) hdet hh h h'
  rintro ⟨hne, hsub⟩
  rw [hd, hd'] at heq
  simp only [Option.some.injEq] at heq
  subst heq
  rcases hor with heq | hn
  · simp only [Prod.mk.injEq] at heq
    exact hne (by rw [heq.2])
  · apply hn
    simp [edgeLt, hne, hsub]

example : WeakOn chainCfg (applicable chainCfg 3 []) := by
  refine ⟨?_, ?_⟩ <;> decide

/-! ## failure result -/

/-- The type does not provide the protocol and `_adapt` found nothing: `adapt` raises
AdaptationError, or returns the supplied default; `supports_protocol` is False. -/
theorem C17_default {cfg : Cfg} {f : Factory α} {srcType : Nat} {adaptee : α}
    {target : Nat} (hp : cfg.provides srcType target = false)
    (hnf : (adaptInner cfg f srcType adaptee target).1 = .notFound) :
    (adapt cfg f srcType adaptee target false).1 = .error .adaptationError ∧
    (adapt cfg f srcType adaptee target true).1 = .default ∧
    (supportsProtocol cfg f srcType adaptee target).1 = .ok false := by
  rcases hin : adaptInner cfg f srcType adaptee target with ⟨r, tr⟩
  rw [hin] at hnf
  simp only at hnf
  subst hnf
  simp [adapt, supportsProtocol, hp, hin, noneResult]

example : (adaptInner chainCfg (refusing [0, 2]) 3 () 2).1 = .notFound ∧
    (adapt chainCfg (refusing [0, 2]) 3 () 2 true).1 = .default ∧
    (adapt chainCfg (refusing [0, 2]) 3 () 2 false).1 = .error .adaptationError := by decide

/-- …and the default comes back in no other situation. -/
theorem C17_default_only {cfg : Cfg} {f : Factory α} {srcType : Nat} {adaptee : α}
    {target : Nat} {hasDefault : Bool}
    (h : (adapt cfg f srcType adaptee target hasDefault).1 = .default) :
    hasDefault = true ∧ cfg.provides srcType target = false ∧
      (adaptInner cfg f srcType adaptee target).1 = .notFound := by
  unfold adapt at h
  by_cases hp : cfg.provides srcType target = true
  · simp [hp] at h
  · have hp' : cfg.provides srcType target = false := by simpa using hp
    simp only [hp', Bool.false_eq_true, if_false] at h
    rcases hin : adaptInner cfg f srcType adaptee target with ⟨r, tr⟩
    rw [hin] at h
    cases r <;> cases hasDefault <;> simp [noneResult] at h
    exact ⟨rfl, hp', rfl⟩

/-! ## Supports / AdaptsTo / Instance(adapt=…) -/

/-- The validator of an adapting trait, mode by mode, for a value whose `isinstance`
agrees with `issubclass(type(value), klass)`:
* `None` is decided by `allow_none` alone, in every mode (it is never tested against the class);
* mode 0 (`adapt='no'`) is the isinstance check, and `adapt` is not called;
* modes 1 and 2 hand back exactly what `adapt(value, klass, None)` gives — the value
  itself if it provides the protocol, the adapter otherwise, the factory's exception
  if one raised — and, when `adapt` found nothing, TraitError (mode 1) or the trait's
  default value (mode 2). -/
theorem C17_supports (cfg : Cfg) (f : Factory α) (srcType : Nat) (adaptee : α) (target : Nat)
    (allowNone : Bool) (isInst : Bool) (ad : Out α) (mode : Nat) (hm : mode = 1 ∨ mode = 2) :
    (∀ m, validateTrait m allowNone true isInst ad = (if allowNone then .value else .error .traitError)) ∧
    validateTrait 0 allowNone false (cfg.provides srcType target) ad =
      (if cfg.provides srcType target then .value else .error .traitError) ∧
    validateCalls 0 false = false ∧
    validateTrait mode allowNone false (cfg.provides srcType target)
        (adapt cfg f srcType adaptee target true).1 =
      (match (adapt cfg f srcType adaptee target true).1 with
       | .self => .value
       | .adapted p a => .adapted p a
       | .error e => .error e
       | .default => if mode = 1 then .error .traitError else .default) := by
  refine ⟨?_, ?_, rfl, ?_⟩
  · intro m
    by_cases h0 : m = 0
    · subst h0; cases allowNone <;> simp [validateTrait, validateInstance]
    · simp [validateTrait, validateAdapt, h0]
  · simp [validateTrait, validateInstance]
  · by_cases hp : cfg.provides srcType target = true
    · rcases hm with rfl | rfl <;> simp [validateTrait, validateAdapt, adapt, hp]
    · have hp' : cfg.provides srcType target = false := by simpa using hp
      rcases hm with rfl | rfl <;>
        (simp only [validateTrait, validateAdapt, hp']
         cases (adapt cfg f srcType adaptee target true).1 <;> simp)

example : validateTrait 1 true false (chainCfg.provides 3 2) (adapt chainCfg (refusing [0]) 3 () 2 true).1 =
    .adapted [⟨1, 0, 1, 0⟩, ⟨2, 1, 2, 1⟩] () := by decide
example : validateTrait 2 true false (chainCfg.provides 3 2) (adapt chainCfg (refusing [0, 2]) 3 () 2 true).1 =
    .default := by decide

/-- The C function's own fallback (`validate_trait_adapt` in ctraits.c): when
`adapt` gives `None`, an instance is still accepted as is; `Supports` keeps the
validated value under `name` and the original under `name_`, `AdaptsTo` the reverse. -/
theorem C17_supports_fallback (allowNone : Bool) (mode : Nat) (hm : mode = 1 ∨ mode = 2) :
    validateAdapt (α := α) mode allowNone false true .default = .value ∧
    validateAdapt (α := α) mode allowNone false false .default =
      (if mode = 1 then .error .traitError else .default) ∧
    (∀ v : VOut α, stored false v = v ∧ shadow true v = .value) ∧
    (∀ v : VOut α, stored true v = .value ∧ shadow false v = v) := by
  rcases hm with rfl | rfl <;> simp [validateAdapt, stored, shadow]

/-! ## re-assignment: the shadow attribute follows what `adapt` answers now -/

/-- One assignment to a trait that already holds a value (or none yet).
`AdaptsTo` keeps the original under `name`, `Supports` the validated value.  Whenever
the validated value is not the very object stored so far — in particular whenever
`adapt` built an adapter, a new object — `post_setattr` runs: `AdaptsTo`'s `name_`
holds exactly what the validator returned *now* (not what it returned for an earlier
assignment of the same object), `Supports`'s `name_` the original. -/
theorem C17_shadow_tracks_adapt {β : Type} (same : β → β → Bool) (old : Option (Slots β))
    (dflt original validated : β) :
    (assignSlots true false same old dflt original validated).stored = original ∧
    (assignSlots false true same old dflt original validated).stored = validated ∧
    (∀ s, old = some s → same s.stored validated = false →
      (assignSlots true false same old dflt original validated).shadow = some validated ∧
      (assignSlots false true same old dflt original validated).shadow = some original) ∧
    (old = none → same dflt validated = false →
      (assignSlots true false same old dflt original validated).shadow = some validated ∧
      (assignSlots false true same old dflt original validated).shadow = some original) := by
  refine ⟨rfl, rfl, ?_, ?_⟩
  · intro s hs hne; subst hs; simp [assignSlots, hne]
  · intro hs hne; subst hs; simp [assignSlots, hne]

/-- Full strength: after *every* assignment `AdaptsTo`'s shadow is what the validator
returned now.  False (finding F81): when `adapt` now answers with the assigned object
itself and that object is what `name` already holds, the assignment counts as
unchanged and the shadow keeps the adapter of the earlier assignment. -/
def C17_shadow_full : Prop :=
  ∀ (old : Option (Slots Nat)) (dflt original validated : Nat),
    (assignSlots true false (fun a b => a == b) old dflt original validated).shadow = some validated

theorem C17_shadow_fails_at : ¬ C17_shadow_full := by
  intro h
  -- object 0 assigned before (shadow: adapter 7); adapt now returns object 0 itself
  have := h (some ⟨0, some 7⟩) 99 0 0
  simp [assignSlots] at this

-- the scenario of seeded change C17-m3: object 0 re-assigned, adapt now builds adapter 8 instead of 7
example : (assignSlots true false (fun a b : Nat => a == b) (some ⟨0, some 7⟩) 99 0 8).shadow = some 8 := by
  decide

/-! ## the model's two CPython pieces and termination -/

/-- `_adapt` as modelled never runs out of fuel: the `while` loop terminates within
`fuelFor = 1 + Σₖ n!/(n−k)!` rounds, `n` the number of registry entries (the sum counts the
offer-simple sequences over them; the decreasing measure is `mu` of `Lemmas/AdaptLoop.lean`). -/
theorem C17_terminates (cfg : Cfg) (f : Factory α) (srcType : Nat) (adaptee : α) (target : Nat) :
    (adaptInner cfg f srcType adaptee target).1 ≠ .outOfFuel :=
  fuel_suffices cfg f srcType adaptee target

/-- In every state the loop goes through, the model's sorted list pops exactly what
a min-heap holding the same entries pops: the queue is sorted, its counters are
pairwise distinct, hence (`heap_is_sorted_list`) any minimal entry of any
arrangement of the contents is the list's head. -/
theorem C17_queue_is_heap {cfg : Cfg} {f : Factory α} {adaptee : α} {target src : Nat} {st : St}
    (hrun : Run cfg f adaptee target src st)
    (heap : List Entry) (hperm : heap.Perm st.queue)
    (m : Entry) (rest : List Entry) (hpop : heap.Perm (m :: rest))
    (hmin : ∀ e ∈ rest, keyLt e m = false) :
    ∃ q', st.queue = m :: q' ∧ rest.Perm q' :=
  heap_is_sorted_list st.queue heap hperm hrun.sorted hrun.cntInv.2 m rest hpop hmin

/-- `list.sort` as modelled permutes its input whatever the comparison does (so the
order-independent theorems above hold for any sort), and distinct names give
homogeneous buckets (the precondition of the theorems, from `register_offer`). -/
theorem C17_model_facts (cfg : Cfg) (es : List Edge) (os : List Offer)
    (hnames : ∀ o ∈ os, ∀ o' ∈ os, o.key = o'.key → o.frm = o'.frm) :
    (pySort (edgeLt cfg) es).Perm es ∧ Homogeneous ⟨cfg.provides, cfg.supers, groupsOf os⟩ :=
  ⟨pySort_perm _ _, groupsOf_homogeneous os hnames _ _⟩

/-! ## the model's search is the source

`Generated/AdaptProg.lean` is the translation (regenerated on every run by
`harness/translate/pyadapt.py`) of the source text of `provides_protocol`,
`mro_distance_to_protocol`, `_adapt`, `_get_applicable_offers`,
`_by_weight_then_from_protocol_specificity`, `adapt`, `supports_protocol` and `register_offer`
into the deep-embedded language `Model/PyA.lean`. -/

open TraitsVerif.Model.PyA TraitsVerif.Generated.AdaptProg TraitsVerif.Lemmas.AdaptSource in
/-- **`Model.Adapt`'s search is the interpretation of the translated source**: for
every issubclass / MRO table and registry (with non-empty buckets — what
`register_offer` builds, `C17_registry_nonempty`), every factory table (ordinal-dependent
and raising ones included), adaptee type, adaptee and target, interpreting the source
of `_adapt` (and of everything it calls) gives the model's result and the model's
trace of factory calls.  (The result is compared with the path forgotten: `_adapt`
returns the adapter only; the path is what the trace shows.)  No assumption about ties
in the priority queue: the interpreter refuses to compare two heap entries with equal
weight triples (`C17_heap_tie_is_stuck` — Python would go on to compare the paths), and
the proof carries the invariant "every counter in the queue is below the next counter
value" (`Rel.hlt`) through the interpreted `while` loop, so the comparison is never asked. -/
theorem C17_search_is_source (cfg : Cfg) (hne : NonEmptyGroups cfg) (f : Factory α) (srcType : Nat)
    (adaptee : α) (target : Nat) :
    runAdapt adaptProg cfg f srcType adaptee target (fuelFor cfg) =
      (viewRes (adaptInner cfg f srcType adaptee target).1, (adaptInner cfg f srcType adaptee target).2) :=
  runAdapt_eq cfg hne f srcType adaptee target (fuelFor cfg)

open TraitsVerif.Model.PyA TraitsVerif.Lemmas.AdaptSource in
/-- The interpreter does not resolve ties in the priority queue: comparing two entries whose
weight triples (adapters, MRO steps, counter) are equal is stuck. -/
theorem C17_heap_tie_is_stuck (a b : Entry) (h1 : a.nAd = b.nAd) (h2 : a.mroSum = b.mroSum)
    (h3 : a.cnt = b.cnt) : weightLt (α := α) (encEntry a) (encEntry b) = none :=
  weightLt_tie a b h1 h2 h3

open TraitsVerif.Model.PyA TraitsVerif.Generated.AdaptProg TraitsVerif.Lemmas.AdaptSource in
/-- **`adapt` is its source**: interpreting `AdaptationManager.adapt` (the identity shortcut
`provides_protocol(type(adaptee), to_protocol)` taken before anything else — F15 —, the call
of `_adapt`, `result is None`, `default is AdaptationError`, `raise AdaptationError`,
`result = default`) gives the model's `adapt`: same outcome as the caller sees it, same
trace of factory calls; `adaptDefault` is the translated default value of `default`. -/
theorem C17_adapt_is_source (cfg : Cfg) (hne : NonEmptyGroups cfg) (f : Factory α) (srcType : Nat)
    (adaptee : α) (target : Nat) (hasDefault : Bool) :
    runAdaptCall adaptProg cfg f srcType adaptee target adaptDefault hasDefault (fuelFor cfg) =
      (viewOut adaptee (adapt cfg f srcType adaptee target hasDefault).1,
       (adapt cfg f srcType adaptee target hasDefault).2) := by
  have hb : ((if hasDefault then userDefault else adaptDefault) != "AdaptationError") = hasDefault := by
    cases hasDefault <;> decide
  simp only [runAdaptCall, callEff_adapt cfg hne, hb]
  rcases hr : adapt cfg f srcType adaptee target hasDefault with ⟨out, tr⟩
  cases out with
  | default =>
    -- the singleton that comes back is the caller's own: the model hands out the default only if one was supplied
    obtain rfl := (C17_default_only (congrArg Prod.fst hr)).1
    simp [flowOut, viewOut]
  | _ => simp [flowOut, viewOut]

open TraitsVerif.Model.PyA TraitsVerif.Generated.AdaptProg TraitsVerif.Lemmas.AdaptSource in
/-- **`supports_protocol` is its source** (`self.adapt(obj, protocol, _MISSING) is not _MISSING`). -/
theorem C17_supports_is_source (cfg : Cfg) (hne : NonEmptyGroups cfg) (f : Factory α) (srcType : Nat)
    (adaptee : α) (target : Nat) :
    runSupportsCall adaptProg cfg f srcType adaptee target (fuelFor cfg) =
      supportsProtocol cfg f srcType adaptee target := by
  simp only [runSupportsCall, callEff_supports cfg hne]
  rcases supportsProtocol cfg f srcType adaptee target with ⟨r, tr⟩
  cases r <;> rfl

open TraitsVerif.Model.PyA TraitsVerif.Generated.AdaptProg TraitsVerif.Lemmas.AdaptSource in
/-- **`register_offer` is its source**: interpreting
`offers = self._adaptation_offers.setdefault(offer.from_protocol_name, []); offers.append(offer)`
(the bucket is an alias of the list in the dict) on any registry gives the model's
`registerOffer`; hence registering a sequence of offers on a fresh manager gives `registry`,
the registry `C17_registry_nonempty` and `Homogeneous` (F16: buckets are keyed by NAME) speak about. -/
theorem C17_register_is_source (reg : List (Nat × List Offer)) (o : Offer) (os : List Offer) :
    runRegisterOffer adaptProg reg o = some (registerOffer reg o) ∧
    os.foldlM (runRegisterOffer adaptProg) [] = some (registry os) := by
  refine ⟨register_eq reg o, ?_⟩
  have fold : ∀ (os : List Offer) (r : List (Nat × List Offer)),
      os.foldlM (runRegisterOffer adaptProg) r = some (os.foldl registerOffer r) := by
    intro os
    induction os with
    | nil => intro r; rfl
    | cons o os ih => intro r; simp [List.foldlM_cons, register_eq, ih]
  exact fold os []

open TraitsVerif.Generated.AdaptProg in
/-- The registration wrappers and the bucket key are not interpreted; what the model assumes of
them is tied to their statement texts (any edit breaks this obligation):
`register_factory(f, A, B)` is `register_offer` of a new `AdaptationOffer(factory=f, from_protocol=A,
to_protocol=B)` (the model's `Offer` with `frm = A`, `to = B`, a fresh `id`);
`register_provides(A, B)` is `register_factory(no_adapter_necessary, A, B)` with
`no_adapter_necessary(x) = x` (an identity factory: kind `p` of the harness);
`from_protocol_name` — the model's `Offer.key` — is the string itself for a lazily named
protocol and `module + "." + __name__` for a class: NOT `__qualname__`, not identity (F16). -/
theorem C17_register_wrappers_source :
    registerFactorySource =
      ["def register_factory(self, factory, from_protocol, to_protocol)",
       "from traits.adaptation.adaptation_offer import AdaptationOffer",
       "self.register_offer(AdaptationOffer(factory=factory, from_protocol=from_protocol, to_protocol=to_protocol))"] ∧
    registerProvidesSource =
      ["def register_provides(self, provider_protocol, protocol)",
       "self.register_factory(no_adapter_necessary, provider_protocol, protocol)"] ∧
    noAdapterNecessarySource = ["def no_adapter_necessary(adaptee)", "return adaptee"] ∧
    offerNameSource =
      ["def _get_from_protocol_name(self)",
       "return self._get_type_name(self._from_protocol)",
       "def _get_type_name(self, type_or_type_name)",
       "if isinstance(type_or_type_name, str): type_name = type_or_type_name else: type_name = '{module}.{name}'.format(module=type_or_type_name.__module__, name=type_or_type_name.__name__)",
       "return type_name"] :=
  ⟨rfl, rfl, rfl, rfl⟩

open TraitsVerif.Lemmas.AdaptSource in
/-- What `register_offer` builds has no empty bucket (`offers[0]` in
`_get_applicable_offers` never raises). -/
theorem C17_registry_nonempty (provides : Nat → Nat → Bool) (supers : Nat → List Nat) (os : List Offer) :
    NonEmptyGroups ⟨provides, supers, groupsOf os⟩ := by
  intro g hg
  obtain ⟨kv, hkv, rfl⟩ := List.mem_map.1 hg
  exact (registry_inv (S := fun _ => True) os (fun _ _ => trivial) kv hkv).1

open TraitsVerif.Model.PyA TraitsVerif.Generated.AdaptProg TraitsVerif.Lemmas.AdaptSource in
/-- Completeness as a statement about the interpreted source: the translated `_adapt`
returns `None` exactly when no valid chain has factories that all succeed. -/
theorem C17_source_complete {cfg : Cfg} {f : Factory α} {srcType : Nat} {adaptee : α} {target : Nat}
    (hne : NonEmptyGroups cfg) (hdet : Deterministic f) (hnr : NoRaise f) (hh : Homogeneous cfg) :
    (runAdapt adaptProg cfg f srcType adaptee target (fuelFor cfg)).1 = .notFound ↔
      ¬ ∃ chain a, ValidChain cfg srcType target chain ∧ SucceedsFrom f 0 chain adaptee a := by
  rw [C17_search_is_source cfg hne, ← C17_complete hdet hnr hh]
  cases (adaptInner cfg f srcType adaptee target).1 <;> simp [viewRes]

open TraitsVerif.Model.PyA TraitsVerif.Generated.AdaptProg TraitsVerif.Lemmas.AdaptSource in
/-- Soundness and minimality as statements about the interpreted source: an adapter
returned by the translated `_adapt` was produced by a valid chain all of whose
factories succeeded, and (deterministic factories) no successful valid chain is shorter. -/
theorem C17_source_sound_minimal {cfg : Cfg} {f : Factory α} {srcType : Nat} {adaptee : α} {target : Nat}
    (hne : NonEmptyGroups cfg) (hh : Homogeneous cfg) {a : α}
    (h : (runAdapt adaptProg cfg f srcType adaptee target (fuelFor cfg)).1 = .found a) :
    ∃ path, ValidChain cfg srcType target path ∧ (∃ k, SucceedsFrom f k path adaptee a) ∧
      (Deterministic f → ∀ chain a', ValidChain cfg srcType target chain → SucceedsFrom f 0 chain adaptee a' →
        path.length ≤ chain.length) := by
  rw [C17_search_is_source cfg hne] at h
  rcases hin : adaptInner cfg f srcType adaptee target with ⟨r, tr⟩
  rw [hin] at h
  cases r with
  | found p a' =>
    cases h
    exact ⟨p, (adaptInner_sound hh hin).1, (adaptInner_sound hh hin).2, fun hdet => C17_minimal hdet hh hin⟩
  | _ => cases h

-- the interpreted `register_offer`: two offers under one name share a bucket, a third name opens a new one
open TraitsVerif.Model.PyA TraitsVerif.Generated.AdaptProg in
example : [⟨0, 0, 2, 0⟩, ⟨1, 1, 2, 0⟩, ⟨2, 3, 2, 3⟩].foldlM (runRegisterOffer adaptProg) [] =
    some [(0, [⟨0, 0, 2, 0⟩, ⟨1, 1, 2, 0⟩]), (3, [⟨2, 3, 2, 3⟩])] := by
  rw [(C17_register_is_source [] ⟨0, 0, 0, 0⟩ _).2]; decide

-- the interpreted source on the chain registry: the direct offer declines, the two-step chain is taken
open TraitsVerif.Model.PyA TraitsVerif.Generated.AdaptProg TraitsVerif.Lemmas.AdaptSource in
example : NonEmptyGroups chainCfg ∧
    runAdapt adaptProg chainCfg (refusing [0]) 3 () 2 (fuelFor chainCfg) =
      (.found (), [⟨0, .none⟩, ⟨1, .ok⟩, ⟨2, .ok⟩]) := by
  have hne : NonEmptyGroups chainCfg := by unfold NonEmptyGroups; decide
  refine ⟨hne, ?_⟩
  rw [C17_search_is_source chainCfg hne]
  decide

end TraitsVerif.Props.C17
