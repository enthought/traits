/-
C14 - pickling, deep copying and cloning preserve state and keep traits live.

Theorems about `Model/Persist` (objects, nested container values with owner
binding, `__getstate__` / `__setstate__`, `copy_traits` / `clone_traits` /
`__deepcopy__`) and, for trait definition objects, about `Model/FuncIndex`
over the C tables TRANSLATED from the working tree.

Quantification: every object (any number of traits of any declared shape),
every value of every size and nesting depth, every leaf validator that is
idempotent (`Idem`) and indifferent to which copy of a referenced object it
sees (`CopyStable`), every allocation state.  `WFObj` - every stored value is a
fixed point of its trait's validation - is the invariant C01/C04 establish for
reachable objects.
-/
import TraitsVerif.Lemmas.PersistObject
import TraitsVerif.Lemmas.PersistLive
import TraitsVerif.Lemmas.PersistClone
import TraitsVerif.Lemmas.CTabIndex
import TraitsVerif.Generated.CopyChains
import TraitsVerif.Lemmas.PersistSource
namespace TraitsVerif.Props.C14
open TraitsVerif TraitsVerif.Model.Persist TraitsVerif.Lemmas.Persist

/-! ## Pickle round trip -/

/-- **Values.**  Unpickling a pickle of any well-formed object succeeds and
gives an object with the same traits in which every persisted (non-transient)
trait holds a value equal to the original's (`norm`: identities, bindings and
copy generations forgotten) and every transient trait is absent from
`__dict__`, i.e. back at its default.  The original changes only in that
defaults it had never read are now stored. -/
theorem C14_values {E : Env} (hI : Idem E) (hC : CopyStable E) {s : Obj} (hw : WFObj E s) (o' n : Nat) :
    ∃ c, pickleRoundTrip E s o' n = .ok c ∧ c.copy.oid = o' ∧
      Forall2 (ReadOnlyChange E) s.slots c.orig.slots ∧
      Forall2 (fun a b => b.decl = a.decl ∧
          (a.decl.persisted = true → ∃ v w, a.val = some v ∧ b.val = some w ∧ norm w = norm v) ∧
          (a.decl.persisted = false → b.val = none)) c.orig.slots c.copy.slots := by
  obtain ⟨c, h1, h2, _, h4, h5⟩ := pickleRoundTrip_spec hI hC hw o' n
  refine ⟨c, h1, h2, h4, Forall2.imp ?_ h5⟩
  intro a b r
  refine ⟨r.decl, ?_, r.trans⟩
  intro hp
  obtain ⟨v, w, a1, a2, a3, _⟩ := r.pers hp
  exact ⟨v, w, a1, a2, a3⟩

/-- Non-vacuity of `C14_values` for a DYNAMIC default that nobody has read:
`ident = Int()` with a serial-number `_ident_default`.  `__getstate__` reads it
(computing it once, on the original: 5 here), the copy holds that value - not
the one a fresh computation on the copy would give - and the original keeps
reporting it. -/
example :
    let d : Decl := { name := "ident", shape := .leafT 0, dyn := true }
    let s : Obj := ⟨1, [⟨d, none⟩]⟩
    (match pickleRoundTrip E0 s 2 5 with
      | .ok c => (c.copy.slots.map (fun sl => sl.val.map ids), c.orig.slots.map (fun sl => sl.val.isSome),
                  c.copy.slots.map (fun sl => match sl.val with | some (.leaf (.int n)) => n | _ => -1),
                  c.orig.slots.map (fun sl => match sl.val with | some (.leaf (.int n)) => n | _ => -1))
      | .error _ => ([], [], [], [])) = ([some []], [true], [5], [5]) := by
  decide

/-- **Re-binding.**  In the restored object every container at a declared
position - the value of a `List`/`Dict`/`Set` trait and every container nested
in it through container-typed inner traits, at every depth - is a
`Trait*Object` bound to the NEW object with the trait of that position, and
holds only valid items (`Live`). -/
theorem C14_rebound {E : Env} (hI : Idem E) (hC : CopyStable E) {s : Obj} (hw : WFObj E s) (o' n : Nat)
    {c : Copied} (h : pickleRoundTrip E s o' n = .ok c) :
    ∀ sl ∈ c.copy.slots, ∀ w, sl.val = some w → Live E o' sl.decl.shape w := by
  obtain ⟨c', h1, _, _, _, h5⟩ := pickleRoundTrip_spec hI hC hw o' n
  rw [h] at h1
  cases h1
  exact Forall2.forall_right (fun _ _ r => r.live) h5

/-- **No sharing.**  After a pickle round trip no container object of the copy
is a container object of the original, defaults materialised by the pickling
included (`pickle_no_sharing` gives a boundary: the original's identities lie
below it, the copy's at or above it). -/
theorem C14_no_sharing {E : Env} (hI : Idem E) (hC : CopyStable E) {s : Obj} (hw : WFObj E s)
    {o' n m : Nat} (hb : BelowAll m s.slots) (hm : m ≤ n) {c : Copied}
    (h : pickleRoundTrip E s o' n = .ok c) :
    ∀ sl ∈ c.copy.slots, ∀ i ∈ slotIds sl, ∀ sl' ∈ c.orig.slots, i ∉ slotIds sl' := by
  obtain ⟨g, h1, h2⟩ := pickle_no_sharing hI hC hw hb hm h
  intro sl hs i hi sl' hs' hi'
  have a := h2 sl hs i hi
  have b := h1 sl' hs' i hi'
  omega

/-- **Declared containers are always re-built**, whatever produced the value
that is assigned (a reference, a shallow copy, a deep copy, an unpickled
object): after assignment through a trait, the container objects at declared
positions are new, and every other container is new or one of the value handed
in.  Hence the only objects a `copy='ref'`/`'shallow'` clone can share with its
source sit *below an `Any` position* (a bound: that those modes do share there is
not stated). -/
theorem C14_typed_containers_fresh {E : Env} (o n : Nat) (sh : Shape) (v v' : CVal) (n' : Nat)
    (h : validate E o sh n v = .ok (v', n')) :
    (∀ i ∈ declIds sh v', n ≤ i ∧ i < n') ∧ (∀ i ∈ ids v', (n ≤ i ∧ i < n') ∨ i ∈ ids v) :=
  ⟨validate_declIds_fresh o v sh n v' n' h, (validate_ids o v sh n v' n' h).2⟩

/-! ## The copy is live -/

/-- **Live.**  A value that is `Live` for object `o` (every restored or cloned
value is: `C14_rebound`, `C14_clone_values_deep`) behaves as a state of the live
container model: a mutation of any container in it, at any depth, that is
ACCEPTED leaves the value live, and at a declared container it is accepted only
if the trait of that position accepts the item (so an invalid item raises).
A top-level declared container notifies `o` (`<name>_items`). -/
theorem C14_live {E : Env} (hI : Idem E) {o : Nat} {sh : Shape} {v : CVal} (hl : Live E o sh v)
    (path : List Nat) (n : Nat) (key : Leaf) (item : CVal) :
    (∀ v' n', addAt E n key item path v = .ok (v', n') →
      Live E o sh v' ∧ Accepts E o n (shapeAt sh path) key item) ∧
    (∀ k kT iT lo hi, sh = .cont k kT iT lo hi → notifiesAt [] v = some o) := by
  refine ⟨fun v' n' h => addAt_live hI o v path sh n key item v' n' hl h, ?_⟩
  intro k kT iT lo hi hs
  subst hs
  exact live_notifies hl

/-- Reading it the other way: an item the inner trait rejects is rejected by
the (nested) list it is appended to (with which exception is not said). -/
theorem C14_live_rejects {E : Env} (hI : Idem E) {o : Nat} {sh : Shape} {v : CVal} (hl : Live E o sh v)
    (path : List Nat) (n : Nat) (key : Leaf) (item : CVal) {kT : LeafTy} {iT : Shape} {lo hi : Nat}
    (hs : shapeAt sh path = .cont .lst kT iT lo hi) (e : Exc) (hv : validate E o iT n item = .error e) :
    ∃ e', addAt E n key item path v = .error e' := by
  cases h : addAt E n key item path v with
  | error e' => exact ⟨e', rfl⟩
  | ok r =>
    obtain ⟨v', n'⟩ := r
    have := (addAt_live hI o v path sh n key item v' n' hl h).2
    rw [hs] at this
    obtain ⟨r, hr⟩ := this
    rw [hv] at hr
    cases hr

/-- **Write-once stays written.**  A `ReadOnly` trait that was written in the
original is written, with an equal value, in the restored object, and every
further assignment to it raises TraitError. -/
theorem C14_readonly_stays {E : Env} (hI : Idem E) (hC : CopyStable E) {s : Obj} (hw : WFObj E s) (o' n : Nat)
    {c : Copied} (h : pickleRoundTrip E s o' n = .ok c) :
    Forall2 (fun a b => a.decl.kind = .readonly → a.decl.transient = false →
        ∀ v, a.val = some v → v ≠ .leaf .undefined →
          ∃ w, b.val = some w ∧ norm w = norm v ∧ ∀ n' x, assignSlot E o' n' b x = .error .traitError)
      c.orig.slots c.copy.slots := by
  obtain ⟨c', h1, _, _, _, h5⟩ := pickleRoundTrip_spec hI hC hw o' n
  rw [h] at h1
  cases h1
  refine Forall2.imp ?_ h5
  intro a b r hk ht v hv hne
  have hp : a.decl.persisted = true := by simp [Decl.persisted, hk, ht]
  obtain ⟨v', w, a1, a2, a3, _⟩ := r.pers hp
  rw [hv] at a1
  cases a1
  refine ⟨w, a2, a3, ?_⟩
  intro n' x
  have hw' : w ≠ .leaf .undefined := by
    intro hc
    rw [hc] at a3
    exact hne (norm_undefined a3.symm)
  exact assignSlot_readonly_written (by rw [r.decl]; exact hk) a2 hw' o' n' x

/-! ## `clone_traits(copy='deep')` -/

/-- **Clone, deep - values.**  Under `clone_traits(copy='deep')` (hence
`copy.deepcopy`; `cloneSlot_deep` has it for `copy="deep"` metadata with any argument), for every
copyable trait whose `copy` metadata does not ask for less: the clone holds an
equal value, live for the clone, made only of NEW container objects - whatever
the value contains, detached containers (objects that went through
`__setstate__`) included: those could not be deep-copied before dd9f9de and
were silently dropped (finding F71). -/
theorem C14_clone_values_deep {E : Env} (hI : Idem E) (hC : CopyStable E) {src : Slot} (hw : WFSlot E src)
    (hc : src.decl.copyable = true) (hk : src.decl.kind ≠ .event)
    (hm : src.decl.copy = none ∨ src.decl.copy = some .deep)
    (oS oD n : Nat) (all : Bool) :
    let r := cloneSlot E oS oD (some .deep) all n src
    ∃ w, r.1.val = some w ∧ r.1.decl = src.decl ∧ norm w = norm (readSlot E oS n src).1 ∧
      Live E oD src.decl.shape w ∧ (∀ i ∈ ids w, (readSlot E oS n src).2.2 ≤ i) ∧
      r.2.1 = (readSlot E oS n src).2.1 := by
  obtain ⟨w, n2, e, h1, h2, -, h3⟩ := cloneSlot_deep hI hC hw (all := all) (arg := some .deep) (by simp [hc])
    (by rcases hm with h | h <;> simp [effMode, h]) oS oD n
  rw [e]
  exact ⟨w, rfl, rfl, h1, h2, fun i hi => (h3 i hi).1, rfl⟩

/-- Regression example, the input of finding F71: `x = Any()` holding an
unpickled `TraitListObject`; `obj.clone_traits(copy='deep')` keeps the value. -/
example :
    let d : Decl := { name := "x", shape := .any }
    let s : Obj := ⟨1, [⟨d, some (.node .lst 0 (.detached none) [] [.leaf (.int 1)])⟩]⟩
    (cloneTraits E0 s 2 (some .deep) 1).copy.slots.map (fun sl => sl.val.isSome) = [true] ∧
      (cloneTraits E0 s 2 (some .deep) 1).copy.slots.flatMap slotIds = [1] := by
  decide

/-- **No sharing under a deep clone.**  For `clone_traits(copy=arg)` of any
well-formed object in which every copied trait is copied deeply (`arg = 'deep'`
and no `copy="ref"/"shallow"` metadata, or `copy="deep"` metadata with any
`arg`): no container object of the clone is a container object of the source,
old or materialised during the cloning. -/
theorem C14_no_sharing_clone_deep {E : Env} (hI : Idem E) (hC : CopyStable E) (s : Obj) (o' n m : Nat)
    (arg : Option CopyMode) (hmn : m ≤ n) (hb : BelowAll m s.slots)
    (hd : ∀ sl ∈ s.slots, DeepOK E arg false sl) :
    ∀ c ∈ (cloneTraits E s o' arg n).copy.slots, ∀ i ∈ slotIds c,
      ∀ a ∈ (cloneTraits E s o' arg n).orig.slots, i ∉ slotIds a :=
  (cloneL_no_sharing hI hC s.oid o' m arg false s.slots n hmn hb hd).2.2.2

/-- **No sharing under `copy.deepcopy`.**  `copy.deepcopy(obj)` of any
well-formed object shares no container object with `obj`, for every trait that
does not itself ask for sharing through `copy="ref"` / `copy="shallow"`
metadata - in particular for traits WITHOUT copy metadata (`Any`, `This`, the
values inside a `Dict`), which before 50c4e1f were handed over by reference
(finding F70: `__deepcopy__` passed `copy=None`). -/
theorem C14_no_sharing_deepcopy {E : Env} (hI : Idem E) (hC : CopyStable E) (s : Obj) (o' n m : Nat)
    (hmn : m ≤ n) (hw : WFObj E s) (hb : BelowAll m s.slots)
    (hmeta : ∀ sl ∈ s.slots, sl.decl.copy = none ∨ sl.decl.copy = some .deep) :
    ∀ c ∈ (deepcopyObj E s o' n).copy.slots, ∀ i ∈ slotIds c,
      ∀ a ∈ (deepcopyObj E s o' n).orig.slots, i ∉ slotIds a := by
  apply C14_no_sharing_clone_deep hI hC s o' n m (some .deep) hmn hb
  intro sl hs
  refine ⟨hw sl hs, fun _ => ?_⟩
  rcases hmeta sl hs with h | h <;> simp [effMode, h]

/-- Regression example, the input of finding F70: `x = Any()`, `obj.x = []`.
The deep copy's list is a new object (identity 1, the original's is 0). -/
example :
    let d : Decl := { name := "x", shape := .any }
    let s : Obj := ⟨1, [⟨d, some (.node .lst 0 .plain [] [])⟩]⟩
    (deepcopyObj E0 s 2 1).copy.slots.flatMap slotIds = [1] ∧
      (deepcopyObj E0 s 2 1).orig.slots.flatMap slotIds = [0] := by
  decide

/-- **The copy mode reaches the whole graph.**  An object held by a trait that
is copied deeply (stated for an owner trait with `copy="deep"` metadata) is
cloned with the mode of the OUTER call: the value of one of
ITS traits has exactly the fate the same trait would have at top level -
referenced under `clone_traits()` / `copy=None` unless its own metadata says
otherwise, deep only under `'deep'`, `copy.deepcopy` or `copy="deep"` metadata.
(`clone_traits` stores its `copy` argument in the memo unconditionally; storing
it only when it is not None makes nested objects fall back to `'deep'`.) -/
theorem C14_nested_mode (arg childMeta : Option CopyMode) (uncopyable : Bool) :
    nestedTraitFate (.clone arg) (some .deep) childMeta uncopyable = valueFate (effMode childMeta arg) uncopyable ∧
    nestedTraitFate (.clone none) (some .deep) none uncopyable = .same ∧
    nestedTraitFate .deepcopy (some .deep) childMeta false =
      valueFate (effMode childMeta (some .deep)) false := by
  refine ⟨rfl, rfl, rfl⟩

/-- **One rule, two loops.**  `copy_traits` decides what to do with a value in
two places - the main loop and the loop over the deferred traits (delegates and
properties).  The two if/elif chains, as TRANSLATED from the working tree, are
the same chain and are the chain the model transcribes; and the two model
functions agree for every metadata and every argument: a `Property(…,
copy="ref")` or a `WeakRef` back pointer is shared in every mode exactly as an
ordinary trait with `copy="ref"` is. -/
theorem C14_copy_chains_agree :
    Generated.CopyChains.mainChain = Generated.CopyChains.deferredChain ∧
    Generated.CopyChains.mainChain.map (·.1) =
      ["copy_type == 'shallow'", "copy_type == 'ref'", "copy_type == 'deep' or deep_copy", "shallow_copy"] ∧
    (∀ md arg, effModeDeferred md arg = effMode md arg) ∧
    (∀ outer md u, outer ≠ .pickle → deferredFate outer md u = valueFate (effMode md outer.arg) u) := by
  have e : ∀ md arg, effModeDeferred md arg = effMode md arg := by
    intro md arg
    rcases md with _ | md <;> rcases arg with _ | arg <;> (try cases md) <;> (try cases arg) <;> rfl
  refine ⟨rfl, rfl, e, ?_⟩
  intro outer md u h
  cases outer with
  | clone arg => simp [deferredFate, e]
  | deepcopy => simp [deferredFate, e]
  | pickle => exact absurd rfl h

/-- **Transient traits stay at their defaults in a clone** (`clone_traits` with
any `copy` argument, hence also `copy.deepcopy`): a transient trait is never in
the clone's `__dict__`.  Before the F72 repair this failed for objects none of
whose traits is copyable: `clone_traits` handed `copy_traits` the empty list of
copyable names, which `copy_traits` reads as "all". -/
theorem C14_clone_transient_default (E : Env) (s : Obj) (o' n : Nat) (arg : Option CopyMode) :
    ∀ sl ∈ (cloneTraits E s o' arg n).copy.slots, sl.decl.transient = true → sl.val = none :=
  cloneL_transient E s.oid o' arg s.slots n

/-- Regression example, the input of finding F72: a class whose only trait is
`x = Any(transient=True)`, `obj.x = 3`; the clone's `x` is unset. -/
example :
    let d : Decl := { name := "x", shape := .any, transient := true }
    let s : Obj := ⟨1, [⟨d, some (.leaf (.int 3))⟩]⟩
    (cloneTraits E0 s 2 none 1).copy.slots.map (fun sl => sl.val.isSome) = [false] := by
  decide

/-! ## The model is the source (`copy_traits`) -/

open TraitsVerif.Model.PyP TraitsVerif.Lemmas.PersistSource in
/-- **`copy_traits` is the source** (whole function).  `Generated/PersistProg.lean` holds the source text of
`HasTraits.__getstate__`, `__reduce_ex__`, `__setstate__`, `copy_traits`, `clone_traits`, `__deepcopy__` and of the
container `__getstate__` / `__setstate__` / `__deepcopy__`, translated on every run into the deep-embedded language
`Model/PyPersist`.  For every leaf validator, every object without deferred (property / delegate) traits, every
allocation state, every `copy` argument, `memo` given or not, and both ways of selecting the traits (`traits=None`:
the copyable names, `all = false`; `traits="all"`: every name, `all = true`): interpreting
`new.copy_traits(other, traits, memo, copy)` on a fresh instance of the same class - the selection of the names, the
`for name in traits:` loop with its `try:` / bare `except:`, the deferral test, the Event test, `getattr(other,
name)`, the four-way `copy_type` chain with its `memo` split, `setattr(self, name, value)`, the (empty) loop over
the deferred names - gives exactly `cloneL` (the new slots, the source slots with defaults materialised, the
allocator), RETURNS exactly `cloneUnassignable` (the names whose copy or assignment raised - an Event that is merely
skipped is not among them), and records `traits_to_copy = "all"` in a given memo exactly when asked for all. -/
theorem C14_copy_is_source (E : Env) (oS oD n : Nat) (src : List Slot) (arg : Option CopyMode) (all : Bool)
    (mv : Val) (hmv : mv = .none ∨ mv = .memo) (hnd : ∀ sl ∈ src, sl.decl.kind ≠ .property) :
    ∃ ts, runMethod E oS oD noHandler "copy_traits" (.obj true) [.obj false, traitsArg all, mv, argVal arg] [] []
        ⟨src, src.map fun sl => ⟨sl.decl, none⟩, n, [], [], []⟩ =
          some (.ok (.nameList (cloneUnassignable E oS oD arg all n src)), ts) ∧
      ts.dst = (cloneL E oS oD arg all n src).1 ∧ ts.src = (cloneL E oS oD arg all n src).2.1 ∧
      ts.n = (cloneL E oS oD arg all n src).2.2 ∧
      memoGet ts.memo "traits_to_copy" = (if all && mv.isMemo then some (Val.str "all") else none) :=
  ⟨_, copyTraits_run E oS oD noHandler (traitsArg all) all (.inl rfl) hmv hnd [] [] [], rfl, rfl, rfl,
    by cases all <;> rcases hmv with rfl | rfl <;> rfl⟩

/-- The hypotheses of `C14_copy_is_source` are satisfiable on a non-trivial object - `x = Any()` holding a plain
list, no deferred trait - and the right-hand side is not trivial there: under `copy='deep'` the new object's value
is a new list (identity 1, the source's is 0). -/
example :
    let d : Decl := { name := "x", shape := .any }
    let src : List Slot := [⟨d, some (.node .lst 0 .plain [] [])⟩]
    (∀ sl ∈ src, sl.decl.kind ≠ .property) ∧
      (cloneL E0 1 2 (some .deep) false 1 src).1.flatMap slotIds = [1] ∧
      (cloneL E0 1 2 (some .deep) false 1 src).2.1.flatMap slotIds = [0] ∧
      cloneUnassignable E0 1 2 (some .deep) false 1 src = [] ∧
      -- `n = List(Int)` holding a list with a string (put there behind the trait's back): assignment to the copy raises
      cloneUnassignable E0 1 2 none false 1
        [⟨{ name := "n", shape := .cont .lst 0 (.leafT 0) 0 9 }, some (.node .lst 0 .plain [] [.leaf (.str "x")])⟩] = ["n"] := by
  refine ⟨?_, by decide, by decide, by decide, by decide⟩
  intro sl h
  simp only [List.mem_singleton] at h
  subst h
  simp

open TraitsVerif.Model.PyP TraitsVerif.Lemmas.PersistSource TraitsVerif.Generated.PersistProg in
/-- **`__getstate__` (and `__reduce_ex__`) are the source.**  Interpreting the translated text of
`HasTraits.__getstate__` - `trait_get(transient=is_none)`, the update with the `__dict__` entries of the
explicitly non-transient delegates (none in the modelled classes), the ISerializable test (not implemented by
the modelled classes; its body is never reached), `setdefault("__traits_version__", …)` - on any object, in any
allocation state, returns exactly the state `getstateL` computes, marked with the version, and leaves the object
as `getstateL` leaves it (defaults materialised by the reads); `__reduce_ex__` (any protocol) hands out that very
state, obtained by calling the translated `__getstate__`. -/
theorem C14_getstate_is_source (E : Env) (o oD n pr : Nat) (slots dst : List Slot) (memo : List (String × Val))
    (log : List String) (vars : Frame) :
    runMethod E o oD noHandler "__getstate__" (.obj false) [] [] [] ⟨slots, dst, n, vars, memo, log⟩ =
      some (.ok (.state (getstateL E o n slots).1 true),
        ⟨(getstateL E o n slots).2.1, dst, (getstateL E o n slots).2.2, vars, memo, log⟩) ∧
    runMethod E o oD (progHandler E o oD hasTraitsProg noHandler) "__reduce_ex__" (.obj false) [.int pr] [] []
        ⟨slots, dst, n, vars, memo, log⟩ =
      some (.ok (.state (getstateL E o n slots).1 true),
        ⟨(getstateL E o n slots).2.1, dst, (getstateL E o n slots).2.2, vars, memo, log⟩) :=
  ⟨getstate_is_source E o oD n noHandler slots dst memo log vars, reduce_is_source E o oD n pr slots dst memo log vars⟩

open TraitsVerif.Model.PyP TraitsVerif.Lemmas.PersistSource in
/-- **`__setstate__` is the source.**  Interpreting the translated text of `HasTraits.__setstate__` on a new
object with a state that carries the version mark (every state `__getstate__` returns does; the Traits-2 arm is
then not taken): the slots become exactly what `setstateL` computes, and the methods called on the new object are,
in this order, `_init_trait_listeners`, `_init_trait_observers`, `trait_set`, `_post_init_trait_listeners`,
`_post_init_trait_observers`, `traits_init`, `_trait_set_inited`.  When an assignment raises, the exception leaves
`__setstate__` after `trait_set`: the object is left unchanged and is never marked initialised. -/
theorem C14_setstate_is_source (E : Env) (oS o' n : Nat) (src dst : List Slot) (xs : List (Option CVal))
    (memo : List (String × Val)) (vars : Frame) :
    runMethod E oS o' noHandler "__setstate__" (.obj true) [.state xs true] [] [] ⟨src, dst, n, vars, memo, []⟩ =
      match setstateL E o' n dst xs with
      | .error e => some (.error e, ⟨src, dst, n, vars, memo, setstateLog.take 3⟩)
      | .ok (d', n') => some (.ok .none, ⟨src, d', n', vars, memo, setstateLog⟩) :=
  setstate_is_source E oS o' n src dst xs memo vars

open TraitsVerif.Model.PyP TraitsVerif.Lemmas.PersistSource TraitsVerif.Generated.PersistProg in
/-- **`clone_traits` is the source** (whole function, with the translated `copy_traits` - whole function - called
through it).  For every object without deferred traits, every `copy` argument, every allocation state:
interpreting `obj.clone_traits(copy=arg)` returns the new object, whose slots, the source's slots and the
allocator are exactly those of `cloneTraits`; the methods called on the new object are, in order, those of
`cloneLog` (`copy_traits` between the two `_init…` and the two `_post_init…` calls, `_trait_set_inited` last) -
without `copy_traits` when no trait is copyable (the `len(traits) > 0` guard of the F72 repair); and the memo
holds `traits_copy_mode = arg` afterwards (what `nestedArg` reads). -/
theorem C14_clone_is_source (E : Env) (s : Obj) (o' n : Nat) (arg : Option CopyMode)
    (hnd : ∀ sl ∈ s.slots, sl.decl.kind ≠ .property) :
    ∃ ts, runMethod E s.oid o' (progHandler E s.oid o' hasTraitsProg noHandler) "clone_traits" (.obj false) []
        ["copy"] [argVal arg] ⟨s.slots, [], n, [], [], []⟩ = some (.ok (.obj true), ts) ∧
      ts.dst = (cloneTraits E s o' arg n).copy.slots ∧ ts.src = (cloneTraits E s o' arg n).orig.slots ∧
      ts.n = (cloneTraits E s o' arg n).next ∧
      ts.log = (if (s.slots.filter (fun sl => sl.decl.copyable)).length = 0 then cloneLog.eraseIdx 2 else cloneLog) ∧
      memoGet ts.memo "traits_copy_mode" = some (argVal arg) :=
  ⟨_, cloneTraits_run E s.oid o' noHandler arg hnd _ _ _ (.inl ⟨rfl, rfl, rfl⟩) _, rfl, rfl, rfl, List.nil_append _,
    by simp [memoSet, memoGet]⟩

open TraitsVerif.Model.PyP TraitsVerif.Lemmas.PersistSource TraitsVerif.Generated.PersistProg in
/-- **`__deepcopy__` is the source**, of objects and of containers.
(1) `HasTraits.__deepcopy__(memo)`, interpreted with the translated `clone_traits` and `copy_traits` called through
it: called by `copy.deepcopy` itself (empty memo, `outer = none`) it is `cloneTraits … (some .deep)` = `deepcopyObj`;
called on an object reached while `clone_traits(copy=a)` copies a value deeply (the memo holds the outer mode,
`outer = some a`) it is `cloneTraits … a` - the `nestedArg` of the model.
(2) `Trait{List,Dict,Set}Object.__deepcopy__` is `Cls(self.trait, None, self.name, <copy.deepcopy(x, memo) of every
item>)`: a new object without owner and with the same trait - `ctorBinding (bindingTrait b)` - and
(3) that is the binding `deepcopyV` gives the copy of every container-object node, over the deep copies of its items. -/
theorem C14_deepcopy_is_source :
    (∀ (E : Env) (s : Obj) (o' n : Nat) (outer : Option (Option CopyMode)),
      (∀ sl ∈ s.slots, sl.decl.kind ≠ .property) →
      ∃ ts, runFn E s.oid o' (progHandler E s.oid o' hasTraitsProg (progHandler E s.oid o' hasTraitsProg noHandler))
          deepcopyFn (.obj false) [.memo] [] [] ⟨s.slots, [], n, [], dcMemo outer, []⟩ = some (.ok (.obj true), ts) ∧
        ts.dst = (cloneTraits E s o' (dcArg outer) n).copy.slots ∧
        ts.src = (cloneTraits E s o' (dcArg outer) n).orig.slots ∧
        ts.n = (cloneTraits E s o' (dcArg outer) n).next) ∧
    (∀ E s o' n, cloneTraits E s o' (dcArg none) n = deepcopyObj E s o' n) ∧
    (∀ a, dcArg (some a) = nestedArg (.clone a)) ∧
    (∀ (k : Kind) (b : Binding), runDeepcopy (progOf k) k b = some (ctorBinding (bindingTrait b))) ∧
    (∀ (n : Nat) (k : Kind) (i : Nat) (b : Binding) (keys : List Leaf) (kids : List CVal), b ≠ .plain →
      deepcopyV n (.node k i b keys kids) =
        match deepcopyL (n + 1) kids with
        | .error e => .error e
        | .ok (kids', n') =>
          .ok (.node k n (ctorBinding (bindingTrait b)) (keys.map (Leaf.copiedAt n)) kids', n')) :=
  ⟨fun E s o' n outer hnd => ⟨_, deepcopy_run E s.oid o' noHandler s.slots [] n outer hnd [] [], rfl, rfl, rfl⟩,
   fun _ _ _ _ => rfl, fun _ => rfl,
   container_deepcopy, fun n k i b keys kids hb => deepcopyV_node n k i b hb keys kids⟩

open TraitsVerif.Model.PyP TraitsVerif.Lemmas.PersistSource in
/-- **The container `__getstate__` / `__setstate__` are the source.**  For each of `TraitListObject`,
`TraitDictObject`, `TraitSetObject`, interpreting the translated methods on the attribute dictionary:
`__getstate__` returns the instance dictionary minus `object` and `trait` (everything else - name, validators - kept);
`__setstate__` of such a state hands `self.__dict__.update` a dictionary in which `object` is `lambda: None`, `trait`
is None, `notifiers` is `[self.notifier]`, the validator attributes are the state's and `name` is the state's (`""`
when the state has none) - for the list the `object is not None` arm is not taken.  That is the binding
`Binding.afterSetstate` / `Binding.afterCopy` give every container object: detached. -/
theorem C14_container_state_is_source :
    (∀ k : Kind,
      okDict (runRec (progOf k) "__getstate__" containerDict) = some stateDict ∧
      (∃ r, okSelf (runRec (progOf k) "__setstate__" stateDict) = some r ∧ restoredOK r = true ∧
        recGet r "name" = some .kept) ∧
      (∃ r, okSelf (runRec (progOf k) "__setstate__" (recDel stateDict "name")) = some r ∧ restoredOK r = true ∧
        recGet r "name" = some .emptyStr)) ∧
    (∀ b : Binding, b ≠ .plain → b.afterSetstate = .detached none ∧ b.afterCopy = .detached b.rule) := by
  refine ⟨container_state, ?_⟩
  intro b hb
  cases b <;> simp [Binding.afterSetstate, Binding.afterCopy] at hb ⊢

/-- The two logs are the call sequences `copychains` reads (so `C14_restored_before_inited` speaks of the same
runs), and the no-copyable-trait variant only lacks `copy_traits`. -/
example :
    TraitsVerif.Lemmas.PersistSource.cloneLog = Generated.CopyChains.cloneTraitsCalls ∧
    TraitsVerif.Lemmas.PersistSource.setstateLog = Generated.CopyChains.setstateCalls.drop 1 ∧
    TraitsVerif.Lemmas.PersistSource.cloneLog.eraseIdx 2 =
      Generated.CopyChains.cloneTraitsCalls.filter (· ≠ "copy_traits") :=
  ⟨rfl, rfl, by decide⟩

/-! ## Initialisation phase -/

/-- **Values are put back before the object counts as initialised.**  In
`clone_traits` (hence `copy.deepcopy`) and in `__setstate__` (unpickling,
`copy.copy`) of the working tree, `_trait_set_inited` is the LAST call made on
the new object; so a trait that accepts a value only while the
object is being set up (`UUID(can_init=True)`, write-once validators that ask
`traits_inited()`) gets the original's value `v`, whatever it is, and is
read-only afterwards.  (Translated from the working tree: calling
`_trait_set_inited` before `copy_traits` breaks it.) -/
theorem C14_restored_before_inited (v : Nat) :
    Generated.CopyChains.cloneTraitsCalls.getLast? = some "_trait_set_inited" ∧
    Generated.CopyChains.setstateCalls.getLast? = some "_trait_set_inited" ∧
    runSetup initOnly v Generated.CopyChains.cloneTraitsCalls = { inited := true, value := some v } ∧
    runSetup initOnly v Generated.CopyChains.setstateCalls = { inited := true, value := some v } := by
  refine ⟨rfl, rfl, rfl, rfl⟩

/-- The model can tell the order: initialised first, nothing is put back; and a trait that rejects every
assignment (`UUID()`, `ReadOnly(default)`: findings F92 / F93) is never put back, in any order. -/
example :
    (runSetup initOnly 7 ["_init_trait_listeners", "_trait_set_inited", "copy_traits"]).value = none ∧
    (runSetup (fun _ => false) 7 Generated.CopyChains.cloneTraitsCalls).value = none ∧
    (runSetup (fun _ => false) 7 Generated.CopyChains.setstateCalls).value = none := by
  decide

/-! ## Trait definition objects -/

open TraitsVerif.Model.FuncIndex TraitsVerif.Lemmas.CTab in
/-- **CTrait round trip.**  For every trait constructible through the API
(`CTrait(kind)`, `set_validate`, `delegate`, `property_fields`, `post_setattr`,
`clone`, earlier round trips), `__getstate__` returns, `__setstate__` of the
returned indices stays inside the tables, and the restored trait has exactly
the same five C handlers: it behaves as before.  Rests on
`∀ f ∈ assignable field, f ∈ table field` over the TRANSLATED tables
(`assignable_covered`): with `setattr_validate_property` missing from
`setattr_handlers` (finding F3, fixed by ad5fa01) it does not check. -/
theorem C14_ctrait_roundtrip {t : Fns} (h : Constructible t) :
    ∃ i, getstateIdx t = some i ∧ setstateIdx i = some t := by
  obtain ⟨i, hi⟩ := getstateIdx_of_forall fun f =>
    assignable_covered f (field_mem_all f) _ ((good_of_constructible h).1 f)
  exact ⟨i, hi, setstate_getstate hi⟩

/-! ## Non-vacuity -/

/-- The object of the example: `ll = List(List(Int))` holding `[[7]]`, bound to object 1. -/
def exInner : Shape := .cont .lst 3 (.leafT 0) 0 9
def exOuter : Shape := .cont .lst 3 exInner 0 9
def exObj : Obj :=
  ⟨1, [⟨{ name := "ll", shape := exOuter, dflt := .node .lst 0 .plain [] [] },
        some (.node .lst 1 (.bound 1 exOuter) [] [.node .lst 2 (.bound 1 exInner) [] [.leaf (.int 7)]])⟩]⟩

/-- Pickle it into object 2 and append `'bad'` to the INNER list of the copy. -/
def exProbe : Option Exc :=
  match pickleRoundTrip E0 exObj 2 3 with
  | .ok c =>
    match c.copy.slots with
    | [sl] =>
      match sl.val with
      | some w =>
        match addAt E0 c.next .none (.leaf (.str "bad")) [0] w with
        | .error e => some e
        | .ok _ => none
      | none => none
    | _ => none
  | .error _ => none

/-- The hypotheses of the pickle theorems hold of a nested, bound, non-empty
value, and the copy's inner list rejects a string with TraitError. -/
example : Idem E0 ∧ CopyStable E0 ∧ WFObj E0 exObj ∧ BelowAll 3 exObj.slots ∧ exProbe = some .traitError := by
  refine ⟨E0_idem, E0_copyStable, ?_, ?_, by decide⟩
  · intro sl hs
    simp only [exObj, List.mem_singleton] at hs
    subst hs
    refine ⟨fun _ => .node (fun _ => by simp) (fun _ h => by cases h) (fun _ h => by cases h), ?_⟩
    intro v hv
    cases hv
    refine .node (fun _ => by simp) (fun _ h => by cases h) ?_
    intro kid hk
    simp only [List.mem_singleton] at hk
    subst hk
    refine .node (fun _ => by simp) (fun _ h => by cases h) ?_
    intro kid hk
    simp only [List.mem_singleton] at hk
    subst hk
    exact .leaf rfl
  · intro sl hs
    simp only [exObj, List.mem_singleton] at hs
    subst hs
    refine ⟨?_, ?_⟩ <;> intro i hi <;> simp [slotIds, ids, idsL] at hi <;> omega

end TraitsVerif.Props.C14
