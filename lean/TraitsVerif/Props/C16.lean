/-
C16 — legacy `on_trait_change` extended names agree with `observe` on unshared graphs.

Model: `TraitsVerif.Model.Legacy` (ListenerItem chain with its `active` tables,
notifier lists per object, the `handle_*` re-registration scripts, removal).
Specification (`specCalls`, what `observe` promises; C08's `reach` specialised to
chains): a change is delivered iff the changed object is reachable from the root
along the name in the current heap (and, for a link, the link is a `.` link).

Histories start from a tree-shaped heap `h₀` with no registration (`start h₀`;
`Heap.init` = a single root, every graph is then built by the history itself)
and consist of `Op`s; a container change inserts fresh objects and/or objects that were in the
same container before it (reorderings, carry-over reassignments), so the graph stays a tree.
-/
import TraitsVerif.Lemmas.LegacyMain
import TraitsVerif.Lemmas.LegacySource
import TraitsVerif.Lemmas.LegacyParser
import TraitsVerif.Lemmas.LegacyGroup
namespace TraitsVerif.Props.C16
open TraitsVerif.Model.Legacy
open TraitsVerif.Model.LisL (regSrc handleSrc eventOf methOf handlerFor)
open TraitsVerif.Generated.LegacyProg (prog)

/-! ### the model is the source

`Generated/LegacyProg.lean` is the translation (harness/translate/legacysrc.py, Python `ast`,
regenerated from the working tree on every run) of `ListenerItem.register / unregister /
_register_simple / _register_list (= _register_set) / _register_dict / handle_*` of
traits/traits_listener.py into the deep-embedded language `Model/LisL.lean`. -/

/-- `register` and `unregister` of the model are, for all heaps, names, items, objects and
listener states, the interpretation of the translated source: the early-return test
(`new is None or new is Undefined or new in self.active` / `old is not None …` +
`self.active.pop`), the `active` bookkeeping, the `_on_trait_change` calls of the
`_register_<kind>` method that `type_map` and the class-level alias select for the trait's kind
(which handler, on `name` or `name_items`, in which order, under which of `self.notify` /
`self.type` / `next is None`), and the walk into `next` over `getattr(object, name)`.  Hence
`C16_legacy_eq_reach`, `C16_agree`, `C16_remove_stops` … are theorems about the interpreted
source. -/
theorem C16_register_is_source (h : Heap) (ty0 : LType) (fin : Final) (ls : List Link) (k o : Nat)
    (s : LState) :
    register h ty0 fin k ls o s = regSrc prog h ty0 fin false k ls o s ∧
    unregister h ty0 fin k ls o s = regSrc prog h ty0 fin true k ls o s :=
  ⟨(TraitsVerif.Model.LisL.regSrc_is_model h ty0 fin false ls k o s).symm,
   (TraitsVerif.Model.LisL.regSrc_is_model h ty0 fin true ls k o s).symm⟩

/-- The un/re-registration script of every operation of a history is what the translated
`handle_simple / handle_list / handle_list_items / handle_dict / handle_dict_items` does on the
event the operation sends (`eventOf`: the items of the old and new value, or `removed` / `added` /
`changed` of the `_items` event), where the method is the one the translated `_register_<kind>`
installs on the trait (`C16_handler_table`). -/
theorem C16_handle_is_source {h : Heap} {op : Op} {m : Mut} (hm : mutate h op = some m) :
    match methOf m.trait with
    | some (meth, items) => m.script = handleSrc prog meth items (eventOf h op m)
    | none => m.script = [] := by
  open TraitsVerif.Model.LisL in
  cases op with
  | dictSet o key =>
    simp only [mutate] at hm
    split at hm
    · split at hm <;> cases hm <;> rename_i hf <;>
        simp [methOf, eventOf, handle_dictItems_src, unregAll, regAll, hf]
    · cases hm
  | dictDel o key =>
    simp only [mutate] at hm
    split at hm
    · split at hm <;> cases hm
      simp [methOf, eventOf, handle_dictItems_src, unregAll, regAll, scUnregs, scRegs]
    · cases hm
  | dictUpdate o keys =>
    simp only [mutate] at hm
    split at hm
    · cases hm
      simp [methOf, eventOf, handle_dictItems_src, unregAll]
    · cases hm
  | rearrange o d p n inplace =>
    simp only [mutate] at hm
    split at hm
    · cases hm
      cases inplace <;> simp [methOf, eventOf, handle_list_src, handle_listItems_src]
    · cases hm
  | stray n =>
    simp only [mutate] at hm
    cases hm
    simp [methOf, eventOf, handle_simple_src, unregAll, regAll, scUnregs, scRegs]
  | reg => simp [mutate] at hm
  | unreg => simp [mutate] at hm
  | probe o f =>
    simp only [mutate] at hm
    split at hm <;> cases hm
    simp [methOf]
  | _ =>
    simp only [mutate] at hm
    split at hm
    · cases hm
      simp [methOf, eventOf, handle_simple_src, handle_list_src, handle_listItems_src, handle_dict_src,
        handle_dictItems_src] <;> rfl
    · cases hm

/-- The guards of `register` / `unregister` as written in the source, for EVERY combination of the
facts they test (also `Undefined` / `Uninitialized` values, which the model's heaps do not
contain): register returns at once iff `new` is None, Undefined or already active; unregister
looks at `self.active` iff `old` is neither None nor Uninitialized. -/
theorem C16_guards_are_source (nn nt a b c : Bool) :
    TraitsVerif.Model.LisL.evalCond { nextNone := nn, notify := nt, type := 0, remove := false, valNone := a, valUndefined := b, valActive := c } prog.registerSkip = (a || b || c) ∧
    TraitsVerif.Model.LisL.evalCond { nextNone := nn, notify := nt, type := 0, remove := true, valNone := a, valUninit := b } prog.unregisterGuard = (!a && !b) :=
  ⟨by cases a <;> cases b <;> cases c <;> rfl, by cases a <;> cases b <;> rfl⟩

/-- Deferred items (`deferred=True`, every `@on_trait_change` method): the translated
`_register_<kind>` attaches the same notifiers and skips the walk into the current value(s) exactly
for a registration of a deferred item whose attribute is not yet in `object.__dict__` — where the
value is the empty default, so that `registerTop` = `register` (see Model/Legacy.lean). -/
theorem C16_deferred_is_source (ty : LType) (k : Nat) (l : Link) (remove deferred materialised : Bool) :
    (TraitsVerif.Model.LisL.summary prog (TraitsVerif.Model.LisL.dvtOf l.attr)
        { nextNone := false, notify := l.notify, type := TraitsVerif.Model.LisL.typeNum prog ty, remove := remove, deferred := deferred, materialised := materialised }).tail =
      (if !remove && deferred && !materialised then TraitsVerif.Model.LisL.Tail.none
        else TraitsVerif.Model.LisL.expectedTail l.attr remove) ∧
    (TraitsVerif.Model.LisL.summary prog (TraitsVerif.Model.LisL.dvtOf l.attr)
        { nextNone := false, notify := l.notify, type := TraitsVerif.Model.LisL.typeNum prog ty, remove := remove, deferred := deferred, materialised := materialised }).hooks.map (TraitsVerif.Model.LisL.toHook k l.attr)
      = linkHooks ty k l :=
  ⟨(TraitsVerif.Model.LisL.summary_link ty l remove deferred materialised).2,
   TraitsVerif.Model.LisL.linkHooks_is_source ty k l remove deferred materialised⟩

/-- DST signatures (handler(new) / handler(name, new); not in the model): the notifiers the translated
source installs for them are the table `dstHooks` (`handle_dst` on a notifying Instance link,
`handle_error` on notifying container links, never the user's handler), and the three listener type
constants are distinct. -/
theorem C16_dst_table (l : Link) (remove : Bool) :
    (TraitsVerif.Model.LisL.summary prog (TraitsVerif.Model.LisL.dvtOf l.attr)
        { nextNone := false, notify := l.notify, type := prog.dstListener, remove := remove }).hooks
      = TraitsVerif.Model.LisL.dstHooks l.attr l.notify ∧
    prog.anyListener ≠ prog.srcListener ∧ prog.anyListener ≠ prog.dstListener ∧
    prog.srcListener ≠ prog.dstListener :=
  ⟨TraitsVerif.Model.LisL.dst_hooks_table l remove, by decide⟩

/-- `_register_anytrait` as translated: one anytrait notifier with the user's handler and nothing else
(no named notifier, no walk into `next`), for every item flag and both `remove` values. -/
theorem C16_anytrait_is_source (nn nt remove : Bool) (ty : Nat) :
    (match TraitsVerif.Model.LisL.lookup prog.regMethods TraitsVerif.Model.LisL.RegName.anytrait with
     | some b => TraitsVerif.Model.LisL.exec { nextNone := nn, notify := nt, type := ty, remove := remove } b {}
     | none => { raised := true }) =
      { anyHooks := [TraitsVerif.Model.LisL.Who.user], done := true } := by
  cases nn <;> cases nt <;> cases remove <;> rfl

/-- Re-registration is synchronous: every notifier bound to a `ListenerItem` method is installed with
`dispatch="extended"`, every notifier of the user's handler with the user's dispatch — for every link
kind (Instance, List, Set, Dict), connector, handler type and for registration and removal.  Before
/repo 257ca45 this failed for Dict links (finding F105, repaired). -/
theorem C16_reregistration_sync (l : Link) (ty : Nat)
    (hty : ty = prog.anyListener ∨ ty = prog.srcListener ∨ ty = prog.dstListener) (remove : Bool) :
    ∀ p ∈ (TraitsVerif.Model.LisL.summary prog (TraitsVerif.Model.LisL.dvtOf l.attr)
        { nextNone := false, notify := l.notify, type := ty, remove := remove }).hooks,
      p.2.2 = (match p.2.1 with | .tl _ => true | .user => false) := by
  open TraitsVerif.Model.LisL in
  rcases hty with rfl | rfl | rfl
  · rw [show prog.anyListener = typeNum prog .any from rfl, (summary_link .any l remove false true).1]
    exact srcHooks_sync .any l
  · rw [show prog.srcListener = typeNum prog .src from rfl, (summary_link .src l remove false true).1]
    exact srcHooks_sync .src l
  · rw [dst_hooks_table]
    rcases l with ⟨a, n⟩
    cases a <;> cases n <;> decide

/-! ### wildcard / metadata items -/

/-- The `if last == "*":` branch of `ListenerItem.register` as translated: an anytrait item (`-` alone)
puts its `active` entry first and goes to `_register_anytrait(new, "", False)` (`C16_anytrait_is_source`:
one anytrait notifier); otherwise the item registers, in `trait_names` order, exactly the traits that
are not events, whose metadata is set (`+m`) / not set (`-m`) when a metadata name is given, and whose
name starts with the prefix when there is one — and hooks `_new_trait_added` on `trait_added`.
Classification of those traits is `type_map`'s. -/
theorem C16_wildcard_register_is_source (metaNamed metaDefined prefixNonEmpty : Bool)
    (ts : List TraitsVerif.Model.LisL.TInfo) :
    TraitsVerif.Generated.LegacyProg.wild.selected metaNamed metaDefined prefixNonEmpty ts =
      ts.filter (fun t => !t.isEvent && (!metaNamed || (if metaDefined then t.metaSet else !t.metaSet)) &&
        (!prefixNonEmpty || t.hasPrefix)) ∧
    TraitsVerif.Generated.LegacyProg.wild.anytraitFirst = true ∧
    TraitsVerif.Generated.LegacyProg.wild.hooksTraitAdded = true ∧
    TraitsVerif.Model.LisL.regKind prog .list = .list ∧ TraitsVerif.Model.LisL.regKind prog .dict = .dict ∧
    TraitsVerif.Model.LisL.regKind prog .set = .list ∧ TraitsVerif.Model.LisL.regKind prog .constant = .simple := by
  refine ⟨?_, rfl, rfl, rfl, rfl, rfl, rfl⟩
  unfold TraitsVerif.Model.LisL.Wild.selected
  congr 1
  funext t
  cases metaNamed <;> cases metaDefined <;> cases prefixNonEmpty <;>
    simp [TraitsVerif.Generated.LegacyProg.wild, TraitsVerif.Model.LisL.Filter.holds]

/-- Traits added later: `_new_trait_added` handles a new trait with the `_register_<kind>` method
`register` would have used (same `type_map` lookup on `handler.default_value_type`).  Failed before
/repo a16357d (finding F107: `handler.default_value_`, every late trait registered as simple; repaired). -/
theorem C16_new_trait_added_full (d : TraitsVerif.Model.LisL.DVT) :
    TraitsVerif.Model.LisL.lateKind prog TraitsVerif.Generated.LegacyProg.wild d = TraitsVerif.Model.LisL.regKind prog d := by
  cases d <;> rfl

-- regression: a List / Dict / Set trait added later is registered by _register_list / _register_dict / _register_list
example : TraitsVerif.Model.LisL.lateKind prog TraitsVerif.Generated.LegacyProg.wild .list = .list := rfl
example : TraitsVerif.Model.LisL.lateKind prog TraitsVerif.Generated.LegacyProg.wild .dict = .dict := rfl
example : TraitsVerif.Model.LisL.lateKind prog TraitsVerif.Generated.LegacyProg.wild .set = .list := rfl

/-! ### the parser: what '.' and ':' mean -/

/-- `ListenerParser(name, deferred=d, handler_type=ty).listener`, interpreted from the translated
source of `parse`, `parse_group` and `parse_item` (Model/ParL.lean, token level), for EVERY name of
the fragment `a₀ c₀ a₁ c₁ … final` with connectors '.' / ':' (any length, any identifiers): the
result is the plain chain of `ListenerItem`s the model assumes (`modelChain`) — item `k` listens to
`aₖ`, has `notify = (cₖ = '.')`, carries the handler's type only for `k = 0` and `ANY_LISTENER`
afterwards (`Model.Legacy.typeOf`, the "bug-for-bug compatibility" of upstream #537 behind finding
F63), is deferred only for `k = 0`, and the last item has `next = None`; no group, no wildcard, no
metadata flag, no optional flag is produced.  Two-level names take the `simple_pat` shortcut of
`parse`, longer ones `parse_group` / `parse_item`: both give the same chain. -/
theorem C16_parser_is_source (ls : List (Nat × Bool)) (fin : Nat) (ty0 : LType) (d : Bool) :
    TraitsVerif.Model.ParL.parseSrc TraitsVerif.Generated.LegacyProg.pprog
        (TraitsVerif.Model.ParL.toksOf ls fin) d (TraitsVerif.Model.LisL.typeNum prog ty0)
      = some (TraitsVerif.Model.ParL.modelChain ty0 d 0 ls fin) := by
  rw [TraitsVerif.Model.ParL.parseSrc_chain, TraitsVerif.Model.ParL.chainFrom_model]

/-- `ListenerGroup` as translated: `register` / `unregister` apply the items' own method to the same
object in list order, `set_next` / `set_notify` forward to every item, and `parse_group` returns
the single item itself for a one-element group. -/
theorem C16_group_is_source {α σ : Type} (remove : Bool) (f : α → σ → σ) (items : List α) (s : σ) :
    TraitsVerif.Model.ParL.groupReg TraitsVerif.Generated.LegacyProg.pprog remove f items s
        = items.foldl (fun s it => f it s) s ∧
    TraitsVerif.Generated.LegacyProg.pprog.groupSetNextForwards = true ∧
    TraitsVerif.Generated.LegacyProg.pprog.groupSetNotifyForwards = true ∧
    TraitsVerif.Generated.LegacyProg.pprog.groupUnwrapsSingle = true := by
  cases remove <;> exact ⟨rfl, rfl, rfl, rfl⟩

-- the interpreted parser on `[a, b].c` (tokens): a group of two items that share the next item `c`
example :
    TraitsVerif.Model.ParL.parseSrc TraitsVerif.Generated.LegacyProg.pprog
      [.lbr, .name 0, .comma, .name 1, .rbr, .dot, .name 2] false 1 =
    some (.group (.item { name := some 0, type := 1, deferred := false } (.item { name := some 2, type := 0, deferred := false } .nil))
      (.group (.item { name := some 1, type := 1, deferred := false } (.item { name := some 2, type := 0, deferred := false } .nil))
        .gnil)) := by rfl
-- `a:b.c`
example :
    TraitsVerif.Model.ParL.parseSrc TraitsVerif.Generated.LegacyProg.pprog
      (TraitsVerif.Model.ParL.toksOf [(0, false), (1, true)] 2) true 1 =
    some (.item { name := some 0, notify := false, type := 1, deferred := true }
      (.item { name := some 1, notify := true, type := 0, deferred := false }
        (.item { name := some 2, type := 0, deferred := false } .nil))) := by rfl

/-- Which handle_* method serves which trait (read off the translated `_register_<kind>`), for `.`
and `:` links and every handler signature of the fragment. -/
theorem C16_handler_table (n : Bool) (ty : LType) :
    handlerFor prog ⟨.child, n⟩ ty false = some .simple ∧
    handlerFor prog ⟨.kids, n⟩ ty false = some .list ∧ handlerFor prog ⟨.kids, n⟩ ty true = some .listItems ∧
    handlerFor prog ⟨.group, n⟩ ty false = some .list ∧ handlerFor prog ⟨.group, n⟩ ty true = some .listItems ∧
    handlerFor prog ⟨.byname, n⟩ ty false = some .dict ∧ handlerFor prog ⟨.byname, n⟩ ty true = some .dictItems := by
  cases n <;> cases ty <;> decide

/-! ### tree-shapedness -/

/-- Every operation of a history (reassignment of a link to a fresh object or
`None`, list and dict reassignment, slice assignment / append / insert / delete /
clear with fresh objects, dict `__setitem__` / `update` / `|=` / `setdefault` /
`__delitem__` / `pop` / `popitem` / `clear`; in-place reorderings `reverse` / `sort` /
`kids[:] = …` and reassignments of a list or dict that carry current objects over; set
reassignment and every single-event set mutation; allocation into a detached container)
preserves tree-shapedness. -/
theorem C16_tree_preserved {h : Heap} {op : Op} {m : Mut} (ht : TreeShaped h)
    (hm : mutate h op = some m) : TreeShaped m.h' := by
  rcases mutate_spec ht hm with ⟨_, _, hh, _, _, _⟩ | ⟨_, _, hc, _⟩
  · rw [hh]; exact ht
  · exact hc.tree ht

/-- … hence every heap of every history is tree-shaped. -/
theorem C16_tree_preserved_run (N : Name) {h₀ : Heap} (ht : TreeShaped h₀) (ops : List Op) :
    TreeShaped (run N (start h₀) ops).h := (inv_run ht ops).tree

/-! ### the refinement invariant -/

/-- After any history the `active` table of `ListenerItem` number `k` is exactly
the set of objects at depth `k` along the name in the current heap (and empty
while no registration exists). -/
theorem C16_legacy_eq_reach (N : Name) {h₀ : Heap} (ht : TreeShaped h₀) (ops : List Op) (k x : Nat) :
    x ∈ (run N (start h₀) ops).s.active k ↔
      ((run N (start h₀) ops).registered = true ∧ x ∈ reach (run N (start h₀) ops).h N.links k) :=
  (inv_run ht ops).act k x

/-- After any history an object reachable at depth `k` carries exactly the
notifiers `ListenerItem` number `k` attaches (in that order), every other object
carries none: in particular exactly one user notifier on the final attribute of
every object at the last depth and none elsewhere. -/
theorem C16_hooks_eq_reach (N : Name) {h₀ : Heap} (ht : TreeShaped h₀) (ops : List Op) (o : Nat) :
    (∀ k, (run N (start h₀) ops).registered = true → o ∈ reach (run N (start h₀) ops).h N.links k →
        (run N (start h₀) ops).s.hooks o = itemHooks N k) ∧
    (((run N (start h₀) ops).registered = false ∨ ∀ k, o ∉ reach (run N (start h₀) ops).h N.links k) →
        (run N (start h₀) ops).s.hooks o = []) :=
  (inv_run ht ops).hooks o

/-! ### final attribute: legacy = reachability = observe -/

/-- After any history, a change of a final attribute (`value` or `aux`) of ANY
object (reachable, detached, never attached) calls the legacy handler exactly
when — and exactly as often as — the specification of `observe` for the
corresponding expression demands: once iff the registration exists, the attribute
is the one named and the object is currently reachable along the name. -/
theorem C16_agree (N : Name) {h₀ : Heap} (ht : TreeShaped h₀) (ops : List Op) (o : Nat) (f : Final) :
    (step N (run N (start h₀) ops) (.probe o f)).2.2 = specStep N (run N (start h₀) ops) (.probe o f) := by
  cases hm : mutate (run N (start h₀) ops).h (.probe o f) with
  | none => simp [step, specStep, hm]
  | some m =>
    refine step_eq_spec (inv_run ht ops) hm (fun a htr => ?_)
    simp only [mutate] at hm
    split at hm <;> cases hm
    cases htr

/-- The same in words of the property: the handler is called iff the changed
object is currently reachable along the name. -/
theorem C16_agree_iff (N : Name) {h₀ : Heap} (ht : TreeShaped h₀) (ops : List Op) (o : Nat)
    (ho : o < (run N (start h₀) ops).h.next) :
    ((run N (start h₀) ops).registered = true ∧
        o ∈ reach (run N (start h₀) ops).h N.links N.links.length →
      (step N (run N (start h₀) ops) (.probe o N.final)).2.2 = [(o, .final N.final)]) ∧
    (¬((run N (start h₀) ops).registered = true ∧
        o ∈ reach (run N (start h₀) ops).h N.links N.links.length) →
      (step N (run N (start h₀) ops) (.probe o N.final)).2.2 = []) := by
  have hinv := inv_run (N := N) ht ops
  have hm : mutate (run N (start h₀) ops).h (.probe o N.final) =
      some ⟨(run N (start h₀) ops).h, o, .final N.final, [], true⟩ := by simp [mutate, ho]
  obtain ⟨_, hyes, hno⟩ := step_mutate hinv hm
  exact ⟨fun ⟨h1, h2⟩ => hyes ⟨rfl, h1, rfl, h2⟩, fun hn => hno (fun ⟨_, h1, _, h2⟩ => hn ⟨h1, h2⟩)⟩

/-! ### intermediate links -/

/-- Reassignment of a link attribute (`o.child = …`, `o.kids = […]`,
`o.byname = {…}`) after any history: the legacy handler is called exactly as the
specification of `observe` demands — once, with `(o, attribute)`, iff `o` is
currently reachable at a depth where the name follows that attribute with a `.`;
never for a `:` link, never for an object off the name. -/
theorem C16_intermediate (N : Name) {h₀ : Heap} (ht : TreeShaped h₀) (ops : List Op) (op : Op) (m : Mut)
    (a : Attr) (hm : mutate (run N (start h₀) ops).h op = some m) (htr : m.trait = .link a) :
    (step N (run N (start h₀) ops) op).2.2 = specStep N (run N (start h₀) ops) op :=
  step_eq_spec (inv_run ht ops) hm (fun a' h => by rw [htr] at h; cases h)

/-- `:` links report nothing, whatever the operation on the link (reassignment
or container mutation) and wherever the object is. -/
theorem C16_intermediate_quiet (N : Name) {h₀ : Heap} (ht : TreeShaped h₀) (ops : List Op) (op : Op)
    (m : Mut) (a : Attr) (hm : mutate (run N (start h₀) ops).h op = some m)
    (htr : m.trait = .link a ∨ m.trait = .items a)
    (hquiet : ∀ l ∈ N.links, l.attr = a → l.notify = false) :
    (step N (run N (start h₀) ops) op).2.2 = [] := by
  have hinv := inv_run (N := N) ht ops
  obtain ⟨_, _, hno⟩ := step_mutate hinv hm
  apply hno
  rintro ⟨_, _, hrp⟩
  rcases htr with h1 | h1 <;> rw [h1] at hrp
  · obtain ⟨k, l, hl, hla, hn, _⟩ := hrp
    have := hquiet l (List.mem_of_getElem? hl) hla
    rw [this] at hn; cases hn
  · obtain ⟨k, l, hl, hla, hn, _⟩ := hrp
    have := hquiet l (List.mem_of_getElem? hl) hla
    rw [this] at hn; cases hn

/-- Container mutations of a link (`o.kids.append(…)`, `del o.byname[k]`, …):
the legacy handler agrees with the specification of `observe` whenever the
changed object is not the root or the handler takes no arguments.
(PARTIAL: the extra hypothesis is exactly `typeOf … = ANY_LISTENER` for the item
the object is active in; see `C16_intermediate_items_full` and the witness.) -/
theorem C16_intermediate_items_partial (N : Name) {h₀ : Heap} (ht : TreeShaped h₀) (ops : List Op)
    (op : Op) (m : Mut) (a : Attr) (hm : mutate (run N (start h₀) ops).h op = some m)
    (htr : m.trait = .items a) (hty : N.htype = .any ∨ m.o ≠ root) :
    (step N (run N (start h₀) ops) op).2.2 = specStep N (run N (start h₀) ops) op := by
  refine step_eq_spec (inv_run ht ops) hm (fun _ _ k hk => ?_)
  unfold typeOf
  split
  · rename_i h0
    subst h0
    exact hty.elim id (fun h1 => (h1 (mem_reach_zero.mp hk)).elim)
  · rfl

/-- FULL-STRENGTH statement for container mutations (NOT a theorem of the code as
it is): every change of a `.` link is reported.  False because `ListenerParser`
gives only the FIRST item the handler's type and every later item `ANY_LISTENER`
(traits_listener.py:1068-1072, 1196-1203, "bug-for-bug compatibility",
enthought/traits#537), and `_register_list/_register_dict` attach the handler to
`<name>_items` only for `ANY_LISTENER` (traits_listener.py:696-704, 794-802). -/
def C16_intermediate_items_full : Prop :=
  ∀ (N : Name) (h₀ : Heap) (_ : TreeShaped h₀) (ops : List Op) (op : Op) (a : Attr),
    (mutate (run N (start h₀) ops).h op).map (·.trait) = some (.items a) →
    (step N (run N (start h₀) ops) op).2.2 = specStep N (run N (start h₀) ops) op

/-- Negation witness (replayed on the implementation by the oracle, signature
`intermediate-items-unreported:first-link-src-handler`): the specification
demands one call, the legacy handler gets none. -/
theorem C16_intermediate_items_fails_at :
    (step witnessName (run witnessName (start Heap.init) witnessOps) witnessOp).2.2 = [] ∧
    specStep witnessName (run witnessName (start Heap.init) witnessOps) witnessOp
      = [(0, .items .kids)] := by
  constructor <;> decide

theorem C16_intermediate_items_full_fails : ¬ C16_intermediate_items_full := by
  intro hfull
  have h := hfull witnessName Heap.init TreeShaped.init witnessOps witnessOp .kids (by decide)
  rw [C16_intermediate_items_fails_at.1, C16_intermediate_items_fails_at.2] at h
  cases h

/-! ### removal -/

/-- Removing the registration tears everything down and stops all calls: right
after `on_trait_change(…, remove=True)` every `active` table is empty and no
object carries a notifier of the registration; and whatever happens afterwards
(without a new registration), no operation calls the handler. -/
theorem C16_remove_stops (N : Name) {h₀ : Heap} (ht : TreeShaped h₀) (ops : List Op) :
    (∀ k, (run N (start h₀) (ops ++ [.unreg])).s.active k = []) ∧
    (∀ o, (run N (start h₀) (ops ++ [.unreg])).s.hooks o = []) ∧
    ∀ (ops' : List Op), (∀ op ∈ ops', op.isReg = false) → ∀ op, op.isReg = false →
      (step N (run N (start h₀) (ops ++ [.unreg] ++ ops')) op).2.2 = [] := by
  have hinv := inv_run (N := N) ht (ops ++ [.unreg])
  have hreg : (run N (start h₀) (ops ++ [.unreg])).registered = false := by
    rw [run_append]; exact unreg_not_registered N _
  have hact : ∀ k x, x ∉ (run N (start h₀) (ops ++ [.unreg])).s.active k := by
    intro k x hx
    have := ((hinv.act k x).mp hx).1
    rw [hreg] at this; cases this
  refine ⟨fun k => List.eq_nil_iff_forall_not_mem.mpr (hact k),
    fun o => hinv.good.none o (fun k => hact k o), ?_⟩
  intro ops' hops' op hop
  rw [run_append]
  exact (not_registered_calls (run_inv hinv ops') (run_not_registered ops' hinv hreg hops') op (Op.ne_reg hop)).2

/-! ### group names `x.[a,b].c`

`Lemmas/LegacyGroup.lean`: a group name is the family of its member chains (`GName.members`), the
handler's calls are the fan-out over the members (`ListenerGroup.register / unregister` =
`C16_group_is_source`), every member with its own copy of the later items.  The real
`ListenerGroup` SHARES the later items between the members (one `active` table per depth); on
tree-shaped heaps the members' subtrees are disjoint, so this is not observable — that step rests on
the differential oracle for group names (both real APIs, c16lib), not on a theorem. -/

/-- Final attribute, group names: after any history the legacy handler is called for a change of a
final attribute of ANY object exactly as the specification of `observe` for the group expression
demands — once per member chain along which the object is currently reachable. -/
theorem C16_group_agree (G : GName) {h₀ : Heap} (ht : TreeShaped h₀) (ops : List Op) (o : Nat) (f : Final) :
    gCalls G h₀ ops (.probe o f) = gSpec G h₀ ops (.probe o f) :=
  Common.flatMap_congr (fun N _ => C16_agree N ht ops o f)

/-- Reassignment of a link attribute, group names: reported exactly for the members that follow that
attribute with a `.` at the object's depth. -/
theorem C16_group_intermediate (G : GName) {h₀ : Heap} (ht : TreeShaped h₀) (ops : List Op) (op : Op)
    (hlink : ∀ N ∈ G.members, ∃ m a, mutate (run N (start h₀) ops).h op = some m ∧ m.trait = .link a) :
    gCalls G h₀ ops op = gSpec G h₀ ops op :=
  Common.flatMap_congr (fun N hN => by
    obtain ⟨m, a, hm, htr⟩ := hlink N hN
    exact C16_intermediate N ht ops op m a hm htr)

/-- Removal, group names: after `on_trait_change(…, remove=True)` no operation calls the handler. -/
theorem C16_group_remove_stops (G : GName) {h₀ : Heap} (ht : TreeShaped h₀) (ops ops' : List Op)
    (hops' : ∀ op ∈ ops', op.isReg = false) (op : Op) (hop : op.isReg = false) :
    gCalls G h₀ (ops ++ [.unreg] ++ ops') op = [] := by
  unfold gCalls
  rw [List.flatMap_eq_nil_iff]
  intro N _
  exact (C16_remove_stops N ht ops).2.2 ops' hops' op hop

-- `[child, kids].value`: two member chains; the handler fires for the child and for the list items
example : (GName.members ⟨[⟨[.child, .kids], true⟩], .value, .src, false⟩).length = 2 := by decide
example : gCalls ⟨[⟨[.child, .kids], true⟩], .value, .src, false⟩ Heap.init
    [.setChild 0 true, .setKids 0 2, .reg] (.probe 1 .value) = [(1, .final .value)] := by decide
example : gCalls ⟨[⟨[.child, .kids], true⟩], .value, .src, false⟩ Heap.init
    [.setChild 0 true, .setKids 0 2, .reg] (.probe 3 .value) = [(3, .final .value)] := by decide
example : gCalls ⟨[⟨[.child, .kids], true⟩], .value, .src, false⟩ Heap.init
    [.setChild 0 true, .setKids 0 2, .reg, .setKids 0 0] (.probe 3 .value) = [] := by decide

/-! ### deferred registrations

`Name.deferred` (the `deferred=True` keyword, every `@on_trait_change` method) does not
occur in any hypothesis above: since /repo 0c9dae1 a deferred first item skips the walk
into its container only while the container is not materialised in `object.__dict__`,
i.e. still the empty default, so `registerTop` is `register` (see Model/Legacy.lean) and
all theorems hold for deferred and plain registrations alike, whenever they are made.
The last examples below run the case of finding F87: `root.kids = [N()]` followed by a
deferred registration of `kids:value`. -/

/-! ### non-vacuity: concrete histories -/

example : TreeShaped Heap.init := TreeShaped.init
example : (run exName (start Heap.init) exOps).registered = true := by decide
example : reach (run exName (start Heap.init) exOps).h exName.links 2 = [2, 3] := by decide
example : (run exName (start Heap.init) exOps).s.active 2 = [2, 3] := by decide
-- the handler fires for a reachable object, with the object and the attribute …
example : (step exName (run exName (start Heap.init) exOps) (.probe 3 .value)).2.2 = [(3, .final .value)] := by
  decide
-- … is silent for an object that has been removed from the list …
example : (step exName (run exName (start Heap.init) (exOps ++ [.splice 1 1 2 0])) (.probe 3 .value)).2.2 = [] := by
  decide
-- … reports the intermediate list mutation (item 1 is ANY_LISTENER) …
example : (step exName (run exName (start Heap.init) exOps) (.splice 1 0 1 1)).2.2 = [(1, .items .kids)] := by
  decide
-- … and nothing after removal.
example : (step exName (run exName (start Heap.init) (exOps ++ [.unreg])) (.probe 3 .value)).2.2 = [] := by
  decide

-- a deferred registration made when `root.kids` already holds object 1 hooks it …
example : (run lateName (start Heap.init) lateOps).s.active 1 = [1] := by decide
example : (step lateName (run lateName (start Heap.init) lateOps) (.probe 1 .value)).2.2 = [(1, .final .value)] := by
  decide
-- … the decorator shape (registered first, items arrive later) hooks them as they arrive,
-- and removal tears everything down
example : (run lateName (start Heap.init) (decoOps.take 3)).s.active 1 = [1, 2] := by decide
example : (step lateName (run lateName (start Heap.init) decoOps) (.probe 1 .value)).2.2 = [] := by decide

end TraitsVerif.Props.C16
