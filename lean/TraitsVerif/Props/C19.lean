/-
Property C19 — a failing user callback never leaves an object half-updated.

No new model: this file collects, per callback site of the property's list, the
atomicity theorem of the cluster that owns it, stated with the callback as an
arbitrary partial function failing at an arbitrary call ordinal `k`, plus the
"twin" theorem: after a failure every subsequent operation behaves exactly as
on an object that never saw it.
-/
import TraitsVerif.Lemmas.SeqFault
import TraitsVerif.Props.C04
import TraitsVerif.Props.C12
import TraitsVerif.Props.C17
import TraitsVerif.Props.C02
import TraitsVerif.Props.C10
import TraitsVerif.Lemmas.Effects
import TraitsVerif.Generated.Effects
namespace TraitsVerif.Props.C19
open TraitsVerif TraitsVerif.Py TraitsVerif.Model
variable {α : Type}

/-! ### Container item validator failing at its k-th item (List traits) -/

/-- `extend` / `+=` / slice assignment: when the item
validator accepts the first `k` items and raises `e` on the next, the
`TraitList` operation raises exactly `e` (the exception reaches the caller
unchanged). -/
theorem C19_list_kth_item_fails (E : Env α) (l pre post : List α) (x : α) (e : Exc)
    (hpre : ∀ i (hi : i < pre.length), ∃ y, E.v i pre[i] = .ok y)
    (hx : E.v pre.length x = .error e) :
    TraitList.step E l (.extend (pre ++ x :: post)) = .error e
    ∧ TraitList.step E l (.iadd (pre ++ x :: post)) = .error e
    ∧ (∀ s r, Py.getSlice l s = .ok r →
        TraitList.step E l (.setSlice s (pre ++ x :: post)) = .error e) := by
  have hv : valAll E.v 0 (pre ++ x :: post) = .error e :=
    valAll_kth_fails E.v e pre x post 0 (by simpa using hpre) (by simpa using hx)
  refine ⟨by simp [TraitList.step, hv], by simp [TraitList.step, hv], ?_⟩
  intro s r hr
  simp [TraitList.step, hr, hv]

/-- With the length guard in front (List trait): the caller sees `e` or the
guard's `TraitError`, never a success — for `extend` and for whole-value assignment. -/
theorem C19_listobject_kth_item_fails (c : LenCfg) (E : Env α) (l pre post : List α) (x : α)
    (e : Exc)
    (hpre : ∀ i (hi : i < pre.length), ∃ y, E.v i pre[i] = .ok y)
    (hx : E.v pre.length x = .error e) :
    (∃ e', TraitListObject.step c E l (.extend (pre ++ x :: post)) = .error e' ∧
        (e' = e ∨ e' = .traitError))
    ∧ (∃ e', TraitListObject.assign c E (pre ++ x :: post) = .error e' ∧
        (e' = e ∨ e' = .traitError)) := by
  have hv : valAll E.v 0 (pre ++ x :: post) = .error e :=
    valAll_kth_fails E.v e pre x post 0 (by simpa using hpre) (by simpa using hx)
  constructor
  · simp only [TraitListObject.step, guardLen]
    split
    · exact ⟨e, by simp [TraitList.step, hv], Or.inl rfl⟩
    · exact ⟨.traitError, rfl, Or.inr rfl⟩
  · simp only [TraitListObject.assign]
    split
    · exact ⟨e, hv, Or.inl rfl⟩
    · exact ⟨.traitError, rfl, Or.inr rfl⟩

/-- **The source itself is atomic**: whatever makes a translated
`TraitListObject` method (with `super()` = the translated `TraitList` method)
raise — the k-th item validator call, the length guard, the builtin — the
interpreted source ends with the list as it was and nobody notified.  This is
the statement of C19 for list mutators about `Generated/ListProg.lean`, i.e.
about the text of `trait_list_object.py` as it is on this run. -/
theorem C19_list_source_no_effect (c : LenCfg) (E : Env α) (l : List α) (op : Op α) (e : Exc)
    (items : List α) (evs : List (Event α))
    (h : PyL.runTraitListObjectOp Generated.listHelpers Generated.traitListProg Generated.traitListObjectProg
          c E l op = .raised e items evs) :
    items = l ∧ evs = [] := by
  rw [C04.C04_step_is_source] at h
  cases hs : TraitListObject.step c E l op with
  | ok o => simp [PyL.summaryOfStep, hs] at h
  | error e' =>
    simp only [PyL.summaryOfStep, hs, PyL.Summary.raised.injEq] at h
    exact ⟨h.2.1.symm, h.2.2.symm⟩

/-- The k-th item validator call raising, at the level of the source: `extend`
raises `e` (or the guard's `TraitError`), list untouched, no event. -/
theorem C19_list_source_kth_item_fails (c : LenCfg) (E : Env α) (l pre post : List α) (x : α) (e : Exc)
    (hpre : ∀ i (hi : i < pre.length), ∃ y, E.v i pre[i] = .ok y)
    (hx : E.v pre.length x = .error e) :
    ∃ e', PyL.runTraitListObjectOp Generated.listHelpers Generated.traitListProg Generated.traitListObjectProg
            c E l (.extend (pre ++ x :: post)) = .raised e' l [] ∧ (e' = e ∨ e' = .traitError) := by
  obtain ⟨⟨e', h1, h2⟩, _⟩ := C19_listobject_kth_item_fails c E l pre post x e hpre hx
  exact ⟨e', by rw [C04.C04_step_is_source, h1]; rfl, h2⟩

/-- **No effect at all**: a failing step of a List trait leaves contents and
emits nothing (the history goes on from the same state). -/
theorem C19_list_no_effect (c : LenCfg) (E : Env α) (l : List α) (op : TOp α)
    (ops : List (TOp α)) (e : Exc) (h : TraitListObject.tstep c E l op = .error e) :
    TraitListObject.run c E l (op :: ops) = .error e :: TraitListObject.run c E l ops :=
  C04.C04_reject_atomic_silent c E l op ops e h

/-- **Twin**: the outputs of everything executed after a failing operation are
those of the same history without that operation — the object behaves as one
that never saw the failure. -/
theorem C19_list_twin (c : LenCfg) (E : Env α) (l : List α) (ops1 ops2 : List (TOp α))
    (op : TOp α) (e : Exc)
    (h : TraitListObject.tstep c E (TraitListObject.final c E l ops1) op = .error e) :
    TraitListObject.run c E l (ops1 ++ op :: ops2)
      = TraitListObject.run c E l ops1
        ++ .error e :: TraitListObject.run c E (TraitListObject.final c E l ops1) ops2
    ∧ TraitListObject.run c E l (ops1 ++ ops2)
      = TraitListObject.run c E l ops1
        ++ TraitListObject.run c E (TraitListObject.final c E l ops1) ops2 := by
  refine ⟨?_, TraitListObject.run_append c E l ops1 ops2⟩
  rw [TraitListObject.run_append]
  simp [TraitListObject.run, h]

/-! ### Key / value / member validators of Dict and Set traits -/

section DictSet
variable {K V : Type} [DecidableEq K]

/-- Dict: whatever makes the operation fail (in particular a key or value
validator raising at any call ordinal), the contents are as before, no notifier
in any notifier list is called, and the exception is the validator's own or the
builtin dict's KeyError. -/
theorem C19_dict_no_effect (kv : Callback K K) (vv : Callback V V) (d : Py.Dict K V)
    (op : Py.Dict.Op K V) (e : Exc) (h : Model.Map.TraitDict.step kv vv d op = .error e) :
    (Model.Map.TraitDict.next kv vv d op = d
      ∧ ∀ ns, Model.Map.TraitDict.notifications kv vv ns d op = [])
    ∧ (Model.Map.validateOp kv vv d op = .error e ∨
        (e = .keyError ∧ ∃ op', Model.Map.validateOp kv vv d op = .ok op'
          ∧ Py.Dict.step d op' = .error .keyError)) :=
  ⟨C06.C06_atomic kv vv d op e h, C06.C06_failure_causes kv vv d op e h⟩

/-- Dict twin: after a failed operation the rest of the history is that of a
dict that never saw it (`run` continues from the same contents). -/
theorem C19_dict_twin (kv : Callback K K) (vv : Callback V V) (d : Py.Dict K V)
    (op : Py.Dict.Op K V) (ops : List (Py.Dict.Op K V)) (e : Exc)
    (h : Model.Map.TraitDict.step kv vv d op = .error e) :
    Model.Map.TraitDict.run kv vv d (op :: ops) = .error e :: Model.Map.TraitDict.run kv vv d ops := by
  simp [Model.Map.TraitDict.run, Model.Map.TraitDict.next, h]

end DictSet

section SetPart
variable {β : Type} [DecidableEq β]

/-- Set: the same for the item validator. -/
theorem C19_set_no_effect (v : Callback β β) (s : Py.PSet β) (op : Py.PSet.Op β) (e : Exc)
    (h : Model.SetM.TraitSet.step v s op = .error e) :
    Model.SetM.TraitSet.next v s op = s ∧ Model.SetM.TraitSet.notification v s op = none :=
  C07.C07_atomic v s op e h

theorem C19_set_twin (v : Callback β β) (s : Py.PSet β) (op : Py.PSet.Op β)
    (ops : List (Py.PSet.Op β)) (e : Exc) (h : Model.SetM.TraitSet.step v s op = .error e) :
    Model.SetM.TraitSet.run v s (op :: ops) = .error e :: Model.SetM.TraitSet.run v s ops := by
  simp [Model.SetM.TraitSet.run, Model.SetM.TraitSet.next, h]

end SetPart

/-! ### Property getter raising -/

/-- A cached-property getter that raises writes no cache entry; the next read
calls the getter again (C12's model). -/
theorem C19_getter_raises {Val : Type} (P : Model.Property.Env Val) (s : Model.Property.St Val)
    (e : Exc) (hmiss : s.cache = none) (hr : P.G s.calls s.heap = .error e) :
    (Model.Property.readProp P s).1 = .error e ∧ (Model.Property.readProp P s).2.cache = none
    ∧ ∀ v, P.G (s.calls + 1) s.heap = .ok v →
        (Model.Property.readProp P (Model.Property.readProp P s).2).1 = .ok v :=
  have h := C12.C12_getter_raises P s e hmiss hr
  ⟨by rw [h.1], h.2.1, fun v hv => (h.2.2 v hv).1⟩

/-! ### Adapter factory raising -/

/-- An exception that comes out of the adaptation search is exactly one a
factory raised (it reaches the caller unchanged); the offer registry is an
immutable parameter of the search, so nothing is registered or lost by a
failing adaptation. -/
theorem C19_factory_raises {α : Type} (cfg : Model.Adapt.Cfg) (f : Model.Adapt.Factory α)
    (adaptee : α) (target fuel : Nat) (st : Model.Adapt.St) (e : Exc)
    (h : (Model.Adapt.adaptLoop cfg f adaptee target fuel st).1 = .raised e) :
    ∃ k o a', f k o a' = .raise e :=
  Lemmas.Adapt.adaptLoop_raised cfg f adaptee target fuel st e h

/-! ### Custom trait validator raising; change handler raising (scalar attributes) -/

/-- A validator that raises (TraitError or anything else) during an attribute
assignment: the exception reaches the caller unchanged, nothing is stored, no
handler is called — the object state is the pre-state up to the validator's own
call counter (C02's model of `setattr_trait` / `setattr_event`). -/
theorem C19_validator_raises (E : Model.Attr.Env) (t : Model.Attr.TraitCore) (s : Model.Attr.OSt)
    (v : Model.Attr.Id) (e : Exc) (nv : Nat)
    (hrej : Model.Attr.specValidate E t (t.kind == .trait) s.ctx.nval v = (.error e, nv)) :
    Model.Attr.step E t s (.set v) = ({ exc := some e }, s.withNval nv) :=
  C02.C02_rejected_silent E t s v e nv hrej

/-- A change handler that raises (under the default, non-re-raising exception
handlers): the operation is complete and all other handlers still run — the
whole final state, every handler's call log included, is the one reached with
handlers that never raise; hence every subsequent operation behaves as on an
object whose handlers never failed. -/
theorem C19_handler_raises (E : Model.Attr.Env)
    (g : Nat → Callback (Model.Attr.Id × Model.Attr.Id) Model.Attr.HAct)
    (q : Model.Attr.Quiet E) (q' : Model.Attr.Quiet { E with handler := g })
    (t : Model.Attr.TraitCore) (h : List Model.Attr.Op) (s : Model.Attr.OSt) :
    Model.Attr.run E t s h = Model.Attr.run { E with handler := g } t s h :=
  C02.C02_handler_exception E g q q' t h s

/-! ### Default factory / `_name_default` raising -/

/-- A default factory or `_name_default` method that raises on a read: the
exception reaches the caller (unchanged, except that an AttributeError becomes
the UserWarning-as-error when warnings are errors — `surfaced`), nothing is
stored, no handler and no post_setattr hook is called; the only change is the
recorded factory call, so the next read calls the factory again (C10's model of
`getattr_trait` / `default_value_for`). -/
theorem C19_default_raises (E : Model.Attr.Env) (t : Model.Attr.TraitCore) (s : Model.Attr.OSt) (e : Exc)
    (hk : t.kind = .trait) (hu : Model.Attr.callsUser t) (hs : s.slot = none)
    (hr : E.factory (t.dv.getD Model.Attr.noneId) s.ctx.fcalls.length (Model.Attr.factoryArg t s.self) = .error e) :
    (Model.Attr.step E t s .get).1 = { exc := some (Model.Attr.surfaced E e) }
    ∧ (Model.Attr.step E t s .get).2.slot = none
    ∧ (Model.Attr.step E t s .get).2.ctx.log = s.ctx.log
    ∧ (Model.Attr.step E t s .get).2.ctx.postLog = s.ctx.postLog :=
  have h := C10.C10_default_raises E t s e hk hu hs hr
  ⟨h.1, h.2.2.1, h.2.2.2.1, h.2.2.2.2.1⟩

/-! ### Validation precedes mutation precedes notification (source order)

In the functional models above a failing step carries no state, so "no effect"
is true by construction.  The following two theorems close that gap from the
source side: the order of effects on every control-flow path of every mutator
is read from the source by a translator, and for *every* effect sequence in
that order a failure at any point leaves the container unmutated and nobody
notified. -/

open Model.Effects in
/-- **Source order** (decide over the table regenerated from the working tree):
on every path of every mutator of TraitList, TraitListObject, TraitDict and
TraitSet all validator calls and guards come first, then the builtin mutation,
then at most one notification.  Interleaving validation with mutation, or
notifying before mutating, breaks this obligation. -/
theorem C19_effects_ordered :
    ∀ r ∈ Generated.containerEffects, ∀ p ∈ r.2.2, orderedStr p = true := by
  decide

open Model.Effects in
/-- **Order ⇒ atomicity**, for every effect sequence in that order and every
failure point: if the effect that raises is a validator call or a guard, the
container has not been mutated and nobody has been notified; if it is the
builtin operation itself, nobody has been notified; and without a failure at
most one notification is sent. -/
theorem C19_ordered_atomic (fails : Nat → Bool) (es : List Eff) (hord : ordered 0 es = true) :
    match exec fails 0 es {} with
    | (s', none) => s'.notified ≤ 1
    | (s', some j) =>
      ((es[j]? = some .V ∨ es[j]? = some .G) → s'.mutated = false ∧ s'.notified = 0)
      ∧ (es[j]? = some .M → s'.notified = 0) := by
  have hi : PhaseInv 0 {} := ⟨fun _ => rfl, fun _ => rfl, Nat.zero_le _⟩
  rcases exec_eq fails es 0 {} with ⟨k, _, h⟩ | h <;> rw [h]
  · have ht := ordered_take es 0 {} hord hi k
    rw [Nat.zero_add]
    exact ⟨fun hj => by rw [(ht.2.1 hj).2]; exact ⟨rfl, rfl⟩, ht.2.2⟩
  · have ht := ordered_take es 0 {} hord hi es.length
    rw [List.take_length] at ht
    exact ht.1

/-! ### Non-vacuity -/

/-- The second validator call raises ValueError inside `extend`. -/
example :
    (TraitList.step { C04.rejNeg with v := fun k x => if k = 1 then .error .valueError else .ok x }
      [1] (.extend [5, 6, 7])).toOption.isNone = true := by decide

/-- The discipline is not vacuous: `VVMN` is ordered, `VMVMN` (validate after a mutation) and
`NM` (notify before mutating) are not. -/
example : Model.Effects.orderedStr "VVMN" = true ∧ Model.Effects.orderedStr "VMVMN" = false
    ∧ Model.Effects.orderedStr "NM" = false := by decide

end TraitsVerif.Props.C19
