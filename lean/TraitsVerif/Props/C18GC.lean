/-
C18 (collector interface) - the compiled core is memory-safe and reference-neutral under any API use.

The cyclic collector computes, for every tracked object, `refcount - (number of times the object is reported by the
tp_traverse of another object of the generation)`.  An object whose every reference is accounted for that way is
garbage and gets tp_clear.  The computation is sound only if every tp_traverse reports EXACTLY the references its
object owns: a reference reported twice (or a reference the object does not own, e.g. `Py_TYPE(obj)` in the
traverse of a STATIC type, whose heap subclasses already report the type through `subtype_traverse`) makes a live
object look unreferenced - it is cleared while in use; an owned reference that is not reported makes cycles through it
immortal; an owned reference that tp_clear does not drop keeps cycles alive or, worse, is dropped nowhere.

Proved here, by `decide` over the facts TRANSLATED from the working tree's `ctraits.c`
(`Generated/CTraverse.lean`, harness/translate/ctraverse.py), for EVERY `static PyTypeObject` of the file with
`Py_TPFLAGS_HAVE_GC`: tp_traverse and tp_clear each handle the `Py…Object *` members of the struct exactly once and
nothing else, and tp_dealloc releases them through that same tp_clear.  Also here, from the same translator: a raw
`CTrait` setter that can refuse its arguments stores into the trait only after its last error exit.

The runtime twins (harness/props/c18gc.py, in the crash-isolated subprocess): `gc.get_referents` of generated
HasTraits / CTrait objects compared, as multisets, with what the members hold; classes referenced only from frame
locals used after a collection of cyclic-garbage instances; every raw setter given every malformed argument shape
and the trait USED afterwards.
-/
import TraitsVerif.Generated.CTraverse
namespace TraitsVerif.Props.C18GC
open TraitsVerif.Generated TraitsVerif.Generated.CTraverse

/-- `xs` lists exactly the elements of `ys`, each once (a permutation of a duplicate-free list). -/
def ExactlyOnce (xs ys : List String) : Prop :=
  xs.Nodup ∧ (∀ x ∈ xs, x ∈ ys) ∧ (∀ y ∈ ys, y ∈ xs) ∧ xs.length = ys.length

instance (xs ys : List String) : Decidable (ExactlyOnce xs ys) := by
  unfold ExactlyOnce; infer_instance

/-- **tp_traverse reports exactly what the object owns.**  For every GC type defined in `ctraits.c`: the arguments
of the `Py_VISIT`s of its tp_traverse are the reference members of its struct, each exactly once - no member left
out, none visited twice, and no other expression (`Py_TYPE(obj)`, a member of another object, …) visited at all.
(Seed C18-m10: `Py_VISIT(Py_TYPE(obj))` added to `has_traits_traverse` makes `visited` contain `"Py_TYPE(obj)"`.) -/
theorem C18_traverse_exact : ∀ t ∈ CTraverse.types, ExactlyOnce t.visited t.refFields := by
  decide

/-- **tp_clear drops exactly what the object owns.** -/
theorem C18_clear_exact : ∀ t ∈ CTraverse.types, ExactlyOnce t.cleared t.refFields := by
  decide

/-- **tp_dealloc = untrack, then the same tp_clear, then tp_free**: no member has a release of its own in
tp_dealloc that tp_clear could double, and none is released by tp_dealloc only. -/
theorem C18_dealloc_clears :
    ∀ t ∈ CTraverse.types, t.deallocCalls.head? = some "PyObject_GC_UnTrack" ∧ t.clearFn ∈ t.deallocCalls ∧
      t.deallocCalls.getLast? ∈ [some "tp_free", some "Py_TRASHCAN_SAFE_END"] ∧
      ∀ c ∈ t.deallocCalls, c ∈ ["PyObject_GC_UnTrack", "Py_TRASHCAN_BEGIN", "Py_TRASHCAN_SAFE_BEGIN", t.clearFn,
        "Py_TYPE", "tp_free", "Py_TRASHCAN_SAFE_END"] := by
  decide

/-- Non-vacuity: the statements above speak about `CHasTraits` and `cTrait`, whose structs hold 4 and 8 references. -/
theorem C18_gc_types_listed :
    CTraverse.types.map (fun t => (t.typeObject, t.struct, t.refFields.length)) =
      [("has_traits_type", "has_traits_object", 4), ("trait_type", "trait_object", 8)] := by
  decide

/-- No `store:…` event comes before an `exit` event. -/
def storesAfterExits : List String → Bool
  | [] => true
  | e :: rest => (e == "exit" || !rest.contains "exit") && storesAfterExits rest

/-- The setters whose text order is NOT "all error exits, then the stores", with the reason:
`_set_trait_comparison_mode` - the error exit is the `default:` arm of the `switch` whose other (exclusive) arms do
the stores; `_trait_setstate` - `PyArg_ParseTuple` writes straight into the members (hand-made state tuples are
outside the documented API: ASSUMPTIONS of C18). -/
def setterExceptions : List String := ["_set_trait_comparison_mode", "_trait_setstate"]

/-- **A refused raw-setter call leaves the trait as it was.**  For every function of `ctraits.c` that takes
`(trait_object *trait, PyObject *args|value)`, stores into members of `trait` and has an error exit - except the two
named in `setterExceptions` - every store comes after the last error exit in the text of the function: the
arguments are validated first, the trait is written afterwards.
(Seed C18-m11: `trait->default_value_type = value_type;` moved above the validating `switch` of
`_trait_set_default_value` gives `["exit", "exit", "store:default_value_type", "exit", …]`.) -/
theorem C18_setters_validate_before_store :
    (∀ s ∈ CTraverse.setterEvents, s.1 ∉ setterExceptions → storesAfterExits s.2 = true) ∧
    (∀ n ∈ ["_trait_set_default_value", "_trait_set_validate", "_trait_delegate", "_trait_set_property",
        "set_trait_post_setattr"], n ∈ CTraverse.setterEvents.map (·.1)) ∧
    (∀ n ∈ setterExceptions, n ∈ CTraverse.setterEvents.map (·.1)) := by
  decide

/-- The exceptions are real: in text order those two do store before an error exit. -/
example : ∀ s ∈ CTraverse.setterEvents, s.1 ∈ setterExceptions → storesAfterExits s.2 = false := by decide

/-- `ExactlyOnce` rejects what the seeded edit produces (the type visited besides the members) and a member left out. -/
example : ¬ ExactlyOnce ["Py_TYPE(obj)", "ctrait_dict", "itrait_dict", "notifiers", "obj_dict"]
    ["ctrait_dict", "itrait_dict", "notifiers", "obj_dict"] := by decide
example : ¬ ExactlyOnce ["ctrait_dict", "itrait_dict", "obj_dict"]
    ["ctrait_dict", "itrait_dict", "notifiers", "obj_dict"] := by decide
example : storesAfterExits ["exit", "exit", "store:default_value_type", "exit", "store:default_value"] = false := by
  decide

end TraitsVerif.Props.C18GC
