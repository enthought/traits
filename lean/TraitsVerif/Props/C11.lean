/-
C11 — deferred traits mirror their target: delegation and prototyping.

Model: `TraitsVerif/Model/Delegate.lean` (file:line of every transcribed function there); lemmas in
`TraitsVerif/Lemmas/Deleg*.lean`.  Everything is quantified over all validators (`Env`), all pools,
all histories (`runPool`, induction over the operation list in `Lemmas/DelegInv.lean`).

Full-strength clauses that the code as it is does **not** satisfy are kept as `def … : Prop`
(`DelegatesWriteFull`, `NotifyFull`) next to the proved restriction and a proved refutation whose
witness history is replayed on the implementation by the oracle (known findings F19, F20).  Findings
F18 and F21 are repaired in /repo (bead785, ec4908f); their witness histories are regression theorems here.
-/
import TraitsVerif.Lemmas.DelegChain
import TraitsVerif.Lemmas.DelegNotify
import TraitsVerif.Lemmas.DelegWitness
import TraitsVerif.Lemmas.DelegSrc
import TraitsVerif.Lemmas.DelegCopy
namespace TraitsVerif.Props.C11
open TraitsVerif TraitsVerif.Model.Deleg TraitsVerif.Model.Deleg.Witness

/-! ## Naming: the forwarder listens to the attribute that reads and writes go to -/

/-- For all four prefix styles (same name `""`, explicit name `"p"`, `"p*"`, `"*"`), every class (with
any `__prefix__` or none) and every identifier-like attribute name: the name the delegate listener is
registered for (`get_delegate_pattern` + `_trait_delegate_name`) is the name `delegate_attr_name`
computes.  (This is the statement finding F5 falsified before fix 3a775a7.) -/
theorem C11_listened_is_target (raw : Name) (modify : Bool) (clsPfx : Option Name) (n : Name) (hn : GoodName n) :
    listenedName clsPfx n (mkDelegate raw modify) = targetName clsPfx n (mkDelegate raw modify) :=
  listenedName_eq_targetName raw modify clsPfx n hn

/-- Why `_prefix` must be the prefix *as given*: with the asterisk stripped from the metadata (the
unfixed `Delegate.__init__`) the two names differ for the `'p_*'` style … -/
theorem C11_listened_needs_raw_prefix_wildcard :
    listenedName none ['x'] ⟨['p', '_'], ['p', '_'], .prefixName, true⟩
      ≠ targetName none ['x'] ⟨['p', '_'], ['p', '_'], .prefixName, true⟩ := by decide

/-- … and for the `'*'` style with a class prefix. -/
theorem C11_listened_needs_raw_prefix_star :
    listenedName (some ['q', '_']) ['x'] ⟨[], [], .className, true⟩
      ≠ targetName (some ['q', '_']) ['x'] ⟨[], [], .className, true⟩ := by decide

example : GoodName ['x'] := ⟨by decide, by decide⟩

/-! ## Reading -/

/-- **Read-through, every reachable state.**  After any history on any pool of well-formed classes: a
DelegatesTo attribute — always — and a PrototypedFrom attribute — while it holds no local value — read as
the target attribute on the current delegate. -/
theorem C11_read (E : Env) (cs : List Cls) (hwf : ∀ c ∈ cs, ClsWF c) (ops : List Op) (k : Nat)
    (o : ObjId) (n : Name) (d : DelegInfo) (y : ObjId) :
    let p := runPool E k (mkPool cs) ops
    (p.obj o).cls.trait n = .defer d →
    (d.modify = true ∨ (p.obj o).dict n = none) →
    (p.obj o).deleg = some y →
    ∀ f, read p (f + 1) o n = read p f y (targetName (p.obj o).cls.pfx n d) := by
  intro p htd hl hy
  have I : Inv p := runPool_inv E ops k _ (mkPool_inv cs hwf)
  exact read_defer rfl (hl.elim (I.noLocal o n d htd) id) htd hy

/-- A DelegatesTo attribute never holds a value of its own, in any reachable state (anchored state
"local value present iff a prototype link is broken"). -/
theorem C11_delegates_never_local (E : Env) (cs : List Cls) (hwf : ∀ c ∈ cs, ClsWF c) (ops : List Op) (k : Nat)
    (o : ObjId) (n : Name) (d : DelegInfo) :
    let p := runPool E k (mkPool cs) ops
    (p.obj o).cls.trait n = .defer d → d.modify = true → (p.obj o).dict n = none :=
  (runPool_inv E ops k _ (mkPool_inv cs hwf)).noLocal o n d

/-! ## Writing through DelegatesTo -/

/-- **Assignment through DelegatesTo** whose target is a typed attribute of the delegate: it is the
assignment of the target attribute on the delegate — same outcome, same events — so it is validated by
the target's validator, changes nothing but that attribute of the delegate object, and changes nothing
at all when the validator rejects. -/
theorem C11_delegates_write (E : Env) (i : Nat) (p : Pool) (o : ObjId) (n : Name) (d : DelegInfo) (y : ObjId)
    (vid : Nat) (dflt : Val) (cmp : Cmp) (v : Val)
    (htd : (p.obj o).cls.trait n = .defer d) (hm : d.modify = true) (hy : (p.obj o).deleg = some y)
    (hx : (p.obj y).cls.trait (targetName (p.obj o).cls.pfx n d) = .plain vid dflt cmp) :
    let t := targetName (p.obj o).cls.pfx n d
    step E i p (.set o n v) = step E i p (.set y t v) ∧
    (∀ e, E.validate vid i v = .error e →
        (step E i p (.set o n v)).pool = p ∧ (step E i p (.set o n v)).res = .error e ∧
        (step E i p (.set o n v)).events = []) ∧
    (∀ w, E.validate vid i v = .ok w →
        (step E i p (.set o n v)).pool = p.setDict y t (some w) ∧ (step E i p (.set o n v)).res = .ok none) := by
  intro t
  have hx' : (p.obj y).cls.trait t = .plain vid dflt cmp := hx
  have hy' : step E i p (.set y t v) = setPlain E i p y t vid dflt cmp v := by simp only [step, hx']
  have hstep : step E i p (.set o n v) = setPlain E i p y t vid dflt cmp v :=
    (step_set_of_walk htd hm (walk_end hy (by rw [hx]; nofun))).trans hy'
  refine ⟨hstep.trans hy'.symm, fun e he => ?_, fun w hw => ?_⟩ <;> rw [hstep, setPlain]
  · rw [he]; exact ⟨rfl, rfl, rfl⟩
  · rw [hw]; exact ⟨rfl, rfl⟩

/-- The same when the target attribute on the delegate is itself a DelegatesTo attribute (a chain),
the two classes agree on `__prefix__`, and the chain below the delegate resolves within 99 steps:
assigning through `o` is assigning the delegate's attribute. -/
theorem C11_delegates_write_chain (E : Env) (i : Nat) (p : Pool) (o : ObjId) (n : Name) (d : DelegInfo) (y : ObjId)
    (d1 : DelegInfo) (v : Val) (r : ObjId × Name × TraitDef)
    (htd : (p.obj o).cls.trait n = .defer d) (hm : d.modify = true) (hy : (p.obj o).deleg = some y)
    (hx : (p.obj y).cls.trait (targetName (p.obj o).cls.pfx n d) = .defer d1) (hm1 : d1.modify = true)
    (hpfx : (p.obj y).cls.pfx = (p.obj o).cls.pfx)
    (hw : walk p (p.obj y).cls.pfx 99 y d1 (targetName (p.obj o).cls.pfx n d) = .ok r) :
    step E i p (.set o n v) = step E i p (.set y (targetName (p.obj o).cls.pfx n d) v) := by
  obtain ⟨x, t, td⟩ := r
  have h1 : walk p (p.obj o).cls.pfx 100 o d n = .ok (x, t, td) := by
    rw [walk_defer hy hx]; rw [hpfx] at hw; exact hw
  exact (step_set_of_walk htd hm h1).trans (step_set_of_walk hx hm1 (walk_mono hw)).symm

/-- The clause "assigning a DelegatesTo attribute validates against and stores into the delegate" at
full strength: for *every* kind of target attribute on the delegate, assigning through the deferring
attribute is assigning the target attribute on the delegate. -/
def DelegatesWriteFull : Prop :=
  ∀ (E : Env) (i : Nat) (p : Pool) (o : ObjId) (n : Name) (d : DelegInfo) (y : ObjId) (v : Val),
    Inv p → (p.obj o).cls.trait n = .defer d → d.modify = true → (p.obj o).deleg = some y →
    step E i p (.set o n v) = step E i p (.set y (targetName (p.obj o).cls.pfx n d) v)

/-! ### witnesses -/

/-- Finding F20 (`protoPool`: `o0.x = DelegatesTo` → `o1.x = PrototypedFrom`, holding the local value 7 →
`o2.x` typed): then `o0.x = 9` stores 9 into `o2` and `o0.x` still reads 7. -/
theorem C11_write_through_prototype_lost :
    let s := step idEnv 3 protoPool (.set 0 nx 9)
    s.res = .ok none ∧ read s.pool 4 0 nx = .ok 7 ∧ read s.pool 4 1 nx = .ok 7 ∧ read s.pool 4 2 nx = .ok 9 := by
  decide

/-- **The full-strength write clause fails** on the code as it is (F20). -/
theorem C11_write_through_prototype_fails : ¬ DelegatesWriteFull := by
  intro h
  have h1 := h idEnv 3 protoPool 0 nx (mkDelegate [] true) 1 9 protoPool_inv rfl rfl rfl
  have h2 := congrArg (fun s => (s.pool.obj 2).dict nx) h1
  revert h2
  decide

/-- Finding F19 (`starPool`: `'*'` at two levels with different class prefixes, A(`a_`).x → B(`b_`).a_x → C):
an all-DelegatesTo chain, yet the assignment lands on `c.a_a_x` while reads come from `c.b_a_x`:
after `a.x = 5`, `a.x` still reads 2. -/
theorem C11_write_star_chain_fails :
    let s := step idEnv 2 starPool (.set 0 nx 5)
    s.res = .ok none ∧ read s.pool 4 0 nx = .ok 2 ∧
    (s.pool.obj 2).dict ['a', '_', 'a', '_', 'x'] = some 5 ∧ (s.pool.obj 2).dict ['b', '_', 'a', '_', 'x'] = none ∧
    step idEnv 2 starPool (.set 0 nx 5) ≠ step idEnv 2 starPool (.set 1 ['a', '_', 'x'] 5) := by
  intro s
  refine ⟨by decide, by decide, by decide, by decide, ?_⟩
  intro h
  have h2 := congrArg (fun s => (s.pool.obj 2).dict ['b', '_', 'a', '_', 'x']) h
  revert h2
  decide

/-! ## PrototypedFrom: linked until assigned, then independent; `del` re-links -/

/-- **Local assignment of a prototyped attribute.**  When the chain below it ends in the typed attribute
`(x, t)` (validator `vid`): the value is validated by *that* trait's validator; on rejection nothing
changes; on success the validated value is stored on the deferring object only (every other object, and
every other attribute, is untouched: the prototype keeps its value), the forwarder is removed (link
broken), the handlers of the attribute are told `(old value read through the link, new value)` — unless
the new value is the very object read through the link and the prototype's trait does not have
comparison mode none: an equal but distinct value IS reported, whatever the comparison mode — and the
attribute reads as the assigned value from then on. -/
theorem C11_prototype_assign (E : Env) (i : Nat) (p : Pool) (o : ObjId) (n : Name) (d : DelegInfo)
    (x : ObjId) (t : Name) (vid : Nat) (dflt : Val) (cmp : Cmp) (v : Val)
    (htd : (p.obj o).cls.trait n = .defer d) (hm : d.modify = false)
    (hw : walk p (p.obj o).cls.pfx 100 o d n = .ok (x, t, .plain vid dflt cmp)) :
    (p.obj x).cls.trait t = .plain vid dflt cmp ∧
    (∀ e, E.validate vid i v = .error e → step E i p (.set o n v) = fail p e) ∧
    (∀ w old, E.validate vid i v = .ok w → read p p.fuel o n = .ok old →
      let s := step E i p (.set o n v)
      s.pool = unlink (p.setDict o n (some w)) o n ∧ s.res = .ok none ∧
      s.events = (if cChanged cmp old w then notify (p.setDict o n (some w)) (p.setDict o n (some w)).fuel o n old w
                  else []) ∧
      (s.pool.obj o).fwd n = none ∧
      (∀ f, read s.pool (f + 1) o n = .ok w) ∧
      (∀ j m, ¬(j = o ∧ m = n) → (s.pool.obj j).dict m = (p.obj j).dict m)) := by
  refine ⟨(walk_ok hw).1.symm, fun e he => ?_, fun w old hv hr => ?_⟩
  · simp only [step, htd, setDefer, hw, hm, he]
    rfl
  · simp only [step, htd, setDefer, hw, hm, hv, hr]
    exact ⟨rfl, rfl, rfl, by simp [setFwd_fwd], fun f => by simp [Model.Deleg.read, setDict_dict],
      fun j m hjm => by simp [setDict_dict, hjm]⟩

/-- **Independent once assigned**: whatever the rest of the history does — assignments on the
prototype, on other objects, re-pointing any delegate — as long as it does not assign or delete this
very attribute, a prototyped attribute that holds a local value keeps reading as that value. -/
theorem C11_prototype_independent (E : Env) (p : Pool) (o : ObjId) (n : Name) (d : DelegInfo) (w : Val)
    (htd : (p.obj o).cls.trait n = .defer d) (hloc : (p.obj o).dict n = some w)
    (ops : List Op) (k : Nat) (hnt : ∀ op ∈ ops, op.touches o n = false) :
    ∀ f, read (runPool E k p ops) (f + 1) o n = .ok w := by
  intro f
  simp only [Model.Deleg.read, runPool_untouched E o n d ops k p htd hnt, hloc]

/-- **`del` restores the link.**  Deleting the local value of a prototyped attribute (chain ending in a
typed attribute) removes the value; unless the operation raised after deleting (`broken`: the read-back
through the link failed, see `C11_hooks_never_fail`) it succeeds and re-installs the forwarder hooked on
the current delegate; in both cases the attribute reads through the delegate again. -/
theorem C11_prototype_del_relinks (E : Env) (i : Nat) (p : Pool) (I : Inv p) (o : ObjId) (n : Name) (d : DelegInfo)
    (x : ObjId) (t : Name) (vid : Nat) (dflt : Val) (cmp : Cmp) (old : Val)
    (htd : (p.obj o).cls.trait n = .defer d) (hm : d.modify = false)
    (hw : walk p (p.obj o).cls.pfx 100 o d n = .ok (x, t, .plain vid dflt cmp))
    (hloc : (p.obj o).dict n = some old) :
    let s := step E i p (.del o n)
    (s.pool.obj o).dict n = none ∧
    (s.broken = false → s.res = .ok none ∧ (s.pool.obj o).fwd n = some (s.pool.obj o).deleg) ∧
    (∀ y, (p.obj o).deleg = some y →
      ∀ f, read s.pool (f + 1) o n = read s.pool f y (targetName (p.obj o).cls.pfx n d)) := by
  intro s
  have hfwd : (p.obj o).fwd n = none := (I.fwd o n).2 d htd (by rw [hloc]; nofun)
  -- the read-back fails and the operation raises, or the forwarder is re-installed
  have hcases : s.pool = p.setDict o n none ∧ s.broken = true ∨
      s.pool = (p.setDict o n none).setFwd o n (some (p.obj o).deleg) ∧ s.res = .ok none := by
    simp only [s, step, htd, setDefer, hw, hm, hloc, relink_eq, setDict_fwd, setDict_deleg, hfwd]
    cases read (p.setDict o n none) (p.setDict o n none).fuel o n with
    | error e => exact .inl ⟨rfl, rfl⟩
    | ok cur => exact .inr ⟨rfl, rfl⟩
  have hdict : (s.pool.obj o).dict n = none := by
    rcases hcases with ⟨hp, _⟩ | ⟨hp, _⟩ <;> rw [hp] <;> simp [setDict_dict]
  refine ⟨hdict, fun hb => ?_, fun y hy => ?_⟩
  · rcases hcases with ⟨_, hbr⟩ | ⟨hp, hres⟩
    · rw [hbr] at hb; cases hb
    · exact ⟨hres, by rw [hp]; simp [setFwd_fwd]⟩
  · have hobj : (s.pool.obj o).cls = (p.obj o).cls ∧ (s.pool.obj o).deleg = (p.obj o).deleg := by
      rcases hcases with ⟨hp, _⟩ | ⟨hp, _⟩ <;> rw [hp] <;> simp
    exact read_defer hobj.1 hdict htd (by rw [hobj.2]; exact hy)

/-- **The life cycle of a prototyped attribute**, in every reachable state `p` of every history:
(a) while it holds no local value it reads as the target on the current delegate;
(b) a local assignment is validated by the trait at the end of the prototype chain and, once accepted,
the attribute reads as the accepted value after *any* continuation of the history that does not assign
or delete this very attribute;
(c) `del` removes the local value and the attribute reads through the current delegate again. -/
theorem C11_prototype (E : Env) (cs : List Cls) (hwf : ∀ c ∈ cs, ClsWF c) (ops : List Op) (k : Nat)
    (o : ObjId) (n : Name) (d : DelegInfo) :
    let p := runPool E k (mkPool cs) ops
    (p.obj o).cls.trait n = .defer d → d.modify = false →
    ((p.obj o).dict n = none → ∀ y, (p.obj o).deleg = some y →
        ∀ f, read p (f + 1) o n = read p f y (targetName (p.obj o).cls.pfx n d)) ∧
    (∀ x t vid dflt cmp, walk p (p.obj o).cls.pfx 100 o d n = .ok (x, t, .plain vid dflt cmp) →
      (p.obj x).cls.trait t = .plain vid dflt cmp ∧
      ∀ i v,
        (∀ e, E.validate vid i v = .error e → step E i p (.set o n v) = fail p e) ∧
        (∀ w old, E.validate vid i v = .ok w → read p p.fuel o n = .ok old →
          ∀ (ops' : List Op) (k' : Nat), (∀ op ∈ ops', op.touches o n = false) →
            ∀ f, read (runPool E k' (step E i p (.set o n v)).pool ops') (f + 1) o n = .ok w)) ∧
    (∀ x t vid dflt cmp old i, walk p (p.obj o).cls.pfx 100 o d n = .ok (x, t, .plain vid dflt cmp) →
      (p.obj o).dict n = some old →
      ((step E i p (.del o n)).pool.obj o).dict n = none ∧
      ∀ y, (p.obj o).deleg = some y → ∀ f, read (step E i p (.del o n)).pool (f + 1) o n
        = read (step E i p (.del o n)).pool f y (targetName (p.obj o).cls.pfx n d)) := by
  intro p htd hm
  have I : Inv p := runPool_inv E ops k _ (mkPool_inv cs hwf)
  refine ⟨fun hd y hy => read_defer rfl hd htd hy, fun x t vid dflt cmp hw => ?_, fun x t vid dflt cmp old i hw hloc => ?_⟩
  · refine ⟨(walk_ok hw).1.symm, fun i v => ?_⟩
    obtain ⟨_, h2, h3⟩ := C11_prototype_assign E i p o n d x t vid dflt cmp v htd hm hw
    refine ⟨h2, fun w old hv hr ops' k' hnt => ?_⟩
    obtain ⟨hpool, _⟩ := h3 w old hv hr
    refine C11_prototype_independent E _ o n d w ?_ ?_ ops' k' hnt
    · rw [(step_effect E i p (.set o n v)).cells.cls o]; exact htd
    · rw [hpool]; simp [setDict_dict]
  · obtain ⟨h1, _, h3⟩ := C11_prototype_del_relinks E i p I o n d x t vid dflt cmp old htd hm hw hloc
    exact ⟨h1, h3⟩

/-! ## Re-pointing the delegate -/

/-- **Swap.**  After `o.d = t` (a different object, or None): the delegate reference is `t`; no other
object and no attribute value changed; every forwarder of `o` is hooked on the new delegate or on
nothing — never on the old delegate — every forwarder that existed is hooked on the new delegate, no
listener exception is swallowed (the F18 regression: before fix bead785 a hook could raise); and every
linked deferring attribute of `o` reads through the new delegate.  (`C11_read`,
`C11_delegates_write`, `C11_prototype_*` and `C11_notify` are stated for every reachable state, so they
hold for the new delegate as well.) -/
theorem C11_swap (E : Env) (i : Nat) (p : Pool) (I : Inv p) (o : ObjId) (t : Option ObjId)
    (hne : (p.obj o).deleg ≠ t) :
    let s := step E i p (.swap o t)
    (s.pool.obj o).deleg = t ∧
    (∀ j, (s.pool.obj j).dict = (p.obj j).dict ∧ (j ≠ o → (s.pool.obj j).deleg = (p.obj j).deleg ∧
        (s.pool.obj j).fwd = (p.obj j).fwd)) ∧
    (∀ n h, (s.pool.obj o).fwd n = some (some h) → t = some h) ∧
    (s.hookExc = 0 ∧ ∀ n, (p.obj o).fwd n ≠ none → (s.pool.obj o).fwd n = some t) ∧
    (∀ n d y, (p.obj o).cls.trait n = .defer d → (p.obj o).dict n = none → t = some y →
      ∀ f, read s.pool (f + 1) o n = read s.pool f y (targetName (p.obj o).cls.pfx n d)) := by
  intro s
  have he := step_effect E i p (.swap o t)
  have hobj : ∀ j, _ := rehook_obj o (p.obj o).cls.deferNames (p.setDeleg o t)
  have hpool : s.pool = (rehook (p.setDeleg o t) o (p.obj o).cls.deferNames).1 := by
    simp only [s, step, swap, hne, if_false]
  simp only [← hpool, setDeleg_cls, setDeleg_deleg, setDeleg_dict, setDeleg_fwd] at hobj
  have hdel : (s.pool.obj o).deleg = t := by rw [(hobj o).2.1, if_pos rfl]
  refine ⟨hdel, fun j => ⟨(hobj j).2.2.1, fun hj => ⟨?_, ?_⟩⟩, fun n h hf => ?_, ⟨he.hookExc, fun n hf => ?_⟩,
    fun n d y htd hd ht => ?_⟩
  · rw [(hobj j).2.1, if_neg hj]
  · funext m; rw [(hobj j).2.2.2 m]; simp [hj]
  · rw [← hdel]; exact (cells_inv he.cells I).hook o n h hf
  · obtain ⟨d, htd⟩ := (I.fwd o n).1 hf
    rw [(hobj o).2.2.2 n, if_pos ⟨rfl, List.mem_map_of_mem (f := (·.1)) (deferNames_mem _ _ _ htd), hf⟩, if_pos rfl]
  · exact read_defer (hobj o).1 (by rw [(hobj o).2.2.1]; exact hd) htd (by rw [hdel]; exact ht)

/-! ## Chains of deferral -/

/-- **Reading through a chain**: `k` linked levels of deferral (any mix of DelegatesTo and
PrototypedFrom, any prefix styles) read as the attribute at the end of the chain. -/
theorem C11_chain (p : Pool) (P : ObjId → DelegInfo → Prop) (k : Nat) (o : ObjId) (n : Name) (x : ObjId) (t : Name)
    (hc : Chain p P k o n x t) : ∀ f, read p (k + f) o n = read p f x t :=
  chain_read hc

/-- **Writing through a chain** of at most 100 linked levels whose `'*'` levels agree on the class
prefix of the top object, ending in a typed attribute: assignment through a DelegatesTo attribute at the
top is the assignment of the attribute at the end of the chain (validated there, stored there, notified
from there).  (That the top attribute then reads as the attribute at the end is `C11_chain` in the pool
after the step; it is not part of this statement.) -/
theorem C11_chain_write (E : Env) (i : Nat) (p : Pool) (k : Nat) (o : ObjId) (n : Name) (d : DelegInfo)
    (x : ObjId) (t : Name) (vid : Nat) (dflt : Val) (cmp : Cmp) (v : Val)
    (hc : Chain p (StarAgree p (p.obj o).cls.pfx) (k + 1) o n x t) (hk : k + 1 ≤ 100)
    (htd : (p.obj o).cls.trait n = .defer d) (hm : d.modify = true)
    (hx : (p.obj x).cls.trait t = .plain vid dflt cmp) :
    step E i p (.set o n v) = step E i p (.set x t v) := by
  have hnd : NonDefer ((p.obj x).cls.trait t) := by rw [hx]; nofun
  exact step_set_of_walk htd hm (wchain_walk hnd (chain_wchain hc) d 100 htd hk)

/-- **The recursion limit**: when the attribute is still deferring after 100 levels, assignment and
deletion through it raise DelegationError (a TraitError) and change nothing. -/
theorem C11_chain_limit (E : Env) (i : Nat) (p : Pool) (o : ObjId) (n : Name) (d : DelegInfo)
    (x : ObjId) (t : Name) (d' : DelegInfo) (v : Option Val)
    (hc : WChain p (p.obj o).cls.pfx 100 o n x t) (htd : (p.obj o).cls.trait n = .defer d)
    (hx : (p.obj x).cls.trait t = .defer d') :
    setDefer E i p o n d v = fail p .traitError := by
  have hw := wchain_walk_limit hx hc d 100 htd (Nat.le_refl _)
  simp only [setDefer, hw]

/-! ## Notification -/

/-- **Listener hooks never fail** (fix bead785 of finding F18): no operation, in any state, swallows an
exception of a notification handler; and the only operation that can raise *after* having changed the
object is the `del` of a prototyped attribute's local value whose read-back through the link fails
(which needs write walk and read chain to disagree: finding F19, or a missing delegate). -/
theorem C11_hooks_never_fail (E : Env) (k : Nat) (p : Pool) (op : Op) :
    (step E k p op).hookExc = 0 ∧
    ((step E k p op).broken = true → ∃ o n d, op = .del o n ∧ (p.obj o).cls.trait n = .defer d ∧
      d.modify = false ∧ (p.obj o).dict n ≠ none ∧
      ∃ e, read (p.setDict o n none) (p.setDict o n none).fuel o n = .error e) :=
  ⟨(step_effect E k p op).hookExc, (step_effect E k p op).broken⟩

/-- In every reachable state of a history during which no `del` raised after deleting, every linked
deferring attribute has its forwarder hooked on the current delegate. -/
theorem C11_linked_reachable (E : Env) (cs : List Cls) (hwf : ∀ c ∈ cs, ClsWF c) (ops : List Op)
    (hnf : NoBrokenDel E 0 (mkPool cs) ops) :
    Inv (runPool E 0 (mkPool cs) ops) ∧ Linked (runPool E 0 (mkPool cs) ops) :=
  ⟨runPool_inv E ops 0 _ (mkPool_inv cs hwf),
   runPool_linked E ops 0 _ (mkPool_inv cs hwf) (mkPool_linked cs) hnf⟩

/-- **Linked → notified, once, with the new value.**  After any history (on classes built by
`DelegatesTo` / `PrototypedFrom` with any of the four prefix styles) during which no `del` raised after
deleting (`NoBrokenDel`; in particular after every history without `del`, `C11_notify_no_del`, and in
whatever order the chain was wired — `C11_notify_top_down`): for a deferring attribute `(o, n)` that is linked (DelegatesTo, or PrototypedFrom without local
value) and whose current delegate is `y`, every notification `(a, b)` of the target attribute on `y`
— `notify p _ y t a b` is `call_notifiers` for `(y, t)` — calls the handlers of `(o, n)` with the same
old and new value; exactly once when the delegate graph is acyclic. -/
theorem C11_notify (E : Env) (cs : List Cls) (hok : ∀ c ∈ cs, ClsOK c) (ops : List Op)
    (hnf : NoBrokenDel E 0 (mkPool cs) ops) (o : ObjId) (n : Name) (d : DelegInfo) (y : ObjId) :
    let p := runPool E 0 (mkPool cs) ops
    o < p.size → (p.obj o).cls.trait n = .defer d → (d.modify = true ∨ (p.obj o).dict n = none) →
    (p.obj o).deleg = some y →
    (o, n) ∈ forwarders p y (targetName (p.obj o).cls.pfx n d) ∧
    (∀ f a b, (⟨o, n, a, b⟩ : Event) ∈ notify p (f + 2) y (targetName (p.obj o).cls.pfx n d) a b) ∧
    (∀ rank : ObjId → Nat, (∀ o' y', (p.obj o').deleg = some y' → rank y' < rank o') →
      ∀ f a b, (notify p (f + 2) y (targetName (p.obj o).cls.pfx n d) a b).countP
        (fun e => decide (e.obj = o ∧ e.name = n)) = 1) := by
  intro p ho htd hl hy
  obtain ⟨I, L⟩ := C11_linked_reachable E cs (fun c hc => (hok c hc).1) ops hnf
  have hcls : ClsOK (p.obj o).cls := by
    rw [(runPool_frame E ops 0 (mkPool cs)).2 o]
    obtain ⟨c, hc, hm | rfl⟩ := mkPool_obj cs o <;> rw [hc]
    · exact hok c hm
    · exact clsOK_empty
  have hmem := forwarder_of_linked L ho hcls htd (hl.elim (I.noLocal o n d htd) id) hy
  exact ⟨hmem, notify_contains hmem, fun rank hr => notify_count_one I.wf (acyclic_of_deleg I.hook rank hr) hmem⟩

/-- Histories of assignments, re-pointings and reads (no `del`): `C11_notify` without any hypothesis on
the history. -/
theorem C11_notify_no_del (E : Env) (cs : List Cls) (hok : ∀ c ∈ cs, ClsOK c) (ops : List Op)
    (hnd : ∀ op ∈ ops, ∀ o n, op ≠ .del o n) (o : ObjId) (n : Name) (d : DelegInfo) (y : ObjId) :
    let p := runPool E 0 (mkPool cs) ops
    o < p.size → (p.obj o).cls.trait n = .defer d → (d.modify = true ∨ (p.obj o).dict n = none) →
    (p.obj o).deleg = some y →
    ∀ f a b, (⟨o, n, a, b⟩ : Event) ∈ notify p (f + 2) y (targetName (p.obj o).cls.pfx n d) a b := by
  intro p ho htd hl hy
  exact (C11_notify E cs hok ops (noBrokenDel_of_no_del E ops 0 _ hnd) o n d y ho htd hl hy).2.1

/-- **The deferring attribute's handlers hear exactly the changes the target's trait reports.**  In a
state where the links are hooked, assigning the (typed, any comparison mode) target attribute on the
current delegate: when the target reports the change (`fires`: comparison mode none — always; identity
— the new value is another object; equality — it is another object and not `==` the old one) the
operation's events start with the target's own event and contain `(o, n, old, new)`; when the target
does not report it (the same object again, or an equal value under comparison mode equality) nobody is
notified.  In particular an equal-but-distinct value on an identity / none target IS reported to the
handlers of the deferring attribute. -/
theorem C11_notify_on_assign (E : Env) (i : Nat) (p : Pool) (I : Inv p) (L : Linked p) (o : ObjId) (n : Name)
    (d : DelegInfo) (y : ObjId) (vid : Nat) (dflt : Val) (cmp : Cmp) (v w : Val)
    (ho : o < p.size) (hcls : ClsOK (p.obj o).cls)
    (htd : (p.obj o).cls.trait n = .defer d) (hd : (p.obj o).dict n = none) (hy : (p.obj o).deleg = some y)
    (hx : (p.obj y).cls.trait (targetName (p.obj o).cls.pfx n d) = .plain vid dflt cmp)
    (hv : E.validate vid i v = .ok w) :
    let t := targetName (p.obj o).cls.pfx n d
    let old := ((p.obj y).dict t).getD dflt
    let s := step E i p (.set y t v)
    (fires E cmp old w = true → s.events.head? = some ⟨y, t, old, w⟩ ∧ (⟨o, n, old, w⟩ : Event) ∈ s.events) ∧
    (fires E cmp old w = false → s.events = []) := by
  have hfuel : p.size + 1 = p.size - 1 + 2 := by
    have ho' : @LT.lt Nat _ o p.size := ho
    omega
  intro t old s
  have hx' : (p.obj y).cls.trait t = .plain vid dflt cmp := hx
  simp only [s, step, hx', setPlain, hv]
  refine ⟨fun hf => ?_, fun hf => if_neg (by rw [hf]; nofun)⟩
  -- the cascade runs in the pool after the store, where everybody is hooked as in `p`
  rw [if_pos hf, notify_congr (p := p) (p' := p.setDict y t (some w)) rfl fun j => ⟨setDict_cls .., setDict_fwd ..⟩,
    show (p.setDict y t (some w)).fuel = p.size - 1 + 2 from hfuel]
  exact ⟨by rw [notify_succ]; rfl, notify_contains (forwarder_of_linked L ho hcls htd hd hy) _ _ _⟩

/-- **A first local PrototypedFrom assignment of an equal but distinct value is reported**, and so is any
local assignment of another object: the notifiers are those of the deferring attribute (kind `delegate`,
its wrappers accept every call), whether they are called is the identity test of `setattr_trait`
(`cChanged`), not the equality test. -/
theorem C11_prototype_assign_reports (E : Env) (i : Nat) (p : Pool) (o : ObjId) (n : Name) (d : DelegInfo)
    (x : ObjId) (t : Name) (vid : Nat) (dflt : Val) (cmp : Cmp) (v w old : Val)
    (htd : (p.obj o).cls.trait n = .defer d) (hm : d.modify = false)
    (hw : walk p (p.obj o).cls.pfx 100 o d n = .ok (x, t, .plain vid dflt cmp))
    (hv : E.validate vid i v = .ok w) (hr : read p p.fuel o n = .ok old) (hne : old ≠ w) :
    (step E i p (.set o n v)).events.head? = some ⟨o, n, old, w⟩ := by
  obtain ⟨_, _, h3⟩ := C11_prototype_assign E i p o n d x t vid dflt cmp v htd hm hw
  obtain ⟨_, _, hev, _⟩ := h3 w old hv hr
  rw [hev, if_pos (by simp [cChanged, hne])]
  rfl

/-- **A local value of a PrototypedFrom attribute is what a direct assignment to the target trait would
store**: whatever the prototype's trait stores for `v` (`Env.validate`: the validated value, or — for the
'original value' kinds Expression / AdaptsTo, driver spec `oshift` — the assigned value itself) is what the
deferring object holds after `o.n = v`, and what the prototype would hold after `x.t = v` (seed C11-m12 —
the flag TRAIT_SETATTR_ORIGINAL_VALUE read from the deferring trait — makes the two differ). -/
theorem C11_prototype_stores_what_target_stores (E : Env) (i : Nat) (p : Pool) (o : ObjId) (n : Name) (d : DelegInfo)
    (x : ObjId) (t : Name) (vid : Nat) (dflt : Val) (cmp : Cmp) (v w old : Val)
    (htd : (p.obj o).cls.trait n = .defer d) (hm : d.modify = false)
    (hw : walk p (p.obj o).cls.pfx 100 o d n = .ok (x, t, .plain vid dflt cmp))
    (hv : E.validate vid i v = .ok w) (hr : read p p.fuel o n = .ok old) :
    ((step E i p (.set o n v)).pool.obj o).dict n = some w
    ∧ ((step E i p (.set x t v)).pool.obj x).dict t = some w := by
  obtain ⟨hx, _, h3⟩ := C11_prototype_assign E i p o n d x t vid dflt cmp v htd hm hw
  obtain ⟨hp, _⟩ := h3 w old hv hr
  refine ⟨by rw [hp]; simp [setDict_dict], ?_⟩
  simp only [step, hx, setPlain, hv, setDict_dict, and_self, if_true]

/-- `fires` distinguishes the modes on an equal-but-distinct value (here `==` identifies 1 and 101): reported
under identity and none, not under equality; the very same object again is reported under none only. -/
example : let E : Env := { validate := fun _ _ v => .ok v, eqv := fun a b => a % 100 == b % 100 }
    fires E .identity 1 101 = true ∧ fires E .none 1 101 = true ∧ fires E .equality 1 101 = false ∧
    fires E .identity 1 1 = false ∧ fires E .none 1 1 = true ∧ fires E .equality 1 2 = true := by decide

/-- **Unlinked → not notified**, in every reachable state of every history (no hypothesis): a
prototyped attribute that holds a local value has no forwarder, and no notification cascade started on
another attribute ever contains an event for it. -/
theorem C11_notify_unlinked (E : Env) (cs : List Cls) (hwf : ∀ c ∈ cs, ClsWF c) (ops : List Op) (k : Nat)
    (o : ObjId) (n : Name) (d : DelegInfo) :
    let p := runPool E k (mkPool cs) ops
    (p.obj o).cls.trait n = .defer d → (p.obj o).dict n ≠ none →
    (p.obj o).fwd n = none ∧
    ∀ f x t a b, ¬(x = o ∧ t = n) → ∀ e ∈ notify p f x t a b, ¬(e.obj = o ∧ e.name = n) := by
  intro p htd hd
  have hf := ((runPool_inv E ops k _ (mkPool_inv cs hwf)).fwd o n).2 d htd hd
  exact ⟨hf, notify_not_unlinked hf⟩

/-- The notification clause at full strength: linked → notified, in every reachable state of **every**
history (without the `NoBrokenDel` hypothesis of `C11_notify`). -/
def NotifyFull : Prop :=
  ∀ (E : Env) (cs : List Cls), (∀ c ∈ cs, ClsOK c) → ∀ (ops : List Op) (o : ObjId) (n : Name) (d : DelegInfo) (y : ObjId),
    let p := runPool E 0 (mkPool cs) ops
    o < p.size → (p.obj o).cls.trait n = .defer d → (d.modify = true ∨ (p.obj o).dict n = none) →
    (p.obj o).deleg = some y → (o, n) ∈ forwarders p y (targetName (p.obj o).cls.pfx n d)

/-! ### witnesses -/

/-- Regression witness of finding F18 (`topDown`: the chain `o0.x → o1.x → o2.x` wired top-down, `o0.d = o1`
while `o1.d` is still None).  On the repaired code no hook raises, the forwarder of `o0.x` is hooked on
`o1`, and the change of `o2.x` reaches the handlers of `o1.x` *and* `o0.x`.  (Before fix bead785:
`hookExc = 1`, forwarder unhooked, events for `o2` and `o1` only.) -/
theorem C11_notify_top_down :
    let p := runPool idEnv 0 (mkPool [clsD, clsD, clsT]) topDown
    (step idEnv 0 (mkPool [clsD, clsD, clsT]) (.swap 0 (some 1))).hookExc = 0 ∧
    (p.obj 0).deleg = some 1 ∧ (p.obj 0).fwd nx = some (some 1) ∧ read p 4 0 nx = .ok 3 ∧
    (step idEnv 2 p (.set 2 nx 5)).events = [⟨2, nx, 3, 5⟩, ⟨1, nx, 3, 5⟩, ⟨0, nx, 3, 5⟩] ∧
    read (step idEnv 2 p (.set 2 nx 5)).pool 4 0 nx = .ok 5 := by
  decide

/-- Finding F19, notification side (`deepClasses`, `brokenDel`): the `del` of `a.x` deletes the local
value, its read-back raises (the delegate of `c` was set to None while the write walk ends on `c.a_a_x`),
and `a.x` is left linked without forwarder. -/
theorem C11_notify_broken_del_witness :
    let p := runPool idEnv 0 (mkPool deepClasses) brokenDel
    (step idEnv 5 (runPool idEnv 0 (mkPool deepClasses) (brokenDel.take 5)) (.del 0 nx)).broken = true ∧
    (p.obj 0).dict nx = none ∧ (p.obj 0).deleg = some 1 ∧ (p.obj 0).fwd nx = none ∧
    forwarders p 1 nax = [] := by
  decide

/-- **The full-strength notification clause fails** on the code as it is (F19: a `del` that raises after
deleting leaves the link without forwarder). -/
theorem C11_notify_full_fails : ¬ NotifyFull := by
  intro h
  have := h idEnv deepClasses deepClasses_ok brokenDel 0 nx (mkDelegate ['*'] false) 1
    (by decide) (by decide) (Or.inr (by decide)) (by decide)
  revert this
  decide

/-! ### the hypotheses of the main theorems are satisfiable -/

/-- Three objects wired bottom-up (`bottomUp`): no `del` breaks a link, … -/
example : NoBrokenDel idEnv 0 (mkPool [clsD, clsD, clsT]) bottomUp := by
  unfold NoBrokenDel; decide

/-- … `C11_notify` applies to `(o0, x)` with delegate `o1`, and the cascade of `o2.x` reaches it. -/
example : (⟨0, nx, 3, 5⟩ : Event) ∈
    (step idEnv 2 (runPool idEnv 0 (mkPool [clsD, clsD, clsT]) bottomUp) (.set 2 nx 5)).events := by decide

example : Chain (runPool idEnv 0 (mkPool [clsD, clsD, clsT]) bottomUp)
    (StarAgree (runPool idEnv 0 (mkPool [clsD, clsD, clsT]) bottomUp) none) 2 0 nx 2 nx :=
  .succ (d := mkDelegate [] true) (y := 1) (by decide) (by decide) (by decide) (by intro h; cases h)
    (.succ (d := mkDelegate [] true) (y := 2) (by decide) (by decide) (by decide) (by intro h; cases h) (.zero 2 nx))

/-- `C11_prototype_assign` / `C11_prototype_del_relinks`: a prototyped attribute over a typed one. -/
example : walk protoPool (protoPool.obj 1).cls.pfx 100 1 (mkDelegate [] false) nx
    = .ok (2, nx, .plain 0 3 .equality) := by
  decide

example : (protoPool.obj 1).dict nx = some 7 ∧ (protoPool.obj 1).fwd nx = none := by decide

/-! ## The model is the source

`harness/translate/delegsrc.py` turns the text of the delegation code of the working tree into terms of
the deep embedding `Model/DelegSrc.lean` (`Generated/DelegSrc.lean`, regenerated by every check).  The
theorems below say that the hand-written functions of `Model/Delegate.lean` — about which every
theorem above speaks — are the interpretation of these terms, for all inputs.  A behaviour-changing
edit of the translated source breaks one of them, also on inputs no generator produces. -/

section Source
open TraitsVerif.Model.DelegSrc
open TraitsVerif.Generated.DelegSrc (attrNameHandlers getattrDelegate setattrDelegate initDelegate removeListener)

/-- `delegate_attr_name_{name,prefix,prefix_name,class_name}` and the handler table (ctraits.c): the
target name rule of the model is what the handler selected by `prefix_type` computes. -/
theorem C11_attr_name_is_source (d : DelegInfo) (clsPfx : Option Name) (n : Name) :
    attrNameSrc attrNameHandlers d clsPfx n = some (attrName d clsPfx n) :=
  attrName_is_source d clsPfx n

/-- The order of `delegate_attr_name_handlers[]`, the clamp and the argument order of `_trait_delegate`,
and the argument order `Delegate.as_ctrait` calls it with. -/
theorem C11_handler_table_is_source :
    Generated.DelegSrc.handlerNames = ["delegate_attr_name_name", "delegate_attr_name_prefix",
      "delegate_attr_name_prefix_name", "delegate_attr_name_class_name"]
    ∧ Generated.DelegSrc.clampHi = 3 ∧ Generated.DelegSrc.clampTo = 0
    ∧ Generated.DelegSrc.traitDelegateArgs = ["UUip", "delegate_name", "delegate_prefix", "prefix_type", "modify_delegate"]
    ∧ Generated.DelegSrc.asCtraitArgs = ["self.delegate", "self.prefix", "self.prefix_type", "self.modify"] :=
  ⟨rfl, rfl, rfl, rfl, rfl⟩

/-- `getattr_delegate` (ctraits.c): reading a deferring attribute (no value in `__dict__`) is the
interpretation of the C function, `tp_getattro` of the delegate being the read one level down. -/
theorem C11_read_is_source (p : Pool) (f : Nat) (o : ObjId) (n : Name) :
    read p (f + 1) o n =
      match (p.obj o).dict n with
      | some v => .ok v
      | none =>
        match (p.obj o).cls.trait n with
        | .plain _ dflt _ => .ok dflt
        | .python => .error .attributeError
        | .defer d => execGet getattrDelegate p (some (read p f)) o n d := by
  rw [Model.Deleg.read]
  cases (p.obj o).dict n with
  | some v => rfl
  | none =>
    cases (p.obj o).cls.trait n with
    | defer d => exact (execGet_eq p (some (Model.Deleg.read p f)) o n d totalName).symm
    | _ => rfl

/-- The recursion guard of `getattr_delegate` (fix ec4908f of finding F21): with the interpreter's
recursion limit reached the C function raises RecursionError before it calls into the delegate. -/
theorem C11_read_limit_is_source (p : Pool) (o x : ObjId) (n : Name) (d : DelegInfo)
    (hx : (p.obj o).deleg = some x) :
    execGet getattrDelegate p none o n d = .error .runtimeError :=
  execGet_eq p none o n d totalName

/-- `setattr_delegate` (ctraits.c): assignment / deletion through a deferring attribute — the chain
walk with its 100-iteration bound, the object `delegate_attr_name` is called with, which trait's
`setattr` runs on which object and name, the `TRAIT_MODIFY_DELEGATE` split, the listener removal after
a successful local store, and every error exit — is the interpretation of the C function. -/
theorem C11_write_is_source (E : Env) (k : Nat) (p : Pool) (o : ObjId) (n : Name) (d : DelegInfo) (v : Option Val) :
    setDefer E k p o n d v = execSet setattrDelegate E k p o n d v :=
  setDefer_is_source E k p o n d v

/-- `has_traits_setattro` dispatches a deferring attribute to `setattr_delegate`: on such an attribute
`step` *is* the interpreted C function (assignment and deletion). -/
theorem C11_step_is_source (E : Env) (k : Nat) (p : Pool) (o : ObjId) (n : Name) (d : DelegInfo) (v : Val)
    (htd : (p.obj o).cls.trait n = .defer d) :
    step E k p (.set o n v) = execSet setattrDelegate E k p o n d (some v)
    ∧ step E k p (.del o n) = execSet setattrDelegate E k p o n d none := by
  simp only [step, htd, C11_write_is_source, and_self]

/-- `C11_delegates_write` read on the source: the interpreted `setattr_delegate` on a DelegatesTo
attribute whose target is a typed attribute of the delegate is the assignment of that attribute on
the delegate. -/
theorem C11_delegates_write_source (E : Env) (i : Nat) (p : Pool) (o : ObjId) (n : Name) (d : DelegInfo) (y : ObjId)
    (vid : Nat) (dflt : Val) (cmp : Cmp) (v : Val)
    (htd : (p.obj o).cls.trait n = .defer d) (hm : d.modify = true) (hy : (p.obj o).deleg = some y)
    (hx : (p.obj y).cls.trait (targetName (p.obj o).cls.pfx n d) = .plain vid dflt cmp) :
    execSet setattrDelegate E i p o n d (some v) = step E i p (.set y (targetName (p.obj o).cls.pfx n d) v) := by
  rw [← (C11_step_is_source E i p o n d v htd).1]
  exact (C11_delegates_write E i p o n d y vid dflt cmp v htd hm hy hx).1

/-- **A rejected write through a deferring attribute has no effect**: when an assignment through a
DelegatesTo / PrototypedFrom attribute raises — the validator at the end of the chain rejects the value,
the chain is incomplete or too long, the old value cannot be read — no object's values, delegate
reference or listener table has changed and nobody was notified.  In particular a linked prototyped
attribute keeps its forwarder: later changes of the prototype are still reported (`C11_notify`).  Stated
for the model step and for the interpreted `setattr_delegate` (this is what seed C19-m10 — listener
removed before the delegated setattr — falsifies in the source). -/
theorem C11_rejected_write_no_effect (E : Env) (k : Nat) (p : Pool) (o : ObjId) (n : Name) (d : DelegInfo) (v : Val)
    (e : Exc) (htd : (p.obj o).cls.trait n = .defer d) (h : (step E k p (.set o n v)).res = .error e) :
    step E k p (.set o n v) = fail p e
    ∧ execSet setattrDelegate E k p o n d (some v) = fail p e
    ∧ (∀ j m, ((step E k p (.set o n v)).pool.obj j).dict m = (p.obj j).dict m
        ∧ ((step E k p (.set o n v)).pool.obj j).fwd m = (p.obj j).fwd m
        ∧ ((step E k p (.set o n v)).pool.obj j).deleg = (p.obj j).deleg)
    ∧ (step E k p (.set o n v)).events = [] ∧ (step E k p (.set o n v)).hookExc = 0 := by
  have he := step_effect E k p (.set o n v)
  -- an assignment cannot raise after it has changed the object (only a `del` can)
  have hf : step E k p (.set o n v) = fail p e :=
    he.atomic e h ((Bool.not_eq_true _).mp fun hb => by obtain ⟨_, _, _, hop, _⟩ := he.broken hb; cases hop)
  refine ⟨hf, ?_, ?_, ?_, ?_⟩
  · rw [← (C11_step_is_source E k p o n d v htd).1, hf]
  · intro j m; rw [hf]; exact ⟨rfl, rfl, rfl⟩
  · rw [hf]; rfl
  · rw [hf]; rfl

/-- The hypothesis is satisfiable: on the F20 pool `o1.x = -1` with a validator that rejects negatives. -/
example : (step { validate := fun _ _ x => if x < 0 then .error .traitError else .ok x } 3 protoPool (.set 1 nx (-1))).res
    = .error .traitError := by decide

/-- `_has_traits_trait(obj, (name, -2))` = `obj.base_trait(name)` (ctraits.c; the second chain walk of
the C code, with `break` exits and the bound `++i >= 100`): the interpreted function returns a trait
exactly when the model's `hookOk` holds, i.e. when `baseOk` finds the end of the deferral chain within
the limit (the call `ListenerItem.register` makes, whose DelegationError fix bead785 of F18 catches). -/
theorem C11_base_trait_is_source (p : Pool) (x : ObjId) (t : Name) :
    (execBase Generated.DelegSrc.hasTraitsTrait p x t).isSome = hookOk p x t :=
  hookOk_is_source p x t

/-- Both outcomes occur: on the F20 pool `o0.base_trait('x')` resolves (to the typed trait of `o2`)… -/
example : execBase Generated.DelegSrc.hasTraitsTrait protoPool 0 nx = some (.plain 0 3 .equality) := by decide

/-- … and on a fresh pool, where `o0.d` is still None, it raises. -/
example : execBase Generated.DelegSrc.hasTraitsTrait (mkPool [clsD, clsD, clsT]) 0 nx = none := by decide

/-- **The name computation may fail** (fixes e4a9aa5 / 3882e87, and 4e38e77 of finding F111):
`trait->delegate_attr_name(…)` returns NULL when `PyUnicode_Concat` fails, which on real inputs happens
only when `type(obj).__prefix__` is not a `str` (prefix style `'*'`).  The model's `attrName` is total
(hypothesis: every `__prefix__` is a `str`; `C11_read_is_source` / `C11_write_is_source` /
`C11_base_trait_is_source` are stated for `totalName`); the interpretation takes the name computation as
a parameter, and with a failing one the interpreted `getattr_delegate` returns the failure, the
interpreted `setattr_delegate` raises it without having changed anything, and the interpreted
`_has_traits_trait` (`base_trait`) on a deferring attribute returns NULL with the exception set and is
free of undefined behaviour — using a NULL name register is *stuck* in the interpreters, so the
unrepaired code (NULL dereference) does not satisfy this. -/
theorem C11_name_failure_is_error_exit (E : Env) (k : Nat) (p : Pool) (recur : Option (ObjId → Name → Except Exc Val))
    (o : ObjId) (n : Name) (d : DelegInfo) (v : Option Val) (e : Exc) :
    execGet getattrDelegate p recur o n d (fun _ _ _ => .error e) = .error e
    ∧ execSet setattrDelegate E k p o n d v (fun _ _ _ => .error e)
        = (match (p.obj o).deleg with
           | none => fail p .traitError
           | some _ => fail p e)
    ∧ ((p.obj o).cls.trait n = .defer d →
        execBase Generated.DelegSrc.hasTraitsTrait p o n (fun _ _ _ => .error e) = none
        ∧ execBaseDefined Generated.DelegSrc.hasTraitsTrait p o n (fun _ _ _ => .error e) = true) :=
  ⟨execGet_eq p recur o n d _, write_name_failure E k p o n d v e, base_name_failure p o n d e⟩

/-- `Delegate.__init__` (trait_types.py): metadata `_prefix`, `self.prefix`, `self.prefix_type`,
`self.modify`; `DelegatesTo` passes `modify=True`, `PrototypedFrom` `modify=False`. -/
theorem C11_delegate_init_is_source (dname pfx : Name) (modify : Bool) :
    initDelegateSrc initDelegate dname pfx modify = some (mkDelegate pfx modify)
    ∧ Generated.DelegSrc.modifyDelegatesTo = true ∧ Generated.DelegSrc.modifyPrototypedFrom = false :=
  ⟨mkDelegate_is_source dname pfx modify, rfl, rfl⟩

/-- `get_delegate_pattern` followed by `_trait_delegate_name` (has_traits.py): the `on_trait_change`
name the forwarder of `n` is registered under is `" <d>:" ++ listenedName`, for every delegate
reference attribute `dname`, prefix as given, class prefix and non-empty attribute name. -/
theorem C11_pattern_is_source (dname raw : Name) (modify : Bool) (clsPfx : Option Name) (n : Name) (hn : n ≠ []) :
    (delegatePatternSrc Generated.DelegSrc.delegatePattern dname raw n).bind
        (traitDelegateNameSrc Generated.DelegSrc.traitDelegateName clsPfx n)
      = some ((' ' :: dname ++ [':']) ++ listenedName clsPfx n (mkDelegate raw modify)) := by
  rw [delegatePattern_is_source]
  have := traitDelegateName_is_source clsPfx n (' ' :: dname ++ [':']) _ (delegatePattern_ne_nil n raw hn)
  simp only [Option.bind_some, listenedName, mkDelegate_raw]
  simpa using this

/-- `_remove_trait_delegate_listener` (has_traits.py) on the listener table entry of `(o, n)`: `unlink`
(after a local store) and `relink` (after the local value was deleted) are its interpretation;
`hook` stands for `on_trait_change` / `ListenerItem.register`. -/
theorem C11_listener_table_is_source (p : Pool) (o : ObjId) (n : Name) (d : DelegInfo) (evs : List Event) (h : Option ObjId) :
    LSt.ofFwd (((unlink p o n).obj o).fwd n) = removeListenerSrc removeListener true h ((p.obj o).fwd n)
    ∧ LSt.ofFwd (((relink p o n d evs).pool.obj o).fwd n)
        = removeListenerSrc removeListener false (hook p o n d).1 ((p.obj o).fwd n) := by
  rw [removeListener_remove_is_source, removeListener_restore_is_source, relink_eq, hook_eq]
  refine ⟨by simp [setFwd_fwd], ?_⟩
  cases hf : (p.obj o).fwd n with
  | none => simp [setFwd_fwd]
  | some r => simp [hf]

/-- `_init_trait_delegate_listener` (has_traits.py), interpreted on the class pattern
`get_delegate_pattern` produced: the forwarder of `n` is registered under `" <d>:" ++ listenedName`, stored
in the listener table under `n`, and reports a change of the listened attribute of the delegate as a
change of `n` (`name + notify_name[len(target):]`) — what `forwarders` / `notify` of the model assume.
`__listener_traits__` is filled with `get_delegate_pattern(name, trait)` at its two sites. -/
theorem C11_init_listener_is_source (dname raw : Name) (modify : Bool) (clsPfx : Option Name) (n : Name) (hn : n ≠ [])
    (hc : ':' ∉ listenedName clsPfx n (mkDelegate raw modify)) :
    let out := initListenerSrc Generated.DelegSrc.initListener
      (fun a b => (traitDelegateNameSrc Generated.DelegSrc.traitDelegateName clsPfx a b).getD [])
      clsPfx n ((delegatePatternSrc Generated.DelegSrc.delegatePattern dname raw n).getD [])
    (out.registered = (' ' :: dname ++ [':']) ++ listenedName clsPfx n (mkDelegate raw modify)
      ∧ out.key = n
      ∧ out.reported (listenedName clsPfx n (mkDelegate raw modify)) = n)
    ∧ Generated.DelegSrc.patternSites = ["get_delegate_pattern(name, trait)", "get_delegate_pattern(name, value)"] := by
  simp only [listenedName, mkDelegate_raw] at hc ⊢
  rw [delegatePattern_is_source]
  have := initListener_is_source clsPfx n (' ' :: dname) _ (delegatePattern_ne_nil n raw hn) hc
  exact ⟨by simpa using this, rfl⟩

/-- The interpretation is not vacuous: on the F20 pool, assigning `o1.x` (PrototypedFrom, local value 7)
through the interpreted `setattr_delegate` stores locally and drops the forwarder … -/
example : ((execSet setattrDelegate idEnv 3 protoPool 1 nx (mkDelegate [] false) (some 9)).pool.obj 1).dict nx = some 9 := by
  decide

/-- … and reading `o0.x` through the interpreted `getattr_delegate` yields the local value of `o1`. -/
example : execGet getattrDelegate protoPool (some (read protoPool 3)) 0 nx (mkDelegate [] true) = .ok 7 := by
  decide

end Source

/-! ## Copies: pickle round trip, `copy.copy`

`Pool.restore` is the state `HasTraits.__setstate__` builds (the whole pool unpickled, or one object
copied): same values and delegates, forwarders re-created exactly for the linked attributes.  Every
theorem above is proved from `Inv` (and `Linked`); the copy preserves them, so the history can continue
on the copy with the same guarantees. -/

/-- **A copy behaves like the original.**  For every pool satisfying the invariants of C11 (every
reachable pool, `C11_linked_reachable`) and either kind of copy: the invariants hold again; every read —
through any chain — returns what it returned before; on a copied object a linked deferring attribute has
its forwarder hooked on the current delegate (so `Linked` holds for it even if the original had lost the
forwarder), and an attribute with a local value — a broken prototype link — has none, hence no change of
any other attribute anywhere is ever reported to its handlers (what seed C11-m13, `_init_trait_listeners`
after `trait_set` in `__setstate__`, breaks). -/
theorem C11_copy (p : Pool) (w : Option ObjId) (I : Inv p) :
    Inv (p.restore w)
    ∧ (∀ f o n, read (p.restore w) f o n = read p f o n)
    ∧ (∀ o n d, (w = none ∨ w = some o) → (p.obj o).cls.trait n = .defer d →
        ((p.obj o).dict n = none → ((p.restore w).obj o).fwd n = some ((p.restore w).obj o).deleg)
        ∧ ((p.obj o).dict n ≠ none → ((p.restore w).obj o).fwd n = none))
    ∧ (∀ o n d, ((p.restore w).obj o).cls.trait n = .defer d → ((p.restore w).obj o).dict n ≠ none →
        ∀ f x t a b, ¬(x = o ∧ t = n) → ∀ e ∈ notify (p.restore w) f x t a b, ¬(e.obj = o ∧ e.name = n)) := by
  have I' := restore_inv p w I
  refine ⟨I', read_restore p w, fun o n d hw htd => ?_, fun o n d htd hd => notify_not_unlinked ((I'.fwd o n).2 d htd hd)⟩
  rw [restore_fwd, if_pos hw, htd, restore_deleg]
  cases (p.obj o).dict n with
  | none => exact ⟨fun _ => rfl, fun h => absurd rfl h⟩
  | some v => exact ⟨nofun, fun _ => rfl⟩

/-- Non-vacuity: on the F20 pool (`o1.x` holds the local value 7, its forwarder is gone) the pickle round
trip keeps `o1.x` unlinked and `o0.x` linked to `o1`. -/
example : ((protoPool.restore none).obj 1).fwd nx = none ∧ ((protoPool.restore none).obj 0).fwd nx = some (some 1) := by
  decide


/-! ### Clones (`copy.deepcopy`, `clone_traits`) — known finding `clone-localises-linked-prototype`

`Pool.cloneAll` transcribes `clone_traits` / `copy_traits`: the clone is built by ASSIGNING every
deferring attribute the value read through the original.  The property's clause 'a PrototypedFrom
attribute reads as the prototype's value until it is assigned locally' would need the clone of a linked
attribute to be linked; the code does not do that. -/

/-- Full-strength clause for clones: a PrototypedFrom attribute that is linked in a pool satisfying the
invariants is linked in the deep copy of the pool. -/
def CloneKeepsLinks : Prop :=
  ∀ (p : Pool), Inv p → ∀ (o : ObjId) (n : Name) (d : DelegInfo),
    (p.obj o).cls.trait n = .defer d → d.modify = false → (p.obj o).dict n = none →
    ((p.cloneAll idEnv).obj o).dict n = none ∧ ((p.cloneAll idEnv).obj o).fwd n = some ((p.cloneAll idEnv).obj o).deleg

/-- The pool of the witness: `o0.x = PrototypedFrom('d')` linked to `o1.x` (typed, default 3). -/
def clonePool : Pool := runPool idEnv 0 (mkPool [clsP, clsT]) [.swap 0 (some 1)]

theorem clonePool_inv : Inv clonePool :=
  runPool_inv idEnv _ 0 _ (mkPool_inv _ (by decide))

/-- **The code does not satisfy it** (known finding `clone-localises-linked-prototype`; witness replayed by the
corpus case `same-P … sw 1 2;sw 0 1;cp A d;st 2 x 5;rd 0 x`, one level more): the clone of the linked `o0.x` holds the local value 3 and
has no forwarder, so it no longer follows `o1.x`. -/
theorem C11_clone_localises : ¬ CloneKeepsLinks := by
  intro h
  have := (h clonePool clonePool_inv 0 nx (mkDelegate [] false) (by decide) (by decide) (by decide)).1
  revert this
  decide

/-- What the clone is instead: local value = the value read through the original, forwarder gone; a later
change of the prototype is not seen through it. -/
example : ((clonePool.cloneAll idEnv).obj 0).dict nx = some 3 ∧ ((clonePool.cloneAll idEnv).obj 0).fwd nx = none
    ∧ read (step idEnv 1 (clonePool.cloneAll idEnv) (.set 1 nx 5)).pool 3 0 nx = .ok 3 := by decide


end TraitsVerif.Props.C11
