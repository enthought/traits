/-
Property C04 — container traits never hold an invalid element or an illegal
length.  (List part; the Dict/Set parts cite the invariants proved with the
TraitDict/TraitSet models, see "Dict and Set traits" below.)

Quantified over: every list, every operation of the list interface with any
index/slice and any items, every `minlen`/`maxlen`, every item validator (an
arbitrary partial function: valid, converting or rejecting), all histories.
-/
import TraitsVerif.Lemmas.SeqLen
import TraitsVerif.Generated.Mutators
import TraitsVerif.Generated.LenGuard
import TraitsVerif.Props.C05
import TraitsVerif.Model.Nested
import TraitsVerif.Props.C06
import TraitsVerif.Props.C07
import TraitsVerif.Lemmas.PyLObj
import TraitsVerif.Generated.CtorCopy
import TraitsVerif.Model.CtorCopyAssumed
import TraitsVerif.Lemmas.PyLCtor
namespace TraitsVerif.Props.C04
open TraitsVerif TraitsVerif.Py TraitsVerif.Model
variable {α : Type}

/-- The invariant: every element is an output of the inner trait's validator
("satisfies the inner trait after its documented conversion") and the length is
within `minlen..maxlen`. -/
def Inv (c : LenCfg) (E : Env α) (l : List α) : Prop :=
  (∀ x ∈ l, Valid E x) ∧ c.minlen ≤ l.length ∧ l.length ≤ c.maxlen

/-- **The guards compute the exact new length** (this is where slice arithmetic
bites): whenever an override hands `n` to `_validate_length` and the operation
then succeeds, the list has exactly `n` elements. -/
theorem C04_len_exact (E : Env α) (hs : SortOk E) (l : List α) (op : Op α) (n : Int) (o : Out α)
    (hg : guardLen l op = .ok (some n)) (h : TraitList.step E l op = .ok o) :
    (o.items.length : Int) = n := by
  have := step_length E l op o h
  rwa [hg] at this

/-- Operations whose override passes no length to `_validate_length`
(`x[i] = v`, extended-slice assignment, `reverse`, `sort`) do not change it. -/
theorem C04_len_unchanged (E : Env α) (hs : SortOk E) (l : List α) (op : Op α) (o : Out α)
    (hg : guardLen l op = .ok none) (h : TraitList.step E l op = .ok o) :
    o.items.length = l.length := by
  have := step_length E l op o h
  rw [hg] at this
  exact this hs

/-- Elements after a successful mutator call were there before or came out of
the item validator. -/
theorem C04_elements (E : Env α) (hs : SortOk E) (l : List α) (op : Op α) (o : Out α)
    (h : TraitList.step E l op = .ok o) : ∀ x ∈ o.items, x ∈ l ∨ Valid E x :=
  step_mem E hs l op o h

/-- The invariant for any element predicate `P` that every validator output
satisfies (needed for nesting: an inner list mutated in place is no longer
literally a validator output, but still satisfies the deep invariant). -/
theorem C04_list_step_invP (c : LenCfg) (E : Env α) (hs : SortOk E) (P : α → Prop)
    (hP : ∀ x, Valid E x → P x) (l : List α) (op : Op α) (o : Out α)
    (hl : ∀ x ∈ l, P x) (hb : c.minlen ≤ l.length ∧ l.length ≤ c.maxlen)
    (h : TraitListObject.step c E l op = .ok o) :
    (∀ x ∈ o.items, P x) ∧ c.minlen ≤ o.items.length ∧ o.items.length ≤ c.maxlen := by
  unfold TraitListObject.step at h
  have hel (h' : TraitList.step E l op = .ok o) : ∀ x ∈ o.items, P x := fun x hx =>
    (C04_elements E hs l op o h' x hx).elim (hl x) (hP x)
  split at h
  · cases h
  · rename_i hg
    exact ⟨hel h, by rw [C04_len_unchanged E hs l op o hg h]; exact hb⟩
  · rename_i n hg
    split at h
    · rename_i hok
      have hlen := C04_len_exact E hs l op n o hg h
      simp only [LenCfg.ok, decide_eq_true_eq] at hok
      exact ⟨hel h, by omega⟩
    · cases h

/-- **Invariant preserved by every mutator.** -/
theorem C04_list_step_inv (c : LenCfg) (E : Env α) (hs : SortOk E) (l : List α) (op : Op α)
    (o : Out α) (hinv : Inv c E l) (h : TraitListObject.step c E l op = .ok o) :
    Inv c E o.items :=
  C04_list_step_invP c E hs (Valid E) (fun _ hx => hx) l op o hinv.1 hinv.2 h

/-- **Invariant established by whole-value assignment** (and by construction). -/
theorem C04_assign_inv (c : LenCfg) (E : Env α) (xs l' : List α)
    (h : TraitListObject.assign c E xs = .ok l') : Inv c E l' := by
  unfold TraitListObject.assign at h
  by_cases hok : c.ok xs.length = true
  · simp only [hok, if_true] at h
    obtain ⟨h1, h2⟩ := valAll_valid h
    refine ⟨fun x hx => h2 x hx, ?_⟩
    simp only [LenCfg.ok, decide_eq_true_eq] at hok
    omega
  · simp [hok] at h

/-- **A violating operation raises TraitError** (length guard). -/
theorem C04_reject_length (c : LenCfg) (E : Env α) (l : List α) (op : Op α) (n : Int)
    (hg : guardLen l op = .ok (some n)) (hbad : c.ok n = false) :
    TraitListObject.step c E l op = .error .traitError := by
  simp [TraitListObject.step, hg, hbad]

/-- The only failures of a `TraitListObject` operation are the guard's TraitError, an exception raised while the
guard is computed (`ValueError`: a zero slice step, or an extended slice assigned another number of items), and
the failures of `TraitList` (`C05_refines_error`: the item validator's own exception, passed through unchanged,
or what the builtin list raises). -/
theorem C04_failures (c : LenCfg) (E : Env α) (l : List α) (op : Op α) (e : Exc)
    (h : TraitListObject.step c E l op = .error e) :
    e = .traitError ∨ guardLen l op = .error e ∨ TraitList.step E l op = .error e := by
  unfold TraitListObject.step at h
  cases hg : guardLen l op with
  | error e' => simp only [hg, Except.error.injEq] at h; subst h; right; left; rfl
  | ok g =>
    cases g with
    | none => simp only [hg] at h; right; right; exact h
    | some n =>
      simp only [hg] at h
      split at h
      · right; right; exact h
      · simp only [Except.error.injEq] at h; left; exact h.symm

/-- **Changes nothing, notifies nobody**: a failing step leaves the history at
the same contents and produces no output (hence no event). -/
theorem C04_reject_atomic_silent (c : LenCfg) (E : Env α) (l : List α) (op : TOp α)
    (ops : List (TOp α)) (e : Exc) (h : TraitListObject.tstep c E l op = .error e) :
    TraitListObject.run c E l (op :: ops) = .error e :: TraitListObject.run c E l ops := by
  simp [TraitListObject.run, h]

/-- The contents after each step of a history (a failed step repeats the state). -/
def states (c : LenCfg) (E : Env α) : List α → List (TOp α) → List (List α)
  | _, [] => []
  | l, op :: ops =>
    match TraitListObject.tstep c E l op with
    | .error _ => l :: states c E l ops
    | .ok o => o.items :: states c E o.items ops

/-- **At every moment**: along any history of mutator calls and whole-value
assignments, every state satisfies the invariant. -/
theorem C04_list_history (c : LenCfg) (E : Env α) (hs : SortOk E) (l : List α)
    (ops : List (TOp α)) (hinv : Inv c E l) : ∀ s ∈ states c E l ops, Inv c E s := by
  induction ops generalizing l with
  | nil => simp [states]
  | cons op ops ih =>
    simp only [states]
    cases ht : TraitListObject.tstep c E l op with
    | error e => exact List.forall_mem_cons.2 ⟨hinv, ih l hinv⟩
    | ok o =>
      have hinv' : Inv c E o.items := by
        cases op with
        | call op' => exact C04_list_step_inv c E hs l op' o hinv ht
        | assign xs =>
          obtain ⟨l', hl', rfl⟩ := Except.map_eq_ok ht
          exact C04_assign_inv c E xs l' hl'
      exact List.forall_mem_cons.2 ⟨hinv', ih o.items hinv'⟩

/-- **Every length-changing mutator is guarded** (over the translated method
tables): each mutator `TraitList` overrides is overridden again by
`TraitListObject`, except `reverse` and `sort`, which cannot change the length. -/
theorem C04_list_mutators_guarded :
    ∀ m ∈ C05.modelledMutators,
      m ∈ Generated.traitListObjectMethods ∨ m ∈ ["reverse", "sort"] := by
  decide

/-- `TraitListObject` derives from `TraitList`, so unguarded operations still validate items. -/
theorem C04_listobject_base : Generated.traitListObjectBases = ["TraitList"] := by decide

/-! ### The guards of the model are the guards of the source

`Generated/LenGuard.lean` is re-read from `trait_list_object.py` /
`trait_types.py` on every run: per override of `TraitListObject`, the expression
handed to `_validate_length` and the syntactic condition it stands under.  The
next theorems say that the hand-written `guardLen`, `LenCfg.ok` and the length
test of `TraitListObject.assign` are exactly the interpretation of that data,
so an edit of a guard in the source (another expression, a dropped override, a
strict comparison) breaks one of these obligations. -/

/-- `guardLen` is the interpretation of the translated guard table, for every list and every operation. -/
theorem C04_guard_is_source (l : List α) (op : Op α) :
    guardLen l op = guardOfTable Generated.lenGuards l op := by
  -- per arm of `guardLen`, under the arm's guards, the table's path evaluates to the same;
  -- `try omega`: a source rewrite that only re-associates the arithmetic keeps the proof
  fun_cases guardLen l op <;>
    simp [guardOfTable, Generated.lenGuards, Op.gcall, lookupMethod, firstPath, GCond.holds,
      GAct.usesSel, GE.usesSel, runAct, GE.eval, Int.natCast_inj, *] <;> try omega

/-- `LenCfg.ok` is the comparison chain of `_validate_length` and of `List.validate`. -/
theorem C04_bound_is_source (c : LenCfg) (n : Int) :
    c.ok n = Generated.validateLengthBound.ok c n ∧ c.ok n = Generated.listValidateBound.ok c n := by
  simp [LenCfg.ok, GBound.ok, Generated.validateLengthBound, Generated.listValidateBound]

/-- `TraitListObject.__init__` checks the length of the listed value (the
`c.ok xs.length` of `TraitListObject.assign`), and every override hands over to
the `super()` method of its own name. -/
theorem C04_init_guard_is_source :
    lookupMethod "__init__" Generated.lenGuards = some [{ conds := [], act := .check .added }] ∧
    ∀ p ∈ Generated.lenGuardSuper, p.1 = p.2 := by
  decide

/-- **`TraitListObject.step` is what the source says**: the translated overrides
of `TraitListObject` (`Generated.traitListObjectProg`), run with `super()` bound
to the translated `TraitList` methods, give exactly the model's result — for
every `minlen`/`maxlen`, validator, list and operation; where the model
rejects, the interpreted source raises the same exception with the list
unchanged and nobody notified. -/
theorem C04_step_is_source (c : LenCfg) (E : Env α) (l : List α) (op : Op α) :
    PyL.runTraitListObjectOp Generated.listHelpers Generated.traitListProg Generated.traitListObjectProg c E l op
      = PyL.summaryOfStep l (TraitListObject.step c E l op) :=
  Lemmas.PyL.tlo_step_is_source c E l op

/-- The invariant, stated of the interpreted source directly: a call that
returns leaves a list satisfying `Inv`; a call that raises leaves the list
untouched and fires nothing. -/
theorem C04_source_inv (c : LenCfg) (E : Env α) (hs : SortOk E) (l : List α) (op : Op α) (h : Inv c E l) :
    match PyL.runTraitListObjectOp Generated.listHelpers Generated.traitListProg Generated.traitListObjectProg
        c E l op with
    | .done items _ _ => Inv c E items
    | .raised _ items evs => items = l ∧ evs = [] := by
  rw [C04_step_is_source]
  cases hst : TraitListObject.step c E l op with
  | error e => simp [PyL.summaryOfStep]
  | ok o =>
    simp only [PyL.summaryOfStep]
    exact C04_list_step_inv c E hs l op o h hst

/-- The contents after each call of a history, running the *interpreted source*
(a raising call leaves whatever the source left). -/
def srcStates (c : LenCfg) (E : Env α) : List α → List (Op α) → List (List α)
  | _, [] => []
  | l, op :: ops =>
    let l' := match PyL.runTraitListObjectOp Generated.listHelpers Generated.traitListProg
        Generated.traitListObjectProg c E l op with
      | .done items _ _ => items
      | .raised _ items _ => items
    l' :: srcStates c E l' ops

/-- **At every moment of every history of the interpreted source** the list
satisfies the invariant (induction over the operation list; no bound). -/
theorem C04_source_history (c : LenCfg) (E : Env α) (hs : SortOk E) (l : List α) (ops : List (Op α))
    (h : Inv c E l) : ∀ s ∈ srcStates c E l ops, Inv c E s := by
  -- the interpreted source visits the states of the model's history of the same calls
  suffices hst : ∀ l, srcStates c E l ops = states c E l (ops.map .call) by
    rw [hst]; exact C04_list_history c E hs l _ h
  induction ops with
  | nil => exact fun _ => rfl
  | cons op ops ih =>
    intro l
    simp only [srcStates, states, List.map_cons, TraitListObject.tstep, C04_step_is_source]
    cases TraitListObject.step c E l op <;> simp only [PyL.summaryOfStep, ih]

/-! ### Nested containers -/

/-- The deep invariant of a nested list trait: at every level the length is
within that level's bounds, and every leaf is an output of the scalar trait. -/
def InvDeep : TT → CV → Prop
  | .leaf v, .atom n => ∃ y, v y = .ok n
  | .list c inner, .lst xs =>
    c.minlen ≤ xs.length ∧ xs.length ≤ c.maxlen ∧ ∀ x ∈ xs, InvDeep inner x
  | .leaf _, .lst _ => False
  | .list _ _, .atom _ => False

theorem mapExcept_ok {β γ : Type} {f : β → Except Exc γ} {xs : List β} {ys : List γ}
    (h : mapExcept f xs = .ok ys) :
    ys.length = xs.length ∧ ∀ y ∈ ys, ∃ x ∈ xs, f x = .ok y := by
  revert ys
  fun_induction mapExcept f xs <;> intro ys h <;> cases h
  · exact ⟨rfl, nofun⟩                               -- no item
  · rename_i x xs y hy ys hys ih                     -- `f` accepts this item and the rest
    obtain ⟨h1, h2⟩ := ih hys
    refine ⟨by simp [h1], fun z hz => ?_⟩
    rcases List.mem_cons.mp hz with rfl | hz
    · exact ⟨x, by simp, hy⟩
    · obtain ⟨w, hw, hfw⟩ := h2 z hz
      exact ⟨w, List.mem_cons_of_mem _ hw, hfw⟩

/-- **Whole-value assignment of a nested value** (and every inner list the
item validator constructs) establishes the deep invariant. -/
theorem C04_nested_validate (tt : TT) : ∀ x y, tt.validate x = .ok y → InvDeep tt y := by
  induction tt with
  | leaf v =>
    intro x y h
    cases x with
    | atom n =>
      obtain ⟨m, hm, rfl⟩ := Except.map_eq_ok h
      exact ⟨n, hm⟩
    | lst xs => cases h
  | list c inner ih =>
    intro x y h
    cases x with
    | atom n => cases h
    | lst xs =>
      simp only [TT.validate] at h
      split at h
      · rename_i hok
        obtain ⟨ys, hys, rfl⟩ := Except.map_eq_ok h
        obtain ⟨h1, h2⟩ := mapExcept_ok hys
        simp only [LenCfg.ok, decide_eq_true_eq] at hok
        refine ⟨by omega, by omega, fun z hz => ?_⟩
        obtain ⟨w, _, hw⟩ := h2 z hz
        exact ih w z hw
      · cases h

/-- **Nested containers**: a mutator applied to a list at any depth of a value
satisfying the deep invariant leaves a value satisfying it (structural
induction on the path). -/
theorem C04_nested (eq : CV → CV → Bool) (sort : Nat → List CV → List CV)
    (hsort : ∀ sp l, (sort sp l).Perm l) (path : List Nat) :
    ∀ (tt : TT) (op : Op CV) (cv cv' : CV), InvDeep tt cv →
      stepAt eq sort tt path op cv = some (.ok cv') → InvDeep tt cv' := by
  intro tt op cv
  fun_induction stepAt eq sort tt path op cv <;> intro cv' hinv h
  -- the path ends here: the list invariant, with `InvDeep inner` for the element predicate
  case case1 c inner op xs =>
    obtain ⟨o, ho, rfl⟩ := Except.map_eq_ok (Option.some.inj h)
    obtain ⟨hb1, hb2, hel⟩ := hinv
    have := C04_list_step_invP c (inner.env eq sort) (fun sp l => hsort sp l) (InvDeep inner)
      (by rintro x ⟨k, y, hy⟩; exact C04_nested_validate inner y x hy)
      xs op o hel ⟨hb1, hb2⟩ ho
    exact ⟨this.2.1, this.2.2, this.1⟩
  -- one level down: the element at `i` is replaced by what the step made of it
  case case5 c inner i path op xs x hx x' hr ih =>
    cases h
    obtain ⟨hb1, hb2, hel⟩ := hinv
    have hx' := ih x' (hel x (List.mem_of_getElem? hx)) hr
    refine ⟨by simpa using hb1, by simpa using hb2, fun z hz => ?_⟩
    rcases List.mem_or_eq_of_mem_set hz with h1 | h1
    · exact hel z h1
    · exact h1 ▸ hx'
  -- the path leads to no list, or the step below failed
  all_goals cases h

/-! ### Dict and Set traits

`TraitDictObject` / `TraitSetObject` add no operation of their own: they are
`TraitDict` / `TraitSet` whose validators are the key / value / item traits.
The invariants are those proved with the `map` and `set` models (Props/C06,
Props/C07); here they are lifted to every moment of every history. -/

section DictSet
variable {K V : Type} [DecidableEq K]

/-- **Dict(K, V)**: at every moment of any history every key and every value is
an output of its validator. -/
theorem C04_dict_history (kv : Callback K K) (vv : Callback V V)
    (ops : List (Py.Dict.Op K V)) :
    ∀ (d : Py.Dict K V),
      (∀ p ∈ d, Model.Map.TraitDict.ValidOut kv p.1 ∧ Model.Map.TraitDict.ValidOut vv p.2) →
      ∀ p ∈ ops.foldl (Model.Map.TraitDict.next kv vv) d,
        Model.Map.TraitDict.ValidOut kv p.1 ∧ Model.Map.TraitDict.ValidOut vv p.2 :=
  fun _ hv => List.foldlRecOn ops _ hv fun d hd op _ => C06.keys_values_valid_preserved kv vv d op hd

/-- Whole-value assignment / construction of a Dict trait establishes the invariant. -/
theorem C04_dict_assign (kv : Callback K K) (vv : Callback V V) (ps : List (K × V))
    (d : Py.Dict K V) (h : Model.Map.TraitDict.init kv vv ps = .ok d) :
    ∀ p ∈ d, Model.Map.TraitDict.ValidOut kv p.1 ∧ Model.Map.TraitDict.ValidOut vv p.2 :=
  C06.keys_values_valid_init kv vv ps d h

end DictSet

section SetPart
variable {β : Type} [DecidableEq β]

/-- **Set(T)**: at every moment of any history every member is an output of the validator. -/
theorem C04_set_history (v : Callback β β) (ops : List (Py.PSet.Op β)) :
    ∀ (s : Py.PSet β), (∀ x ∈ s, Model.SetM.TraitSet.ValidOut v x) →
      ∀ x ∈ ops.foldl (Model.SetM.TraitSet.next v) s, Model.SetM.TraitSet.ValidOut v x :=
  fun _ hv => List.foldlRecOn ops _ hv fun s hs op _ => C07.members_valid_preserved v s op hs

/-- Whole-value assignment / construction of a Set trait establishes the invariant. -/
theorem C04_set_assign (v : Callback β β) (xs : List β) (s : Py.PSet β)
    (h : Model.SetM.TraitSet.init v xs = .ok s) : ∀ x ∈ s, Model.SetM.TraitSet.ValidOut v x :=
  C07.members_valid_init v xs s h

end SetPart

/-! ### Non-vacuity -/

def cfg13 : LenCfg := ⟨1, 3⟩
def rejNeg : Env Int :=
  { v := fun _ x => if x < 0 then .error .traitError else .ok x, eq := (· == ·),
    sort := fun _ l => l.mergeSort (· ≤ ·) }

/-- The interpreted source on concrete inputs (kernel evaluation of the
interpreter on `Generated/ListProg.lean`): an accepted `append`, an `append`
rejected by the length guard (list and event log untouched), and a reversed
extended-slice assignment with its normalised event. -/
example :
    PyL.runTraitListObjectOp Generated.listHelpers Generated.traitListProg Generated.traitListObjectProg
      cfg13 rejNeg [1, 2] (.append 5) = .done [1, 2, 5] none [⟨.idx 2, [], [5]⟩]
    ∧ PyL.runTraitListObjectOp Generated.listHelpers Generated.traitListProg Generated.traitListObjectProg
      cfg13 rejNeg [1, 2, 3] (.append 5) = .raised .traitError [1, 2, 3] []
    ∧ PyL.runTraitListObjectOp Generated.listHelpers Generated.traitListProg Generated.traitListObjectProg
      cfg13 rejNeg [1, 2, 3] (.setSlice ⟨none, none, some (-2)⟩ [7, 8])
        = .done [8, 2, 7] none [⟨.slc 0 3 2, [1, 3], [8, 7]⟩] :=
  ⟨rfl, rfl, rfl⟩

/-! ### Tie to the source: when is an item validated, when is the length checked, when is the items event delivered

The mutators (above) call `self.item_validator` / `self._validate_length` /
`self.notify`; for the value of a `List` trait these are
`TraitListObject._item_validator`, `_validate_length` and `notifier`, which look
at the state of `self` first (trait `None`? owner alive? `name_items`? still the
owner's current value?).  `translate/pylobj.py` translates their source text
(`Generated/ObjProg.lean`); `Model/ContainerObject.lean` has the hand-written gates. -/

section ObjectGates
open TraitsVerif.Model.PyLO TraitsVerif.Model.Obj

/-- For every state of `self`, inner trait,
call ordinal and item, the modelled `_item_validator` and `_validate_length` are
what the interpreter computes on their translated source. -/
theorem C04_item_validator_is_source {β : Type} (σ : OSelf) (inner : Bool → Callback β β) (n : Int) :
    runValidator Generated.Obj.traitListObjectItemValidator .item σ inner = listItemValidator σ inner ∧
    runLengthCheck Generated.Obj.traitListObjectValidateLength σ n = listValidateLength σ n :=
  ⟨by funext k x; exact Lemmas.PyLObj.list_item_validator_is_source σ inner k x,
   Lemmas.PyLObj.list_validate_length_is_source σ n⟩

/-- The modelled delivery gate of
`TraitListObject.notifier` is the interpretation of its translated source. -/
theorem C04_notifier_gate_is_source (σ : OSelf) :
    runNotifier Generated.Obj.traitListObjectNotifier σ = listNotifier σ :=
  Lemmas.PyLObj.list_notifier_is_source σ

/-- The premise of the invariant theorems above
(`TraitListObject.step c E` with `E.v` the inner trait's `validate` and `c` the
trait's bounds) holds for the value a live owner holds — with or without items
event (`items=False`), current or replaced: its item validator *is* the inner
trait's `validate` called with the owner, and its length check *is* `c.ok`.
Likewise for the keys / values of a `Dict` trait and the members of a `Set`
trait.  (Only a value whose owner is gone — collected, deep-copied, unpickled —
lets items through unvalidated; lists and dicts do, sets still validate after a
deep copy: C07.) -/
theorem C04_trait_value_validates {β : Type} (t : CT) (hasItems : Bool) (inner : Bool → Callback β β) (n : Int) :
    (t.itemNone = false →
      listItemValidator (OSelf.live t hasItems) inner = inner true ∧
      listItemValidator (OSelf.live t hasItems).detached inner = inner true ∧
      setItemValidator (OSelf.live t hasItems) inner = inner true ∧
      setItemValidator (OSelf.live t hasItems).detached inner = inner true) ∧
    (∀ w, t.validateNone w = false →
      dictValidator w (OSelf.live t hasItems) inner = inner true ∧
      dictValidator w (OSelf.live t hasItems).detached inner = inner true) ∧
    (listValidateLength (OSelf.live t hasItems) n = .ok () ↔ (LenCfg.mk t.minlen t.maxlen).ok n = true) ∧
    (listValidateLength (OSelf.live t hasItems) n = .error .traitError ↔ (LenCfg.mk t.minlen t.maxlen).ok n = false) := by
  refine ⟨?_, ?_, ?_, ?_⟩
  · intro hv
    refine ⟨?_, ?_, ?_, ?_⟩ <;> funext k x <;>
      simp [listItemValidator, setItemValidator, OSelf.live, OSelf.detached, traitOrNone, hv]
  · intro w hv
    exact ⟨(C06.C06_trait_value_validates t hasItems inner w hv).1, (C06.C06_trait_value_validates t hasItems inner w hv).2.1⟩
  · by_cases h : (t.minlen : Int) ≤ n ∧ n ≤ (t.maxlen : Int) <;>
      simp [listValidateLength, OSelf.live, traitOrNone, LenCfg.ok, h]
  · by_cases h : (t.minlen : Int) ≤ n ∧ n ≤ (t.maxlen : Int) <;>
      simp [listValidateLength, OSelf.live, traitOrNone, LenCfg.ok, h]

/-- The `<name>_items` event of a `List` trait is
delivered — once, as `TraitListEvent(index=index, removed=removed, added=added)`
built from the notifier's own arguments in that order — exactly when the list
has a trait with an items event, the owner is alive and the list is still the
owner's current value. -/
theorem C04_items_event_gate (σ : OSelf) (ds : List Delivery) :
    listNotifier σ = .ok ds →
      (ds = [⟨"TraitListEvent", [("index", 1), ("removed", 2), ("added", 3)]⟩] ∧
        σ.nameItems = true ∧ σ.object = some true ∧ σ.current = true ∧ ∃ t, σ.trait = some (some t)) ∨
      (ds = [] ∧ (σ.trait = some none ∨ σ.nameItems = false ∨ σ.object = some false ∨ σ.current = false)) := by
  obtain ⟨tr, ob, ni, cu⟩ := σ
  rcases tr with _ | _ | t <;> rcases ob with _ | _ | _ <;> cases ni <;> cases cu <;>
    simp [listNotifier, deliver, listDelivery] <;> (intro h; simp [← h])

/-- Non-vacuity: the interpreted source on a live `List(Range(low=0), 1..3, items=False)` value. -/
example :
    runValidator Generated.Obj.traitListObjectItemValidator .item (OSelf.live { minlen := 1, maxlen := 3 } false)
        (fun _ _ (x : Int) => if x < 0 then .error .traitError else .ok x) 0 (-3) = .error .traitError ∧
    runValidator Generated.Obj.traitListObjectItemValidator .item (OSelf.live { minlen := 1, maxlen := 3 } false).orphaned
        (fun _ _ (x : Int) => if x < 0 then .error .traitError else .ok x) 0 (-3) = .ok (-3) ∧
    runLengthCheck Generated.Obj.traitListObjectValidateLength (OSelf.live { minlen := 1, maxlen := 3 } false) 4
        = .error .traitError ∧
    runLengthCheck Generated.Obj.traitListObjectValidateLength (OSelf.live { minlen := 1, maxlen := 3 } false).afterSetstate 4
        = .ok () ∧
    runNotifier Generated.Obj.traitListObjectNotifier (OSelf.live {} false) = .ok [] ∧
    runNotifier Generated.Obj.traitListObjectNotifier (OSelf.live {} true) = .ok [listDelivery] :=
  ⟨rfl, rfl, rfl, rfl, rfl, rfl⟩

end ObjectGates

/-- `TraitListObject.__init__` is, statement for
statement, what `TraitListObject.assign`, `OSelf.live` and the drivers assume:
owner by weak reference iff `is not None`, `name_items` iff the trait has an
items event, the length of the listed value checked before any item is
validated, then `TraitList.__init__` with the object's own `_item_validator`
and `[self.notifier]`. -/
theorem C04_init_source :
    (Generated.CtorCopy.traitListObjectCtorCopy.take 1) = (Model.CtorCopyAssumed.traitListObjectCtorCopy.take 1) :=
  rfl

/-- `__deepcopy__` / `__getstate__` / `__setstate__` of
`TraitListObject` and `TraitDictObject` are the ones `OSelf.afterDeepcopy` /
`OSelf.afterSetstate` transcribe (trait kept, owner dropped / both dropped). -/
theorem C04_copy_source :
    (Generated.CtorCopy.traitListObjectCtorCopy.drop 1) = (Model.CtorCopyAssumed.traitListObjectCtorCopy.drop 1) ∧
    Generated.CtorCopy.traitDictObjectCtorCopy = Model.CtorCopyAssumed.traitDictObjectCtorCopy :=
  ⟨rfl, rfl⟩

/-- `TraitListObject.__init__` as an interpreted
program, run with `super().__init__` bound to the translated
`TraitList.__init__`: for every trait (`None` / with or without items event),
owner, value, bounds and validator it is the modelled constructor; whose
contents are exactly whole-value assignment (`TraitListObject.assign`: the
length of the listed value is checked BEFORE any item is validated, then every
item goes through the object's own `_item_validator`), and whose attributes are
the ones `OSelf.live` assumes (owner by weak reference iff not `None`,
`name_items` iff the trait has an items event, a private copy of
`[self.notifier]`). -/
theorem C04_init_is_source (C : PyLC.Ctx α) (t : Option Bool) (owner : Bool) (xs : List α) :
    PyLC.runListObjectInit Generated.Ctor.traitListObjectInit Generated.Ctor.traitListInit C t owner xs
      = PyLC.listObjectInit C t owner xs ∧
    (∀ (c : LenCfg) (E : Env α), C.lenOk = c.ok → C.own = E.v →
      (PyLC.listObjectInit C t owner xs).map (·.items) = TraitListObject.assign c E xs) ∧
    (∀ o, PyLC.listObjectInit C t owner xs = .ok o →
      o.itemValidator = .own ∧ o.notifiers = .ownCopy ∧ o.object = some owner ∧ o.trait = some t ∧
      o.nameItems = some (t == some true)) := by
  refine ⟨Lemmas.PyLCtor.list_object_init_is_source C t owner xs, ?_, ?_⟩
  · intro c E hl hv
    simp only [PyLC.listObjectInit, TraitListObject.assign, hl, hv]
    by_cases h : c.ok (xs.length : Int) = true
    · simp only [h, if_true]; cases valAll E.v 0 xs <;> rfl
    · simp only [h]; rfl
  · intro o ho
    simp only [PyLC.listObjectInit] at ho
    by_cases h : C.lenOk (xs.length : Int) = true
    · simp only [h, if_true] at ho
      cases hv : valAll C.own 0 xs with
      | error e => simp [hv] at ho
      | ok ys => simp only [hv, Except.ok.injEq] at ho; subst ho; simp
    · simp [h] at ho

/-- A state meeting `Inv`; after it an accepted operation and three rejected ones (too long, too short, invalid item). -/
example : Inv cfg13 rejNeg [1, 2] := by
  refine ⟨?_, by decide, by decide⟩
  intro x hx
  have : x = 1 ∨ x = 2 := by simpa using hx
  rcases this with rfl | rfl
  · exact ⟨0, 1, by decide⟩
  · exact ⟨0, 2, by decide⟩

example :
    ((TraitListObject.step cfg13 rejNeg [1, 2] (.append 3)).toOption.map (·.items) = some [1, 2, 3])
    ∧ (TraitListObject.step cfg13 rejNeg [1, 2, 3] (.append 4)).toOption.isNone = true
    ∧ (TraitListObject.step cfg13 rejNeg [1] (.pop 0)).toOption.isNone = true
    ∧ (TraitListObject.step cfg13 rejNeg [1] (.setIdx 0 (-5))).toOption.isNone = true := by
  decide

/-- `List(List(Range(low=0), maxlen=2), maxlen=3)`, and after it a value meeting its deep invariant. -/
def ttNested : TT :=
  .list ⟨0, 3⟩ (.list ⟨0, 2⟩ (.leaf (fun x => if x < 0 then .error .traitError else .ok x)))

example :
    InvDeep ttNested (.lst [.lst [.atom 1], .lst [.atom 2, .atom 3]]) := by
  refine ⟨by decide, by decide, ?_⟩
  intro x hx
  have : x = .lst [.atom 1] ∨ x = .lst [.atom 2, .atom 3] := by simpa using hx
  rcases this with rfl | rfl
  · refine ⟨by decide, by decide, ?_⟩
    intro y hy
    have : y = .atom 1 := by simpa using hy
    subst this; exact ⟨1, by decide⟩
  · refine ⟨by decide, by decide, ?_⟩
    intro y hy
    have : y = .atom 2 ∨ y = .atom 3 := by simpa using hy
    rcases this with rfl | rfl
    · exact ⟨2, by decide⟩
    · exact ⟨3, by decide⟩

end TraitsVerif.Props.C04
