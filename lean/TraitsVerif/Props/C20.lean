/-
Property C20 — synchronised traits converge and stop when unsynchronised.

Only property theorems, the full-strength statements that the code does not
meet (as `def … : Prop`, each with a proved negation witness), and non-vacuity
examples live here; the work is in Lemmas/Sync*.lean, the model in
Model/Sync.lean.

Everything is universally quantified over the element type, the validators of
every trait of every object (arbitrary partial functions of call ordinal and
argument), the number of objects and traits, the link tables (any network of
mutual / one-way links, aliases, several partners, self links), the values and
lists held, the assigned value or list operation (every mutator of C05, every
integer index and slice), and the depth budget standing for CPython's recursion
limit.  A state "between two commands of a history" is a state with an empty
lock table; `C20_lock_released` shows by induction over histories that every
reachable state is one, so the one-command theorems below hold after every
history.
-/
import TraitsVerif.Lemmas.SyncTwoSided
import TraitsVerif.Lemmas.SyncHook
import TraitsVerif.Lemmas.SyncLive
import TraitsVerif.Lemmas.SyncLink
import TraitsVerif.Py.Dict
namespace TraitsVerif.Props.C20
open TraitsVerif TraitsVerif.Py TraitsVerif.Model TraitsVerif.Model.Sync TraitsVerif.Model.PyLSync
  TraitsVerif.Model.SyncLive TraitsVerif.Model.PyLLink
variable {α : Type}

/-! ### Termination and the lock -/

/-- **Lock released (histories).** After every history of assignments, list
mutations, `sync_trait` additions and removals and partner deaths, started with
empty lock tables, the lock tables are empty again. -/
theorem C20_lock_released [DecidableEq α] (E : Sync.Env α) (w : World α) (cs : List (Cmd α))
    (h : w.locked = []) : (World.run E w cs).locked = [] :=
  run_locked E w cs h

/-- **Lock released (any nested call).** A propagation started on an unlocked
trait — at any nesting depth, in any state — returns with exactly the lock
table, link tables and registered handlers it found. -/
theorem C20_lock_released_nested [DecidableEq α] (E : Sync.Env α) (d : Nat) (w w' : World α) (p : Pair)
    (hp : p ∉ w.locked) :
    (∀ v r, cascade (applyAssign E) d w p v = .ok (w', r) → SameTabs w w') ∧
    (∀ op r, cascade (applyMutate E) d w p op = .ok (w', r) → SameTabs w w') :=
  ⟨fun v r h => cascade_frame (local_assign E) d w p v w' r hp h,
   fun op r h => cascade_frame (local_mutate E) d w p op w' r hp h⟩

/-- **Termination.** The nested propagation is cut by the lock: for every depth
budget above the number of table entries the result is the one computed with
`budget w` — the recursion limit is never reached, whatever the network. -/
theorem C20_terminates [DecidableEq α] (E : Sync.Env α) (w : World α) (p : Pair) (h : w.locked = [])
    (d : Nat) (hd : w.edges.length < d) :
    (∀ v, cascade (applyAssign E) d w p v = cascade (applyAssign E) w.budget w p v) ∧
    (∀ op, cascade (applyMutate E) d w p op = cascade (applyMutate E) w.budget w p op) :=
  ⟨fun v => budget_fuel (local_assign E) w p v (by simp [h]) d hd,
   fun op => budget_fuel (local_mutate E) w p op (by simp [h]) d hd⟩

/-- **Depth ≤ 2** for a trait whose partners have no partner but itself (one
link between two traits, mutual or one-way, or a hub with several partners):
the propagation visits the trait, then each partner once, and stops — two
nested calls are all the recursion ever uses (every budget ≥ 2 gives the result
of budget 2). -/
theorem C20_depth_two [DecidableEq α] (E : Sync.Env α) (w : World α) (p : Pair) (d : Nat) (hL : w.locked = [])
    (hnd : (w.partners p).Nodup) (hp : p ∉ w.partners p)
    (hback : ∀ q ∈ w.partners p, ∀ t ∈ w.partners q, t = p) :
    visit w.edges (d + 2) [] p = p :: w.partners p ∧
    (∀ v, cascade (applyAssign E) (d + 2) w p v = cascade (applyAssign E) 2 w p v) ∧
    (∀ op, cascade (applyMutate E) (d + 2) w p op = cascade (applyMutate E) 2 w p op) :=
  ⟨visit_hub w.edges p d hp hback,
   fun v => cascade_hub_depth (local_assign E) w p v d hback,
   fun op => cascade_hub_depth (local_mutate E) w p op d hback⟩

/-! ### Convergence -/

/-- **Convergence of assignments** (scalar traits, and whole-list assignment to
`List` traits).  In any network, from any state with empty lock tables: let `y`
be what `p`'s own trait makes of the assigned value; if every trait some link
leads to either stores `y` unchanged or rejects it (`Fix`; e.g. all linked traits
have the same idempotent validator) and the partner `q` of `p` stores it, then after
`obj.p = v` nothing was raised and `p` and `q` both hold `y` — provided the
assignment changed `p` or the two sides were equal before (re-assigning the
value a trait already holds is not a change and notifies nobody). -/
theorem C20_converge_scalar [DecidableEq α] (E : Sync.Env α) (w : World α) (p q : Pair) (v y : AVal α)
    (hL : w.locked = []) (he : (⟨p, q⟩ : Edge) ∈ w.edges)
    (hv : validate E p v = .ok y) (hfix : Fix E w.edges y) (hq : validate E q y = .ok y)
    (hpre : w.val p ≠ y ∨ w.val q = w.val p) :
    (w.assign E p v).exc = none ∧ (w.assign E p v).world.val p = y ∧ (w.assign E p v).world.val q = y :=
  let h := assign_converges E w p q v y hL he hv hfix hq hpre
  ⟨h.1, h.2.1, h.2.2.1⟩

/-- The propagation reaches no trait twice (a function of the link tables). -/
def NoRevisit (w : World α) (p : Pair) : Prop := (visit w.edges w.budget [] p).Nodup

instance (w : World α) (p : Pair) : Decidable (NoRevisit w p) := by unfold NoRevisit; infer_instance

/-- **Convergence of in-place list mutations** — `C05_replay` applied to the
partner.  From any state with empty lock tables, `p` and `q` `List` traits, `q`
a partner of `p` holding an equal list, the items handler registered on `p`
(true in every reachable state: `C20_items_handler_registered`,
`C20_converge_list_reachable`):
for every `TraitList` mutator call on `p`'s list that succeeds with an event
`e` (integer index or extended slice), if `q`'s item validator stores the added
items unchanged and the propagation reaches no trait twice, then the call
returns what it returns on an unlinked list, raises nothing, and both lists
hold its result. -/
theorem C20_converge_list (E : Sync.Env α) (w : World α) (p q : Pair) (op : Op α) (o : Out α) (e : Event α)
    (hL : w.locked = []) (he : (⟨p, q⟩ : Edge) ∈ w.edges)
    (hlp : E.isList p = true) (hlq : E.isList q = true) (hhook : p ∈ w.hooked)
    (hstep : listStep (E.tl p) (w.list p) op = .ok o) (hev : o.event = some e)
    (heq : w.list q = w.list p)
    (hfix : valAll (E.iv q) 0 e.added = .ok e.added)
    (hnr : NoRevisit w p) :
    (w.mutate E p op).exc = none ∧ (w.mutate E p op).ret = o.ret ∧
      (w.mutate E p op).world.val p = .l o.items ∧ (w.mutate E p op).world.val q = .l o.items :=
  mutate_converges E w p q op o e hL he hlp hlq hhook hstep hev heq hfix hnr

/-- `NoRevisit` holds for one link between two traits and for a hub. -/
theorem C20_noRevisit_hub (w : World α) (p : Pair)
    (hne : w.edges ≠ []) (hnd : (w.partners p).Nodup) (hp : p ∉ w.partners p)
    (hback : ∀ q ∈ w.partners p, ∀ t ∈ w.partners q, t = p) :
    NoRevisit w p := by
  unfold NoRevisit World.budget
  have : 0 < w.edges.length := List.length_pos_iff.mpr hne
  obtain ⟨d, hd⟩ : ∃ d, w.edges.length + 1 = d + 2 := ⟨w.edges.length - 1, by omega⟩
  rw [hd]
  exact visit_hub_nodup w.edges p d hnd hp hback

/-- **The items handler is registered wherever it is needed** (by induction
over histories; registration rule of the repaired `sync_trait`, finding F61):
start from any state with empty lock tables in which every `List` trait with a
`List` partner has `_sync_trait_items_modified` registered (e.g. no links at
all); after every history of assignments, mutations, additions and removals of
links — mutual or one-way, between traits of any kinds, in any order, including
`sync_trait` calls that raise — and partner deaths, it is registered on every
`List` trait that has a `List` partner. -/
theorem C20_items_handler_registered [DecidableEq α] (E : Sync.Env α) (w0 : World α) (cs : List (Cmd α))
    (h0 : HookOk E w0) (hL0 : w0.locked = []) : HookOk E (World.run E w0 cs) :=
  run_hookOk E cs w0 h0 hL0

/-- **Convergence of in-place list mutations in every reachable state** —
`C20_converge_list` without the hypothesis "the items handler is registered":
after *any* history (from a state as in `C20_items_handler_registered`), for
`List` traits `p`, `q` with `q` a partner of `p` holding an equal list, every
mutator call on `p`'s list that succeeds with an event leaves both lists equal
to its result — whatever other partners, of whatever kind, `p` has or had, in
whatever order they were linked — provided `q`'s item validator stores the added
items unchanged and the propagation reaches no trait twice. -/
theorem C20_converge_list_reachable [DecidableEq α] (E : Sync.Env α) (w0 : World α) (cs : List (Cmd α))
    (h0 : HookOk E w0) (hL0 : w0.locked = []) (p q : Pair) (op : Op α) (o : Out α) (e : Event α)
    (he : (⟨p, q⟩ : Edge) ∈ (World.run E w0 cs).edges)
    (hlp : E.isList p = true) (hlq : E.isList q = true)
    (hstep : listStep (E.tl p) ((World.run E w0 cs).list p) op = .ok o) (hev : o.event = some e)
    (heq : (World.run E w0 cs).list q = (World.run E w0 cs).list p)
    (hfix : valAll (E.iv q) 0 e.added = .ok e.added)
    (hnr : NoRevisit (World.run E w0 cs) p) :
    ((World.run E w0 cs).mutate E p op).exc = none ∧ ((World.run E w0 cs).mutate E p op).ret = o.ret ∧
      ((World.run E w0 cs).mutate E p op).world.val p = .l o.items ∧
      ((World.run E w0 cs).mutate E p op).world.val q = .l o.items :=
  mutate_converges E _ p q op o e (run_locked E w0 cs hL0) he hlp hlq
    (run_hookOk E cs w0 h0 hL0 ⟨p, q⟩ he hlp hlq) hstep hev heq hfix hnr

/-- A mutation that emits no event changed nothing (C05), so there is nothing to
propagate: it touches only the mutated trait. -/
theorem C20_silent_mutation (E : Sync.Env α) (w : World α) (p r : Pair) (op : Op α) (o : Out α)
    (hlp : E.isList p = true) (hstep : listStep (E.tl p) (w.list p) op = .ok o) (hev : o.event = none)
    (hr : r ≠ p) : SameAt r w (w.mutate E p op).world := by
  have happ := applyMutate_of_step w hlp hstep
  rw [hev] at happ
  rw [World.mutate, World.budget, cascade_of_apply happ]
  exact (local_mutate E).sameAt happ hr

/-! ### At most once -/

/-- **At most once (assignments).** In any network, under `Fix`, one
assignment changes every trait of the world at most once — to `y` — and calls
its recording handler exactly as often as it changed (0 or 1 times); a trait
that already held `y` is neither changed nor notified. -/
theorem C20_at_most_once [DecidableEq α] (E : Sync.Env α) (w : World α) (p : Pair) (v y : AVal α)
    (hv : validate E p v = .ok y) (hfix : Fix E w.edges y) (r : Pair) :
    ((w.assign E p v).world.val r = w.val r ∧ (w.assign E p v).world.nChg r = w.nChg r) ∨
    (w.val r ≠ y ∧ (w.assign E p v).world.val r = y ∧ (w.assign E p v).world.nChg r = w.nChg r + 1) := by
  exact (finish_rel (Once y) (Once.refl y) fun w' ret hc =>
    (assign_once _ w p v w' ret hfix (fun new h => by rw [hv] at h; cases h; rfl) hc).1).1 r

/-- **At most once (list items).** When the propagation of an in-place mutation
reaches no trait twice, every recording `name_items` handler in the world is
called at most once, and no whole-trait handler. -/
theorem C20_at_most_once_items (E : Sync.Env α) (w : World α) (p : Pair) (op : Op α)
    (hL : w.locked = []) (hnr : NoRevisit w p) (r : Pair) :
    (w.mutate E p op).world.nItems r ≤ w.nItems r + 1 ∧ (w.mutate E p op).world.nChg r = w.nChg r := by
  refine finish_rel (fun a b => b.nItems r ≤ a.nItems r + 1 ∧ b.nChg r = a.nChg r) (fun _ => ⟨Nat.le_succ _, rfl⟩)
    fun w' ret hc => ⟨?_, congrFun (mutate_nChg E _ w p op w' ret hc) r⟩
  -- `r` is notified at most as often as `visit` lists it: at most once
  have := cascade_count (local_mutate E) applyMutate_nItems r _ w p op w' ret (by simp [hL]) hc
  rw [hL] at this
  exact Nat.le_trans this (Nat.add_le_add_left (List.nodup_iff_count.mp hnr r) _)

/-! ### One-way links, removed links, dead partners -/

/-- **One-way.** A trait that is nobody's partner (the source of one-way links)
is not changed and not notified by any assignment to, or mutation of, another
trait — in particular not by changes of its targets.  (Source → target is
`C20_converge_scalar` / `C20_converge_list`: they need the entry `p → q` only.) -/
theorem C20_one_way [DecidableEq α] (E : Sync.Env α) (w : World α) (src t : Pair)
    (hL : w.locked = []) (hsrc : ∀ e ∈ w.edges, e.dst ≠ src) (ht : src ≠ t) :
    (∀ v, SameAt src w (w.assign E t v).world) ∧ (∀ op, SameAt src w (w.mutate E t op).world) :=
  ⟨fun v => finish_untouched (local_assign E) _ w t src v hL hsrc ht,
   fun op => finish_untouched (local_mutate E) _ w t src op hL hsrc ht⟩

/-- **Exceptions.** In every state, an assignment raises exactly what the
object's own trait raises, an in-place mutation exactly what the same call on an
unlinked list raises (nothing a partner does escapes), and a failed assignment
leaves the world as it was. -/
theorem C20_raises_only_own [DecidableEq α] (E : Sync.Env α) (w : World α) (p : Pair) :
    (∀ v, (w.assign E p v).exc = (match validate E p v with | .ok _ => none | .error e => some e)) ∧
    (∀ v e, (w.assign E p v).exc = some e → (w.assign E p v).world = w) ∧
    (E.isList p = true → ∀ op, (w.mutate E p op).exc =
      (match listStep (E.tl p) (w.list p) op with | .ok _ => none | .error e => some e)) :=
  ⟨fun v => assign_exc E w p v, fun _ _ h => finish_error_world h,
   fun hl op => mutate_exc E w p op hl⟩

/-- **Removed.** After `p.sync_trait(q, remove=True)` (mutual) neither entry is
left, no entry is new and every trait holds what it held; if the removed link was the
only one leading to `q` (resp. `p`), no assignment to or mutation of any other trait in
that state changes or notifies `q` (resp. `p`), the lock tables are empty, and — by
`C20_raises_only_own` — nothing but the object's own trait raises. -/
theorem C20_removed [DecidableEq α] (E : Sync.Env α) (w : World α) (p q : Pair) (hL : w.locked = [])
    (honly_q : ∀ e ∈ w.edges, e.dst = q → e = ⟨p, q⟩)
    (honly_p : ∀ e ∈ w.edges, e.dst = p → e = ⟨q, p⟩) :
    let w' := w.unlink E p q true
    w'.locked = [] ∧ w'.val = w.val ∧
    (∀ e ∈ w'.edges, e ∈ w.edges ∧ e ≠ ⟨p, q⟩ ∧ e ≠ ⟨q, p⟩) ∧
    (∀ t v, t ≠ q → SameAt q w' (w'.assign E t v).world) ∧
    (∀ t op, t ≠ q → SameAt q w' (w'.mutate E t op).world) ∧
    (∀ t v, t ≠ p → SameAt p w' (w'.assign E t v).world) ∧
    (∀ t op, t ≠ p → SameAt p w' (w'.mutate E t op).world) := by
  intro w'
  have hL' : w'.locked = [] := (unlink_locked E w p q true).trans hL
  have hedges : ∀ e ∈ w'.edges, e ∈ w.edges ∧ e ≠ ⟨p, q⟩ ∧ e ≠ ⟨q, p⟩ :=
    fun e he => (mem_unlink_edges E w p q e).mp he
  -- no link leads to `q` or to `p` any more: they are in the position of `C20_one_way`'s source
  have hq := fun t => C20_one_way E w' q t hL' fun e he hd => (hedges e he).2.1 (honly_q e (hedges e he).1 hd)
  have hp := fun t => C20_one_way E w' p t hL' fun e he hd => (hedges e he).2.2 (honly_p e (hedges e he).1 hd)
  exact ⟨hL', unlink_val E w p q, hedges,
    fun t v ht => (hq t ht.symm).1 v, fun t op ht => (hq t ht.symm).2 op,
    fun t v ht => (hp t ht.symm).1 v, fun t op ht => (hp t ht.symm).2 op⟩

/-- **Partner dead.** After object `o` was garbage-collected no table mentions
it, the lock tables are empty — and stay empty through every later history, so
every theorem above applies to the surviving objects and to fresh partners
linked later — and in that state no trait of `o` is touched by an assignment to, or a
mutation of, a trait of another object. -/
theorem C20_partner_dead [DecidableEq α] (E : Sync.Env α) (w : World α) (o : Nat) (hL : w.locked = []) :
    let w' := w.kill o
    w'.locked = [] ∧ w'.val = w.val ∧
    (∀ e ∈ w'.edges, e ∈ w.edges ∧ e.src.1 ≠ o ∧ e.dst.1 ≠ o) ∧
    (∀ cs, (World.run E w' cs).locked = []) ∧
    (∀ (n : Name) t v, t.1 ≠ o → SameAt (o, n) w' (w'.assign E t v).world) ∧
    (∀ (n : Name) t op, t.1 ≠ o → SameAt (o, n) w' (w'.mutate E t op).world) := by
  intro w'
  have hL' : w'.locked = [] := by simp [w', World.kill, hL]
  have hedges : ∀ e ∈ w'.edges, e ∈ w.edges ∧ e.src.1 ≠ o ∧ e.dst.1 ≠ o :=
    fun e he => (mem_kill_edges w o e).mp he
  -- no link leads to a trait of `o`: `C20_one_way`
  have ho := fun (n : Name) (t : Pair) (ht : t.1 ≠ o) => C20_one_way E w' (o, n) t hL'
    (fun e he hd => (hedges e he).2.2 (by rw [hd])) (by rintro rfl; exact ht rfl)
  exact ⟨hL', rfl, hedges, fun cs => run_locked E w' cs hL', fun n t v ht => (ho n t ht).1 v,
    fun n t op ht => (ho n t ht).2 op⟩

/-! ### Whole histories on one mutual link -/

/-- **Convergence over two-sided histories** (by induction over the history).
Two traits `p ≠ q` of the same kind (both scalar or both `List`) whose
validators agree on what they store (`Compat`: what either returns, both store
unchanged — e.g. the same idempotent trait type; `list.sort` permutes).  Start
from any state satisfying the invariant `TwoSided` (e.g. freshly created
objects, `C20_fresh_twoSided`) and run any history of: assignments (valid or
invalid) to any trait of any object, every in-place list mutator on any list
(all of C05's operations, extended slices included), `p.sync_trait(q)` /
`q.sync_trait(p)` (mutual) and mutual removals at any point, garbage collection
of any object at any point.  Then after every such history: the lock tables are
empty, the link is either present in both directions or in neither, and
whenever it is present both sides hold the same value — the same list. -/
theorem C20_converge_history [DecidableEq α] (E : Sync.Env α) (p q : Pair) (hc : Compat E p q)
    (w0 : World α) (h0 : TwoSided E p q w0) (cs : List (Cmd α)) (hcs : ∀ c ∈ cs, Allowed p q c) :
    (World.run E w0 cs).locked = [] ∧
    ((⟨p, q⟩ : Edge) ∈ (World.run E w0 cs).edges ↔ (⟨q, p⟩ : Edge) ∈ (World.run E w0 cs).edges) ∧
    ((⟨p, q⟩ : Edge) ∈ (World.run E w0 cs).edges → (World.run E w0 cs).val p = (World.run E w0 cs).val q) :=
  let h := TwoSided.run hc cs w0 h0 hcs
  ⟨h.locked, h.both, h.conv⟩

/-- Unlinked objects whose two traits hold values both validators store
unchanged (e.g. the defaults) satisfy the invariant. -/
theorem C20_fresh_twoSided (E : Sync.Env α) (p q : Pair) (w : World α) (hL : w.locked = [])
    (he : w.edges = []) (hgp : GoodVal E p q (w.val p)) (hgq : GoodVal E p q (w.val q)) :
    TwoSided E p q w :=
  TwoSided.of_no_edges hL (by rw [he]; intro e h; cases h) hgp hgq

/-! ### Where the code does not meet the statement -/

def idEnv : Sync.Env Int :=
  { isList := fun p => p.2 == "l" || p.2 == "m", sv := fun _ _ x => .ok x, iv := fun _ _ x => .ok x,
    eq := fun a b => a == b, sort := fun _ l => l }

/-- Freshly created objects: scalars 0, lists empty, no links. -/
def fresh : World Int :=
  { val := fun p => if p.2 == "l" || p.2 == "m" then .l [] else .s 0, nChg := fun _ => 0,
    nItems := fun _ => 0, edges := [], locked := [], hooked := [] }

def a : Pair := (0, "l")
def b : Pair := (1, "l")
def c : Pair := (2, "l")

/-- `a.sync_trait('l', b); b.sync_trait('l', c); a.sync_trait('l', c)`. -/
def triangle : World Int :=
  (((fresh.link idEnv a b true).world.link idEnv b c true).world.link idEnv a c true).world

/-- The statement at full strength: `C20_converge_list` without `NoRevisit`
("several partners" in any arrangement).  The code does not meet it. -/
def C20_converge_list_full : Prop :=
  ∀ (E : Sync.Env Int) (w : World Int) (p q : Pair) (op : Op Int) (o : Out Int) (e : Event Int),
    w.locked = [] → (⟨p, q⟩ : Edge) ∈ w.edges → E.isList p = true → E.isList q = true → p ∈ w.hooked →
    listStep (E.tl p) (w.list p) op = .ok o → o.event = some e → w.list q = w.list p →
    valAll (E.iv q) 0 e.added = .ok e.added →
    (w.mutate E p op).world.val q = .l o.items

/-- **Negation witness (known finding F60).** Three lists linked mutually in a
cycle: `a.l.append(9)` leaves `a.l = [9]` but `b.l = c.l = [9, 9]` — the delta is
delivered to `c` by `b` and again by `a`, and travels back to `b`.  The oracle
replays this history on the implementation (corpus case 6). -/
theorem C20_converge_list_fails_on_cycle : ¬ C20_converge_list_full := by
  intro h
  have := h idEnv triangle a b (.append 9) { items := [9], event := some ⟨.idx 0, [], [9]⟩ } ⟨.idx 0, [], [9]⟩
    (by decide) (by decide) (by decide) (by decide) (by decide) (by rfl) (by rfl) (by decide) (by decide)
  revert this
  decide

/-- What the model (and the implementation) computes on the witness. -/
theorem C20_cycle_outcome :
    (triangle.mutate idEnv a (.append 9)).world.val a = .l [9] ∧
    (triangle.mutate idEnv a (.append 9)).world.val b = .l [9, 9] ∧
    (triangle.mutate idEnv a (.append 9)).world.val c = .l [9, 9] ∧
    visit triangle.edges triangle.budget [] a = [a, b, c, c, b] := by decide

/-! ### Non-vacuity: concrete states meeting the hypotheses -/

/-- One mutual link between two lists, then `a.l = [1,2,3,4,5]`. -/
def linked : World Int :=
  ((fresh.link idEnv a b true).world.assign idEnv a (.l [1, 2, 3, 4, 5])).world

/-- The hypotheses of `C20_converge_list` hold for an extended-slice assignment
with a negative step on `linked`, and both sides hold `[1, 2, 9, 4, 8]`. -/
example :
    linked.locked = [] ∧ (⟨a, b⟩ : Edge) ∈ linked.edges ∧ a ∈ linked.hooked ∧ linked.list b = linked.list a ∧
    NoRevisit linked a ∧
    (listStep (idEnv.tl a) (linked.list a) (.setSlice ⟨some 4, some 0, some (-2)⟩ [8, 9])).toOption.map
      (fun o => (o.items, o.event.map (fun e => (e.index, e.removed, e.added))))
      = some ([1, 2, 9, 4, 8], some (.slc 2 5 2, [3, 5], [9, 8])) ∧
    (linked.mutate idEnv a (.setSlice ⟨some 4, some 0, some (-2)⟩ [8, 9])).world.val b = .l [1, 2, 9, 4, 8] ∧
    (linked.mutate idEnv b (.delSlice ⟨none, none, some (-2)⟩)).world.val a = .l [2, 4] := by decide

/-- The history of finding F61 (repaired in /repo 8d46740) — `a.l`'s first partner is not a
`List` trait (the call raises TraitError but leaves its registration), its
second is — and a mixed removal: the items handler is registered with the first
`List` partner, survives the removal of the non-`List` partner, and goes with
the last `List` partner. -/
def mixed : World Int :=
  ((fresh.link idEnv a (1, "x") false).world.link idEnv a c true).world

example :
    (fresh.link idEnv a (1, "x") false).exc = some .traitError ∧
    mixed.partners a = [(1, "x"), c] ∧ a ∈ mixed.hooked ∧ HookOk idEnv mixed ∧
    (mixed.mutate idEnv a (.append 1)).world.val c = .l [1] ∧
    a ∈ (mixed.unlink idEnv a (1, "x") false).hooked ∧
    ((mixed.unlink idEnv a (1, "x") false).mutate idEnv a (.append 1)).world.val c = .l [1] ∧
    a ∉ (mixed.unlink idEnv a c true).hooked ∧
    (mixed.unlink idEnv a c true).partners a = [(1, "x")] := by decide

/-- A hub with two partners (one mutual with an alias, one one-way): the
hypotheses of `C20_noRevisit_hub`, `C20_converge_scalar` and `C20_one_way`. -/
def hub : World Int :=
  ((fresh.link idEnv (0, "x") (1, "y") true).world.link idEnv (0, "x") (2, "x") false).world

example :
    hub.locked = [] ∧ NoRevisit hub (0, "x") ∧ hub.partners (0, "x") = [(1, "y"), (2, "x")] ∧
    (hub.assign idEnv (0, "x") (.s 5)).world.val (1, "y") = .s 5 ∧
    (hub.assign idEnv (0, "x") (.s 5)).world.val (2, "x") = .s 5 ∧
    (hub.assign idEnv (1, "y") (.s 6)).world.val (2, "x") = .s 6 ∧
    (hub.assign idEnv (2, "x") (.s 7)).world.val (0, "x") = .s 0 ∧
    (∀ e ∈ ((hub.unlink idEnv (0, "x") (1, "y") true).kill 2).edges, False) := by decide

/-- A rejecting partner: `Fix` and the hypotheses of `C20_raises_only_own`
with a partner whose validator rejects 5 — nothing escapes, the partner keeps
its value. -/
example :
    let E : Sync.Env Int := { idEnv with sv := fun p _ x => if p.1 = 1 ∧ x = 5 then .error .traitError else .ok x }
    ((hub.assign E (0, "x") (.s 5)).exc, (hub.assign E (0, "x") (.s 5)).world.val (1, "y"),
      (hub.assign E (0, "x") (.s 5)).world.val (2, "x")) = (none, .s 0, .s 5) := by decide

/-- The hypotheses of `C20_converge_history` are satisfiable: identity
validators on two list traits, fresh objects; and a history with extended
slices, removal, re-linking from the other side and a partner death. -/
example : Compat idEnv a b :=
  { ne := by decide, kind := rfl,
    spq := fun x y h => by cases h; exact ⟨rfl, rfl⟩, sqp := fun x y h => by cases h; exact ⟨rfl, rfl⟩,
    ipq := fun k x y h k' => by cases h; exact ⟨rfl, rfl⟩, iqp := fun k x y h k' => by cases h; exact ⟨rfl, rfl⟩,
    sort := fun _ l => List.Perm.refl l }

example : TwoSided idEnv a b fresh :=
  C20_fresh_twoSided idEnv a b fresh rfl rfl ⟨rfl, fun x hx => by cases hx⟩ ⟨rfl, fun x hx => by cases hx⟩

def history : List (Cmd Int) :=
  [.link a b true, .assign a (.l [1, 2, 3, 4, 5]), .mutate b (.setSlice ⟨some 4, some 0, some (-2)⟩ [8, 9]),
   .mutate a (.delSlice ⟨none, none, some 2⟩), .unlink b a true, .mutate a (.append 7), .link b a true,
   .mutate b (.sort 0), .mutate a .reverse]

example : (∀ c ∈ history, Allowed a b c) := by
  intro c hc
  simp only [history, List.mem_cons, List.mem_nil_iff, or_false] at hc
  rcases hc with rfl | rfl | rfl | rfl | rfl | rfl | rfl | rfl | rfl <;> constructor

example :
    (World.run idEnv fresh history).val a = .l [4, 2] ∧ (World.run idEnv fresh history).val b = .l [4, 2] ∧
    (World.run idEnv fresh (history.take 6)).val a = .l [2, 4, 7] ∧
    (World.run idEnv fresh (history.take 6)).val b = .l [2, 4] ∧
    (World.run idEnv fresh (history.take 4)).val b = .l [2, 4] := by decide

/-! ### The model is the source

`harness/translate/syncprog.py` turns the source text of
`HasTraits._sync_trait_modified` and `HasTraits._sync_trait_items_modified` into
the `PyLSync` programs of `Generated/SyncProg.lean` on every run. -/

/-- The handler program the notification of a payload runs. -/
def progOf : Payload α → Stmt
  | .new _ => Generated.SyncProg.syncTraitModified
  | .event _ => Generated.SyncProg.syncTraitItemsModified

/-- **The handlers are the source.** For every state (any tables, locks, armed
triggers, collected objects), every trait, every payload and every meaning of
the nested `setattr` / list call, the hand-written handlers of
`Model/SyncLive.lean` compute exactly what the interpreter computes on the
programs generated from the source text: same final state, same escaping
exception. -/
theorem C20_handlers_are_source (rec : Rec α) (k : KWorld α) (p : Pair) (pl : Payload α) :
    runHandlerK rec k p pl = runHandler rec (progOf pl) k p pl := by
  cases pl with
  | new v => exact handlerModified_is_source rec k p v
  | event e => exact handlerItems_is_source rec k p e

/-- **One step is the source**: a `setattr` /
list-method call with everything it triggers is: the change on the trait itself,
the recording handlers (which may drop the last reference to a partner), then the
*interpretation of the generated handler program*, nested calls being the same
function one level down. -/
theorem C20_step_is_source [DecidableEq α] (E : Sync.Env α) (d : Nat) (k : KWorld α) (p : Pair) (req : Req α) :
    cascadeK E (d + 1) k p req =
      match applyK E k.w p req with
      | .error e => .error e
      | .ok (w1, r, pay) =>
        let k1 : KWorld α := if notified k.w w1 p then fire { k with w := w1 } p else { k with w := w1 }
        match pay with
        | none => .ok (k1, r)
        | some pl => .ok (swallow (runHandler (cascadeK E d) (progOf pl) k1 p pl), r) := by
  rw [cascadeK]
  cases applyK E k.w p req with
  | error e => rfl
  | ok x =>
    obtain ⟨w1, r, pay⟩ := x
    cases pay with
    | none => rfl
    | some pl => simp only [C20_handlers_are_source]

/-- **`Model.Sync` is the source.** On every state without armed triggers in
which no table lists a collected object or lists a partner twice (`Quiet`; which commands
keep it: `C20_commands_are_model`), for every depth budget, the propagation function all
theorems above are about — `Sync.cascade` — is `cascadeK`, i.e. by
`C20_step_is_source` the interpretation of the generated programs. -/
theorem C20_model_is_source [DecidableEq α] (E : Sync.Env α) (d : Nat) (k : KWorld α) (p : Pair) (hq : Quiet k) :
    (∀ v, cascadeK E d k p (.assign v) = lift k (cascade (applyAssign E) d k.w p v)) ∧
    (∀ op, cascadeK E d k p (.mutate op) = lift k (cascade (applyMutate E) d k.w p op)) :=
  ⟨fun v => cascadeK_assign E d k p v hq, fun op => cascadeK_mutate E d k p op hq⟩

/-- **Registration is the source** (add path of `sync_trait`, `mutual=`, the
reverse call, and `_is_list_trait`).  `harness/translate/synclink.py` turns the
source text of `HasTraits.sync_trait` and `HasTraits._is_list_trait` into the
`PyLLink` programs of `Generated/SyncLink.lean`.  For every state, every pair of
traits and both values of `mutual`, the hand-written transcription `linkS`
(tables, registration of both handlers, the initial `setattr`, the reverse
registration skipped when the first half raised) is the interpretation of the
generated program with `remove=False`; and `_is_list_trait` is the interpretation
of its generated expression for every trait description.
(The `remove=True` path is `C20_unlink_is_source`; that `linkS` / `unlinkS` agree with
`World.link` / `World.unlink` on quiet states is part of `C20_commands_are_model`.) -/
theorem C20_link_is_source [DecidableEq α] (E : Sync.Env α) (k : KWorld α) (p q : Pair) (both : Bool) :
    linkS E k p q both = runLink E.isList (recB E) Generated.SyncLink.syncTrait k p q both false ∧
    (∀ d : TraitDesc, evalIsList d Generated.SyncLink.isListTrait = some (isListTrait d)) := by
  refine ⟨?_, fun d => ?_⟩
  · unfold runLink linkS
    rw [add_path E _ rfl rfl rfl k]
    simp only []
    cases linkOneS E k p q with
    | mk k1 ex =>
      cases ex with
      | some e => rfl
      | none =>
        cases both
        · rfl
        · simp only [if_true, inner_add]
          cases linkOneS E k1 q p with
          | mk k2 ex2 => cases ex2 <;> rfl
  · unfold Generated.SyncLink.isListTrait isListTrait
    cases d with
    | mk h c =>
      cases h with
      | none => rfl
      | some v => cases v <;> rfl

/-- **Removal is the source.** For every state, every pair of traits, both values
of `mutual` and every meaning of `setattr`, the hand-written transcription
`unlinkS` of the `remove=True` path (table entry, table, both handlers — the items
handler goes with the last live `List` partner —, then the reverse removal) is the
interpretation of the generated `sync_trait` program; it raises nothing. -/
theorem C20_unlink_is_source (E : Sync.Env α) (call : Rec α) (k : KWorld α) (p q : Pair) (both : Bool) :
    (unlinkS E k p q both, (none : Option Exc)) =
      runLink E.isList call Generated.SyncLink.syncTrait k p q both true := by
  unfold runLink unlinkS
  rw [rem_path E _ rfl rfl k]
  cases both
  · rfl
  · simp only [if_true, inner_rem]
    rfl

/-- **The commands of a history are `Model.Sync`'s.** On every quiet state between
two commands (empty lock tables), what `stepK` runs — `cascadeK` (the interpreted
handlers, `C20_step_is_source`), `linkS` / `unlinkS` (the interpreted `sync_trait`,
`C20_link_is_source`, `C20_unlink_is_source`) and `killK` — computes the worlds,
exceptions and return values of `World.assign`, `World.mutate`, `World.link` (between
objects that are not collected), `World.unlink`, `World.kill`: the theorems about
`Model.Sync` are statements about the interpreted source.  `linkS`, `unlinkS` and `killK`
leave a quiet state; after `assignK` / `mutateK` the state is `k` with the new world
(that it is quiet again is not part of the statement). -/
theorem C20_commands_are_model [DecidableEq α] (E : Sync.Env α) (k : KWorld α) (hq : Quiet k) (hL : k.w.locked = []) :
    (∀ p v, (assignK E k p v).world = { k with w := (k.w.assign E p v).world } ∧
        (assignK E k p v).exc = (k.w.assign E p v).exc ∧ (assignK E k p v).ret = (k.w.assign E p v).ret) ∧
    (∀ p op, (mutateK E k p op).world = { k with w := (k.w.mutate E p op).world } ∧
        (mutateK E k p op).exc = (k.w.mutate E p op).exc ∧ (mutateK E k p op).ret = (k.w.mutate E p op).ret) ∧
    (∀ p q b, p.1 ∉ k.dead → q.1 ∉ k.dead →
        (linkS E k p q b).1.w = (k.w.link E p q b).world ∧ (linkS E k p q b).2 = (k.w.link E p q b).exc ∧
        Quiet (linkS E k p q b).1) ∧
    (∀ p q b, (unlinkS E k p q b).w = k.w.unlink E p q b ∧ Quiet (unlinkS E k p q b)) ∧
    (∀ o, (killK k o).w = k.w.kill o ∧ Quiet (killK k o)) :=
  ⟨fun p v => assignK_w E k p v hq, fun p op => mutateK_w E k p op hq,
   fun p q b hp hq' => linkS_w E k p q b hq hL hp hq',
   fun p q b => unlinkS_quiet E k p q b hq,
   fun o => killK_quiet k o hq hL⟩

/-- `C20_one_way` about the interpreted source. -/
theorem C20_one_way_source [DecidableEq α] (E : Sync.Env α) (k : KWorld α) (src t : Pair) (hq : Quiet k)
    (hL : k.w.locked = []) (hsrc : ∀ e ∈ k.w.edges, e.dst ≠ src) (ht : src ≠ t) :
    (∀ v, SameAt src k.w (assignK E k t v).world.w) ∧ (∀ op, SameAt src k.w (mutateK E k t op).world.w) := by
  simp only [fun v => (assignK_w E k t v hq).1, fun op => (mutateK_w E k t op hq).1]
  exact C20_one_way E k.w src t hL hsrc ht

/-- `C20_removed` about the interpreted source: `unlinkS` (the interpreted
`sync_trait(…, remove=True)`) then `assignK` / `mutateK` (the interpreted handlers). -/
theorem C20_removed_source [DecidableEq α] (E : Sync.Env α) (k : KWorld α) (p q : Pair) (hq : Quiet k)
    (hL : k.w.locked = [])
    (honly_q : ∀ e ∈ k.w.edges, e.dst = q → e = ⟨p, q⟩)
    (honly_p : ∀ e ∈ k.w.edges, e.dst = p → e = ⟨q, p⟩) :
    let k' := unlinkS E k p q true
    k'.w.locked = [] ∧ k'.w.val = k.w.val ∧
    (∀ e ∈ k'.w.edges, e ∈ k.w.edges ∧ e ≠ ⟨p, q⟩ ∧ e ≠ ⟨q, p⟩) ∧
    (∀ t v, t ≠ q → SameAt q k'.w (assignK E k' t v).world.w) ∧
    (∀ t op, t ≠ q → SameAt q k'.w (mutateK E k' t op).world.w) ∧
    (∀ t v, t ≠ p → SameAt p k'.w (assignK E k' t v).world.w) ∧
    (∀ t op, t ≠ p → SameAt p k'.w (mutateK E k' t op).world.w) := by
  intro k'
  obtain ⟨hw, hq'⟩ := unlinkS_quiet E k p q true hq
  simp only [fun t v => (assignK_w E k' t v hq').1, fun t op => (mutateK_w E k' t op hq').1,
    show k'.w = k.w.unlink E p q true from hw]
  exact C20_removed E k.w p q hL honly_q honly_p

/-- **The weak-reference callback is the source, and it is `World.kill`.**
`harness/translate/synclink.py` translates the nested
`_sync_trait_listener_deleted(ref, info)` of `sync_trait` (stored with every table
entry) into the `CbStmt` of `Generated/SyncLink.lean`.
(1) For every `__sync_trait__` (lock table `""` and partner tables) and every
collected partner, its interpretation raises nothing and yields `cbModel`: in every
partner table the dead partner's entries go, tables left empty go, the lock table
is untouched (the `key != ""` guard).
(2) For every world, every collected object `o`, every survivor `s ≠ o` and every
list of trait names, running the callback on `s`'s tables gives exactly `s`'s
tables after `World.kill o`; and (3) `o`'s own tables are gone.  So `World.kill` —
hence `killK`, `C20_partner_dead`, `C20_partner_dead_source` — is: the interpreted
callback on every survivor, plus dropping the dead object's own tables. -/
theorem C20_callback_is_source (dead : Nat) (i : Info) (names : List Name) (w : World α) (o : Nat) :
    interpCb dead Generated.SyncLink.listenerDeleted i = .ok (cbModel dead i) ∧
    (∀ s, s ≠ o → interpCb o Generated.SyncLink.listenerDeleted (infoOf names w s) =
      .ok (infoOf names (w.kill o) s)) ∧
    (infoOf names (w.kill o) o).tabs = [] :=
  ⟨cbModel_is_source dead i,
   fun s hs => by rw [cbModel_is_source, callback_is_kill names w o s hs],
   own_tables_dropped names w o⟩

/-- Non-vacuity: a hub with three partners, the middle one collected: the
interpreted callback on the hub's tables leaves the two others; the lock table
stays. -/
example :
    (interpCb 2 Generated.SyncLink.listenerDeleted
      { lock := some ["y"], tabs := [("y", [(1, "y"), (2, "y"), (3, "y")]), ("x", [(2, "x")])] }).toOption.map
      (fun i => (i.lock, i.tabs)) =
    some (some ["y"], [("y", [(1, "y"), (3, "y")])]) := by decide

/-- `C20_partner_dead` about the interpreted source. -/
theorem C20_partner_dead_source [DecidableEq α] (E : Sync.Env α) (k : KWorld α) (o : Nat) (hq : Quiet k)
    (hL : k.w.locked = []) :
    let k' := killK k o
    k'.w.locked = [] ∧ k'.w.val = k.w.val ∧
    (∀ e ∈ k'.w.edges, e ∈ k.w.edges ∧ e.src.1 ≠ o ∧ e.dst.1 ≠ o) ∧
    (∀ cs, (runK E k' cs).w.locked = []) ∧
    (∀ (n : Name) t v, t.1 ≠ o → SameAt (o, n) k'.w (assignK E k' t v).world.w) ∧
    (∀ (n : Name) t op, t.1 ≠ o → SameAt (o, n) k'.w (mutateK E k' t op).world.w) := by
  intro k'
  obtain ⟨hw, hq'⟩ := killK_quiet k o hq hL
  obtain ⟨a1, a2, a3, -, a5, a6⟩ := C20_partner_dead E k.w o hL
  simp only [fun t v => (assignK_w E k' t v hq').1, fun t op => (mutateK_w E k' t op hq').1]
  exact ⟨a1, a2, a3, fun cs => (runK_rest (n := k'.swallowed) E cs k' ⟨a1, rfl⟩).1, a5, a6⟩

/-! ### Partner death during a propagation (finding F97, repaired by 8e10b05) -/

/-- **Lock released, nothing escapes — also when partners die mid-propagation.**
`C20_lock_released` at full strength: for every history of commands *and armed
triggers* (a change handler of one partner drops the last reference to another
object while the propagation is running), started with empty lock tables, the
lock tables are empty after the history and no exception escaped a
synchronisation handler (the count of swallowed exceptions is what it was).
Finding F97: until /repo 8e10b05 the handlers iterated the live dict (`RuntimeError`,
lock left set); `dyingPartner` below is that history. -/
theorem C20_lock_released_full [DecidableEq α] (E : Sync.Env α) (k : KWorld α) (cs : List (CmdK α))
    (h : k.w.locked = []) :
    (runK E k cs).w.locked = [] ∧ (runK E k cs).swallowed = k.swallowed :=
  runK_rest E cs k ⟨h, rfl⟩

/-- **Lock released (any nested call, any deaths).** A propagation started on an
unlocked trait — at any depth, in any state, whatever is collected meanwhile —
returns with the lock tables it found and swallows nothing. -/
theorem C20_lock_released_nested_full [DecidableEq α] (E : Sync.Env α) (d : Nat) (k k' : KWorld α) (p : Pair)
    (req : Req α) (r : Option α) (hp : p ∉ k.w.locked) (h : cascadeK E d k p req = .ok (k', r)) :
    k'.w.locked = k.w.locked ∧ k'.swallowed = k.swallowed :=
  cascadeK_calm E d k p req k' r hp h

/-- **Survivors are updated.** A hub: every link that does not start at `p` leads
to `p` (partners linked one-way or mutually, none of them linked further).  From
any state with empty lock tables in which no table lists a collected object, with
any triggers armed: if `p`'s own trait makes `y` of the assigned value and this is
a change, then `obj.p = v` raises nothing, `p` holds `y`, the lock tables are
empty — and **every partner still in `p`'s table after the command** (i.e. not
collected while the propagation ran) whose trait stores `y` unchanged holds `y`,
whichever partners died in between and wherever in the loop. -/
theorem C20_survivors_updated [DecidableEq α] (E : Sync.Env α) (k : KWorld α) (p : Pair) (v y : AVal α)
    (hL : k.w.locked = []) (hv : validate E p v = .ok y) (hchg : y ≠ k.w.val p)
    (htidy : ∀ e ∈ k.w.edges, e.dst.1 ∉ k.dead) (hself : p ∉ k.w.partners p)
    (hback : ∀ e ∈ k.w.edges, e.src ≠ p → e.dst = p)
    (q : Pair) (hqv : validate E q y = .ok y) :
    (assignK E k p v).exc = none ∧ (assignK E k p v).world.w.val p = y ∧
    (assignK E k p v).world.w.locked = [] ∧
    ((⟨p, q⟩ : Edge) ∈ (assignK E k p v).world.w.edges → (assignK E k p v).world.w.val q = y) := by
  -- the value is stored, the recording handlers run, then the handler
  have htop := fun d => (cascadeK_assign_eq E d k p hv).trans (if_neg hchg)
  have hf := fire_shrink { k with w := k.w.store p y } p
  generalize fire { k with w := k.w.store p y } p = k1 at htop hf
  have hfv : k1.w.val = upd k.w.val p y := hf.2.1
  replace hf : Shrink k k1 := Shrink.trans (Shrink.of_tabs (w' := k.w.store p y) rfl rfl) hf.1
  have hk1L : k1.w.locked = [] := hf.locked.trans hL
  have hk1p : k1.w.val p = y := by rw [hfv]; exact upd_same ..
  have hself1 : p ∉ k1.w.partners p := fun h => hself (mem_partners.mpr (hf.edges _ (mem_partners.mp h)))
  unfold assignK World.budget
  rw [htop]
  by_cases hemp : (k1.w.partners p).isEmpty = true
  · have : handlerK (cascadeK E k.w.edges.length) (.assign y) k1 p = (k1, none) := by unfold handlerK; simp [hemp]
    rw [this]
    exact ⟨rfl, hk1p, hk1L, fun he =>
      (List.ne_nil_of_mem (mem_partners.mpr he) (List.isEmpty_iff.mp hemp)).elim⟩
  · -- some partner is left: the budget is at least 2
    obtain ⟨t, ht⟩ := List.exists_mem_of_ne_nil _ fun h => hemp (List.isEmpty_iff.mpr h)
    obtain ⟨d, hd⟩ := budget_of_edge (hf.edges _ (mem_partners.mp ht))
    rw [Nat.succ.inj hd]
    obtain ⟨hs, hfr, hsurv⟩ := foldK_survivor E d y p q hqv k.w.edges hback (k1.w.partners p)
      { k1 with w := k1.w.lock p } _ rfl (fun l => by simp [World.lock, hk1L]) hf.edges (hf.tidy htidy) hself1
    unfold handlerK
    rw [if_neg hemp]
    simp only []
    rw [if_pos (by rw [hs.locked]; exact List.mem_cons_self ..)]
    exact ⟨rfl, (hfr p hself1).trans hk1p,
      (congrArg (List.filter (· ≠ p)) hs.locked).trans (by simp [World.lock, hk1L]),
      fun he => hsurv he (Or.inl (mem_partners.mpr (hs.edges _ he)))⟩

/-- `a.sync_trait('y', c, mutual=False); a.sync_trait('y', b)`; a handler on `b.y`
drops the last reference to `c`; `a.y = 9` — the history that showed F97. -/
def dyingPartner : List (CmdK Int) :=
  [.cmd (.link (0, "y") (2, "y") false), .cmd (.link (0, "y") (1, "y") true), .arm (1, "y") 2,
   .cmd (.assign (0, "y") (.s 9))]

/-- The history of F97 on the handlers as they are: `c` is collected during the
propagation, no lock is left, nothing is swallowed, the surviving partner holds the new
value and its later change comes back. -/
example :
    (runK idEnv { w := fresh } dyingPartner).w.locked = [] ∧
    (runK idEnv { w := fresh } dyingPartner).swallowed = 0 ∧
    (runK idEnv { w := fresh } dyingPartner).dead = [2] ∧
    (runK idEnv { w := fresh } dyingPartner).w.val (1, "y") = .s 9 ∧
    (runK idEnv { w := fresh } (dyingPartner ++ [.cmd (.assign (1, "y") (.s 5))])).w.val (0, "y") = .s 5 := by
  decide

/-- A victim the hub's loop has not reached yet: it is skipped, the partners after
it are still updated (`a` → `b`, `c`, `d` one-way; `b`'s handler drops `c`). -/
example :
    let h : List (CmdK Int) :=
      [.cmd (.link (0, "y") (1, "y") false), .cmd (.link (0, "y") (2, "y") false),
       .cmd (.link (0, "y") (3, "y") false), .arm (1, "y") 2, .cmd (.assign (0, "y") (.s 9))]
    (runK idEnv { w := fresh } h).dead = [2] ∧ (runK idEnv { w := fresh } h).w.locked = [] ∧
    (runK idEnv { w := fresh } h).w.val (1, "y") = .s 9 ∧ (runK idEnv { w := fresh } h).w.val (3, "y") = .s 9 := by
  decide

/-- Non-vacuity of `C20_survivors_updated`: its hypotheses hold in the state before
the assignment of the history above (hub `a.y` with three one-way partners, a
trigger armed on `b.y` that drops `c`). -/
example :
    let k := runK idEnv { w := fresh }
      [.cmd (.link (0, "y") (1, "y") false), .cmd (.link (0, "y") (2, "y") false),
       .cmd (.link (0, "y") (3, "y") false), .arm (1, "y") 2]
    k.w.locked = [] ∧ k.doom = [((1, "y"), 2)] ∧ (∀ e ∈ k.w.edges, e.dst.1 ∉ k.dead) ∧
    (0, "y") ∉ k.w.partners (0, "y") ∧ (∀ e ∈ k.w.edges, e.src ≠ (0, "y") → e.dst = (0, "y")) ∧
    validate idEnv (0, "y") (.s 9) = .ok (.s 9) ∧ (AVal.s 9 : AVal Int) ≠ k.w.val (0, "y") := by
  decide

/-- Non-vacuity of `C20_model_is_source`: the state before the trigger is armed is
`Quiet`, and there the witness's assignment is `Sync.cascade`'s. -/
example : Quiet (runK idEnv { w := fresh } (dyingPartner.take 2)) :=
  ⟨rfl, by decide, by decide⟩

end TraitsVerif.Props.C20
