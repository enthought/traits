/-
Property C05 — TraitList refines list and its change events are faithful
normalised deltas.

The work is in Lemmas/Seq*.lean (the model) and Lemmas/PyLList.lean, PyLCtor.lean
(the model is the source).  Everything is universally quantified over the element type,
the list (any length), the operation (any integer index, any slice with
None / positive / negative / oversized start, stop, step), the item validator
(an arbitrary partial function of call ordinal and item), `==` on items and the
permutation `list.sort` applies.
-/
import TraitsVerif.Lemmas.SeqRefine
import TraitsVerif.Generated.Mutators
import TraitsVerif.Lemmas.PyLList
import TraitsVerif.Generated.CtorCopy
import TraitsVerif.Model.CtorCopyAssumed
import TraitsVerif.Lemmas.PyLCtor
namespace TraitsVerif.Props.C05
open TraitsVerif TraitsVerif.Py TraitsVerif.Model
variable {α : Type}

/-- **Refinement (success).** A successful `TraitList` operation leaves exactly
what the builtin list holds after the same operation on the validated items,
and returns the same value. -/
theorem C05_refines_ok (E : Env α) (l : List α) (op : Op α) (o : Out α)
    (h : TraitList.step E l op = .ok o) :
    ∃ op', validateOp E op = .ok op' ∧ pyStep E l op' = .ok (o.items, o.ret) :=
  step_refines_ok E l op o h

/-- **Refinement (completeness).** Where validation succeeds and the builtin
list succeeds on the validated items, `TraitList` succeeds too, same result. -/
theorem C05_refines_complete (E : Env α) (l : List α) (op op' : Op α) (l' : List α)
    (r : Option α) (hv : validateOp E op = .ok op') (hp : pyStep E l op' = .ok (l', r)) :
    ∃ o, TraitList.step E l op = .ok o ∧ o.items = l' ∧ o.ret = r :=
  step_refines_complete E l op op' l' r hv hp

/-- **Refinement (failure).** The only exceptions are the item validator's own
and the one the builtin list raises (same class) on the same operation: on the
validated items, or on the raw ones where `TraitList` reads the slice before it
validates (third disjunct: a zero step in a slice assignment). -/
theorem C05_refines_error (E : Env α) (l : List α) (op : Op α) (e : Exc)
    (h : TraitList.step E l op = .error e) :
    validateOp E op = .error e
    ∨ (∃ op', validateOp E op = .ok op' ∧ pyStep E l op' = .error e)
    ∨ pyStep E l op = .error e :=
  step_refines_error E l op e h

/-- **Atomicity.** A failing operation leaves the list untouched and emits
nothing: the history continues from the same contents. -/
theorem C05_atomic (E : Env α) (l : List α) (op : Op α) (ops : List (Op α)) (e : Exc)
    (h : TraitList.step E l op = .error e) :
    TraitList.run E l (op :: ops) = .error e :: TraitList.run E l ops := by
  simp [TraitList.run, h]

/-- **Replay law.** Replacing, in the snapshot taken before the operation, the
removed items at `index` by the added items yields the contents after. -/
theorem C05_replay (E : Env α) (l : List α) (op : Op α) (o : Out α) (e : Event α)
    (h : TraitList.step E l op = .ok o) (he : o.event = some e) :
    replay l e = some o.items :=
  (step_event_ok E l op o e h he).1

/-- **Index normal form / removed-exactness.** The index is an integer in
`0..len` at which exactly the removed items sit, or a slice with
`0 ≤ start < stop ≤ len`, `step ≥ 2` selecting exactly the removed items. -/
theorem C05_index_normal (E : Env α) (l : List α) (op : Op α) (o : Out α) (e : Event α)
    (h : TraitList.step E l op = .ok o) (he : o.event = some e) :
    NormalForm l e :=
  (step_event_ok E l op o e h he).2

/-- **Exactly one event per change.** The model emits at most one event per
operation by construction (`Out.event : Option _`); an operation that emits
none did not change the contents. -/
theorem C05_change_has_event (E : Env α) (hs : SortOk E) (l : List α) (op : Op α) (o : Out α)
    (h : TraitList.step E l op = .ok o) (hne : o.items ≠ l) : ∃ e, o.event = some e := by
  cases he : o.event with
  | some e => exact ⟨e, rfl⟩
  | none => exact absurd (step_silent E hs l op o h he) hne

/-- **Identity events.** An operation that changes nothing may only emit an
event whose replay is the identity. -/
theorem C05_identity_event (E : Env α) (l : List α) (op : Op α) (o : Out α) (e : Event α)
    (h : TraitList.step E l op = .ok o) (he : o.event = some e) (hsame : o.items = l) :
    replay l e = some l := by
  rw [C05_replay E l op o e h he, hsame]

/-- What property C05 says about the result of `op` on contents `l`. -/
def Good (E : Env α) (l : List α) (op : Op α) : Except Exc (Out α) → Prop
  | .error e =>
      validateOp E op = .error e
      ∨ (∃ op', validateOp E op = .ok op' ∧ pyStep E l op' = .error e)
      ∨ pyStep E l op = .error e
  | .ok o =>
      (∃ op', validateOp E op = .ok op' ∧ pyStep E l op' = .ok (o.items, o.ret))
      ∧ (∀ e, o.event = some e → replay l e = some o.items ∧ NormalForm l e)
      ∧ (o.event = none → o.items = l)

/-- The per-operation claims along a whole history: each operation is `Good`
with respect to the contents left by the operations before it (a failed one
leaves them as they were). -/
def GoodHistory (E : Env α) : List α → List (Op α) → Prop
  | _, [] => True
  | l, op :: ops =>
    Good E l op (TraitList.step E l op) ∧
      GoodHistory E (match TraitList.step E l op with | .ok o => o.items | .error _ => l) ops

/-- **Histories.** Every finite sequence of operations from any starting
contents satisfies all of the above at every step. -/
theorem C05_history (E : Env α) (hs : SortOk E) (l : List α) (ops : List (Op α)) :
    GoodHistory E l ops := by
  induction ops generalizing l with
  | nil => trivial
  | cons op ops ih =>
    refine ⟨?_, ih _⟩
    cases h : TraitList.step E l op with
    | error e => exact step_refines_error E l op e h
    | ok o =>
      exact ⟨step_refines_ok E l op o h, fun e he => step_event_ok E l op o e h he,
        fun he => step_silent E hs l op o h he⟩

/-- `run` visits exactly the states `GoodHistory` talks about (ties the
history theorem to the executable that the correspondence check runs). -/
theorem C05_run_states (E : Env α) (l : List α) (op : Op α) (ops : List (Op α)) :
    TraitList.run E l (op :: ops) =
      TraitList.step E l op ::
        TraitList.run E (match TraitList.step E l op with | .ok o => o.items | .error _ => l) ops := by
  cases h : TraitList.step E l op <;> simp [TraitList.run, h]

/-- Methods of the builtin `list` that do not mutate the receiver. -/
def listNonMutators : List String :=
  ["__add__", "__class_getitem__", "__contains__", "__getitem__", "__iter__", "__len__",
   "__mul__", "__reversed__", "__rmul__", "copy", "count", "index"]

/-- **Mutators covered** (over the table translated from the source and the
running interpreter): every public method of the builtin `list` is either
overridden by `TraitList` or is one of the listed non-mutating methods.  A new
or un-overridden mutator breaks this obligation. -/
theorem C05_mutators_covered :
    ∀ m ∈ Generated.listBuiltinMethods,
      m ∈ Generated.traitListMethods ∨ m ∈ listNonMutators := by
  decide

/-- The mutating methods `TraitList.step` models (the constructors of `Op`). -/
def modelledMutators : List String :=
  ["__delitem__", "__iadd__", "__imul__", "__setitem__", "append", "clear", "extend",
   "insert", "pop", "remove", "reverse", "sort"]

theorem C05_model_covers_overrides :
    ∀ m ∈ Generated.traitListMethods,
      m ∈ modelledMutators ∨ m ∈ ["__deepcopy__", "__getstate__", "__init__", "__new__",
        "__setstate__", "_notifiers", "notify"] := by
  decide

/-! ### The model is the source

`Generated/ListProg.lean` is the *translation of the source text* of every
`TraitList` mutator and of `_normalize_slice_or_index` / `_removed_items` into
the deep-embedded Python subset of `Model/PyL.lean`, redone from /repo's
working tree on every run (`harness/translate/pyl.py`).  The hand-written
`TraitList.step`, about which every theorem above is stated, is exactly the
interpretation of that translation. -/

/-- **`TraitList.step` is what the source says**: for every validator, every
list and every operation, running the translated method body gives the items,
the returned value and the event list of `TraitList.step`; where the model
raises, the interpreted source raises the same exception with the list as it
was and no event fired. -/
theorem C05_step_is_source (E : Env α) (l : List α) (op : Op α) :
    PyL.runTraitListOp Generated.listHelpers Generated.traitListProg E l op
      = PyL.summaryOfStep l (TraitList.step E l op) :=
  Lemmas.PyL.tl_step_is_source E l op

/-- Atomicity read off the source: whenever the interpreted source raises, the
list is unchanged and nobody has been notified. -/
theorem C05_source_atomic (E : Env α) (l : List α) (op : Op α) (e : Exc) (items : List α)
    (evs : List (Event α))
    (h : PyL.runTraitListOp Generated.listHelpers Generated.traitListProg E l op = .raised e items evs) :
    items = l ∧ evs = [] := by
  rw [C05_step_is_source] at h
  cases hs : TraitList.step E l op with
  | ok o => simp [PyL.summaryOfStep, hs] at h
  | error e' =>
    simp only [PyL.summaryOfStep, hs, PyL.Summary.raised.injEq] at h
    exact ⟨h.2.1.symm, h.2.2.symm⟩

/-- The source fires at most one event per call, and exactly the model's. -/
theorem C05_source_events (E : Env α) (l : List α) (op : Op α) (items : List α) (r : Option α)
    (evs : List (Event α))
    (h : PyL.runTraitListOp Generated.listHelpers Generated.traitListProg E l op = .done items r evs) :
    ∃ o, TraitList.step E l op = .ok o ∧ items = o.items ∧ r = o.ret ∧ evs = o.event.toList := by
  rw [C05_step_is_source] at h
  cases hs : TraitList.step E l op with
  | error e' => simp [PyL.summaryOfStep, hs] at h
  | ok o =>
    simp only [PyL.summaryOfStep, hs, PyL.Summary.done.injEq] at h
    exact ⟨o, rfl, h.1.symm, h.2.1.symm, h.2.2.symm⟩

/-- **The property, stated of the interpreted source.** Whenever a translated
`TraitList` method returns: the contents and return value are those of the
builtin list on the validated items; at most one event was fired; every event
fired replays to the new contents from the old ones and is in normal form; and
if the contents changed (under a permuting `sort`) exactly one event was fired. -/
theorem C05_source_property (E : Env α) (hs : SortOk E) (l : List α) (op : Op α) (items : List α)
    (r : Option α) (evs : List (Event α))
    (h : PyL.runTraitListOp Generated.listHelpers Generated.traitListProg E l op = .done items r evs) :
    (∃ op', validateOp E op = .ok op' ∧ pyStep E l op' = .ok (items, r))
    ∧ evs.length ≤ 1
    ∧ (∀ e ∈ evs, replay l e = some items ∧ NormalForm l e)
    ∧ (items ≠ l → evs.length = 1) := by
  obtain ⟨o, hst, rfl, rfl, rfl⟩ := C05_source_events E l op items r evs h
  refine ⟨C05_refines_ok E l op o hst, ?_, ?_, ?_⟩
  · cases o.event <;> simp
  · intro e he
    have he' : o.event = some e := Option.mem_toList.mp he
    exact ⟨C05_replay E l op o e hst he', C05_index_normal E l op o e hst he'⟩
  · intro hne
    obtain ⟨e, he⟩ := C05_change_has_event E hs l op o hst hne
    simp [he]

/-! ### Non-vacuity: concrete states meeting the hypotheses -/

def idEnv : Env Int := { v := fun _ x => .ok x, eq := (· == ·), sort := fun _ l => l.mergeSort (· ≤ ·) }

/-- `x[4:0:-2] = [8, 9]` on a length-5 list: a reversed extended slice. -/
example :
    (TraitList.step idEnv [1, 2, 3, 4, 5] (.setSlice ⟨some 4, some 0, some (-2)⟩ [8, 9])).toOption.map
      (fun o => (o.items, o.event.map (fun e => (e.index, e.removed, e.added))))
    = some ([1, 2, 9, 4, 8], some (.slc 2 5 2, [3, 5], [9, 8])) := by decide

/-- `del x[::-2]`: implicit bounds, read downwards. -/
example :
    (TraitList.step idEnv [1, 2, 3, 4, 5] (.delSlice ⟨none, none, some (-2)⟩)).toOption.map
      (fun o => (o.items, o.event.map (fun e => (e.index, e.removed, e.added))))
    = some ([2, 4], some (.slc 0 5 2, [1, 3, 5], [])) := by decide

/-- `x *= 0` and `x.insert(-9, 7)`. -/
example :
    (TraitList.step idEnv [1, 2] (.imul 0)).toOption.map (fun o => (o.items, o.event.isSome))
      = some ([], true)
    ∧ (TraitList.step idEnv [1, 2] (.insert (-9) 7)).toOption.map
        (fun o => (o.items, o.event.map (fun e => e.index))) = some ([7, 1, 2], some (.idx 0)) := by
  decide

/-- A rejecting validator: the operation fails and the hypotheses of
`C05_atomic` are met. -/
example :
    (TraitList.step { idEnv with v := fun k x => if k = 1 then .error .traitError else .ok x }
      [1] (.extend [5, 6, 7])).toOption.isNone = true := by decide

/-! ### Tie to the source: construction and copying -/

/-- `TraitList.__new__` / `__init__` in the working tree
are, statement for statement, the ones the model assumes: the validator is
taken iff it `is not None`, every initial item is validated in order, and the
notifier list is a private copy `list(notifiers)` — keeping the caller's list
object (seeded C05-m9) would let later edits of that list change who is
notified. -/
theorem C05_init_source :
    (Generated.CtorCopy.traitListCtorCopy.take 2) = (Model.CtorCopyAssumed.traitListCtorCopy.take 2) :=
  rfl

/-- `TraitList.__deepcopy__` / `__getstate__` /
`__setstate__` are the assumed ones: a deep copy re-validates deep copies of the
items with a deep copy of the validator and carries no notifier; the pickled
state has no `notifiers`, the restored object has `[]`. -/
theorem C05_copy_source :
    (Generated.CtorCopy.traitListCtorCopy.drop 2) = (Model.CtorCopyAssumed.traitListCtorCopy.drop 2) :=
  rfl

/-- `TraitList.__init__` as an interpreted program
(`translate/ctorprog.py`, `Model/PyLCtor.lean`): for every iterable, validator
choice and notifier argument, running the translated body on the object
`__new__` left gives exactly the modelled constructor — the validator is the
caller's iff one was given, every item goes through it in order with the call
ordinal threaded and nothing is stored when one fails (`TraitList.init`), and
the notifier list is a private copy of the caller's list, never that list
object itself (seeded C05-m9). -/
theorem C05_init_is_source (C : PyLC.Ctx α) (xs : List α) (iv : Option PyLC.VSrc) (ns : Option PyLC.NSrc) :
    PyLC.runListInit Generated.Ctor.traitListInit C xs iv ns = PyLC.listInit C xs iv ns ∧
    (∀ E : Env α, C.given = E.v →
      (PyLC.listInit C xs (some .arg) ns).map (·.items) = TraitList.init E xs) ∧
    (∀ o, PyLC.listInit C xs iv ns = .ok o → o.notifiers ≠ .argAlias ∧ o.notifiers ≠ .ownAlias) := by
  refine ⟨Lemmas.PyLCtor.list_init_is_source C xs iv ns, ?_, ?_⟩
  · intro E hE
    simp only [PyLC.listInit, TraitList.init, Option.getD, PyLC.Ctx.vOf, hE]
    cases valAll E.v 0 xs <;> rfl
  · intro o ho
    simp only [PyLC.listInit] at ho
    cases hv : valAll (C.vOf (iv.getD .everything)) 0 xs with
    | error e => simp [hv] at ho
    | ok ys =>
      simp only [hv, Except.ok.injEq] at ho
      subst ho
      rcases ns with _ | n
      · simp
      · cases n <;> simp

end TraitsVerif.Props.C05
