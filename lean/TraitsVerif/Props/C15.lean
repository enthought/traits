/-
C15 — the observe mini-language means what its grammar and tables say.
ONLY the property theorems (+ non-vacuity examples); every `theorem` here is a
proof obligation audited with `#print axioms` (harness/engine.py finds them by the
keyword).  Definitions and helper lemmas: Model/Dsl*.lean, Lemmas/Dsl*.lean.

`uw : Char → Bool` is Python's `\w` table on non-ASCII characters (a parameter:
every theorem holds for every table).  Texts are `List Char`.
-/
import TraitsVerif.Model.DslGrammar
import TraitsVerif.Model.DslDenote
import TraitsVerif.Model.DslMatch
import TraitsVerif.Generated.Grammar
import TraitsVerif.Generated.ParserTables
import TraitsVerif.Lemmas.DslLex
import TraitsVerif.Lemmas.DslGrammar
import TraitsVerif.Lemmas.DslParse
import TraitsVerif.Lemmas.DslCompile
import TraitsVerif.Lemmas.DslPy
import TraitsVerif.Lemmas.DslEq
namespace TraitsVerif.Props.C15
open TraitsVerif TraitsVerif.Model.Dsl

/-! ## the grammar file is the grammar that is modelled -/

/-- The rules, terminals, imports and `%ignore` read from the working tree's
`_dsl_grammar.lark` are the ones written down in Model/DslGrammar.lean (and
transcribed as `Cst`/`shape`, DslSyntax.lean).  A change to the .lark file
changes `Generated.grammarRules` and this stops checking. -/
theorem C15_grammar_is_modelled :
    Generated.grammarRules = grammar ∧ Generated.grammarTerminals = grammarTerminals ∧
    Generated.grammarImports = grammarImports ∧ Generated.grammarIgnore = grammarIgnore :=
  ⟨rfl, rfl, rfl, rfl⟩

/-- What actually runs is `_generated_parser.py`, generated from the .lark file
by `etstool.py generate-parser`; it carries its own copy of the grammar (the
DATA / MEMO literals).  That embedded copy — read from the working tree on every
run by harness/translate/parsertables.py — IS the grammar of `_dsl_grammar.lark`:
the same rules with the same alternatives in the same order and the same `?`
(expand1) flags, the eight literals as string terminals, NAME the same regex,
Lark's `common.WS` the only other regex terminal and the only ignored one, start
symbol `start`, an LALR parser with the contextual lexer, no `keep_all_tokens`, no
global regex flags.  Not in the statement but refused by the translator (it raises):
a literal that is not filtered out of the tree, a regex terminal that is, a priority
other than 0, per-terminal flags.  (Not covered: the LALR state table computed
from these rules — tied by the exhaustive short-string correspondence.) -/
theorem C15_parser_tables_are_grammar :
    Generated.parserRules = Generated.grammarRules ∧
    Generated.parserRegexTerminals = ("WS", "(?:[ \t\x0c\r\n])+") :: Generated.grammarTerminals ∧
    Generated.parserLiteralTerminals.map (·.2) = ["items", "+", "*", ".", ":", "[", "]", ","] ∧
    Generated.parserIgnore = Generated.grammarIgnore ∧
    Generated.parserStart = ["start"] ∧
    Generated.parserKind = ("lalr", "contextual", false, false, 0) :=
  ⟨rfl, rfl, rfl, rfl, rfl, rfl⟩

/-- The derivation trees of the model (`Cst` with a `shape`) are exactly the
derivations of `start` in the grammar data read from the file: a token string
is derived by the rules of `_dsl_grammar.lark` iff it is the token string of a tree. -/
theorem C15_ast_iff_derivation (ts : List Tok) :
    Gen Generated.grammarRules "start" ts ↔ ∃ c, (shape c).isSome = true ∧ toks c = ts := by
  rw [C15_grammar_is_modelled.1]
  exact ⟨shape_of_gen, fun ⟨c, hc, e⟩ => e ▸ gen_of_shape c hc⟩

/-- The model's parser accepts exactly the token language of the grammar file. -/
theorem C15_parser_accepts_grammar_language (ts : List Tok) :
    (∃ c, parseToks ts = some c) ↔ Gen Generated.grammarRules "start" ts := by
  rw [C15_ast_iff_derivation]
  exact exists_congr fun c => parseToks_iff.trans and_comm

/-! ## acceptance: exactly the renderings of derivation trees -/

/-- Every rendering — any blanks before, between and after the tokens, any
redundant brackets (they are `group` nodes of the tree) — of every derivation
tree lexes and parses back to that tree.  Unbounded depth and length. -/
theorem C15_parse_render (uw : Char → Bool) (c : Cst) (s : List Char)
    (hg : grammatical uw c = true) (hs : IsRendering c s) :
    parseChars uw s = some c := by
  simp only [grammatical, Bool.and_eq_true] at hg
  simp [parseChars, lex_rendering uw c s hg.2 hs, parseToks_toks c hg.1]

/-- Whatever the parser accepts is a rendering of the derivation tree it
returns: nothing outside the grammar is accepted. -/
theorem C15_parse_sound (uw : Char → Bool) (s : List Char) (c : Cst)
    (h : parseChars uw s = some c) :
    grammatical uw c = true ∧ IsRendering c s := by
  simp only [parseChars, Option.bind_eq_some_iff] at h
  obtain ⟨ts, hl, hp⟩ := h
  obtain ⟨rfl, hsh⟩ := parseToks_sound ts c hp
  obtain ⟨hr, hn⟩ := lex_sound uw s _ hl
  have := tokNames_toks uw c []
  rw [List.append_nil, hn] at this
  exact ⟨by rw [grammatical, hsh, Bool.true_and]; exact (Bool.and_true _).symm.trans this.symm, hr⟩

/-- Acceptance is decided by the tree alone: a text is accepted iff it is a
rendering of some derivation tree (and then that tree is the result). -/
theorem C15_accepts_iff_rendering (uw : Char → Bool) (s : List Char) (c : Cst) :
    parseChars uw s = some c ↔ (grammatical uw c = true ∧ IsRendering c s) :=
  ⟨C15_parse_sound uw s c, fun h => C15_parse_render uw c s h.1 h.2⟩

/-- `*` is only accepted in a terminal position: in an accepted text no `*`
lies in the left operand of a `.`/`:` (nor, by the grammar file's
`"[" parallel "]"`, inside brackets). -/
theorem C15_star_terminal_only (uw : Char → Bool) (s : List Char) (c : Cst)
    (h : parseChars uw s = some c) : starOk c = true := by
  have hg := (C15_parse_sound uw s c h).1
  simp only [grammatical, Bool.and_eq_true] at hg
  obtain ⟨k, hk⟩ := isSome_shape.mp hg.1
  exact hk.star.2

/-- the negative examples of the manual and of test_parsing are rejected -/
example : parseChars (fun _ => false) "*.name".toList = none := by decide
example : parseChars (fun _ => false) "[a, *].name".toList = none := by decide
example : parseChars (fun _ => false) "[a.*,b].c".toList = none := by decide
example : parseChars (fun _ => false) "a b".toList = none := by decide
/-- … and the positive ones accepted -/
example : parseChars (fun _ => false) "a:*,b".toList =
    some (.par (.ser (.trait ['a']) .quiet .any) (.trait ['b'])) := by decide
example : parseChars (fun _ => false) " [ a ,b ] . items :\t+m ".toList =
    some (.ser (.ser (.group (.par (.trait ['a']) (.trait ['b']))) .notify .items) .quiet
      (.metadata ['m'])) := by decide +kernel

/-- F17 (known finding): the manual permits `"[a.*, b.c]"`, the grammar file does not. -/
theorem C15_star_in_brackets_rejected :
    parseChars (fun _ => false) "[a.*, b.c]".toList = none ∧
    parseChars (fun _ => false) "[*]".toList = none := by decide

/-! ## meaning -/

/-- Compilation of a parsed expression never fails. -/
theorem C15_compile_total (c : Cst) (notify : Bool) (br : Forest) :
    create (toExpr c notify) br = .ok (createD (toExpr c notify) br) :=
  create_total _ br

/-- The compiled graphs denote exactly the documented observation pattern: the
set of their root-to-leaf node sequences is the set of documented paths
(`paths`, DslDenote.lean, written from the user manual) — same steps, same
notify and optional flags.  (A set: equal parallel branches below a series are
one branch since fix 4a0994c.) -/
theorem C15_meaning (c : Cst) (gs : Forest) (h : compileExpr (toExpr c true) = .ok gs) :
    ∀ p, p ∈ gs.paths ↔ p ∈ paths c := by
  cases compileExpr_ok h
  intro p
  rw [mem_paths_createD, exprWords_toExpr_true]

/-- No node of the graphs as written has two equal children (no two parallel
branches below a series compile to equal graphs). -/
def NoDupBranches (c : Cst) : Prop := (createU (toExpr c true) .nil).wf = true

/-- … and when no two parallel branches below a series are equal, the compiled
graphs are the graphs as written and their paths are the documented paths as a
*list* (same order, same multiplicity). -/
theorem C15_meaning_exact (c : Cst) (gs : Forest) (h : compileExpr (toExpr c true) = .ok gs)
    (hd : NoDupBranches c) : gs = createU (toExpr c true) .nil ∧ gs.paths = paths c := by
  cases compileExpr_ok h
  rw [createD_eq_createU _ _ hd]
  exact ⟨rfl, (paths_createU _ _).trans (exprWords_toExpr_true c)⟩

/-- Every node of every compiled graph has pairwise different children (the
invariant `ObserverGraph.__init__` enforces). -/
theorem C15_children_unique (c : Cst) (gs : Forest) (h : compileExpr (toExpr c true) = .ok gs) :
    gs.wf = true := by
  cases compileExpr_ok h
  exact wf_createD _ _ rfl

/-- A step notifies iff it is the last of its path or is followed by `.`
(through any brackets): the compiled paths are the words of the expression,
each atom flagged by the connector that follows it; in a word exactly the last
atom has no follower; the flag is "not followed by `:`". -/
theorem C15_notify_law (c : Cst) (gs : Forest) (h : compileExpr (toExpr c true) = .ok gs) :
    (∀ p, p ∈ gs.paths ↔ p ∈ (lin c none).map (·.map flag)) ∧
    (∀ w ∈ lin c none, ∃ (init : Word) (a : Atom),
        w = init ++ [(a, none)] ∧ ∀ x ∈ init, ∃ cn, x.2 = some cn) ∧
    (∀ (a : Atom) (f : Option Conn), (flag (a, f)).notifyFlag = decide (f ≠ some .quiet)) :=
  ⟨C15_meaning c gs h, lin_wordOk c none, flag_notify⟩

/-- the notify argument handed down by `_handle_series` is the law, at every
depth: compiling a sub-tree with `notify = (its follower is not ':')` gives its
words flagged by followers. -/
theorem C15_notify_propagation (c : Cst) (f : Option Conn) :
    exprWords (toExpr c (notifies f)) = (lin c f).map (·.map flag) :=
  exprWords_toExpr c f

/-- `items` stands for four alternatives — a trait named "items", dict items,
list items, set items — all optional, all with the notify flag of the position. -/
theorem C15_items (notify : Bool) (br : Forest) :
    create (toExpr .items notify) br =
      .ok (.cons (.named itemsKw notify true) br.dedupe
          (.cons (.dictItems notify true) br.dedupe
          (.cons (.listItems notify true) br.dedupe
          (.cons (.setItems notify true) br.dedupe .nil)))) ∧
    (∀ f, lin .items f =
      [[(.itemsTrait, f)], [(.dictItems, f)], [(.listItems, f)], [(.setItems, f)]]) ∧
    (∀ a f, (flag (a, f)).optionalFlag =
      (a == .itemsTrait || a == .dictItems || a == .listItems || a == .setItems)) := by
  refine ⟨?_, fun _ => rfl, flag_optional⟩
  rw [create_total]
  rfl

example : (compileChars (fun _ => false) "c:items.v".toList).map Forest.paths = .ok
    [[.named ['c'] false false, .named itemsKw true true, .named ['v'] true false],
     [.named ['c'] false false, .dictItems true true, .named ['v'] true false],
     [.named ['c'] false false, .listItems true true, .named ['v'] true false],
     [.named ['c'] false false, .setItems true true, .named ['v'] true false]] := by decide

/-! ## the list form of `observe` -/

/-- `HasTraits.observe(handler, [item, …])`, `@observe([…])`, `Property(observe=[…])`
("If this is a list, each item must be a string or an ObserverExpression"):
the list is compiled item by item.  It is rejected iff some item is rejected —
only a text that is not an expression *on its own* can be, always with
ValueError — and otherwise denotes the union of what its items denote. -/
theorem C15_list_form (uw : Char → Bool) (items : List Item) :
    ((∃ e, compileItems uw items = .error e) ↔
        ∃ it ∈ items, ∃ s, it = .text s ∧ parseChars uw s = none) ∧
    (∀ e, compileItems uw items = .error e → e = .valueError) ∧
    (∀ gs, compileItems uw items = .ok gs →
        ∀ p, p ∈ gs.paths ↔ ∃ it ∈ items, ∃ g, compileItem uw it = .ok g ∧ p ∈ g.paths) := by
  have h := compileItems_spec uw items
  cases hc : compileItems uw items with
  | error e =>
    simp only [hc] at h
    exact ⟨⟨fun _ => h.2, fun _ => ⟨e, rfl⟩⟩, fun e' he => by cases he; exact h.1, nofun⟩
  | ok gs =>
    simp only [hc] at h
    refine ⟨⟨nofun, fun ⟨it, hit, s, hs, hp⟩ => ?_⟩, nofun, fun gs' hg => by cases hg; exact h.2⟩
    obtain ⟨g, hg⟩ := h.1 it hit
    rw [hs, compileItem, compileChars, hp] at hg
    cases hg

/-- `['child.value', '*']` is accepted (each item is an expression), `['[age', 'name]']` is
rejected (neither is) — the items are never pasted together. -/
example : (compileItems (fun _ => false) [.text "child.value".toList, .text "*".toList]).map
    (·.paths.length) = .ok 2 := by decide
example : compileItems (fun _ => false) [.text "[age".toList, .text "name]".toList] =
    .error .valueError := by decide

/-! ## the filter elements -/

/-- `+name` matches exactly the traits whose metadata `name` is not None —
a defined falsy value (False, 0, "") is metadata like any other. -/
theorem C15_metadata_means_not_none (m : Name) (t : TraitInfo) :
    ((Filter.metadata m).matches t = true ↔ t.get m ≠ .none) ∧
    (t.get m = .falsy → (Filter.metadata m).matches t = true) ∧
    (Filter.anytrait.matches t = true) := by
  refine ⟨by simp [Filter.matches], fun h => by simp [Filter.matches, h], rfl⟩

/-- The text `+name` compiles to one graph, attached on an object to exactly
its traits whose metadata `name` is not None. -/
theorem C15_plus_name_targets (uw : Char → Bool) (m : Name) (hv : validName uw m = true)
    (ts : List TraitInfo) :
    ∃ gs, compileChars uw ('+' :: m) = .ok gs ∧
      leafTargets gs ts = (ts.filter (fun t => t.get m != .none)).map (·.name) := by
  have hr : IsRendering (.metadata m) ('+' :: m) :=
    ⟨[([], .plus), ([], .name m)], [], rfl, by simp [allWs], rfl, by simp [renderD, Tok.text]⟩
  have hp := C15_parse_render uw (.metadata m) ('+' :: m) (by simp [grammatical, shape, namesOk, hv]) hr
  refine ⟨_, by simp only [compileChars, hp, compileExpr]; exact create_total _ _, ?_⟩
  simp only [toExpr, createD, Forest.dedupe, leafTargets, Forest.paths, Observer.targets,
    List.flatMap_cons, List.flatMap_nil, List.append_nil, List.getLast?_singleton]
  rfl

example : leafTargets (.cons (.named ['c'] false false) (.cons (.filtered true (.metadata ['s'])) .nil .nil) .nil)
    [⟨['o', 'n'], [(['s'], .truthy)]⟩, ⟨['o', 'f', 'f'], [(['s'], .falsy)]⟩, ⟨['n', 'o'], [(['s'], .none)]⟩,
     ⟨['p'], []⟩] = [['o', 'n'], ['o', 'f', 'f']] := by decide

/-! ## spellings -/

/-- Trees equal up to redundant brackets and re-association of `.`/`:` chains
and `,` lists compile to the same result (the same list of graphs, or the same
error), as whole expressions: `notify = True`, no branches below.  With any notify
flag below any branches: `create_equiv` (Lemmas/DslCompile.lean). -/
theorem C15_spelling_invariant {a b : Cst} (h : Cst.Equiv a b) :
    compileExpr (toExpr a true) = compileExpr (toExpr b true) :=
  create_equiv h true .nil

/-- … hence for texts: renderings (any blanks) of equivalent derivation trees
compile to equal graph lists, so removal by text matches registration by text. -/
theorem C15_spelling_invariant_text (uw : Char → Bool) {a b : Cst} (s₁ s₂ : List Char)
    (ha : grammatical uw a = true) (hb : grammatical uw b = true)
    (h₁ : IsRendering a s₁) (h₂ : IsRendering b s₂) (h : Cst.Equiv a b) :
    compileChars uw s₁ = compileChars uw s₂ := by
  simp [compileChars, C15_parse_render uw a s₁ ha h₁, C15_parse_render uw b s₂ hb h₂,
    C15_spelling_invariant h]

/-- Brackets are not nodes of the Lark tree (`?element` is inlined): a bracketed
expression is the same ObserverExpression as the expression inside.  (Blanks are
not part of a `Cst`.) -/
theorem C15_brackets_same_expression (p : Cst) (notify : Bool) :
    toExpr (.group p) notify = toExpr p notify := rfl

/-- parsing is a function of the text: two parses of one text are equal
(the caches of `parse`/`compile_str` are checked for mutation by the harness). -/
theorem C15_parse_deterministic (uw : Char → Bool) (s : List Char) (c₁ c₂ : Cst)
    (h₁ : parseChars uw s = some c₁) (h₂ : parseChars uw s = some c₂) : c₁ = c₂ := by
  rw [h₁] at h₂; exact Option.some.inj h₂

example : Cst.Equiv (.ser (.group (.ser (.trait ['a']) .quiet (.trait ['b']))) .notify (.trait ['c']))
    (.ser (.trait ['a']) .quiet (.group (.ser (.trait ['b']) .notify (.trait ['c'])))) :=
  .trans (.ser _ (.unbracket _) (.refl _))
    (.trans (.serAssoc _ _ _ _ _) (.ser _ (.refl _) (.symm (.unbracket _))))

/-! ## every grammar string compiles (F8, repaired by fix 4a0994c) -/

/-- Every rendering of every derivation tree of the grammar is accepted, compiles,
and denotes the documented paths. -/
theorem C15_accepts_all (uw : Char → Bool) (c : Cst) (s : List Char)
    (hg : grammatical uw c = true) (hs : IsRendering c s) :
    ∃ gs, compileChars uw s = .ok gs ∧ ∀ p, p ∈ gs.paths ↔ p ∈ paths c := by
  have hc : compileExpr (toExpr c true) = .ok (createD (toExpr c true) .nil) :=
    create_total _ .nil
  exact ⟨_, by simp [compileChars, C15_parse_render uw c s hg hs, hc], C15_meaning c _ hc⟩

/-- … and the only rejection is that of the parser: `compile_str` raises
(ValueError) iff the text is not a rendering of a derivation tree. -/
theorem C15_rejects_iff_not_grammar (uw : Char → Bool) (s : List Char) :
    compileChars uw s = .error .valueError ↔ parseChars uw s = none := by
  simp only [compileChars]
  cases h : parseChars uw s with
  | none => simp
  | some c =>
    have := create_total (toExpr c true) .nil
    simp only [compileExpr] at this ⊢
    simp [this]

/-- the tree of `x.[a,a]` -/
def dupWitness : Cst :=
  .ser (.trait ['x']) .notify (.group (.par (.trait ['a']) (.trait ['a'])))

/-- F8 (these texts raised "Not all children are unique" before fix 4a0994c of
/repo; replayed on the implementation by the corpus of harness/props/c15.py): the
duplicate branch is kept once. -/
theorem C15_dup_accepted :
    parseChars (fun _ => false) "x.[a,a]".toList = some dupWitness ∧
    compileExpr (toExpr dupWitness true) =
      .ok (.cons (.named ['x'] true false) (.cons (.named ['a'] true false) .nil .nil) .nil) ∧
    (compileChars (fun _ => false) "x.[a.b,a.b]".toList).map Forest.paths =
      .ok [[.named ['x'] true false, .named ['a'] true false, .named ['b'] true false]] ∧
    (compileChars (fun _ => false) "x.[items, items]".toList).map (·.paths.length) = .ok 4 ∧
    (compileChars (fun _ => false) "x.[a.[b,c],a.[c,b]]".toList).map (·.paths.length) = .ok 2 := by
  decide +kernel

/-- the trees this matters for exist: `x.[a,a]` has duplicate branches, `f:[bar,baz].items` has none;
duplicates that are not below a series are not removed and stay two graphs (`a,a`, `[a,a].b`). -/
example : ¬ NoDupBranches dupWitness := by unfold NoDupBranches; decide
example : NoDupBranches (.ser (.ser (.trait ['f']) .quiet
    (.group (.par (.trait ['b', 'a', 'r']) (.trait ['b', 'a', 'z'])))) .notify .items) := by
  unfold NoDupBranches; decide
example : (compileChars (fun _ => false) "a,a".toList).map (·.length) = .ok 2 := by decide
example : (compileChars (fun _ => false) "[a,a].b".toList).map (·.length) = .ok 2 := by decide

/-! ## the compiler model is the source

`Generated.dslProg` is the program that harness/translate/dslprog.py reads, on
every run, from the working tree's parsing.py (the `_handle_*` functions, the
dispatch dict of `_handle_tree`, `parse`, `compile_str`), expression.py (`then`,
`__or__`, `trait` / `metadata` / `match` / `anytrait` / `*_items`, the three
expression classes' `__init__` and `_create_graphs`, `_as_graphs`, `compile_expr`),
_observer_graph.py (`ObserverGraph.__init__`) and the observer / filter classes'
`__init__`; `DslPy.interp…` is its interpretation (Model/DslPy.lean). -/

/-- `_handle_tree(tree, notify)` of the source, run on the Lark tree of ANY
derivation tree (in a terminal position or not) with any notify flag, returns
the expression `toExpr` of the model — so every theorem above about `toExpr`
(notify law, `items`, brackets) is a theorem about the interpreted parsing.py. -/
theorem C15_toExpr_is_source (c : Cst) (t notify : Bool) :
    Model.DslPy.interpTree Generated.dslProg t c notify = .ok (.expr (toExpr c notify)) :=
  Model.DslPy.interpTree_eq c t notify

/-- `e._create_graphs(branches)` of the source (with `ObserverGraph.__init__`'s
uniqueness test and the de-duplication of fix 4a0994c) is `create` of the model,
for every expression and every list of branches. -/
theorem C15_create_is_source (e : Expr) (br : Forest) :
    Model.DslPy.interpCreate Generated.dslProg e br = Model.DslPy.liftRes .forest (create e br) :=
  Model.DslPy.interpCreate_eq e br

/-- `compile_expr(expr)` = `expr._as_graphs()` = `_create_graphs(branches=[])`. -/
theorem C15_compile_expr_is_source (e : Expr) :
    Model.DslPy.interpCompileExpr Generated.dslProg e = Model.DslPy.liftRes .forest (compileExpr e) :=
  Model.DslPy.interpCompileExpr_eq e

/-- **compile ≡ source**: `compile_str(text)` of the source — `parse` (LarkError
→ ValueError, `_handle_tree(tree, notify=True)`), then `compile_expr` — with the
model's parser standing for `_LARK_PARSER`, is `compileChars` of the model, for
every text.  With `C15_meaning`: the interpreted source denotes the documented paths. -/
theorem C15_compile_is_source (uw : Char → Bool) (s : List Char) :
    Model.DslPy.interpCompileStr Generated.dslProg uw s = Model.DslPy.liftRes .forest (compileChars uw s) :=
  Model.DslPy.interpCompileStr_eq uw s

/-- `join(e, e₁, …, eₙ)` of the source (`functools.reduce(lambda e1, e2: e1.then(e2), expressions)`,
for any number of arguments) is the left-nested series `((e.then(e₁)).then(e₂))…` — the same
expression as the text `e.e₁.….eₙ` up to the notify flags the caller chose; `join()` raises TypeError.
(`lru_cache` on `parse` / `compile_str` / `compile_expr` is transparent to all of these theorems: the
cached functions are functions of their argument (`C15_parse_deterministic`), keyed by the text /
by `__eq__`-`__hash__` of the expression (`C15_graph_eq_is_source`, `C15_hash_consistent`); that a
cached result is never handed out for another text is checked on the implementation (oracle
`cache-returns-other-pattern`).) -/
theorem C15_join_is_source (e : Expr) (es : List Expr) :
    Model.DslPy.interpJoin Generated.dslProg e es = .ok (.expr (es.foldl .series e)) ∧
    Model.DslPy.interpJoinL Generated.dslProg [] = .error (.exc "TypeError") :=
  ⟨Model.DslPy.interpJoin_eq e es, Model.DslPy.runs.join_none⟩

/-! ## the equalities are the source

"Removal by text matches registration by text" rests on `==` of observers,
graphs and expressions.  `Generated.eqRows` / `hashRows` are the conjuncts of every
`__eq__` and the components of every `__hash__` of the observer, filter, graph
and expression classes, read from the working tree by harness/translate/eqrows.py;
`Model.DslEq.…` is what such rows mean (Model/DslEq.lean). -/

/-- The equalities the model uses — `==` of `Observer` and `Filter` (derived),
`Forest.setEq` / `Forest.graphEq` (`ObserverGraph.__eq__`: same node, same SET of
children, recursively) and `==` of `Expr` (the `parse(s) == parse(s')` of the
harness) — are the interpretation of the `__eq__` methods of the source. -/
theorem C15_graph_eq_is_source :
    (∀ f g : Filter, Model.DslEq.filterEq Generated.eqRows f g = (f == g)) ∧
    (∀ o o' : Observer, Model.DslEq.obsEq Generated.eqRows o o' = (o == o')) ∧
    (∀ d f1 f2, Model.DslEq.setEqI Generated.eqRows d f1 f2 = Forest.setEq d f1 f2) ∧
    (∀ o k o' k', Model.DslEq.graphEqI Generated.eqRows o k o' k' = Forest.graphEq o k o' k') ∧
    (∀ e e' : Expr, Model.DslEq.exprEqI Generated.eqRows e e' = (e == e')) :=
  ⟨Model.DslEq.filterEq_eq, Model.DslEq.obsEq_eq, Model.DslEq.setEqI_eq, Model.DslEq.graphEqI_eq,
   fun e e' => Model.DslEq.exprEqI_eq e e'⟩

/-- Every `__hash__` hashes exactly what its `__eq__` compares (class name, the
same attributes, `frozenset` where `__eq__` compares as sets): equal objects hash
equal, so `set` / `dict.fromkeys` / the lru caches see `__eq__`'s classes — the
"equal elements are one element" reading of `Forest.dedupe`. -/
theorem C15_hash_consistent :
    Generated.hashRows = Generated.eqRows ∧ Generated.anytraitFilterIsFunction = true :=
  ⟨rfl, rfl⟩

example : Model.DslEq.graphEqI Generated.eqRows (.named ['x'] true false)
      (.cons (.named ['a'] true false) .nil (.cons (.named ['b'] true false) .nil .nil))
    (.named ['x'] true false)
      (.cons (.named ['b'] true false) .nil (.cons (.named ['a'] true false) .nil .nil)) = true := by decide
example : Model.DslEq.obsEq Generated.eqRows (.listItems true true) (.dictItems true true) = false := by decide

/-- the interpreted source on concrete texts: rejected by the parser; duplicate branch kept once -/
example : Model.DslPy.interpCompileStr Generated.dslProg (fun _ => false) "a.[b,b]:".toList =
    .error (.exc "ValueError") := by
  rw [C15_compile_is_source,
    show compileChars (fun _ => false) "a.[b,b]:".toList = .error .valueError by decide]
  rfl
example : Model.DslPy.interpCompileStr Generated.dslProg (fun _ => false) "x.[a,a]".toList =
    .ok (.forest (.cons (.named ['x'] true false) (.cons (.named ['a'] true false) .nil .nil) .nil)) := by
  rw [C15_compile_is_source, show compileChars (fun _ => false) "x.[a,a]".toList =
    .ok (.cons (.named ['x'] true false) (.cons (.named ['a'] true false) .nil .nil) .nil) by
      decide]
  rfl

end TraitsVerif.Props.C15
