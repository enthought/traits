/-
C03 — compiled fast validators decide exactly like the Python validators.

Only the property theorems (and non-vacuity examples) live here; the lemmas are
in Lemmas/ValFast.lean, ValInduct.lean, ValOrder.lean, ValAgree.lean (the three
models against each other), ValCSrc*.lean (the C source text against
`fastAlone` / `complexCase`) and ValPySrc*.lean (the Python source text against
`pyValidate`).

Model: Model/FastValidate.lean (`fastAlone`, `complexCase`/`fastComplex`,
`fastInCompound`), Model/PyValidate.lean (`pyValidate`, `descOf`,
`ctraitValidate`).  `Env` carries what the validators call out to (type
constructors, user validator functions, adapt, the object's class): the theorems
quantify over it, and what some of them assume of it (`CastIdem`, `AdaptSome`) is
a hypothesis.
-/
import TraitsVerif.Lemmas.ValAgree
import TraitsVerif.Lemmas.ValOrder
import TraitsVerif.Lemmas.ValCSrcComplex
import TraitsVerif.Lemmas.ValCSrcTuple
import TraitsVerif.Lemmas.ValPySrc3
import TraitsVerif.Generated.ValidateTables
namespace TraitsVerif.Props.C03
open TraitsVerif TraitsVerif.Py.Value TraitsVerif.Model.Val

/-! ## The tie to the source tables -/

/-- The tables read from the working tree are the tables the model transcribes:
`validate_handlers[]` entry by entry, the `case` labels of
`validate_trait_complex` and of `_trait_set_validate`, the `ValidateTrait`
enum, and the four negated comparisons of `in_float_range`.  A renumbering, a
new or removed case, a flipped or un-negated range comparison changes the
generated file and this stops checking. -/
theorem C03_tables_modelled :
    Generated.validateHandlers = handlerTable ∧
    Generated.complexCaseLabels = Model.Val.complexCaseLabels ∧
    Generated.setValidateCaseLabels = setValidateLabels ∧
    Generated.validateTraitEnum = Model.Val.validateTraitEnum ∧
    Generated.floatRangeTests = ["!>low", "!>=low", "!<high", "!<=high"] := ⟨rfl, rfl, rfl, rfl, rfl⟩

/-- For every descriptor that can be an alternative of a compound (`isAlt`): its
kind is a `case` label of the C switch, a kind `_trait_set_validate` accepts, and
an index at which `validate_handlers[]` does not hold NULL. -/
theorem C03_kinds_covered (d : Desc) (h : d.isAlt = true) :
    d.kind ∈ Generated.complexCaseLabels ∧ d.kind ∈ Generated.setValidateCaseLabels ∧
    Generated.validateHandlers[d.kind]? ≠ some "NULL" := by
  cases d
  case complex | python | slow => cases h
  all_goals (simp only [Desc.kind]; decide)

/-! ## The two C copies of every case agree -/

/-- For every descriptor that can be an alternative, every value, every
environment: the `case` arm inside `validate_trait_complex` does exactly what
the stand-alone validator does (accept the same value / move on where the
stand-alone function raises TraitError / pass the same exception), and a
one-element compound is the alternative itself. -/
theorem C03_copies_agree (E : Env) (d : Desc) (v : Val) (h : d.isAlt = true) :
    complexCase E d v = (fastAlone E d v).lift ∧ fastInCompound E d v = fastAlone E d v :=
  ⟨complexCase_eq_lift E d v h, fastInCompound_eq E d v h⟩

example : (Desc.floatRange (some (.fin 0)) (some (.fin 4)) 3).isAlt = true := rfl

/-! ## A compound is its first accepting alternative -/

/-- `validate_trait_complex` over entries `ds` returns the result of the first
entry that, validated on its own, does not raise TraitError (an entry that
raises another exception stops the search with that exception), and TraitError
if there is none.  In particular it accepts `w` iff some entry accepts `w` on
its own and every entry before it says TraitError. -/
theorem C03_compound_first (E : Env) (ds : List Desc) (v : Val)
    (h : ∀ d ∈ ds, d.isEntry = true) :
    fastAlone E (.complex ds) v = firstAccept (ds.map (altAlone E · v)) ∧
    (∀ w, fastAlone E (.complex ds) v = .ok w ↔
      ∃ pre post, ds.map (altAlone E · v) = pre ++ Res.ok w :: post ∧ ∀ r ∈ pre, r = Res.traitError) := by
  have h1 : fastAlone E (.complex ds) v = firstAccept (ds.map (altAlone E · v)) :=
    (fastAlone_complex E ds v).trans (fastComplex_first E ds v h)
  exact ⟨h1, fun w => by rw [h1]; exact firstAccept_ok_iff _ w⟩

/-- Evaluation order of Either(t1, …, tn[, None]) (what `set_validate` builds):
the alternatives that have a fast validator in declaration order — a nested
compound in place, as a unit —, then `None`, then the alternatives without a
fast validator; the result is that of the first one whose own CTrait validator
does not raise TraitError.  (An alternative with neither descriptor nor validate
method — `Any` — accepts: F48 repaired.) -/
theorem C03_compound_order (E : Env) (hE : CastIdem E) (alts : List TraitType) (wn : Bool)
    (d : Desc) (v : Val)
    (hd : descOf E (.either alts wn) = some d) :
    ctraitValidate E (.either alts wn) v = firstAccept (
      (fastAlts E alts).map (ctraitValidate E · v) ++
      ((if wn then [fastAlone E (.enum [Val.none]) v] else []) ++
       (slowAlts E alts).map (ctraitValidate E · v))) := by
  exact ctraitValidate_either E alts wn v

/-! ## Tuple is element-wise -/

/-- `validate_trait_tuple`: anything that is not a tuple of the declared length
is rejected; otherwise the elements are validated left to right by the inner
traits' own validators and the first one that is not accepted decides
(TraitError, or its exception); if all are accepted the result is the value
itself when no element changed and a new plain tuple of the results otherwise. -/
theorem C03_tuple (E : Env) (items : List (Option Desc)) (v : Val) :
    ((∀ sub vs, v = .tuple sub vs → items.length ≠ vs.length) → fastAlone E (.tuple items) v = .traitError) ∧
    (∀ sub vs, v = .tuple sub vs → items.length = vs.length →
      fastAlone E (.tuple items) v =
        match elementwise (List.zipWith (optValidate E) items vs) with
        | .error none => .traitError
        | .error (some e) => .raised e
        | .ok ws => if ws = vs then .ok v else .ok (.tuple false ws)) := by
  constructor
  · intro h
    simp only [fastAlone]
    rcases v with a | ⟨sub, vs⟩ | vs
    · simp [tupleCheckWith]
    · simp [tupleCheckWith, h sub vs rfl]
    · simp [tupleCheckWith]
  · intro sub vs hv hlen
    subst hv
    simp only [fastAlone, tupleCheckWith, hlen, if_true, tupleItems_elementwise]
    cases elementwise (List.zipWith (optValidate E) items vs) with
    | error x => cases x <;> rfl
    | ok ws => by_cases hb : ws = vs <;> simp [Val.beqL_iff, hb]

/-- The input object is re-used iff no element changed. -/
theorem C03_tuple_reuse (E : Env) (items : List (Option Desc)) (sub : Bool) (vs ws : List Val)
    (hlen : items.length = vs.length)
    (hok : elementwise (List.zipWith (optValidate E) items vs) = .ok ws) :
    (fastAlone E (.tuple items) (.tuple sub vs) = .ok (.tuple sub vs) ↔ ws = vs) := by
  have := (C03_tuple E items (.tuple sub vs)).2 sub vs rfl hlen
  rw [this, hok]
  by_cases hb : ws = vs
  · simp [hb]
  · simp only [hb, if_false, iff_false]
    intro h
    cases h
    exact hb rfl

/-! ## Fast ≡ Python -/

/-- The property at full strength: for every trait type that has a descriptor
and a Python validate method and every value, the fast result and the Python
result are in the relation `Agree` (same accepted value of the same exact type;
Python TraitError ⇒ fast TraitError; where Python raises something else the fast
path does not accept).  FALSE of the pinned tree: see the witnesses below. -/
def C03_agree_full : Prop :=
  ∀ (E : Env), CastIdem E → ∀ (t : TraitType) (d : Desc) (v : Val),
    descOf E t = some d → hasPy t = true → Agree (fastAlone E d v) (pyValidate E t v)

/-- Proved part 1 — every trait type that is not a compound, except the leaves of
findings F41/F42 (TraitCoerceType), and except tuple-subclass instances (F11): full agreement, including "Python raises ⇒ the
fast path does not accept". -/
theorem C03_agree_partial (E : Env) (hE : CastIdem E) (t : TraitType) (d : Desc) (v : Val)
    (hl : t.isLeaf = true) (hc : t.leafClean = true) (hd : descOf E t = some d)
    (hp : hasPy t = true) (hv : (∃ items, t = .tuple items) → v.notTupleSub = true) :
    Agree (fastAlone E d v) (pyValidate E t v) :=
  agree_leaf E hE t d v hl hc hd hp hv

/-- Proved part 2 — all trait types, compounds of any nesting included: wherever
the Python path does not let an exception other than TraitError out, the two
paths give the same result (same accepted value, TraitError iff TraitError).
Missing for the full statement: the leaves excluded by `clean`, tuple
subclasses, and the case where an alternative's Python validate raises a
foreign exception that the C switch swallows (findings F43a–c, F44). -/
theorem C03_agree_compound_partial (E : Env) (hE : CastIdem E) (t : TraitType) (d : Desc) (v : Val)
    (hd : descOf E t = some d) (hc : t.clean = true) (hv : v.notTupleSub = true)
    (hr : ∀ e, pyValidate E t v ≠ .raised e) :
    fastAlone E d v = pyValidate E t v :=
  ctraitValidate_of_some E v hd ▸ quietEq_all E hE v hv t hc hr

/-- An environment in which calling a type on a non-instance raises OverflowError
(think `int(float('inf'))`). -/
def E0 : Env :=
  { cast := fun t v => if Val.exactTy t v then .ok v else .error .overflowError
    fn := fun _ v => .ok v
    adapt := fun _ _ => .ok none
    selfCls := 0
    rx := fun _ _ => false }

theorem E0_castIdem : CastIdem E0 := by
  intro t v h; simp [E0, h]

example : (TraitType.either [.int, .tuple [.float, .str]] true).clean = true := by decide
example : pyValidate E0 (.either [.int, .tuple [.float, .str]] true) Val.none = .ok Val.none := by decide

/-- F11: Tuple(Int, Int) on an instance of a tuple subclass. -/
theorem C03_agree_fails_at_tuple_subclass :
    fastAlone E0 (.tuple [some .int, some .int]) (.tuple true [Val.ofInt 1, Val.ofInt 2])
      = .ok (.tuple true [Val.ofInt 1, Val.ofInt 2]) ∧
    pyValidate E0 (.tuple [.int, .int]) (.tuple true [Val.ofInt 1, Val.ofInt 2])
      = .ok (.tuple false [Val.ofInt 1, Val.ofInt 2]) := by decide

/-- F40 repaired (58d344c): Callable(allow_none=False) rejects None on both paths. -/
example : fastAlone E0 (.callable (some false)) Val.none = .traitError ∧
    pyValidate E0 (.callable false) Val.none = .traitError := by decide

/-- F41: Trait(int) on True — and F42: Trait(float) on 3. -/
theorem C03_agree_fails_at_coerce :
    (fastAlone E0 (.coerce .int []) (Val.ofBool true) = .ok (Val.ofBool true) ∧
     pyValidate E0 (.coerceH .int) (Val.ofBool true) = .traitError) ∧
    (fastAlone E0 (.coerce .float [some .int]) (Val.ofInt 3) = .ok (Val.ofInt 3) ∧
     pyValidate E0 (.coerceH .float) (Val.ofInt 3) ≠ .ok (Val.ofInt 3)) := by decide

/-- F47 repaired (0abe830): Instance(object, allow_none=False) rejects None on both
paths, stand-alone and as a compound alternative. -/
example : fastAlone E0 (.instChk false .object) Val.none = .traitError ∧
    fastInCompound E0 (.instChk false .object) Val.none = .traitError ∧
    pyValidate E0 (.instance .object false 0 Val.none) Val.none = .traitError := by decide

/-- F43a: Either(CInt, Float) on inf — the Python path raises, the fast path accepts. -/
theorem C03_agree_fails_at_compound_exception :
    fastAlone E0 (.complex [.cast .int, .float]) (Val.ofFloat .pinf) = .ok (Val.ofFloat .pinf) ∧
    pyValidate E0 (.either [.cint, .float] false) (Val.ofFloat .pinf) = .raised .overflowError := by decide

/-- The full statement is false of the model (hence, by correspondence, of the code). -/
theorem C03_agree_full_is_false : ¬ C03_agree_full := by
  intro h
  have := h E0 E0_castIdem (.coerceH .int) (.coerce .int []) (Val.ofBool true) (by simp [descOf, coerceRest]) rfl
  rw [C03_agree_fails_at_coerce.1.1, C03_agree_fails_at_coerce.1.2] at this
  simp [Agree] at this


/-! ## The model of the compiled validators IS the source text

`harness/translate/cvalidators.py` translates, on every run, the C source text of every
`validate_trait_*` function of ctraits.c (and of the helpers they call) into terms of the
deep-embedded language `Model/CSrc.lean` (`Generated/CValidators.lean`).  `srcAlone` picks the
function `validate_handlers[kind]` names (translated table) and interprets its term on
`(trait, obj, name, value)`; `norm` identifies a TraitError raised by something a validator
calls with the validator's own (the caller cannot tell them apart).  The theorems hold for
every environment, every inner-trait oracle, every loop bound `fuel` exceeding the tuple
sizes, and every value.  Side conditions (`descOk` / `entryOk`, Lemmas/ValCSrcComplex.lean):
`adapt()` does not return None wrapped as an adapter; inside a compound an
`adapt='default'` member's default is the compound's (finding F49: the C code asks the
compound trait); `slow_validate` reports TraitError as such; and, for Tuple descriptors
only, `TupleCheckSpec` — the helper `validate_trait_tuple_check` (in-place construction of the
result tuple), interpreted on its translated text, computes `tupleCheck`; `C03_tuple_check_is_source`
below proves it for inner traits that validate with `fastAlone`. -/

open TraitsVerif.Model.CSrc in
/-- `fastAlone` is the interpretation of the source text of the stand-alone validators:
for every descriptor `d` (under `descOk`) and value `v`, running the translated C function
`validate_handlers[d.kind]` gives exactly `fastAlone E d v` (up to `norm`). -/
theorem C03_fast_is_source (E : Env) (hA : AdaptSome E) (inner : Desc → Val → Res) (cdflt : Val) (fuel : Nat)
    (d : Desc) (v : Val) (hok : descOk E inner cdflt fuel d) :
    srcAlone E inner cdflt fuel d v = some (norm (fastAlone E d v)) :=
  srcAlone_eq E inner cdflt fuel hA d v hok

open TraitsVerif.Model.CSrc in
/-- `fastInCompound` (hence every arm of `complexCase` and the loop `fastComplex`) is the
interpretation of the source text of `validate_trait_complex`: its `for` loop and `switch`
run on the one-entry compound `(7, (d,))` give exactly `fastInCompound E d v`; and on any
compound descriptor the whole function gives `fastAlone E (.complex ds) v` (previous theorem). -/
theorem C03_compound_case_is_source (E : Env) (hA : AdaptSome E) (inner : Desc → Val → Res) (cdflt : Val)
    (fuel : Nat) (d : Desc) (v : Val) (hok : entryOk E inner cdflt fuel d) (hf : 1 < fuel) :
    srcFn E inner cdflt fuel "validate_trait_complex" (.complex [d]) v = some (norm (fastInCompound E d v)) :=
  srcInCompound_eq E inner cdflt fuel hA d v hok hf

open TraitsVerif.Model.CSrc in
/-- C03_copies_agree about the two interpreted SOURCES: for every descriptor that can be
an alternative, the `case` inside `validate_trait_complex` and the stand-alone C function,
both interpreted on their translated text, return the same result for every value. -/
theorem C03_copies_agree_source (E : Env) (hA : AdaptSome E) (inner : Desc → Val → Res) (cdflt : Val)
    (fuel : Nat) (d : Desc) (v : Val) (h : d.isAlt = true)
    (hok : entryOk E inner cdflt fuel d) (hok' : descOk E inner cdflt fuel d) (hf : 1 < fuel) :
    srcFn E inner cdflt fuel "validate_trait_complex" (.complex [d]) v = srcAlone E inner cdflt fuel d v := by
  rw [C03_compound_case_is_source E hA inner cdflt fuel d v hok hf,
    C03_fast_is_source E hA inner cdflt fuel d v hok', (C03_copies_agree E d v h).2]

open TraitsVerif.Model.CSrc in
/-- Fast ≡ Python with the C side read from the source: wherever the Python path lets no
foreign exception out (C03_agree_compound_partial), the interpreted C function returns what
the Python validate method of the model returns. -/
theorem C03_source_agrees_python_partial (E : Env) (hE : CastIdem E) (hA : AdaptSome E)
    (inner : Desc → Val → Res) (cdflt : Val) (fuel : Nat) (t : TraitType) (d : Desc) (v : Val)
    (hd : descOf E t = some d) (hc : t.clean = true) (hv : v.notTupleSub = true)
    (hr : ∀ e, pyValidate E t v ≠ .raised e) (hok : descOk E inner cdflt fuel d) :
    srcAlone E inner cdflt fuel d v = some (norm (pyValidate E t v)) := by
  rw [C03_fast_is_source E hA inner cdflt fuel d v hok, C03_agree_compound_partial E hE t d v hd hc hv hr]

theorem E0_adaptSome : TraitsVerif.Model.CSrc.AdaptSome E0 := by
  intro v cls r h; simp [E0] at h

/-- The side conditions are satisfiable on a non-trivial compound (Either(Int, Str, Bool,
Range(0.0, 1.0, exclude_high), Instance(C, allow_none))) with a loop bound of 8. -/
example : TraitsVerif.Model.CSrc.descOk E0 (fastAlone E0) Val.none 8
    (.complex [.int, .coerce .str [], .coerce .bool [none, some .npBool],
      .floatRange (some (.fin 0)) (some (.fin 4)) 2, .instChk true (.user 1)]) := by
  refine ⟨?_, by decide⟩
  intro d hd
  simp at hd
  rcases hd with rfl | rfl | rfl | rfl | rfl <;> simp [TraitsVerif.Model.CSrc.entryOk]


/-! ## The tuple check, and the Python half -/

open TraitsVerif.Model.CSrc in
/-- `validate_trait_tuple_check` (both of its loops, the in-place construction of the result
tuple included), interpreted on its translated source text, is `tupleCheck`: the hypothesis
`TupleCheckSpec` of the theorems above holds whenever the inner CTraits validate with
`fastAlone` and never report a TraitError as a foreign exception. -/
theorem C03_tuple_check_is_source (E : Env) (inner : Desc → Val → Res) (cdflt : Val) (fuel : Nat)
    (items : List (Option Desc))
    (hin : ∀ d, some d ∈ items → ∀ x, inner d x = fastAlone E d x)
    (hte : ∀ d, some d ∈ items → ∀ x, fastAlone E d x ≠ .raised .traitError)
    (hf : items.length < fuel) :
    TupleCheckSpec E inner cdflt fuel items :=
  tupleCheckSpec_holds E inner cdflt fuel items hin hte hf

open TraitsVerif.Model.CSrc in
/-- C03_fast_is_source for Tuple descriptors with `TupleCheckSpec` discharged: the inner
traits validate with the model, which by C03_fast_is_source is their interpreted source. -/
theorem C03_fast_is_source_tuple (E : Env) (hA : AdaptSome E) (cdflt : Val) (fuel : Nat)
    (items : List (Option Desc)) (v : Val)
    (hte : ∀ d, some d ∈ items → ∀ x, fastAlone E d x ≠ .raised .traitError)
    (hf : items.length < fuel) :
    srcAlone E (fastAlone E) cdflt fuel (.tuple items) v = some (norm (fastAlone E (.tuple items) v)) :=
  C03_fast_is_source E hA (fastAlone E) cdflt fuel (.tuple items) v
    (tupleCheckSpec_holds E (fastAlone E) cdflt fuel items (fun _ _ _ => rfl) hte hf)

open TraitsVerif.Model.PyVSrc in
/-- `pyValidate` is the interpretation of the source text of the Python `validate` methods:
for every covered trait type (`pyCovered6`: Int, Float, Complex, Str, Bytes, Bool, CInt …
CBool, float and int Range with every bound / exclusivity combination (NaN included), Enum, Map,
Instance in every adapt mode, Type, This, Callable (through its super() call), the None member
of Union, typed Tuple (the generator over zip(types, value)) and BaseTuple (the enumerate /
append loop under a bare except, tuples and lists), Union and TraitCompound (validate
and slow_validate: the loops over the alternatives), the legacy handlers TraitCoerceType,
TraitCastType, TraitInstance, TraitFunction, TraitEnum, TraitMap (trait_handlers.py), and their Base* classes) and every value
(`noTE`: no member validator yields the junk result `raised traitError`),
running the translated method of trait_types.py the handler's class defines, with the
attributes its constructor stored, gives exactly `pyValidate E t v`. -/
theorem C03_py_is_source (E : Env) (hE : CastIdem E) (hA : TraitsVerif.Model.CSrc.AdaptSome E)
    (t : TraitType) (v : Val) (h : pyCovered6 t = true) (hn : noTE E t v) :
    srcPy E t v = some (pyValidate E t v) :=
  srcPy_eq6 E hE hA t v h hn

open TraitsVerif.Model.CSrc TraitsVerif.Model.PyVSrc in
/-- The property statement literally about the two SOURCES: under the conditions of
C03_agree_compound_partial, the C function `validate_handlers[kind]` interpreted on its
translated text and the Python `validate` method interpreted on its translated text return
the same result (modulo `norm`), for every covered trait type and every value. -/
theorem C03_sources_agree_partial (E : Env) (hE : CastIdem E) (hA : AdaptSome E)
    (inner : Desc → Val → Res) (cdflt : Val) (fuel : Nat) (t : TraitType) (d : Desc) (v : Val)
    (hd : descOf E t = some d) (hc : t.clean = true) (hv : v.notTupleSub = true)
    (hr : ∀ e, pyValidate E t v ≠ .raised e) (hok : descOk E inner cdflt fuel d)
    (hp : pyCovered6 t = true) (hn : noTE E t v) :
    srcAlone E inner cdflt fuel d v = (srcPy E t v).map norm := by
  rw [C03_source_agrees_python_partial E hE hA inner cdflt fuel t d v hd hc hv hr hok,
    C03_py_is_source E hE hA t v hp hn]
  rfl

example : TraitsVerif.Model.PyVSrc.pyCovered6 (.noFast (.rangeI (some 0) none true false)) = true := rfl
example : TraitsVerif.Model.PyVSrc.pyCovered6 (.functionH 3) = true := rfl
example : TraitsVerif.Model.PyVSrc.pyCovered6 (.baseTuple [.int, .str]) = true := rfl

open TraitsVerif.Model.PyVSrc in
/-- "A compound accepts iff some alternative accepts, with the result of the first accepting
alternative" as a statement about the interpreted PYTHON source: `Union.validate` and
`TraitCompound.validate` (+ `slow_validate`), run on their translated text, return the first
result that is not a TraitError among the member validators in order (for a TraitCompound:
the members with a fast validator first, then the others), TraitError if there is none. -/
theorem C03_py_compound_first_source (E : Env) (v : Val) :
    (∀ alts, (∀ t ∈ alts, ctraitValidate E t v ≠ .raised .traitError) →
      srcPy E (.union alts) v = some (firstOk v (alts.map (fun t => ctraitValidate E t)))) ∧
    (∀ hs, (∀ t ∈ hs, pyValidate E t v ≠ .raised .traitError) →
      srcPy E (.compoundH hs) v = some (firstOk v
        ((hs.filter (fun t => (descOf E t).isSome)).map (fun t => pyValidate E t) ++
         (hs.filter (fun t => !(descOf E t).isSome)).map
           (fun t x => if hasPy t then pyValidate E t x else .ok x)))) :=
  ⟨fun alts h => srcPy_union_first E alts v h, fun hs h => srcPy_compound_first E hs v h⟩

example : TraitsVerif.Model.PyVSrc.noTE E0 (.union [.int, .str]) (Val.ofInt 1) := by
  intro t ht
  simp at ht
  rcases ht with rfl | rfl <;> decide

end TraitsVerif.Props.C03
