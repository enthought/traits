/-
C01 — assigned values always lie in the trait's declared domain.

Only the property theorems (and non-vacuity examples) live here; lemmas are in
Lemmas/ValSound.lean (soundness), ValSource.lean (exception provenance),
ValAssign.lean (assignment histories), ValCSrc*.lean (the compiled validators
as read from their source text, for `C01_sound_source`).

Model: `validate` = the CTrait's validator (Model/PyValidate.lean: compiled
validator where the handler has a descriptor, Python method otherwise),
`inDomain` / `Conv` / `mappedValue` = the documentation (Model/Domain.lean),
`Assign.step` / `Assign.run` = setattr_trait reduced to validate → store →
post_setattr (Model/Assign.lean).  Hypotheses on the environment (`EnvOK`) are
facts about CPython / the adaptation registry / user functions.
-/
import TraitsVerif.Lemmas.ValSource
import TraitsVerif.Lemmas.ValAssign
import TraitsVerif.Lemmas.ValCSrcComplex
import TraitsVerif.Generated.ValidateTables
namespace TraitsVerif.Props.C01
open TraitsVerif TraitsVerif.Py.Value TraitsVerif.Model.Val TraitsVerif.Model.Val.Assign

/-! ## Accepted ⇒ in the declared domain, and the documented conversion -/

/-- The property at full strength: whatever the trait's validator accepts lies
in the declared domain and is the documented conversion of the assigned value.
FALSE of the pinned tree for TraitCoerceType(float / complex) (finding F42); not
proved for a Base* class of a trait type whose Python validate is missing or not
`pyClean`. -/
def C01_sound_full : Prop :=
  ∀ (E : Env), EnvOK E → ∀ (tt : TraitType) (v w : Val),
    validate E tt v = .ok w → inDomain E tt w = true ∧ Conv E tt v w

/-- Proved for every trait type of the model — Int … CBool, float and int Range
with every bound / exclusivity combination (NaN included: it is in no bounded
range), Enum, Map, Tuple, BaseTuple, ValidatedTuple (with and without fvalidate), Instance (all adapt modes), Type, This,
Callable, Module, String (all four validator variants), PrefixList, PrefixMap,
Array, the legacy Trait*() handlers, Base* classes, and Either / Union / TraitCompound
/ Tuple nestings of any depth — provided (`soundClean`) no TraitCoerceType(float | complex)
occurs in it and every Base* class in it is that of a trait type with a `pyClean`
Python validate. -/
theorem C01_sound_partial (E : Env) (hE : EnvOK E) (tt : TraitType) (hc : tt.soundClean = true)
    (v w : Val) (h : validate E tt v = .ok w) : inDomain E tt w = true ∧ Conv E tt v w :=
  (soundP_all E hE tt).1 hc v w h

/-- The Python validate methods are sound as well (they are what a Base* class
validates with), where they are `pyClean`. -/
theorem C01_sound_python (E : Env) (hE : EnvOK E) (tt : TraitType) (hc : tt.soundClean = true)
    (hp : tt.pyClean = true) (v w : Val) (h : pyValidate E tt v = .ok w) :
    inDomain E tt w = true ∧ Conv E tt v w :=
  (soundP_all E hE tt).2 hc hp v w h

/-- An environment for the examples: type constructors return their argument
when it already is an exact instance and raise OverflowError otherwise. -/
def E0 : Env :=
  { cast := fun t v => if Val.exactTy t v then .ok v else .error .overflowError
    fn := fun _ v => .ok v
    adapt := fun _ _ => .ok none
    selfCls := 0
    rx := fun _ _ => false }

theorem E0_ok : EnvOK E0 where
  castIdem := by intro t v h; simp [E0, h]
  castTyped := by
    intro t v w h
    simp only [E0] at h
    split at h
    · cases h; assumption
    · cases h
  adaptProvides := by intro v c r h; simp [E0] at h
  adaptNotNone := by intro v c r h; simp [E0] at h
  fnRange := by intro f v w _; rfl
  asarrayTyped := by intro v t d s h; simp [E0] at h

example : (TraitType.either [.rangeF (some (.fin 0)) (some (.fin 8)) true false,
    .tuple [.int, .union [.str, .noneTrait]]] true).soundClean = true := by decide
example : validate E0 (.rangeF (some (.fin 0)) (some (.fin 8)) true false) (Val.ofInt 2)
    = .ok (Val.ofFloat (.fin 8)) := by decide
/-- NaN is rejected by every bounded float Range (the F2 repair, e60e19b). -/
example : validate E0 (.rangeF (some (.fin 0)) none false false) (Val.ofFloat .nan) = .traitError := by decide

/-- Either(1, 2, Str) / Trait(7, 1, 2, Str): the definition's own default (None / 7) is not
one of the listed constants and no member accepts it — rejected; with constants alone
(Trait(7, 1, 2)) the default is a legal value. -/
example : validate E0 (traitMaker Val.none [Val.ofInt 1, Val.ofInt 2] [.str]) Val.none = .traitError ∧
    validate E0 (traitMaker (Val.ofInt 7) [Val.ofInt 1, Val.ofInt 2] [.str]) (Val.ofInt 7) = .traitError ∧
    validate E0 (traitMaker (Val.ofInt 7) [Val.ofInt 1, Val.ofInt 2] []) (Val.ofInt 7) = .ok (Val.ofInt 7) := by decide

/-- F42: Trait(float) stores the int 3. -/
theorem C01_sound_fails_at_coerce :
    validate E0 (.coerceH .float) (Val.ofInt 3) = .ok (Val.ofInt 3) ∧
    inDomain E0 (.coerceH .float) (Val.ofInt 3) = false := by decide

theorem C01_sound_full_is_false : ¬ C01_sound_full := by
  intro h
  have := (h E0 E0_ok (.coerceH .float) (Val.ofInt 3) (Val.ofInt 3) C01_sound_fails_at_coerce.1).1
  rw [C01_sound_fails_at_coerce.2] at this
  cases this

/-! ## Rejection and other exceptions: no effect -/

/-- A TraitError leaves the attribute and every other attribute exactly as they
were (validation precedes every write in `setattr_trait`). -/
theorem C01_reject (E : Env) (cls : ClassDef) (st : State) (name : String) (v : Val)
    (h : (step E cls st name v).2 = some .traitError) : (step E cls st name v).1 = st := by
  cases ht : traitOf cls name with
  | none => simp [step, ht] at h
  | some tt =>
    rcases step_cases E cls st name v tt ht with
      ⟨e, _, hs⟩ | ⟨w, _, ⟨_, hs⟩ | ⟨_, _, hs⟩ | ⟨_, _, s, _, hs⟩ | ⟨_, _, hs⟩⟩ <;>
      rw [hs] at h ⊢ <;> first | rfl | cases h

/-- … and a validator that says TraitError makes the assignment raise TraitError. -/
theorem C01_reject_iff (E : Env) (cls : ClassDef) (st : State) (name : String) (v : Val)
    (tt : TraitType) (ht : traitOf cls name = some tt) (hv : validate E tt v = .traitError) :
    step E cls st name v = (st, some .traitError) := by
  simp [step, ht, hv]

/-- Any other exception `e` that surfaces leaves the object untouched and was
raised by the value's own `__index__` / `__float__` / `__complex__` (or the
int → float overflow inside them), by a type constructor called on the value
(`int(float('inf'))`: the overflowing numeric conversion), or by one of the two
documented user callbacks (an adapter factory, `fvalidate` of ValidatedTuple).
Nothing else: no `==` of the value (F45 repaired: BaseEnum guards the
containment check), no "NoneType is not callable" (F48 repaired: an `Any` member
of a compound accepts), no user validator function (the C switch turns its
exceptions into TraitError).  `realBase`: Base* classes wrap plain trait types. -/
theorem C01_passthrough (E : Env) (hE : EnvOK E) (cls : ClassDef) (hwf : ClassWF cls)
    (st : State) (name : String) (v : Val) (tt : TraitType) (e : Exc)
    (ht : traitOf cls name = some tt) (hb : tt.realBase = true)
    (h : (step E cls st name v).2 = some e) (hne : e ≠ .traitError) :
    (step E cls st name v).1 = st ∧ Src2 E e := by
  obtain ⟨hv, hst⟩ := step_error E cls st name v tt e ht (hwf name tt ht) h
  refine ⟨hst, ?_⟩
  rcases hv with ⟨_, he⟩ | hv
  · exact absurd he hne
  · exact srcP2_all E tt hb v e hv

/-- The statement's wording exactly: with user callbacks that do not raise, the
only sources left are the value's conversion protocol and type constructors. -/
theorem C01_passthrough_quiet_callbacks (E : Env) (hE : EnvOK E) (cls : ClassDef) (hwf : ClassWF cls)
    (st : State) (name : String) (v : Val) (tt : TraitType) (e : Exc)
    (ht : traitOf cls name = some tt) (hb : tt.realBase = true)
    (hadapt : ∀ x c e', E.adapt x c ≠ .error e') (hpred : ∀ f x e', E.pred f x ≠ .error e')
    (h : (step E cls st name v).2 = some e) (hne : e ≠ .traitError) :
    (step E cls st name v).1 = st ∧
    ((∃ x, index x = .error e) ∨ (∃ x, asDouble x = .error e) ∨ (∃ x, asComplex x = .error e) ∨
     (∃ t x, E.cast t x = .error e)) := by
  obtain ⟨h1, h2⟩ := C01_passthrough E hE cls hwf st name v tt e ht hb h hne
  refine ⟨h1, ?_⟩
  rcases h2 with h | h | h | h | ⟨x, c, h⟩ | ⟨f, x, h⟩
  · exact Or.inl h
  · exact Or.inr (Or.inl h)
  · exact Or.inr (Or.inr (Or.inl h))
  · exact Or.inr (Or.inr (Or.inr h))
  · exact absurd h (hadapt x c e)
  · exact absurd h (hpred f x e)

/-- Without `realBase` (arbitrary terms of the model, Python paths of legacy
handlers included) the weaker provenance `Src` still holds. -/
theorem C01_passthrough_partial (E : Env) (hE : EnvOK E) (cls : ClassDef) (hwf : ClassWF cls)
    (st : State) (name : String) (v : Val) (tt : TraitType) (e : Exc)
    (ht : traitOf cls name = some tt) (h : (step E cls st name v).2 = some e) (hne : e ≠ .traitError) :
    (step E cls st name v).1 = st ∧ Src E e := by
  obtain ⟨hv, hst⟩ := step_error E cls st name v tt e ht (hwf name tt ht) h
  refine ⟨hst, ?_⟩
  rcases hv with ⟨_, he⟩ | hv
  · exact absurd he hne
  · exact (srcP_all E tt v).1 e hv

example : (TraitType.either [.noFast (.enum [Val.ofInt 1]), .any, .tuple [.int, .validatedTuple [.float] none]]
    false).realBase = true := by decide
/-- BaseEnum on a value whose `==` raises: TraitError (the F45 repair; ValueError without it). -/
example : validate E0 (.noFast (.enum [Val.ofInt 1])) (.atom (.badEq 0)) = .traitError := by decide
/-- Either(Int, Any) on a string: the Any member accepts (the F48 repair; TypeError without it). -/
example : validate E0 (.either [.int, .any] false) (Val.ofStr "a") = .ok (Val.ofStr "a") := by decide

/-! ## Histories: every readable value is in its domain -/

/-- Over every history of assignments (attribute assignment, constructor
keyword, trait_set all run `Assign.step`) on an object with any number of
attributes, starting from the empty instance dict: whatever is stored under a
declared name lies in that trait's declared domain. -/
theorem C01_readable (E : Env) (hE : EnvOK E) (cls : ClassDef) (hc : ClassClean cls)
    (hs : NoShadowClash cls) (ops : List (String × Val)) :
    Readable E cls (run E cls [] ops) :=
  run_induction E cls ops (fun op _ st => readable_step E hE cls hc hs st op.1 op.2) []
    (by intro n tt w _ h; simp [lookup] at h)

example : ClassClean [("x", TraitType.int), ("y", .map [Val.ofStr "yes"] [Val.ofInt 1])] := by
  intro n tt h
  simp only [traitOf, List.find?] at h
  split at h <;> simp at h
  · subst h; rfl
  · split at h <;> simp at h
    subst h; rfl

/-- After every history of assignments to declared attributes, the shadow
attribute of every mapped trait that has a value holds `map[value]`. -/
theorem C01_mapped (E : Env) (cls : ClassDef) (hw : ClassWF cls) (hs : NoShadowClash cls)
    (ops : List (String × Val)) (hd : ∀ op ∈ ops, (traitOf cls op.1).isSome = true) :
    ShadowOK cls (run E cls [] ops) :=
  run_induction E cls ops (fun op ho st => shadow_step E cls hw hs st op.1 op.2 (hd op ho)) []
    (by intro n tt w _ _ h; simp [lookup] at h)

example : run E0 [("y", TraitType.map [Val.ofStr "yes", Val.ofStr "no"] [Val.ofInt 1, Val.ofInt 0])] []
    [("y", Val.ofStr "no"), ("y", Val.ofInt 5)] = [("y", Val.ofStr "no"), ("y_", Val.ofInt 0)] := by decide

/-! ## The tie to the source tables -/

/-- The comparisons of `in_float_range` the model transcribes (NaN-rejecting form). -/
theorem C01_range_tests_modelled :
    Generated.floatRangeTests = ["!>low", "!>=low", "!<high", "!<=high"] := by decide


/-! ## Soundness of the compiled validators as read from the source text -/

open TraitsVerif.Model.CSrc in
/-- C01_sound_partial about the interpreted SOURCE (see C03_fast_is_source): whenever the
C function `validate_handlers[kind]`, run on its translated source text with the descriptor
the trait type builds, returns a value, that value lies in the declared domain and is the
documented conversion of the value assigned. -/
theorem C01_sound_source (E : Env) (hE : EnvOK E) (hA : AdaptSome E) (inner : Desc → Val → Res)
    (cdflt : Val) (fuel : Nat) (tt : TraitType) (hc : tt.soundClean = true) (d : Desc)
    (hd : descOf E tt = some d) (hok : descOk E inner cdflt fuel d) (v w : Val)
    (h : srcAlone E inner cdflt fuel d v = some (.ok w)) : inDomain E tt w = true ∧ Conv E tt v w := by
  rw [srcAlone_eq E inner cdflt fuel hA d v hok] at h
  have hf : fastAlone E d v = .ok w := by
    cases hr : fastAlone E d v with
    | ok x => rw [hr] at h; simpa [norm] using h
    | traitError => rw [hr] at h; simp [norm] at h
    | raised e => rw [hr] at h; cases e <;> simp [norm] at h
  exact C01_sound_partial E hE tt hc v w ((ctraitValidate_of_some E v hd).trans hf)

end TraitsVerif.Props.C01
