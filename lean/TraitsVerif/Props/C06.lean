/-
Property C06 — TraitDict refines dict and its change events are faithful deltas.
The model is `Model/TraitDict.lean`; the lemmas about it are in `Lemmas/Map*.lean`,
those that tie it to the source in `Lemmas/PyLMapDict.lean`, `PyLObj.lean`, `PyLCtorDict.lean`.

All theorems are universally quantified over the key and value types, the
contents `d` (any size), the operation and its arguments, and the two validators
`kv vv : Nat → α → Except Exc α` (arbitrary partial functions of call ordinal and
argument: coercing, rejecting, failing at the k-th call, non-idempotent).
-/
import TraitsVerif.Lemmas.MapStep
import TraitsVerif.Generated.Mutators
import TraitsVerif.Generated.DictEvent
import TraitsVerif.Lemmas.PyLMapDict
import TraitsVerif.Lemmas.PyLObj
import TraitsVerif.Generated.CtorCopy
import TraitsVerif.Model.CtorCopyAssumed
import TraitsVerif.Lemmas.PyLCtorDict
import TraitsVerif.Lemmas.MapSetObj
namespace TraitsVerif.Props.C06
open TraitsVerif TraitsVerif.Py TraitsVerif.Model.Map
open TraitsVerif.Py.Dict (get? contains set erase update ofPairs Op Ret WF)

variable {K V : Type} [DecidableEq K]

/-! ### Refinement -/

/-- One `TraitDict` method call yields exactly the contents
(insertion order included), the return value, and on failure the exception class
that the builtin dict yields on the validated arguments.  For `setdefault` this
needs raw-key containment to agree with validated-key containment (finding F13);
every other operation needs no hypothesis. -/
theorem C06_refines (kv : Callback K K) (vv : Callback V V) (d : Dict K V) (op : Op K V)
    (h : SetdefaultHyp kv d op) : Refines kv vv d op :=
  step_refines kv vv d op fun _ _ => h

/-- The hypothesis of `C06_refines` is vacuous for every operation but `setdefault`. -/
theorem C06_refines_unconditional (kv : Callback K K) (vv : Callback V V) (d : Dict K V) (op : Op K V)
    (h : ∀ k v, op ≠ .setdefault k v) : Refines kv vv d op := by
  refine step_refines kv vv d op fun _ _ => ?_
  cases op <;> first | trivial | exact absurd rfl (h _ _)

/-- `str(x)` on the harness atoms (`Py.KAtom.strV`). -/
local notation "tostr" => KAtom.strV

/-- **Negation witness (F13).**  `TraitDict({'1': '2'}, key_validator=str,
value_validator=str).setdefault(1, 4)`: the model (like the code) overwrites to
`{'1': '4'}` and returns `'4'`; the builtin dict on the validated arguments keeps
`'2'`.  So the hypothesis of `C06_refines` cannot be dropped. -/
theorem C06_refines_fails_at :
    ¬ Refines tostr tostr [(KAtom.str 1, KAtom.str 2)] (.setdefault (.int 1) (.int 4)) := by
  unfold Refines; decide

/-- The full-strength refinement statement (`Model.Map.C06RefinesFull`) is false of
the code as it stands. -/
theorem C06_refines_full_fails : ¬ C06RefinesFull KAtom KAtom := by
  intro h
  exact C06_refines_fails_at (h tostr tostr _ _ (by decide))

/-- What the model computes on the F13 input (the oracle replays the same input
on the real code). -/
theorem C06_F13_model_behaviour :
    TraitDict.step tostr tostr [(KAtom.str 1, KAtom.str 2)] (.setdefault (.int 1) (.int 4)) =
      .ok { items := [(.str 1, .str 4)], ret := .val (.str 4),
            event := some ⟨[], [], [(.str 1, .str 2)]⟩ } := rfl

/-- Non-vacuity of `C06_refines`: a coercing validator, a `setdefault` whose
validated key is new, and an `update` with a duplicate key after coercion. -/
example : SetdefaultHyp tostr [(KAtom.str 1, KAtom.str 2)] (.setdefault (.int 3) (.int 4)) ∧
    TraitDict.step tostr tostr [(KAtom.str 1, KAtom.str 2)] (.setdefault (.int 3) (.int 4)) =
      .ok { items := [(.str 1, .str 2), (.str 3, .str 4)], ret := .val (.str 4),
            event := some ⟨[], [(.str 3, .str 4)], []⟩ } ∧
    TraitDict.step tostr tostr [(KAtom.str 1, KAtom.str 2)]
        (.update [(.int 5, .int 6), (.int 1, .int 7), (.str 5, .int 8)]) =
      .ok { items := [(.str 1, .str 7), (.str 5, .str 8)], ret := .none,
            event := some ⟨[], [(.str 5, .str 8)], [(.str 1, .str 2)]⟩ } := by
  refine ⟨?_, rfl, rfl⟩
  intro k' hk; cases hk; decide

/-- `TraitDict(pairs, key_validator, value_validator)` is `dict` of the validated pairs. -/
theorem C06_init (kv : Callback K K) (vv : Callback V V) (ps : List (K × V)) :
    TraitDict.init kv vv ps = (valPairs kv vv 0 ps).map ofPairs ∧
    ∀ d, TraitDict.init kv vv ps = .ok d → WF d := by
  constructor
  · unfold TraitDict.init; cases valPairs kv vv 0 ps <;> rfl
  · intro d h
    unfold TraitDict.init at h
    split at h <;> cases h
    exact Dict.wf_ofPairs _

/-! ### Failure atomicity -/

/-- A failing operation leaves the contents as they were and
notifies nobody. -/
theorem C06_atomic (kv : Callback K K) (vv : Callback V V) (d : Dict K V) (op : Op K V) (e : Exc)
    (h : TraitDict.step kv vv d op = .error e) :
    TraitDict.next kv vv d op = d ∧ ∀ ns, TraitDict.notifications kv vv ns d op = [] := by
  simp [TraitDict.next, TraitDict.notifications, h]

/-- The only failures are a validator's exception (passed through unchanged) and
the builtin dict's own `KeyError`. -/
theorem C06_failure_causes (kv : Callback K K) (vv : Callback V V) (d : Dict K V) (op : Op K V) (e : Exc)
    (h : TraitDict.step kv vv d op = .error e) :
    validateOp kv vv d op = .error e ∨
      (e = .keyError ∧ ∃ op', validateOp kv vv d op = .ok op' ∧ Dict.step d op' = .error .keyError) := by
  have href := step_refines kv vv d op fun o ho => by rw [h] at ho; cases ho
  unfold Refines reference at href
  rw [h] at href
  cases hv : validateOp kv vv d op with
  | error e' => simp only [hv] at href; cases (Except.error.inj href : e = e'); exact .inl rfl
  | ok op' =>
    simp only [hv] at href
    cases dict_step_error href.symm
    exact .inr ⟨rfl, op', rfl, href.symm⟩

/-! ### Events are faithful deltas -/

/-- From the notification `(removed, added, changed)` and
the post-state the pre-state is recovered exactly, with all side conditions:
added keys were absent and now hold the given values, changed keys were present
with the given old values and still are present, removed keys held the given
values and are gone; `reconstruct post t` is the pre-state as a mapping. -/
theorem C06_reconstruct (kv : Callback K K) (vv : Callback V V) (d : Dict K V) (hwf : WF d)
    (op : Op K V) (o : DOut K V) (t : Triple K V)
    (h : TraitDict.step kv vv d op = .ok o) (he : o.event = some t) :
    Reconstructs d o.items t ∧ Dict.Equiv (reconstruct o.items t) d := by
  have := ((step_good h).1.event hwf t he).1
  exact ⟨this, reconstruct_equiv this⟩

/-- An operation that changes the contents (or even only
their order) notifies; by construction of `DOut` it notifies at most once, and
each notifier in the list is called exactly once (`C06_every_notifier`). -/
theorem C06_one_event (kv : Callback K K) (vv : Callback V V) (d : Dict K V) (hwf : WF d)
    (op : Op K V) (o : DOut K V) (h : TraitDict.step kv vv d op = .ok o) (hc : o.items ≠ d) :
    o.event.isSome = true := by
  cases he : o.event with
  | some t => rfl
  | none => exact absurd ((step_good h).1.quiet he) hc

/-- No notification has all three parts empty. -/
theorem C06_never_empty_event (kv : Callback K K) (vv : Callback V V) (d : Dict K V) (hwf : WF d)
    (op : Op K V) (o : DOut K V) (t : Triple K V)
    (h : TraitDict.step kv vv d op = .ok o) (he : o.event = some t) :
    ¬ (t.removed = [] ∧ t.added = [] ∧ t.changed = []) :=
  ((step_good h).1.event hwf t he).2.2

/-- The silent operations are exactly: `update`/`|=` with no
pairs, `clear` on an empty dict, `pop(k, default)` on a missing key and
`setdefault` on a present (raw) key; and a silent operation changes nothing. -/
theorem C06_silent (kv : Callback K K) (vv : Callback V V) (d : Dict K V) (hwf : WF d)
    (op : Op K V) (o : DOut K V) (h : TraitDict.step kv vv d op = .ok o) :
    (o.event = none ↔ SilentCase d op) ∧ (o.event = none → o.items = d) :=
  ⟨(step_good h).2, (step_good h).1.quiet⟩

/-- `dict_event_factory` succeeds on every notification
the dict emits, leaves the three shared argument dicts untouched, and the
`DictChangeEvent` it builds is the merged view: `removed` = removed items and old
values of changed keys, `added` = added items and current values of changed
keys, from which the pre-state is again recovered exactly. -/
theorem C06_observer_view (kv : Callback K K) (vv : Callback V V) (d : Dict K V) (hwf : WF d)
    (op : Op K V) (o : DOut K V) (t : Triple K V)
    (h : TraitDict.step kv vv d op = .ok o) (he : o.event = some t) :
    ∃ ev, dictEventFactory o.items t = .ok (ev, t) ∧ ObserverView d o.items ev ∧
      (∀ k, get? ev.removed k =
        match get? t.changed k with | some x => some x | none => get? t.removed k) := by
  obtain ⟨hr, hw, _⟩ := (step_good h).1.event hwf t he
  exact observer_view hr hw

/-- Every notifier in the list — plain ones and
observer-style `dict_event_factory` consumers in any order and number — is
called exactly once and is handed arguments satisfying the reconstruction law
(the merged-view law for observers): no notifier sees dicts altered by an
earlier one.  (This is the theorem finding F7 falsified before commit 98152b1.) -/
theorem C06_every_notifier (kv : Callback K K) (vv : Callback V V) (d : Dict K V) (hwf : WF d)
    (op : Op K V) (o : DOut K V) (t : Triple K V) (ns : List NotifierKind)
    (h : TraitDict.step kv vv d op = .ok o) (he : o.event = some t) :
    (notifyAll o.items ns t).length = ns.length ∧
    ∀ s ∈ notifyAll o.items ns t, s.Faithful d o.items := by
  obtain ⟨hr, hw, _⟩ := (step_good h).1.event hwf t he
  exact notifyAll_faithful hr hw ns

/-- The statement sequence of `dict_event_factory` read
from the working tree (`translate/dictevent.py`) is the program the model
interprets: both `removed` and `added` are rebound to copies before they are
written. -/
theorem C06_factory_source :
    Generated.dictEventFactoryBody = factoryBody.map FStmt.name ∧
    Generated.dictEventFactoryParams = ["trait_dict", "removed", "added", "changed"] := ⟨rfl, rfl⟩

/-- **C06_every_notifier** for the factory *as a program with explicit aliasing*
(`notifyAllProg factoryBody`: a write through a name that still refers to the
argument object is seen by the notifiers called later). -/
theorem C06_every_notifier_prog (kv : Callback K K) (vv : Callback V V) (d : Dict K V) (hwf : WF d)
    (op : Op K V) (o : DOut K V) (t : Triple K V) (ns : List NotifierKind)
    (h : TraitDict.step kv vv d op = .ok o) (he : o.event = some t) :
    (notifyAllProg factoryBody o.items ns t).length = ns.length ∧
    ∀ s ∈ notifyAllProg factoryBody o.items ns t, s.Faithful d o.items := by
  rw [notifyAllProg_body]
  exact C06_every_notifier kv vv d hwf op o t ns h he

/-- **Negation witness (F7, fixed by 98152b1).**  With the body as it was before
the fix (`added` written without `added = added.copy()`), `d['a'] = 2` on
`{'a': 1}` observed by `[observer, raw]` hands the raw notifier
`added = {'a': 2}` together with `changed = {'a': 1}`, which is not a faithful
delta: the copy is what makes `C06_every_notifier` true. -/
theorem C06_every_notifier_needs_added_copy :
    notifyAllProg factoryBodyPreFix [(KAtom.str 1, KAtom.int 2)] [.observer, .raw]
        ⟨[], [], [(KAtom.str 1, KAtom.int 1)]⟩ =
      [.event ⟨[(.str 1, .int 1)], [(.str 1, .int 2)]⟩,
       .raw ⟨[], [(.str 1, .int 2)], [(.str 1, .int 1)]⟩] ∧
    ¬ (Seen.raw ⟨[], [(KAtom.str 1, KAtom.int 2)], [(KAtom.str 1, KAtom.int 1)]⟩ : Seen KAtom KAtom).Faithful
        [(KAtom.str 1, KAtom.int 1)] [(KAtom.str 1, KAtom.int 2)] := by
  refine ⟨rfl, ?_⟩
  intro h
  have := (h.added_new (KAtom.str 1) (KAtom.int 2) (by decide)).1
  exact absurd this (by decide)

/-- Non-vacuity of the event theorems: an overwrite observed by
`[observer, raw, observer]`; the raw notifier placed after an observer still
sees `added = {}`. -/
example :
    WF [(KAtom.str 1, KAtom.str 2), (KAtom.str 3, KAtom.str 4)] ∧
    TraitDict.notifications tostr tostr [.observer, .raw, .observer]
        [(KAtom.str 1, KAtom.str 2), (KAtom.str 3, KAtom.str 4)] (.setitem (.int 1) (.int 9)) =
      [.event ⟨[(.str 1, .str 2)], [(.str 1, .str 9)]⟩,
       .raw ⟨[], [], [(.str 1, .str 2)]⟩,
       .event ⟨[(.str 1, .str 2)], [(.str 1, .str 9)]⟩] ∧
    reconstruct [(KAtom.str 1, KAtom.str 9), (KAtom.str 3, KAtom.str 4)] ⟨[], [], [(KAtom.str 1, KAtom.str 2)]⟩ =
      [(KAtom.str 1, KAtom.str 2), (KAtom.str 3, KAtom.str 4)] := by decide

/-! ### Invariants -/

/-- The no-duplicate-keys representation invariant is preserved. -/
theorem C06_wf_preserved (kv : Callback K K) (vv : Callback V V) (d : Dict K V) (hwf : WF d)
    (op : Op K V) : WF (TraitDict.next kv vv d op) := by
  unfold TraitDict.next
  split
  · exact hwf
  · rename_i o h; exact (step_good h).1.wf hwf

/-- Cited by C04.  If every key and value of
the pre-state is an output of its validator, so is every key and value of the
post-state. -/
theorem keys_values_valid_preserved (kv : Callback K K) (vv : Callback V V) (d : Dict K V) (op : Op K V)
    (hv : ∀ p ∈ d, TraitDict.ValidOut kv p.1 ∧ TraitDict.ValidOut vv p.2) :
    ∀ p ∈ TraitDict.next kv vv d op, TraitDict.ValidOut kv p.1 ∧ TraitDict.ValidOut vv p.2 := by
  unfold TraitDict.next
  split
  · exact hv
  · rename_i o h; exact (step_good h).1.valid hv

/-- A freshly constructed `TraitDict` satisfies the validity invariant. -/
theorem keys_values_valid_init (kv : Callback K K) (vv : Callback V V) (ps : List (K × V)) (d : Dict K V)
    (h : TraitDict.init kv vv ps = .ok d) :
    ∀ p ∈ d, TraitDict.ValidOut kv p.1 ∧ TraitDict.ValidOut vv p.2 := by
  unfold TraitDict.init at h
  split at h <;> cases h
  rename_i ps' hps
  exact update_valid (by simp [AllValid]) (valPairs_ok hps).2

/-! ### All histories -/

/-- The atomicity, invariant and event clauses above (not refinement, not the list of silent operations), for one
step from a well-formed state. -/
theorem C06_step_spec (kv : Callback K K) (vv : Callback V V) (d : Dict K V) (hwf : WF d) (op : Op K V) :
    StepSpec kv vv d op where
  atomic := fun e h => C06_atomic kv vv d op e h
  wf := fun _ h => (step_good h).1.wf hwf
  reconstruct := fun o t h he => C06_reconstruct kv vv d hwf op o t h he
  one_event := fun o h hc => C06_one_event kv vv d hwf op o h hc
  never_empty := fun o t h he => C06_never_empty_event kv vv d hwf op o t h he
  every_notifier := fun o t ns h he => C06_every_notifier kv vv d hwf op o t ns h he

/-- Along every finite history from a well-formed dict (in
particular from any freshly constructed `TraitDict`), every step satisfies all
event clauses; failed steps leave the state to the next step unchanged. -/
theorem C06_history (kv : Callback K K) (vv : Callback V V) (ops : List (Op K V)) (d : Dict K V)
    (hwf : WF d) : AlongRun kv vv (fun pre op => WF pre ∧ StepSpec kv vv pre op) d ops := by
  induction ops generalizing d with
  | nil => trivial
  | cons op ops ih =>
    exact ⟨⟨hwf, C06_step_spec kv vv d hwf op⟩, ih _ (C06_wf_preserved kv vv d hwf op)⟩

/-- After any sequence of operations the `TraitDict`
history (contents with insertion order, return values, exception classes, step
by step) equals the history of a builtin dict driven by the validated
operations, provided the `setdefault` hypothesis (F13) holds at each step. -/
theorem C06_history_refines (kv : Callback K K) (vv : Callback V V) (ops : List (Op K V)) (d : Dict K V)
    (hyp : AlongRun kv vv (SetdefaultHyp kv) d ops) :
    (TraitDict.run kv vv d ops).map (·.map DOut.proj) = refRun kv vv d ops := by
  induction ops generalizing d with
  | nil => rfl
  | cons op ops ih =>
    have hr : Refines kv vv d op := step_refines kv vv d op fun _ _ => hyp.1
    have hyp2 := hyp.2
    unfold Refines at hr
    simp only [TraitDict.run, refRun, List.map_cons, ← hr]
    unfold TraitDict.next at hyp2 ⊢
    cases hs : TraitDict.step kv vv d op <;> simp only [hs] at hyp2 <;> exact congrArg (List.cons _) (ih _ hyp2)

/-- Non-vacuity of `C06_history_refines`: a history with a coercing key
validator, duplicate keys and two `setdefault`s whose hypothesis holds at each
step, and the history it yields. -/
example :
    AlongRun tostr tostr (SetdefaultHyp tostr) [(KAtom.str 1, KAtom.str 2)]
      [.setdefault (.str 1) (.int 0), .update [(.int 3, .int 4), (.str 3, .int 5)],
       .setdefault (.int 7) (.int 8), .popitem, .delitem (.int 3)] ∧
    (TraitDict.run tostr tostr [(KAtom.str 1, KAtom.str 2)]
      [.setdefault (.str 1) (.int 0), .update [(.int 3, .int 4), (.str 3, .int 5)],
       .setdefault (.int 7) (.int 8), .popitem, .delitem (.int 3)]).map (·.map DOut.proj) =
      [.ok ([(.str 1, .str 2)], .val (.str 2)),
       .ok ([(.str 1, .str 2), (.str 3, .str 5)], .none),
       .ok ([(.str 1, .str 2), (.str 3, .str 5), (.str 7, .str 8)], .val (.str 8)),
       .ok ([(.str 1, .str 2), (.str 3, .str 5)], .pair (.str 7) (.str 8)),
       .error .keyError] := by
  refine ⟨⟨?_, trivial, ?_, trivial, trivial, trivial⟩, rfl⟩
  · intro k' hk; cases hk; decide
  · intro k' hk; cases hk; decide

/-- Histories without `setdefault` need no hypothesis at all. -/
theorem C06_history_refines_unconditional (kv : Callback K K) (vv : Callback V V) (ops : List (Op K V))
    (d : Dict K V) (h : ∀ op ∈ ops, ∀ k v, op ≠ .setdefault k v) :
    (TraitDict.run kv vv d ops).map (·.map DOut.proj) = refRun kv vv d ops := by
  apply C06_history_refines
  induction ops generalizing d with
  | nil => trivial
  | cons op ops ih =>
    refine ⟨?_, ih _ (fun op' h' => h op' (List.mem_cons_of_mem _ h'))⟩
    have := h op (by simp)
    cases op <;> first | trivial | exact absurd rfl (this _ _)

/-! ### Tie to the source by translation: the model is the interpreted source -/

/-- For every key/value validator, every dict and every
operation with its arguments, the hand-written `TraitDict.step` is exactly what
the interpreter of `Model/PyLMap.lean` computes on the method body translated
from the working tree (`Generated/MapSetProg.lean`, `translate/pylmap.py`):
same contents, same return value, same notifications, same exception — and on
an exception the same (unchanged) contents and no notification. -/
theorem C06_step_is_source (kv : Callback K K) (vv : Callback V V) (d : Dict K V) (op : Op K V) :
    Model.PyLM.D.runTraitDictOp Generated.traitDictProg kv vv d op
      = Model.PyLM.D.summaryOfStep d (TraitDict.step kv vv d op) :=
  Lemmas.PyLMD.td_step_is_source kv vv d op

/-- A mapping argument of `update` / `|=` (the `other.items()` branch) is
interpreted like the iterable of its items, which is what `Op.update` carries. -/
theorem C06_source_mapping_argument (kv : Callback K K) (vv : Callback V V) (d m : Dict K V) :
    Model.PyLM.D.runTraitDictM Generated.traitDictProg kv vv "update" [.dict m] d
        = Model.PyLM.D.runTraitDictOp Generated.traitDictProg kv vv d (.update m) ∧
    Model.PyLM.D.runTraitDictM Generated.traitDictProg kv vv "__ior__" [.dict m] d
        = Model.PyLM.D.runTraitDictOp Generated.traitDictProg kv vv d (.ior m) :=
  ⟨(Lemmas.PyLMD.td_update_of kv vv d (.inr rfl)).trans (Lemmas.PyLMD.td_update_of kv vv d (.inl rfl)).symm,
   (Lemmas.PyLMD.td_ior_of kv vv d (.inr rfl)).trans (Lemmas.PyLMD.td_ior_of kv vv d (.inl rfl)).symm⟩

/-- Atomicity read off the source: whenever the
interpreted source raises, the dict is unchanged and nobody has been notified. -/
theorem C06_source_atomic (kv : Callback K K) (vv : Callback V V) (d : Dict K V) (op : Op K V) (e : Exc)
    (items : Dict K V) (evs : List (Triple K V))
    (h : Model.PyLM.D.runTraitDictOp Generated.traitDictProg kv vv d op = .raised e items evs) :
    items = d ∧ evs = [] := by
  rw [C06_step_is_source] at h
  cases hs : TraitDict.step kv vv d op <;> rw [hs] at h <;> cases h
  exact ⟨rfl, rfl⟩

/-- The source notifies at most once per call, and
exactly with the model's `(removed, added, changed)`; contents and return value
are the model's. -/
theorem C06_source_events (kv : Callback K K) (vv : Callback V V) (d : Dict K V) (op : Op K V)
    (items : Dict K V) (r : Ret K V) (evs : List (Triple K V))
    (h : Model.PyLM.D.runTraitDictOp Generated.traitDictProg kv vv d op = .done items r evs) :
    ∃ o, TraitDict.step kv vv d op = .ok o ∧ items = o.items ∧ r = o.ret ∧ evs = o.event.toList := by
  rw [C06_step_is_source] at h
  cases hs : TraitDict.step kv vv d op <;> rw [hs] at h <;> cases h
  exact ⟨_, rfl, rfl, rfl, rfl⟩

/-- `TraitDictObject` overrides no mutator (so the `Dict` trait's object runs the
`TraitDict` methods above), and `notify` takes `(removed, added, changed)`. -/
theorem C06_source_object_overrides_none :
    Generated.traitDictObjectProg = [] ∧
    Generated.traitDictNotifyParams = ["removed", "added", "changed"] := ⟨rfl, rfl⟩

/-- The constructors of `TraitDict` / `TraitDictObject` in
the working tree are, statement for statement, the ones the model assumes: every
"was it given?" / "is there an owner?" decision is an `is None` test (a truth
test instead would ignore falsy validator objects, replace an empty notifier list,
or disconnect a dict from an alive but falsy owner). -/
theorem C06_init_source :
    [Generated.traitDictNewSource, Generated.traitDictInitSource, Generated.traitDictObjectInitSource]
      = dictConstructorsAssumed := rfl

/-- Non-vacuity: the interpreted source on the F13 input and on an `update` with
a duplicate key after coercion. -/
example :
    Model.PyLM.D.runTraitDictOp Generated.traitDictProg tostr tostr [(KAtom.str 1, KAtom.str 2)]
        (.setdefault (.int 1) (.int 4)) =
      .done [(.str 1, .str 4)] (.val (.str 4)) [⟨[], [], [(.str 1, .str 2)]⟩] ∧
    Model.PyLM.D.runTraitDictOp Generated.traitDictProg tostr tostr [(KAtom.str 1, KAtom.str 2)]
        (.update [(.int 5, .int 6), (.int 1, .int 7), (.str 5, .int 8)]) =
      .done [(.str 1, .str 7), (.str 5, .str 8)] .none [⟨[], [(.str 5, .str 8)], [(.str 1, .str 2)]⟩] := by
  rw [C06_step_is_source, C06_step_is_source]; exact ⟨rfl, rfl⟩

/-! ### Tie to the source: the validators and the notifier of a `Dict` trait's value

`TraitDictObject._key_validator`, `_value_validator` and `notifier` decide when a
key / value goes through the inner trait and when the `<name>_items` event
reaches the owner.  `translate/pylobj.py` translates their source text
(`Generated/ObjProg.lean`); the hand-written gates are `Model/ContainerObject.lean`. -/

open TraitsVerif.Model.PyLO TraitsVerif.Model.Obj in
/-- For every state of `self` (trait missing /
`None` / a CTrait whose inner `validate` is or is not `None`; `object` missing,
dead or alive; `name_items`), every inner trait, call ordinal and argument, the
modelled key and value validators are what the interpreter computes on the
translated `_key_validator` / `_value_validator`. -/
theorem C06_validators_are_source {β : Type} (σ : OSelf) (inner : Bool → Callback β β) :
    runValidator Generated.Obj.traitDictObjectKeyValidator .key σ inner = dictValidator .key σ inner ∧
    runValidator Generated.Obj.traitDictObjectValueValidator .value σ inner = dictValidator .value σ inner :=
  ⟨by funext n x; exact Lemmas.PyLObj.dict_key_validator_is_source σ inner n x,
   by funext n x; exact Lemmas.PyLObj.dict_value_validator_is_source σ inner n x⟩

open TraitsVerif.Model.PyLO TraitsVerif.Model.Obj in
/-- The modelled delivery gate of
`TraitDictObject.notifier` is the interpretation of its translated source. -/
theorem C06_notifier_gate_is_source (σ : OSelf) :
    runNotifier Generated.Obj.traitDictObjectNotifier σ = dictNotifier σ :=
  Lemmas.PyLObj.dict_notifier_is_source σ

open TraitsVerif.Model.PyLO TraitsVerif.Model.Obj in
/-- What the gates mean for a `Dict(K, V)` trait:
the value held by a live owner validates every key and value with the inner
traits — *whether or not the trait has an items event* (`Dict(..., items=False)`:
`name_items is None`; the seeded change C04-m11 took that for "detached") and
whether or not it is still the current value; only a value without trait or
without live owner (deep copy, unpickled, owner collected) passes items through. -/
theorem C06_trait_value_validates {β : Type} (t : CT) (hasItems : Bool) (inner : Bool → Callback β β) (w : Which)
    (hv : t.validateNone w = false) :
    dictValidator w (OSelf.live t hasItems) inner = inner true ∧
    dictValidator w (OSelf.live t hasItems).detached inner = inner true ∧
    dictValidator w (OSelf.live t hasItems).orphaned inner = (fun _ x => .ok x) ∧
    dictValidator w (OSelf.live t hasItems).afterDeepcopy inner = (fun _ x => .ok x) ∧
    dictValidator w (OSelf.live t hasItems).afterSetstate inner = (fun _ x => .ok x) := by
  refine ⟨?_, ?_, ?_, ?_, ?_⟩ <;> funext n x <;>
    simp [dictValidator, OSelf.live, OSelf.detached, OSelf.orphaned, OSelf.afterDeepcopy, OSelf.afterSetstate,
      traitOrNone, ownerOrNone, hv]

open TraitsVerif.Model.PyLO TraitsVerif.Model.Obj in
/-- The items event is delivered — once, built as
`TraitDictEvent(removed=removed, added=added, changed=changed)` from the
notifier's own arguments in that order — exactly when the trait has an items
event, the owner is alive, the dict has a trait and is still the owner's current
value; otherwise nothing is delivered.  (Of a call that raises — `AttributeError`:
no `object` attribute, or the trait gone while everything else is there — nothing is said.) -/
theorem C06_items_event_gate (σ : OSelf) (ds : List Delivery) :
    dictNotifier σ = .ok ds →
      (ds = [⟨"TraitDictEvent", [("removed", 1), ("added", 2), ("changed", 3)]⟩] ∧
        σ.nameItems = true ∧ σ.object = some true ∧ σ.current = true ∧ ∃ t, σ.trait = some (some t)) ∨
      (ds = [] ∧ (σ.nameItems = false ∨ σ.object = some false ∨ σ.current = false)) :=
  deliver_gate σ dictDelivery ds

open TraitsVerif.Model.PyLO TraitsVerif.Model.Obj in
/-- Non-vacuity: the interpreted source on a live `Dict(Str, Int, items=False)`
value (validates, delivers nothing) and on a live value with items event. -/
example :
    runValidator Generated.Obj.traitDictObjectKeyValidator .key (OSelf.live {} false)
        (fun _ _ (x : Int) => if x < 0 then .error .traitError else .ok (x + 1)) 0 (-3) = .error .traitError ∧
    runValidator Generated.Obj.traitDictObjectValueValidator .value (OSelf.live {} false)
        (fun _ _ (x : Int) => if x < 0 then .error .traitError else .ok (x + 1)) 0 3 = .ok 4 ∧
    runNotifier Generated.Obj.traitDictObjectNotifier (OSelf.live {} false) = .ok [] ∧
    runNotifier Generated.Obj.traitDictObjectNotifier (OSelf.live {} true) = .ok [dictDelivery] ∧
    runNotifier Generated.Obj.traitDictObjectNotifier (OSelf.live {} true).detached = .ok [] := by
  refine ⟨?_, ?_, ?_, ?_, ?_⟩ <;> first | rfl | decide

/-- The copy / pickle methods of `TraitDict` and
`TraitDictObject` are, statement for statement, the assumed ones (deep copy
re-validates deep copies of the items with deep copies of the validators and
no notifier; state without `notifiers`, and for the trait value without
`object` / `trait`). -/
theorem C06_copy_source :
    Generated.CtorCopy.traitDictCtorCopy = Model.CtorCopyAssumed.traitDictCtorCopy ∧
    Generated.CtorCopy.traitDictObjectCtorCopy = Model.CtorCopyAssumed.traitDictObjectCtorCopy :=
  ⟨rfl, rfl⟩

/-- `TraitDict.__init__` and `TraitDictObject.__init__`
as interpreted programs (`translate/ctorprogdict.py`, `Model/PyLCtorDict.lean`;
the latter run with `super().__init__` bound to the translated former): for
every argument (`None`, a mapping — anything with `keys`, read through
`.items()` — or an iterable of pairs), validator and notifier arguments / trait
and owner, running the translated body on the object `__new__` left gives the
modelled constructor, whose contents are `TraitDict.init` of the chosen
validators: every pair validated key first, then value, ordinal threaded,
nothing stored if one fails, later duplicate keys win — for the trait value with
its own `_key_validator` / `_value_validator`, i.e. what whole-value assignment
of a `Dict` trait establishes (`C06_init`, `keys_values_valid_init`); its
notifier list is `[self.notifier]`, the owner is held by weak reference iff not
`None`, `name_items` is set iff the trait has an items event. -/
theorem C06_init_is_source (C : Model.PyLCD.Ctx K V) (a : Model.PyLCD.Arg K V) (kv vv : Option Model.PyLC.VSrc)
    (ns : Option Model.PyLC.NSrc) (t : Option Bool) (owner : Bool) :
    Model.PyLCD.runDictInit Generated.CtorD.traitDictInit C a kv vv ns = Model.PyLCD.dictInit C a kv vv ns ∧
    (Model.PyLCD.dictInit C a (some .arg) (some .arg) ns).map (·.items) = TraitDict.init C.givenK C.givenV a.items ∧
    Model.PyLCD.runDictObjectInit Generated.CtorD.traitDictObjectInit Generated.CtorD.traitDictInit C t owner a
      = Model.PyLCD.dictObjectInit C t owner a ∧
    (Model.PyLCD.dictObjectInit C t owner a).map (·.items) = TraitDict.init C.ownK C.ownV a.items ∧
    (∀ o, Model.PyLCD.dictObjectInit C t owner a = .ok o →
      o.keyValidator = .own ∧ o.valueValidator = .own ∧ o.notifiers = .ownAlias ∧ o.object = some owner ∧
      o.trait = some t ∧ o.nameItems = some (t == some true)) := by
  refine ⟨Lemmas.PyLCtorDict.dict_init_is_source C a kv vv ns, ?_,
    Lemmas.PyLCtorDict.dict_object_init_is_source C t owner a, ?_, ?_⟩
  · simp only [Model.PyLCD.dictInit, TraitDict.init, Option.getD, Model.PyLCD.Ctx.kOf, Model.PyLCD.Ctx.vOf]
    cases valPairs C.givenK C.givenV 0 a.items <;> rfl
  · simp only [Model.PyLCD.dictObjectInit, TraitDict.init]
    cases valPairs C.ownK C.ownV 0 a.items <;> rfl
  · intro o ho
    simp only [Model.PyLCD.dictObjectInit] at ho
    cases hv : valPairs C.ownK C.ownV 0 a.items with
    | error e => simp [hv] at ho
    | ok ps => simp only [hv, Except.ok.injEq] at ho; subst ho; simp

/-! ### Tie to the source: the mutators that exist are the mutators modelled -/

/-- Every method of the running interpreter's builtin `dict` is either a
non-mutator or a mutator that `TraitDict` overrides and `TraitDict.step` models
(tables regenerated from the working tree by `translate/mutators.py`). -/
theorem C06_mutators_covered :
    ∀ m ∈ Generated.dictBuiltinMethods,
      m ∈ dictNonMutators ∨ (m ∈ dictModelledMutators ∧ m ∈ Generated.traitDictMethods) := by decide

end TraitsVerif.Props.C06
