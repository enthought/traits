/-
Cluster `obs`: the refinement invariant is preserved by mutations of an observed
list (append / insert / del / setitem / clear / extend / slice assignment), fragments
`ListCoreF` and `ListCore` (the same with no `filtered` node in the registrations, a
premise the proof does not need).
-/
import TraitsVerif.Lemmas.ObsCont
namespace TraitsVerif.Model.Obs
open TraitsVerif

/-! ### the site of a list -/

def isListItems : Observer → Bool
  | .listItems .. => true
  | _ => false

def listSite (c : Id) : Gen.Site := ⟨fun ob x => isListItems ob && x == some c, .cont c, .list⟩

section upd
variable {h : Heap} {c : Id} {items : List Id}

theorem upd_at_c (items' : List Id) : (h.upd c (.list items')).at (some c) = .list items' := by
  simp [Heap.at, Heap.get_upd]

end upd

theorem blockOf_sum (h' : Heap) (ys : List Id) (o' : Observable) (q : NKey) (g : Graph) (k : HKey) :
    blockOf h' ys o' q g k = (ys.map (fun y => cntItems (hookList h' k true g (some y)) o' q)).sum := by
  simp [blockOf, cntItems_flatMap, List.map_map, Function.comp_def]

/-! ### the fragment -/

/-- `ListCoreF` with the premise that no registration contains a `filtered` node (which the proof
does not use: `ListCore.toF`). -/
structure ListCore (E : Env) (st : St) (regs : List Reg) (c : Id) (items items' : List Id) (ev : CEvent) : Prop where
  hc : st.h.get c = .list items
  /-- no `filtered` (`*`, `+metadata`) node in any active registration -/
  noFiltered : ∀ r ∈ regs, r.g.noFiltered = true
  alive : ∀ k, E.dead k = false
  /-- the walks the maintainers perform meet no failing `iter_*` -/
  okRem : ∀ mk g k, Notifier.maint mk g k ∈ st.H.get (.cont c) → ∀ y ∈ ev.removed,
    walkOk (st.h.upd c (.list items')) true g (some y) = true
  okAdd : ∀ mk g k, Notifier.maint mk g k ∈ st.H.get (.cont c) → ∀ y ∈ ev.added,
    walkOk (st.h.upd c (.list items')) true g (some y) = true
  /-- NoSelfReach: below the current items, and below the removed / added ones, the
  maintained sub-graphs never come back to the list itself -/
  nsrItems : ∀ r ∈ regs, ∀ g ∈ Gen.visits (listSite c) actTrue st.h r.g (some r.x), ∀ y ∈ items,
    ∀ it ∈ hookList st.h r.k true g (some y), it.1 ≠ .cont c
  nsrLive : ∀ mk g k, Notifier.maint mk g k ∈ st.H.get (.cont c) → ∀ y ∈ ev.removed ++ ev.added,
    ∀ it ∈ hookList (st.h.upd c (.list items')) k true g (some y), it.1 ≠ .cont c
  /-- graph equality is structural on the sub-graphs involved -/
  eqStruct : ∀ mk g k, Notifier.maint mk g k ∈ st.H.get (.cont c) → ∀ r ∈ regs,
    ∀ g' ∈ Gen.visits (listSite c) actTrue st.h r.g (some r.x),
    (NKey.maint mk g k).equals (.maint .list g' r.k) = true → g = g' ∧ k = r.k

/-- Hypotheses under which a mutation of list `c` (contents `items` ↦ `items'`,
reported as `ev`) preserves the invariant; `filtered` nodes are allowed.  With `hc`, these are the
fields of `ContCore` at the site `listSite c`. -/
structure ListCoreF (E : Env) (st : St) (regs : List Reg) (c : Id) (items items' : List Id) (ev : CEvent) : Prop where
  hc : st.h.get c = .list items
  alive : ∀ k, E.dead k = false
  /-- the walks the maintainers perform meet no failing `iter_*` -/
  okRem : ∀ mk g k, Notifier.maint mk g k ∈ st.H.get (.cont c) → ∀ y ∈ ev.removed,
    walkOk (st.h.upd c (.list items')) true g (some y) = true
  okAdd : ∀ mk g k, Notifier.maint mk g k ∈ st.H.get (.cont c) → ∀ y ∈ ev.added,
    walkOk (st.h.upd c (.list items')) true g (some y) = true
  /-- NoSelfReach: below the current items, and below the removed / added ones, the
  maintained sub-graphs never come back to the list itself -/
  nsrItems : ∀ r ∈ regs, ∀ g ∈ Gen.visits (listSite c) actTrue st.h r.g (some r.x), ∀ y ∈ items,
    ∀ it ∈ hookList st.h r.k true g (some y), it.1 ≠ .cont c
  nsrLive : ∀ mk g k, Notifier.maint mk g k ∈ st.H.get (.cont c) → ∀ y ∈ ev.removed ++ ev.added,
    ∀ it ∈ hookList (st.h.upd c (.list items')) k true g (some y), it.1 ≠ .cont c
  /-- graph equality is structural on the sub-graphs involved -/
  eqStruct : ∀ mk g k, Notifier.maint mk g k ∈ st.H.get (.cont c) → ∀ r ∈ regs,
    ∀ g' ∈ Gen.visits (listSite c) actTrue st.h r.g (some r.x),
    (NKey.maint mk g k).equals (.maint .list g' r.k) = true → g = g' ∧ k = r.k

section
variable {E : Env} {st : St} {regs : List Reg} {c : Id} {items items' : List Id} {ev : CEvent}

theorem listSite_visits (h : Heap) (c : Id) (g : Graph) (x : W) :
    Gen.visits (listSite c) actTrue h g x = (contCell .list c).visits h g x :=
  Gen.visits_contCell _ (fun ob x => by cases ob <;> rfl) g x

theorem ListCore.toF (core : ListCore E st regs c items items' ev) : ListCoreF E st regs c items items' ev :=
  ⟨core.hc, core.alive, core.okRem, core.okAdd, core.nsrItems, core.nsrLive, core.eqStruct⟩

theorem ListCoreF.toCont (core : ListCoreF E st regs c items items' ev) :
    ContCore E st regs (Gen.visits (listSite c) actTrue st.h) .list c (.list items') (items) ev :=
  ⟨core.alive, core.okRem, core.okAdd, core.nsrItems, core.nsrLive, core.eqStruct⟩

theorem ListCoreF.ofCont (hc : st.h.get c = .list items)
    (core : ContCore E st regs (Gen.visits (listSite c) actTrue st.h) .list c (.list items') (items) ev) : ListCoreF E st regs c items items' ev :=
  ⟨hc, core.alive, core.okRem, core.okAdd, core.nsrItems, core.nsrLive, core.eqStruct⟩

theorem ListCore.ofCont (hc : st.h.get c = .list items) (hnf : ∀ r ∈ regs, r.g.noFiltered = true)
    (core : ContCore E st regs (Gen.visits (listSite c) actTrue st.h) .list c (.list items') (items) ev) : ListCore E st regs c items items' ev :=
  ⟨hc, hnf, core.alive, core.okRem, core.okAdd, core.nsrItems, core.nsrLive, core.eqStruct⟩

end

/-- `hitems`, `hitems'`: the event is a faithful delta, old = removed ++ rest, new = rest ++ added up to order. -/
theorem listMut_preservesF (E : Env) (st : St) (regs : List Reg) (c : Id) (items items' rest : List Id) (ev : CEvent)
    (hinv : HooksEqReach st.h st.H regs) (core : ListCoreF E st regs c items items' ev)
    (hitems : items.Perm (ev.removed ++ rest)) (hitems' : items'.Perm (rest ++ ev.added)) :
    HooksEqReach (st.h.upd c (.list items')) (runCont E st (st.h.upd c (.list items')) c (some ev)).st.H regs ∧
    (runCont E st (st.h.upd c (.list items')) c (some ev)).err = none :=
  contMut_preserves E st regs _ .list c (.list items') items items' rest ev (by rw [core.hc]; rfl) rfl (listSite_visits st.h c) hinv core.toCont
    hitems hitems'

theorem mem_of_sum_decomp (items removed rest : List Id)
    (hd : ∀ F : Id → Nat, (items.map F).sum = (removed.map F).sum + (rest.map F).sum) :
    ∀ y ∈ removed, y ∈ items := by
  intro y hy
  by_cases hin : y ∈ items
  · exact hin
  · exfalso
    have := hd (fun z => if z = y then 1 else 0)
    have h0 : (items.map (fun z => if z = y then 1 else 0)).sum = 0 := by
      apply sum_map_zero
      intro a ha
      have : a ≠ y := fun e => hin (e ▸ ha)
      simp [this]
    have h1 : 0 < (removed.map (fun z => if z = y then 1 else 0)).sum := by
      obtain ⟨pre, post, rfl⟩ := List.append_of_mem hy
      simp [List.map_append, List.sum_append]
      omega
    omega

/-! ### the list operations -/

theorem perm_eraseIdx {α} {l : List α} {i : Nat} {y : α} (h : l[i]? = some y) : l.Perm (y :: l.eraseIdx i) := by
  obtain ⟨hi, rfl⟩ := List.getElem?_eq_some_iff.1 h
  rw [List.eraseIdx_eq_take_drop_succ]
  conv => lhs; rw [← List.take_append_drop i l, List.drop_eq_getElem_cons hi]
  exact List.perm_middle

theorem perm_set {α} {l : List α} {i : Nat} {y : α} (x : α) (h : l[i]? = some y) :
    (l.set i x).Perm (l.eraseIdx i ++ [x]) := by
  have hi := (List.getElem?_eq_some_iff.1 h).1
  have := perm_eraseIdx (l := l.set i x) (i := i) (y := x) (by simp [hi])
  rw [List.eraseIdx_set_eq] at this
  exact this.trans (List.perm_append_singleton x _).symm

theorem listAppend_preservesF (E : Env) (st : St) (regs : List Reg) (c : Id) (x : Id) (items : List Id)
    (hinv : HooksEqReach st.h st.H regs)
    (core : ListCoreF E st regs c items (items ++ [x]) (.list items.length [] [x])) :
    HooksEqReach (mutate E st (.listAppend c x)).st.h (mutate E st (.listAppend c x)).st.H regs ∧
    (mutate E st (.listAppend c x)).err = none := by
  simp only [mutate, core.hc]
  exact listMut_preservesF E st regs c items _ items _ hinv core (.refl _) (.refl _)

theorem listInsert_preservesF (E : Env) (st : St) (regs : List Reg) (c : Id) (i : Nat) (x : Id) (items : List Id)
    (hi : i ≤ items.length) (hinv : HooksEqReach st.h st.H regs)
    (core : ListCoreF E st regs c items (items.take i ++ x :: items.drop i) (.list i [] [x])) :
    HooksEqReach (mutate E st (.listInsert c i x)).st.h (mutate E st (.listInsert c i x)).st.H regs ∧
    (mutate E st (.listInsert c i x)).err = none := by
  simp only [mutate, core.hc, hi, if_true]
  exact listMut_preservesF E st regs c items _ items _ hinv core (.refl _)
    (List.perm_middle.trans (by rw [List.take_append_drop]; exact (List.perm_append_singleton x items).symm))

/-- `del l[i]` — an object present twice and removed once keeps one registration's worth of hooks -/
theorem listDel_preservesF (E : Env) (st : St) (regs : List Reg) (c : Id) (i : Nat) (y : Id) (items : List Id)
    (hy : items[i]? = some y) (hinv : HooksEqReach st.h st.H regs)
    (core : ListCoreF E st regs c items (items.eraseIdx i) (.list i [y] [])) :
    HooksEqReach (mutate E st (.listDel c i)).st.h (mutate E st (.listDel c i)).st.H regs ∧
    (mutate E st (.listDel c i)).err = none := by
  simp only [mutate, core.hc, hy]
  exact listMut_preservesF E st regs c items _ (items.eraseIdx i) _ hinv core (perm_eraseIdx hy)
    (List.append_nil _ ▸ .refl _)

theorem listSet_preservesF (E : Env) (st : St) (regs : List Reg) (c : Id) (i : Nat) (x y : Id) (items : List Id)
    (hy : items[i]? = some y) (hinv : HooksEqReach st.h st.H regs)
    (core : ListCoreF E st regs c items (items.set i x) (.list i [y] [x])) :
    HooksEqReach (mutate E st (.listSet c i x)).st.h (mutate E st (.listSet c i x)).st.H regs ∧
    (mutate E st (.listSet c i x)).err = none := by
  simp only [mutate, core.hc, hy]
  exact listMut_preservesF E st regs c items _ (items.eraseIdx i) _ hinv core (perm_eraseIdx hy) (perm_set x hy)

/-- `l.clear()` on a non-empty list -/
theorem listClear_preservesF (E : Env) (st : St) (regs : List Reg) (c : Id) (items : List Id)
    (hne : items.isEmpty = false) (hinv : HooksEqReach st.h st.H regs)
    (core : ListCoreF E st regs c items [] (.list 0 items [])) :
    HooksEqReach (mutate E st (.listClear c)).st.h (mutate E st (.listClear c)).st.H regs ∧
    (mutate E st (.listClear c)).err = none := by
  simp only [mutate, core.hc, hne, Bool.false_eq_true, if_false]
  exact listMut_preservesF E st regs c items _ [] _ hinv core (List.append_nil _ ▸ .refl _) (.refl _)

/-- `l.extend(xs)` with `xs` non-empty (same object several times allowed) -/
theorem listExtend_preservesF (E : Env) (st : St) (regs : List Reg) (c : Id) (xs : List Id) (items : List Id)
    (hne : xs.isEmpty = false) (hinv : HooksEqReach st.h st.H regs)
    (core : ListCoreF E st regs c items (items ++ xs) (.list items.length [] xs)) :
    HooksEqReach (mutate E st (.listExtend c xs)).st.h (mutate E st (.listExtend c xs)).st.H regs ∧
    (mutate E st (.listExtend c xs)).err = none := by
  simp only [mutate, core.hc, hne, Bool.false_eq_true, if_false]
  exact listMut_preservesF E st regs c items _ items _ hinv core (.refl _) (.refl _)

/-- `l[i:j] = xs` (any lengths; the classic case: same length, same objects, other
multiplicities — `[a, a, b]` ↦ `[a, b, b]`) -/
theorem listSlice_preservesF (E : Env) (st : St) (regs : List Reg) (c : Id) (i j : Nat) (xs : List Id) (items : List Id)
    (hij : i ≤ j ∧ j ≤ items.length)
    (hne : (((items.drop i).take (j - i)).isEmpty && xs.isEmpty) = false)
    (hinv : HooksEqReach st.h st.H regs)
    (core : ListCoreF E st regs c items (items.take i ++ xs ++ items.drop j) (.list i ((items.drop i).take (j - i)) xs)) :
    HooksEqReach (mutate E st (.listSlice c i j xs)).st.h (mutate E st (.listSlice c i j xs)).st.H regs ∧
    (mutate E st (.listSlice c i j xs)).err = none := by
  simp only [mutate, core.hc, hij, and_self, if_true, hne, Bool.false_eq_true, if_false]
  exact listMut_preservesF E st regs c items _ (items.take i ++ items.drop j) _ hinv core (Common.perm_slice items hij.1)
    (by rw [List.append_assoc, List.append_assoc]; exact List.perm_append_comm.append_left _)

/-! ### non-vacuity witness

`a.kids = [b]` (list cell 100) observed through a quiet `*` node on `a`: graph
`filtered anyTrait` → optional `items` → `value`; then `a.kids.append(c)`. -/
namespace FilteredListWitness

def fld (n : Name) (v : Val) : Field := ⟨n, false, .val (if n == nValue then .int 0 else .none), v, .equality⟩

def wKey : HKey := ⟨0, 0⟩

def wHeap : Heap :=
  [(0, .inst [fld nKids (.ref 100), fld nTraitAdded .unset]),
   (1, .inst [fld nValue (.int 3), fld nTraitAdded .unset]),
   (2, .inst [fld nValue (.int 5), fld nTraitAdded .unset]),
   (100, .list [1])]
def wGraph : Graph :=
  .node (.filtered .anyTrait false) [.node (.listItems true true) [.node (.named nValue true false) []]]
def wSt : St := ⟨wHeap, (addRemove wHeap wKey false true wGraph (some 0) Hooks.empty).H⟩
def wRegs : List Reg := [⟨wKey, wGraph, 0⟩]

theorem wInv : HooksEqReach wSt.h wSt.H wRegs := .of_observe wHeap wKey wGraph 0 (by decide)

theorem wHooks : wSt.H.get (.cont 100) =
    [.user wKey 1, .maint .list (.node (.named nValue true false) []) wKey] := rfl
theorem wVisits : Gen.visits (listSite 100) actTrue wSt.h wGraph (some 0) = [.node (.named nValue true false) []] := rfl

/-- The hypotheses of `listAppend_preservesF` hold for `a.kids.append(c)` under the `*` registration. -/
theorem wCore : ListCoreF {} wSt wRegs 100 [1] ([1] ++ [2]) (.list 1 [] [2]) :=
  .ofCont rfl (.of_single (fun _ => rfl)
    (by intro mk g k hm; rw [wHooks] at hm; simp at hm; exact ⟨hm.2.1, hm.2.2⟩)
    rfl wVisits (by decide) (by decide) (by decide))

example : HooksEqReach (mutate {} wSt (.listAppend 100 2)).st.h (mutate {} wSt (.listAppend 100 2)).st.H wRegs :=
  (listAppend_preservesF {} wSt wRegs 100 2 [1] wInv wCore).1

example : cnt wSt.H (.trait 2 nValue) (.user wKey) = 0 ∧
    cnt (mutate {} wSt (.listAppend 100 2)).st.H (.trait 2 nValue) (.user wKey) = 1 ∧
    cnt (mutate {} wSt (.listAppend 100 2)).st.H (.trait 1 nValue) (.user wKey) = 1 := by decide

end FilteredListWitness

end TraitsVerif.Model.Obs
