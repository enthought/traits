/-
Cluster `obs`: quiet links.  If nothing held for handler key `k` can notify (no
user notifier of `k`, every maintainer of `k` carries a graph without notifying
node) then no mutation whatsoever delivers to `k`, and the state persists.
No hypothesis on the heap: holds through cycles, sharing and the F10 situations.
-/
import TraitsVerif.Lemmas.ObsMutate
namespace TraitsVerif.Model.Obs
open TraitsVerif

def GoodKey (k : HKey) : NKey → Prop
  | .user k' => k' ≠ k
  | .maint _ g k' => k' = k → g.quiet = true

def QuietInv (H : Hooks) (k : HKey) : Prop := ∀ o n, n ∈ H.get o → GoodKey k n.key

def GoodItems (k : HKey) (its : List Item) : Prop := ∀ it ∈ its, GoodKey k it.2

theorem Graph.quietL_iff (cs : List Graph) : Graph.quietL cs = true ↔ ∀ c ∈ cs, c.quiet = true := by
  induction cs with
  | nil => simp [Graph.quietL]
  | cons c cs ih => simp [Graph.quietL, ih]

theorem Graph.quiet_node (ob : Observer) (cs : List Graph) :
    (Graph.node ob cs).quiet = true ↔ ob.notify = false ∧ ∀ c ∈ cs, c.quiet = true := by
  simp [Graph.quiet, Graph.quietL_iff]

theorem addItem_quiet (k : HKey) (it : Item) (H : Hooks) (hq : QuietInv H k) (hi : GoodKey k it.2) :
    QuietInv (addItem it H) k := by
  intro o n hn
  unfold addItem at hn
  rw [Hooks.get_upd] at hn
  split at hn
  · rcases key_mem_addKey hn with e | ⟨n', hm, e⟩
    · exact e ▸ hi
    · exact e ▸ hq _ n' hm
  · exact hq o n hn

theorem removeItem_quiet (k : HKey) (it : Item) (H H' : Hooks) (hq : QuietInv H k)
    (h : removeItem it H = .ok H') : QuietInv H' k := by
  obtain ⟨l, hr, rfl⟩ := removeItem_ok_iff.1 h
  intro o n hn
  rw [Hooks.get_upd] at hn
  split at hn
  · obtain ⟨n', hm, e⟩ := key_mem_removeKey hr hn
    exact e ▸ hq _ n' hm
  · exact hq o n hn

theorem hookList_good (h : Heap) (k k' : HKey) (g : Graph) (hg : k' = k → g.quiet = true) (e : Bool) (x : W) :
    ∀ it ∈ hookList h k' e g x, GoodKey k it.2 :=
  forall_mem_hookList h k' (fun g => k' = k → g.quiet = true) (fun it => GoodKey k it.2)
    (fun ob cs hq c hc e' => ((Graph.quiet_node ob cs).1 (hq e')).2 c hc)
    (fun ob cs _ hq hn _ _ e' => by rw [((Graph.quiet_node ob cs).1 (hq e')).1] at hn; cases hn)
    (fun ob cs _ hq c hc _ _ e' => ((Graph.quiet_node ob cs).1 (hq e')).2 c hc)
    (fun _ _ _ hq _ _ => hq) g hg e x

theorem addRemove_quiet (h : Heap) (k k' : HKey) (g : Graph) (hg : k' = k → g.quiet = true)
    (rm extra : Bool) (x : W) (H : Hooks) (hq : QuietInv H k) :
    QuietInv (addRemove h k' rm extra g x H).H k :=
  addRemove_touch (fun H => QuietInv H k) (fun it => GoodKey k it.2)
    (fun it H hi hP => addItem_quiet k it H hP hi)
    (fun it H H' _ hP hr => removeItem_quiet k it H H' hP hr)
    h k' g rm extra x H (hookList_good h k k' g hg extra x) hq

/-! ### mutations -/

theorem restrict_quiet (g : Graph) (n : Name) (hg : g.quiet = true) : (restrict g n).quiet = true := by
  cases g with
  | node ob cs =>
    obtain ⟨a, b⟩ := (Graph.quiet_node ob cs).1 hg
    exact (Graph.quiet_node _ _).2 ⟨by simpa [Observer.notify, Graph.ob] using a, by simpa [Graph.children] using b⟩

theorem mutate_quiet (E : Env) (st : St) (k : HKey) (m : Mutation) (hq : QuietInv st.H k) :
    QuietInv (mutate E st m).st.H k ∧ ∀ d ∈ (mutate E st m).delivered, d.key ≠ k := by
  -- a maintainer that is good for `k` walks quiet graphs, or for another key
  have hm := fun k' g (hg : k' = k → g.quiet = true) => maint_inv (fun H => QuietInv H k) k' g
    fun h rm extra g' x H hg' hq => addRemove_quiet h k k' g' (by
      rcases hg' with rfl | ⟨n, rfl⟩
      · exact hg
      · exact fun e => restrict_quiet g n (hg e)) rm extra x H hq
  refine mutate_inv (N := fun n => GoodKey k n.key) (I := fun H ds => QuietInv H k ∧ ∀ d ∈ ds, d.key ≠ k) st m
    ⟨fun H _ hI => hI.1, ?_, ?_, ?_⟩ ⟨hq, nofun⟩
  · intro k' rc d hN _ hd _ H ds hI
    exact ⟨hI.1, List.forall_mem_append.2 ⟨hI.2, List.forall_mem_singleton.2 (hd ▸ hN)⟩⟩
  · intro mk g k' hN _ h o old new H ds hI
    exact ⟨(hm k' g hN).1 h mk o old new H hI.1, hI.2⟩
  · intro mk g k' hN _ h ev H ds hI
    exact ⟨(hm k' g hN).2 h ev H hI.1, hI.2⟩

end TraitsVerif.Model.Obs
