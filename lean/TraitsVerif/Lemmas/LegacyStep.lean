/-
Handler scripts and what they, `register` and `unregister` do to a consistent listener state on a
tree-shaped heap (whole subtrees enter and leave); the outcome of a trait change notification by the
position of the object on the name; the refinement invariant of the legacy listener (helper lemmas for C16).
-/
import TraitsVerif.Lemmas.LegacyState
import TraitsVerif.Lemmas.LegacyOps
namespace TraitsVerif.Model.Legacy
open List

/-! ### handler scripts -/

theorem runScript_append (h : Heap) (ty : LType) (fin : Final) (k : Nat) (ls : List Link)
    (a b : List Act) (s : LState) :
    runScript h ty fin k ls (a ++ b) s = runScript h ty fin k ls b (runScript h ty fin k ls a s) := by
  induction a generalizing s with
  | nil => rfl
  | cons x a ih => cases x <;> simp [runScript, ih]

theorem runScript_regAll (h : Heap) (ty : LType) (fin : Final) (k : Nat) (ls : List Link) :
    ∀ (cs : List Nat) (s : LState),
      runScript h ty fin k ls (regAll cs) s = cs.foldl (fun s c => register h ty fin k ls c s) s
  | [], _ => rfl
  | _ :: cs, _ => runScript_regAll h ty fin k ls cs _

theorem runScript_unregAll (h : Heap) (ty : LType) (fin : Final) (k : Nat) (ls : List Link) :
    ∀ (cs : List Nat) (s : LState),
      runScript h ty fin k ls (unregAll cs) s = cs.foldl (fun s c => unregister h ty fin k ls c s) s
  | [], _ => rfl
  | _ :: cs, _ => runScript_unregAll h ty fin k ls cs _

/-! ### `register`, `unregister` and scripts on a tree -/

/-- `register` of item `k` (links `ls` from there on) is exact: on an object nothing of whose subtree is
registered it keeps the state consistent and adds exactly that subtree, level by level. -/
def RegExact (h : Heap) (N : Name) (k : Nat) (ls : List Link) : Prop :=
  ∀ (c : Nat) (s : LState), Good N s → (∀ m x, Below h N.links k c m x → ∀ m', x ∉ s.active m') →
    Good N (register h N.htype N.final k ls c s) ∧
    ∀ m x, x ∈ (register h N.htype N.final k ls c s).active m ↔ x ∈ s.active m ∨ Below h N.links k c m x

/-- `unregister` of item `k` is exact: on an object all of whose subtree is registered (at its levels) it
keeps the state consistent and removes exactly that subtree. -/
def UnregExact (h : Heap) (N : Name) (k : Nat) (ls : List Link) : Prop :=
  ∀ (c : Nat) (s : LState), Good N s → (∀ m x, Below h N.links k c m x → x ∈ s.active m) →
    Good N (unregister h N.htype N.final k ls c s) ∧
    ∀ m x, x ∈ (unregister h N.htype N.final k ls c s).active m ↔ x ∈ s.active m ∧ ¬ Below h N.links k c m x

section
variable {h : Heap} (ht : TreeShaped h) {N : Name}
include ht

/-- A script of item `k`, given that `register` and `unregister` of that item are exact: the subtrees it
unregisters (distinct objects, registered) leave, the subtrees it registers (distinct children of one
object, nothing of them registered) enter, in whatever order the script goes.  The walk of `register` /
`unregister` over the children of an object is such a script one item down (`walk_exact`). -/
theorem runScript_of_exact {k : Nat} {a : Attr} {o : Nat} {ls : List Link}
    (hreg : RegExact h N k ls) (hunreg : UnregExact h N k ls) :
    ∀ (sc : List Act) (s : LState), Good N s →
      (∀ c ∈ scUnregs sc, ∀ m x, Below h N.links k c m x → x ∈ s.active m) →
      (∀ c ∈ scRegs sc, c ∈ targets h a o ∧ ∀ m x, Below h N.links k c m x → ∀ m', x ∉ s.active m') →
      (scUnregs sc).Nodup → (scRegs sc).Nodup →
      Good N (runScript h N.htype N.final k ls sc s) ∧
      ∀ m x, x ∈ (runScript h N.htype N.final k ls sc s).active m ↔
        (x ∈ s.active m ∧ ¬ ∃ c ∈ scUnregs sc, Below h N.links k c m x) ∨
        ∃ c ∈ scRegs sc, Below h N.links k c m x
  | [], s, hg, _, _, _, _ => ⟨hg, by simp [runScript, scUnregs, scRegs]⟩
  | .unreg c :: sc, s, hg, hU, hR, hUnd, hRnd => by
    simp only [scUnregs, scRegs, nodup_cons] at hU hR hUnd hRnd ⊢
    obtain ⟨hg1, hact1⟩ := hunreg c s hg (hU c (by simp))
    -- the other subtrees to unregister hang below other objects of the same depth
    obtain ⟨hg2, hact2⟩ := runScript_of_exact hreg hunreg sc _ hg1
      (fun c' hc' m x hx => (hact1 m x).mpr ⟨hU c' (by simp [hc']) m x hx,
        fun hx' => hUnd.1 (hx'.same_root ht hx ▸ hc')⟩)
      (fun c' hc' => ⟨(hR c' hc').1, fun m x hx m' hm => (hR c' hc').2 m x hx m' ((hact1 m' x).mp hm).1⟩)
      hUnd.2 hRnd
    refine ⟨hg2, fun m x => ?_⟩
    rw [runScript, hact2, hact1, and_assoc]
    simp only [mem_cons, or_and_right, exists_or, exists_eq_left, not_or]
  | .reg c :: sc, s, hg, hU, hR, hUnd, hRnd => by
    simp only [scUnregs, scRegs, nodup_cons] at hU hR hUnd hRnd ⊢
    obtain ⟨hg1, hact1⟩ := hreg c s hg (hR c (by simp)).2
    -- the other subtrees to register hang below siblings of `c`
    obtain ⟨hg2, hact2⟩ := runScript_of_exact hreg hunreg sc _ hg1
      (fun c' hc' m x hx => (hact1 m x).mpr (Or.inl (hU c' hc' m x hx)))
      (fun c' hc' => ⟨(hR c' (by simp [hc'])).1, fun m x hx m' hm =>
        ((hact1 m' x).mp hm).elim ((hR c' (by simp [hc'])).2 m x hx m')
          (fun h1 => h1.siblings_disjoint ht (hR c (by simp)).1 (hR c' (by simp [hc'])).1
            (fun e => hRnd.1 (e ▸ hc')) hx)⟩)
      hUnd hRnd.2
    refine ⟨hg2, fun m x => ?_⟩
    -- nothing of the new subtree lies in a subtree that is unregistered
    have hno : Below h N.links k c m x → ¬ ∃ c' ∈ scUnregs sc, Below h N.links k c' m x :=
      fun h1 ⟨c', hc', hx⟩ => (hR c (by simp)).2 m x h1 m (hU c' hc' m x hx)
    rw [runScript, hact2, hact1, or_and_right, and_iff_left_of_imp hno, or_assoc]
    simp only [mem_cons, or_and_right, exists_or, exists_eq_left]

/-- `register` and `unregister` of every item are exact: after the object itself they run, over its
children along the next link, the script `regAll` / `unregAll` of the next item. -/
theorem walk_exact (N : Name) : ∀ (ls : List Link) (k : Nat), N.links.drop k = ls → k ≤ N.links.length →
    RegExact h N k ls ∧ UnregExact h N k ls
  | [], k, hd, hk => by
    have hend : ∀ o l, N.links[k]? = some l → targets h l.attr o = [] := fun o l hl => by
      rw [getElem?_eq_none (by simpa using hd)] at hl; cases hl
    refine ⟨fun o s hg hfresh => ?_, fun o s hg hall => ?_⟩
    · have ho : ∀ m, o ∉ s.active m := hfresh k o .self
      simp only [register, if_neg (ho k)]
      rw [← itemHooks_of_drop_nil hd hk]
      exact ⟨hg.regObj ho, fun m x => by rw [addHooks_active, mem_addActive, below_leaf (hend o)]⟩
    · have ho : o ∈ s.active k := hall k o .self
      simp only [unregister, if_pos ho]
      rw [← itemHooks_of_drop_nil hd hk]
      exact ⟨hg.unregObj ho, fun m x => by rw [delHooks_active, mem_popActive, below_leaf (hend o)]⟩
  | l :: rest, k, hd, hk => by
    obtain ⟨hlk, hdrop, hklt⟩ := drop_cons_getElem? hd
    obtain ⟨ihr, ihu⟩ := walk_exact N rest (k + 1) hdrop (by omega)
    have hlt : ∀ {o c m x}, c ∈ targets h l.attr o → Below h N.links (k + 1) c m x → x ≠ o := by
      intro o c m x hc hx e
      have := ht.up _ _ _ hc; have := hx.le ht; omega
    refine ⟨fun o s hg hfresh => ?_, fun o s hg hall => ?_⟩
    · have ho : ∀ m, o ∉ s.active m := hfresh k o .self
      simp only [register, if_neg (ho k)]
      rw [← itemHooks_of_drop_cons hd, ← runScript_regAll]
      obtain ⟨hg2, hact2⟩ := runScript_of_exact ht (a := l.attr) (o := o) ihr ihu (regAll (targets h l.attr o)) _
        (hg.regObj (k := k) ho) (by simp)
        (by
          simp only [scRegs_regAll]
          refine fun c hc => ⟨hc, fun m x hx m' hm' => ?_⟩
          rw [addHooks_active, mem_addActive] at hm'
          exact hm'.elim (hfresh m x ((below_step hlk).mpr (Or.inr ⟨c, hc, hx⟩)) m') (fun e => hlt hc hx e.2))
        (by simp) (by simpa using ht.nodup _ _)
      refine ⟨hg2, fun m x => ?_⟩
      rw [hact2, addHooks_active, mem_addActive, below_step hlk]
      simp [or_assoc]
    · have ho : o ∈ s.active k := hall k o .self
      simp only [unregister, if_pos ho]
      rw [← itemHooks_of_drop_cons hd, ← runScript_unregAll]
      obtain ⟨hg2, hact2⟩ := runScript_of_exact ht (a := l.attr) (o := o) ihr ihu (unregAll (targets h l.attr o)) _
        (hg.unregObj ho)
        (by
          simp only [scUnregs_unregAll]
          intro c hc m x hx
          rw [delHooks_active, mem_popActive]
          exact ⟨hall m x ((below_step hlk).mpr (Or.inr ⟨c, hc, hx⟩)), fun e => hlt hc hx e.2⟩)
        (by simp) (by simpa using ht.nodup _ _) (by simp)
      refine ⟨hg2, fun m x => ?_⟩
      rw [hact2, delHooks_active, mem_popActive, below_step hlk]
      simp [and_assoc, not_or]

theorem register_spec (N : Name) {ls : List Link} {k : Nat} (hd : N.links.drop k = ls)
    (hk : k ≤ N.links.length) : RegExact h N k ls :=
  (walk_exact ht N ls k hd hk).1

theorem unregister_spec (N : Name) {ls : List Link} {k : Nat} (hd : N.links.drop k = ls)
    (hk : k ≤ N.links.length) : UnregExact h N k ls :=
  (walk_exact ht N ls k hd hk).2

end

/-! ### dispatch on the three possible notifier lists of an object -/

theorem dispatch_nil {h : Heap} {N : Name} {o : Nat} {t : Trait} {sc : List Act} {s : LState}
    (hh : s.hooks o = []) : dispatch h N o t sc s = (s, []) := by
  simp [dispatch, snapshot, hh]

theorem dispatch_final {h : Heap} {N : Name} {o : Nat} {t : Trait} {sc : List Act} {s : LState}
    {f : Final} (hh : s.hooks o = finalHooks f) :
    dispatch h N o t sc s = (s, if t = .final f then [(o, t)] else []) := by
  by_cases ht : t = .final f
  · subst ht; simp [dispatch, snapshot, hh, finalHooks, callOne]
  · have : ¬ (Trait.final f = t) := fun e => ht e.symm
    simp [dispatch, snapshot, hh, finalHooks, ht, this]

/-- Does the item of link `l` re-register on a change of trait `t`? -/
def Handles (l : Link) (t : Trait) : Prop :=
  t = .link l.attr ∨ (t = .items l.attr ∧ isContainer l.attr = true)

/-- Does the item of link `l`, of item type `ty`, call the user's handler for trait `t`? -/
def Notifies (ty : LType) (l : Link) (t : Trait) : Prop :=
  l.notify = true ∧ (t = .link l.attr ∨ (t = .items l.attr ∧ isContainer l.attr = true ∧ ty = .any))

instance (l : Link) (t : Trait) : Decidable (Handles l t) := by unfold Handles; infer_instance
instance (ty : LType) (l : Link) (t : Trait) : Decidable (Notifies ty l t) := by
  unfold Notifies; infer_instance

/-- One handler on `name` and, if `p`, on `name_items`: which of the two notifiers serve trait `t`. -/
theorem filter_pair (a : Attr) (r : HRef) (p : Prop) [Decidable p] (t : Trait) :
    (((Trait.link a, r) :: (if p then [(Trait.items a, r)] else [])).filter (fun q => q.1 = t)).map (·.2) =
      if t = .link a ∨ (t = .items a ∧ p) then [r] else [] := by
  by_cases h1 : t = .link a
  · subst h1; by_cases hp : p <;> simp [hp]
  · by_cases h2 : t = .items a
    · subst h2; by_cases hp : p <;> simp [hp]
    · have h1' : ¬ Trait.link a = t := fun e => h1 e.symm
      have h2' : ¬ Trait.items a = t := fun e => h2 e.symm
      by_cases hp : p <;> simp [hp, h1, h2, h1', h2']

/-- The notifiers of trait `t` among those of a non-final item: the user's handler if the item
reports `t`, then the item's own `handle_*` method if it re-registers on `t`. -/
theorem snapshot_link {o : Nat} {t : Trait} {s : LState} {ty : LType} {k : Nat} {l : Link}
    (hh : s.hooks o = linkHooks ty k l) :
    snapshot s o t = (if Notifies ty l t then [.user] else []) ++ (if Handles l t then [.tl k] else []) := by
  obtain ⟨a, n⟩ := l
  unfold snapshot
  rw [hh, linkHooks, filter_append, map_append, filter_pair]
  cases n
  · simp [Handles, Notifies]
  · rw [if_pos rfl, filter_pair]
    simp [Handles, Notifies]

theorem dispatch_link {h : Heap} {N : Name} {o : Nat} {t : Trait} {sc : List Act} {s : LState}
    {ty : LType} {k : Nat} {l : Link} (hh : s.hooks o = linkHooks ty k l) :
    dispatch h N o t sc s =
      (if Handles l t then runScript h N.htype N.final (k + 1) (N.links.drop (k + 1)) sc s else s,
       if Notifies ty l t then [(o, t)] else []) := by
  rw [dispatch, snapshot_link hh]
  split <;> split <;> rfl

/-! ### the invariant -/

/-- The refinement invariant: on a tree-shaped heap the `active` table of item
`m` holds exactly the objects at depth `m` along the name (nothing when not
registered), and every object carries exactly the notifiers of its item. -/
structure Inv (N : Name) (st : St) : Prop where
  tree : TreeShaped st.h
  good : Good N st.s
  act : ∀ m x, x ∈ st.s.active m ↔ (st.registered = true ∧ x ∈ reach st.h N.links m)

theorem TreeShaped.init : TreeShaped Heap.init := by
  have hT : ∀ a o, targets Heap.init a o = [] := by intro a o; cases a <;> rfl
  refine ⟨?_, ?_, ?_, ?_, ?_, by simp [Heap.init], ?_⟩
  · intro o a c hc; simp [hT] at hc
  · intro c o₁ a₁ o₂ a₂ hc; simp [hT] at hc
  · intro o a; simp [hT]
  · intro o a c hc; simp [hT] at hc
  · intro o a _; exact hT a o
  · intro o; simp [Heap.init]

theorem Inv.init (N : Name) : Inv N St.init :=
  ⟨TreeShaped.init, Good.empty N, by simp [St.init, LState.empty]⟩

theorem Inv.hooks {N : Name} {st : St} (hinv : Inv N st) (o : Nat) :
    (∀ k, st.registered = true → o ∈ reach st.h N.links k → st.s.hooks o = itemHooks N k) ∧
    ((st.registered = false ∨ ∀ k, o ∉ reach st.h N.links k) → st.s.hooks o = []) := by
  refine ⟨fun k hr hk => hinv.good.exact o k ((hinv.act k o).mpr ⟨hr, hk⟩), fun hoff => ?_⟩
  refine hinv.good.none o (fun k hk => ?_)
  obtain ⟨hr, hx⟩ := (hinv.act k o).mp hk
  exact hoff.elim (fun h => by rw [h] at hr; cases hr) (fun h => h k hx)

theorem reach_le_length {h : Heap} {L : List Link} {m x : Nat} (hx : x ∈ reach h L m) : m ≤ L.length := by
  cases m with
  | zero => omega
  | succ m =>
    obtain ⟨l, _, hl, _, _⟩ := mem_reach_succ.mp hx
    obtain ⟨hlt, _⟩ := List.getElem?_eq_some_iff.mp hl
    omega

theorem step_eq (N : Name) (st : St) {op : Op} (h1 : op ≠ .reg) (h2 : op ≠ .unreg) :
    step N st op =
      match mutate st.h op with
      | none => (st, false, [])
      | some m =>
        if m.fires then
          ({ st with h := m.h', s := (dispatch m.h' N m.o m.trait m.script st.s).1 }, true,
            (dispatch m.h' N m.o m.trait m.script st.s).2)
        else ({ st with h := m.h' }, true, []) := by
  cases op <;> first | exact absurd rfl h1 | exact absurd rfl h2 | rfl

theorem step_of_mutate {N : Name} {st : St} {op : Op} {m : Mut} (hm : mutate st.h op = some m) :
    step N st op =
      if m.fires then
        ({ st with h := m.h', s := (dispatch m.h' N m.o m.trait m.script st.s).1 }, true,
          (dispatch m.h' N m.o m.trait m.script st.s).2)
      else ({ st with h := m.h' }, true, []) := by
  rw [step_eq N st (fun e => by rw [e] at hm; cases hm) (fun e => by rw [e] at hm; cases hm), hm]

/-- What the legacy handler is told about a change of trait `t` of object `o`. -/
def Reports (N : Name) (h : Heap) (o : Nat) : Trait → Prop
  | .final f => f = N.final ∧ o ∈ reach h N.links N.links.length
  | .link a => ∃ k l, N.links[k]? = some l ∧ l.attr = a ∧ l.notify = true ∧ o ∈ reach h N.links k
  | .items a => ∃ k l, N.links[k]? = some l ∧ l.attr = a ∧ l.notify = true ∧
      typeOf N.htype k = .any ∧ o ∈ reach h N.links k

/-- The result of a trait change notification in a state satisfying the invariant, by the
position of the object: nothing registered or the object off the name; or the object at some
depth `k`, the last one or that of a link. -/
theorem dispatch_pos {N : Name} {st : St} (hinv : Inv N st) (h' : Heap) (o : Nat) (t : Trait)
    (sc : List Act) :
    ((st.registered = false ∨ ∀ k, o ∉ reach st.h N.links k) ∧ dispatch h' N o t sc st.s = (st.s, [])) ∨
    (st.registered = true ∧ ∃ k, o ∈ reach st.h N.links k ∧
      ((k = N.links.length ∧
          dispatch h' N o t sc st.s = (st.s, if t = .final N.final then [(o, t)] else [])) ∨
       ∃ l, N.links[k]? = some l ∧
          dispatch h' N o t sc st.s =
            (if Handles l t then runScript h' N.htype N.final (k + 1) (N.links.drop (k + 1)) sc st.s
             else st.s,
             if Notifies (typeOf N.htype k) l t then [(o, t)] else []))) := by
  by_cases hoff : st.registered = false ∨ ∀ k, o ∉ reach st.h N.links k
  · exact Or.inl ⟨hoff, dispatch_nil ((hinv.hooks o).2 hoff)⟩
  · obtain ⟨hr, hk⟩ := not_or.mp hoff
    obtain ⟨k, hok⟩ := Classical.not_forall.mp hk
    have hok := Classical.not_not.mp hok
    have hr : st.registered = true := by simpa using hr
    have hh := (hinv.hooks o).1 k hr hok
    refine Or.inr ⟨hr, k, hok, ?_⟩
    rcases Nat.eq_or_lt_of_le (reach_le_length hok) with rfl | hlt
    · exact Or.inl ⟨rfl, dispatch_final (by rw [hh]; simp [itemHooks])⟩
    · exact Or.inr ⟨N.links[k], by simp [hlt], dispatch_link (by rw [hh]; simp [itemHooks, hlt])⟩

end TraitsVerif.Model.Legacy
