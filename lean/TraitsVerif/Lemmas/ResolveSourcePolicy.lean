/-
`…_src` lemmas of the per-kind handlers: `setattr_python`, `setattr_disallow`, `setattr_readonly`,
`setattr_constant`, `getattr_event`, `getattr_disallow`, `getattr_constant`.  The lookup functions reach a
handler through the primitives `trait_setattr` / `trait_getattr`, never through its program, so nothing in
Lemmas/ResolveSource2-4 rests on this file.  The handlers that never look at the state are closed
straight-line programs: they run as they stand (`rfl`).
-/
import TraitsVerif.Lemmas.ResolveSource
namespace TraitsVerif.Model.ResL
open TraitsVerif TraitsVerif.Model.Resolve TraitsVerif.Generated

/-- What `setattr_python(traito, traitd, obj, name, value)` does: a store creates a NULL `__dict__`. -/
def setattrPythonV (st : St) (k : Name) : Option Val → St × V
  | some v => ({ st.putDict (st.o.dict.set k v) with fresh := if st.nullO then some .O else st.fresh }, .int 0)
  | none =>
    match st.o.dict.get k with
    | some _ => (st.putDict (st.o.dict.erase k), .int 0)
    | none => ({ st with err := some .attributeError }, .int (-1))

theorem asDict_setattrPythonV (st : St) (k : Name) (value : Option Val) :
    asDict (setattrPythonV st k value) = some (setattrPython st.o.dict k value) := by
  unfold setattrPythonV setattrPython
  cases value with
  | some v => rfl
  | none => cases st.o.dict.get k <;> rfl

theorem setattr_python_run (E : Env) (st : St) (t t' : Trait) (k : Name) (value : Option Val)
    (hO : st.nullO = true → st.o.dict = []) :
    user2 E .setattr_python [.trait t, .trait t', .obj, .name k, vOpt value] st = setattrPythonV st k value := by
  obtain ⟨w, oi, o, c, nI, nO, fr, er, env⟩ := st
  have hd : nO = true → o.dict = [] := hO
  simp only [user2, runFun_mk]
  resl_eval [ResolveC.setattr_python]
  cases value with
  | some v =>
    cases nO with
    | true => resl_eval [setattrPythonV, hd rfl, setDict_setDict]
    | false => resl_eval [setattrPythonV]
  | none =>
    cases nO with
    | true => resl_eval [user1, user0, unknown_attribute_error_run, setattrPythonV, hd rfl, Map.get_nil]
    | false =>
      cases hd : o.dict.get k <;> resl_eval [user1, user0, unknown_attribute_error_run, setattrPythonV, hd]

theorem setattr_python_src (E : Env) (st : St) (t t' : Trait) (k : Name) (value : Option Val)
    (hO : st.nullO = true → st.o.dict = []) :
    asDict (user2 E .setattr_python [.trait t, .trait t', .obj, .name k, vOpt value] st)
      = some (setattrPython st.o.dict k value) := by
  rw [setattr_python_run E st t t' k value hO, asDict_setattrPythonV]

theorem setattr_disallow_src (E : Env) (st : St) (t t' : Trait) (k : Name) (value : Option Val) :
    asDict (user2 E .setattr_disallow [.trait t, .trait t', .obj, .name k, vOpt value] st)
      = some (.error .traitError) := rfl

theorem setattr_constant_src (E : Env) (st : St) (t t' : Trait) (k : Name) (value : Option Val) :
    asDict (user2 E .setattr_constant [.trait t, .trait t', .obj, .name k, vOpt value] st)
      = some (.error .traitError) := rfl

theorem setattr_readonly_src (E : Env) (st : St) (t t' : Trait) (k : Name) (value : Option Val)
    (hk : t'.kind = .readonly) (hO : st.nullO = true → st.o.dict = []) :
    asDict (user3 E .setattr_readonly [.trait t, .trait t', .obj, .name k, vOpt value] st)
      = some (setattrKind E t' st.o.dict k value) := by
  obtain ⟨w, oi, o, c, nI, nO, fr, er, env⟩ := st
  have hd : nO = true → o.dict = [] := hO
  have hp := fun env' => setattr_python_run E (St.mk w oi o c nI nO fr er env') t t' k value hO
  simp only [user3, runFun_mk, setattrKind, hk]
  resl_eval [ResolveC.setattr_readonly]
  cases value with
  | none => resl_eval [user2, user1, delete_readonly_error_run]; rfl
  | some v =>
    resl_eval [V.val.injEq]
    by_cases hdf : t'.dflt = .undef
    · resl_eval [hdf]
      cases nO with
      | true => resl_eval [hp, setattrPythonV, hd rfl]; rfl
      | false =>
        cases hg : o.dict.get k with
        | none => resl_eval [hg, hp, setattrPythonV]; rfl
        | some cur =>
          resl_eval [hg, V.val.injEq]
          by_cases hu : cur = .undef
          · resl_eval [hu, hp, setattrPythonV]; rfl
          · resl_eval [hu, user2, user1, set_readonly_error_run]; rfl
    · resl_eval [hdf, user2, user1, set_readonly_error_run]; rfl

theorem getattr_event_src (E : Env) (st : St) (t : Trait) (k : Name) :
    asValDict (user2 E .getattr_event [.trait t, .obj, .name k] st) = some (.error .attributeError) := rfl

theorem getattr_disallow_src (E : Env) (st : St) (t : Trait) (k : Name) :
    asValDict (user2 E .getattr_disallow [.trait t, .obj, .name k] st) = some (.error .attributeError) := rfl

theorem getattr_constant_src (E : Env) (st : St) (t : Trait) (k : Name) :
    asValDict (user2 E .getattr_constant [.trait t, .obj, .name k] st) = some (.ok (t.dflt, st.o.dict)) := rfl

end TraitsVerif.Model.ResL
