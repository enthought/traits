/-
Cluster `obs`: basic lemmas — induction on observer graphs, graph equality is an
equivalence, association-list lookups, and how the four `add_to` / `remove_from`
functions change the count of registrations held at a notifier list.
-/
import TraitsVerif.Model.Maintain
namespace TraitsVerif.Model.Obs
open TraitsVerif

/-! ### induction on graphs -/

mutual
theorem Graph.ind {P : Graph → Prop} (step : ∀ ob cs, (∀ c ∈ cs, P c) → P (.node ob cs)) : (g : Graph) → P g
  | .node ob cs => step ob cs (Graph.indList step cs)
theorem Graph.indList {P : Graph → Prop} (step : ∀ ob cs, (∀ c ∈ cs, P c) → P (.node ob cs)) :
    (cs : List Graph) → ∀ c ∈ cs, P c
  | [] => by intro c hc; cases hc
  | c :: cs => by
    intro x hx
    cases hx with
    | head => exact Graph.ind step c
    | tail _ h => exact Graph.indList step cs x h
end

/-! ### `ObserverGraph.__eq__` -/

theorem Graph.anyL_iff (cs : List Graph) (c' : Graph) :
    Graph.anyL cs c' = true ↔ ∃ c ∈ cs, Graph.beq c c' = true := by
  induction cs with
  | nil => simp [Graph.anyL]
  | cons c cs ih => simp [Graph.anyL, ih]

theorem Graph.allAny_iff (cs cs' : List Graph) :
    Graph.allAny cs cs' = true ↔ ∀ c ∈ cs, ∃ c' ∈ cs', Graph.beq c c' = true := by
  induction cs with
  | nil => simp [Graph.allAny]
  | cons c cs ih => simp [Graph.allAny, ih]

theorem Graph.beq_iff (o o' : Observer) (cs cs' : List Graph) :
    Graph.beq (.node o cs) (.node o' cs') = true ↔
      o = o' ∧ (∀ c ∈ cs, ∃ c' ∈ cs', Graph.beq c c' = true) ∧ (∀ c' ∈ cs', ∃ c ∈ cs, Graph.beq c c' = true) := by
  simp [Graph.beq, Graph.allAny_iff, Graph.anyL_iff, and_assoc]

theorem Graph.beq_refl : ∀ g : Graph, Graph.beq g g = true := by
  apply Graph.ind
  intro ob cs ih
  rw [Graph.beq_iff]
  exact ⟨rfl, fun c hc => ⟨c, hc, ih c hc⟩, fun c hc => ⟨c, hc, ih c hc⟩⟩

theorem Graph.beq_symm : ∀ g g' : Graph, Graph.beq g g' = true → Graph.beq g' g = true := by
  apply Graph.ind
  intro ob cs ih g'
  cases g' with
  | node ob' cs' =>
    rw [Graph.beq_iff, Graph.beq_iff]
    rintro ⟨ho, h1, h2⟩
    refine ⟨ho.symm, ?_, ?_⟩
    · intro c' hc'
      obtain ⟨c, hc, hb⟩ := h2 c' hc'
      exact ⟨c, hc, ih c hc c' hb⟩
    · intro c hc
      obtain ⟨c', hc', hb⟩ := h1 c hc
      exact ⟨c', hc', ih c hc c' hb⟩

theorem Graph.beq_trans : ∀ g g' g'' : Graph, Graph.beq g g' = true → Graph.beq g' g'' = true →
    Graph.beq g g'' = true := by
  apply Graph.ind
  intro ob cs ih g' g''
  cases g' with
  | node ob' cs' =>
    cases g'' with
    | node ob'' cs'' =>
      rw [Graph.beq_iff, Graph.beq_iff, Graph.beq_iff]
      rintro ⟨ho, h1, h2⟩ ⟨ho', h1', h2'⟩
      refine ⟨ho.trans ho', ?_, ?_⟩
      · intro c hc
        obtain ⟨c', hc', hb⟩ := h1 c hc
        obtain ⟨c'', hc'', hb'⟩ := h1' c' hc'
        exact ⟨c'', hc'', ih c hc c' c'' hb hb'⟩
      · intro c'' hc''
        obtain ⟨c', hc', hb'⟩ := h2' c'' hc''
        obtain ⟨c, hc, hb⟩ := h2 c' hc'
        exact ⟨c, hc, ih c hc c' c'' hb hb'⟩

/-! ### notifier `equals` -/

theorem NKey.equals_refl (q : NKey) : q.equals q = true := by
  cases q <;> simp [NKey.equals, Graph.beq_refl]

theorem NKey.equals_symm {q q' : NKey} (h : q.equals q' = true) : q'.equals q = true := by
  cases q with
  | user k =>
    cases q' with
    | user k' => simp only [NKey.equals, beq_iff_eq] at h ⊢; exact h.symm
    | maint mk' g' k' => simp [NKey.equals] at h
  | maint mk g k =>
    cases q' with
    | user k' => simp [NKey.equals] at h
    | maint mk' g' k' =>
      simp only [NKey.equals, Bool.and_eq_true, beq_iff_eq] at h ⊢
      exact ⟨⟨h.1.1.symm, h.1.2.symm⟩, Graph.beq_symm _ _ h.2⟩

theorem NKey.equals_trans {q q' q'' : NKey} (h : q.equals q' = true) (h' : q'.equals q'' = true) :
    q.equals q'' = true := by
  cases q with
  | user k =>
    cases q' with
    | user k' =>
      cases q'' with
      | user k'' => simp only [NKey.equals, beq_iff_eq] at h h' ⊢; exact h.trans h'
      | maint mk'' g'' k'' => simp [NKey.equals] at h'
    | maint mk' g' k' => simp [NKey.equals] at h
  | maint mk g k =>
    cases q' with
    | user k' => simp [NKey.equals] at h
    | maint mk' g' k' =>
      cases q'' with
      | user k'' => simp [NKey.equals] at h'
      | maint mk'' g'' k'' =>
        simp only [NKey.equals, Bool.and_eq_true, beq_iff_eq] at h h' ⊢
        exact ⟨⟨h.1.1.trans h'.1.1, h.1.2.trans h'.1.2⟩, Graph.beq_trans _ _ _ h.2 h'.2⟩

theorem NKey.equals_congr {q q' : NKey} (h : q.equals q' = true) (p : NKey) :
    q.equals p = q'.equals p := by
  cases hp : q'.equals p
  · cases hq : q.equals p
    · rfl
    · have := NKey.equals_trans (NKey.equals_symm h) hq
      simp [hp] at this
  · exact NKey.equals_trans h hp

/-! ### association lists -/

@[simp] theorem Hooks.get_nil (o : Observable) : Hooks.get [] o = [] := rfl

/-- One proof for `Hooks.get_upd` and `Heap.get_upd`: `get` is any lookup with a default that reads the head
pair first. -/
theorem assoc_get_upd {α β} [DecidableEq α] (get : List (α × β) → α → β)
    (hcons : ∀ a' b l a, get ((a', b) :: l) a = if a' = a then b else get l a)
    (l : List (α × β)) (a a' : α) (b : β) :
    get ((a, b) :: l.filter (fun p => p.1 != a)) a' = if a' = a then b else get l a' := by
  rw [hcons]
  by_cases e : a' = a
  · rw [if_pos e.symm, if_pos e]
  · rw [if_neg (fun e' => e e'.symm), if_neg e]
    induction l with
    | nil => rfl
    | cons p l ih =>
      by_cases e1 : p.1 = a
      · rw [List.filter_cons_of_neg (by simpa using e1), ih, hcons, if_neg (fun e2 => e (e2.symm.trans e1))]
      · rw [List.filter_cons_of_pos (by simpa using e1), hcons, hcons, ih]

theorem Hooks.get_upd (H : Hooks) (o o' : Observable) (l : List Notifier) :
    (H.upd o l).get o' = if o' = o then l else H.get o' :=
  assoc_get_upd Hooks.get (fun _ _ _ _ => rfl) H o o' l

theorem Heap.get_upd (h : Heap) (i j : Id) (o : Obj) :
    (h.upd i o).get j = if j = i then o else h.get j :=
  assoc_get_upd Heap.get (fun _ _ _ _ => rfl) h i j o

/-! ### counting at one notifier list -/

def hit (q' q : NKey) : Nat := if q'.equals q then 1 else 0

theorem hit_congr {q q' : NKey} (h : q.equals q' = true) (p : NKey) : hit q p = hit q' p := by
  simp [hit, NKey.equals_congr h p]

theorem hit_self (q : NKey) : hit q q = 1 := by simp [hit, NKey.equals_refl]

/-- Well-formed list: no user notifier with reference count 0 (the state
`remove_from` would turn into a RuntimeError). -/
def WFList (ns : List Notifier) : Prop := ∀ k rc, Notifier.user k rc ∈ ns → 0 < rc

theorem WFList.tail {n : Notifier} {ns : List Notifier} (h : WFList (n :: ns)) : WFList ns :=
  fun k rc hm => h k rc (List.mem_cons_of_mem _ hm)

theorem WFList.cons {n : Notifier} {ns : List Notifier} (hn : ∀ k, n ≠ .user k 0) (h : WFList ns) : WFList (n :: ns) := by
  intro k rc hm
  rcases List.mem_cons.1 hm with rfl | hm
  · exact Nat.pos_of_ne_zero fun e => hn k (e ▸ rfl)
  · exact h k rc hm

def Notifier.weight : Notifier → Nat
  | .user _ rc => rc
  | .maint .. => 1

theorem cntList_cons (q : NKey) (n : Notifier) (ns : List Notifier) :
    cntList q (n :: ns) = n.weight * hit n.key q + cntList q ns := by
  cases n <;> simp only [cntList, hit, Notifier.weight, Notifier.key] <;> split <;> simp [*]

theorem cntList_append (q : NKey) (a b : List Notifier) :
    cntList q (a ++ b) = cntList q a + cntList q b := by
  induction a with
  | nil => simp [cntList]
  | cons n a ih => rw [List.cons_append, cntList_cons, cntList_cons, ih, Nat.add_assoc]

/-! `add_to` -/

theorem cntList_userAdd (q : NKey) (k : HKey) (ns : List Notifier) :
    cntList q (userAdd k ns) = cntList q ns + hit (.user k) q := by
  induction ns with
  | nil => simp [userAdd, cntList, hit]
  | cons n ns ih =>
    cases n with
    | user k' rc =>
      simp only [userAdd]
      split
      · next e =>
        cases (beq_iff_eq.1 e)
        simp only [cntList_cons, Notifier.weight, Notifier.key, Nat.add_mul]; omega
      · simp only [cntList_cons, ih]; omega
    | maint mk g k' => simp only [userAdd, cntList_cons, ih]; omega

theorem cntList_addKey (q q' : NKey) (ns : List Notifier) :
    cntList q (addKey q' ns) = cntList q ns + hit q' q := by
  cases q' with
  | user k => exact cntList_userAdd q k ns
  | maint mk g k => simp [addKey, maintAdd, cntList_append, cntList, hit]

theorem WFList_addKey (q : NKey) (ns : List Notifier) (h : WFList ns) : WFList (addKey q ns) := by
  cases q with
  | maint mk g k =>
    intro k' rc hm
    simp [addKey, maintAdd] at hm
    exact h _ _ hm
  | user k =>
    simp only [addKey]
    induction ns with
    | nil => exact WFList.cons (fun _ e => by cases e) h
    | cons n ns ih =>
      cases n with
      | maint => exact WFList.cons (fun _ e => by cases e) (ih h.tail)
      | user k' rc =>
        have := h k' rc (List.mem_cons_self ..)
        simp only [userAdd]
        split
        · exact WFList.cons (fun _ e => by cases e) h.tail
        · exact WFList.cons (fun _ e => by cases e; omega) (ih h.tail)

/-! `remove_from`: the two classes differ only in what happens to the first equal notifier -/

/-- `remove_from` at the first equal notifier `n` (the rest of the list is `ns`) -/
def Notifier.dec : Notifier → List Notifier → Except Exc (List Notifier)
  | .user k rc, ns => if rc = 1 then .ok ns else if rc = 0 then .error .runtimeError else .ok (.user k (rc - 1) :: ns)
  | .maint .., ns => .ok ns

theorem removeKey_nil (q : NKey) : removeKey q [] = .error .notifierNotFound := by cases q <;> rfl

theorem removeKey_cons (q : NKey) (n : Notifier) (ns : List Notifier) :
    removeKey q (n :: ns) = if n.key.equals q then n.dec ns else (removeKey q ns).map (n :: ·) := by
  cases q <;> cases n <;> simp [removeKey, userRemove, maintRemove, Notifier.key, NKey.equals, Notifier.dec, BEq.comm]

theorem Notifier.dec_ok {n : Notifier} {ns ns' : List Notifier} (h : n.dec ns = .ok ns') :
    (n.weight = 1 ∧ ns' = ns) ∨ ∃ k rc, n = .user k (rc + 2) ∧ ns' = .user k (rc + 1) :: ns := by
  cases n with
  | maint => cases h; exact .inl ⟨rfl, rfl⟩
  | user k rc =>
    match rc with
    | 0 => cases h
    | 1 => cases h; exact .inl ⟨rfl, rfl⟩
    | rc + 2 => cases h; exact .inr ⟨k, rc, rfl, rfl⟩

theorem Notifier.dec_isOk {n : Notifier} (ns : List Notifier) (h : 0 < n.weight) : ∃ ns', n.dec ns = .ok ns' := by
  cases n with
  | maint => exact ⟨_, rfl⟩
  | user k rc =>
    match rc with
    | 0 => cases h
    | 1 => exact ⟨_, rfl⟩
    | rc + 2 => exact ⟨_, rfl⟩

theorem WFList.weight_pos {n : Notifier} {ns : List Notifier} (h : WFList (n :: ns)) : 0 < n.weight := by
  cases n with
  | user k rc => exact h k rc (List.mem_cons_self ..)
  | maint => exact Nat.one_pos

theorem cntList_removeKey (q q' : NKey) (ns ns' : List Notifier) (h : removeKey q' ns = .ok ns') :
    cntList q ns' + hit q' q = cntList q ns := by
  induction ns generalizing ns' with
  | nil => rw [removeKey_nil] at h; cases h
  | cons n ns ih =>
    rw [removeKey_cons] at h
    rw [cntList_cons]
    by_cases he : n.key.equals q' = true
    · rw [if_pos he] at h
      rw [← hit_congr he q]
      rcases Notifier.dec_ok h with ⟨hw, rfl⟩ | ⟨k, rc, rfl, rfl⟩
      · rw [hw]; omega
      · simp only [cntList_cons, Notifier.weight, Notifier.key, Nat.add_mul]; omega
    · rw [if_neg he] at h
      cases hr : removeKey q' ns with
      | error e => rw [hr] at h; cases h
      | ok l =>
        rw [hr] at h; cases h
        have := ih l hr
        rw [cntList_cons]; omega

theorem WFList_removeKey (q : NKey) (ns ns' : List Notifier) (hw : WFList ns)
    (h : removeKey q ns = .ok ns') : WFList ns' := by
  induction ns generalizing ns' with
  | nil => rw [removeKey_nil] at h; cases h
  | cons n ns ih =>
    rw [removeKey_cons] at h
    by_cases he : n.key.equals q = true
    · rw [if_pos he] at h
      rcases Notifier.dec_ok h with ⟨_, rfl⟩ | ⟨k, rc, rfl, rfl⟩
      · exact hw.tail
      · exact WFList.cons (fun _ e => by cases e) hw.tail
    · rw [if_neg he] at h
      cases hr : removeKey q ns with
      | error e => rw [hr] at h; cases h
      | ok l =>
        rw [hr] at h; cases h
        exact WFList.cons (fun k e => by have := hw.weight_pos; rw [e] at this; cases this) (ih l hw.tail hr)

theorem removeKey_ok (q : NKey) (ns : List Notifier) (hw : WFList ns) (hpos : 0 < cntList q ns) :
    ∃ ns', removeKey q ns = .ok ns' := by
  induction ns with
  | nil => cases hpos
  | cons n ns ih =>
    rw [removeKey_cons]
    by_cases he : n.key.equals q = true
    · rw [if_pos he]; exact Notifier.dec_isOk ns hw.weight_pos
    · rw [cntList_cons] at hpos
      obtain ⟨l, hl⟩ := ih hw.tail (by simpa [hit, he] using hpos)
      exact ⟨n :: l, by rw [if_neg he, hl]; rfl⟩

theorem removeKey_none (q : NKey) (ns : List Notifier) (hw : WFList ns) (h0 : cntList q ns = 0) :
    removeKey q ns = .error .notifierNotFound := by
  induction ns with
  | nil => exact removeKey_nil q
  | cons n ns ih =>
    rw [cntList_cons] at h0
    have hp := hw.weight_pos
    have hne : ¬ n.key.equals q = true := by
      intro he
      have : hit n.key q = 1 := by simp [hit, he]
      rw [this] at h0; omega
    rw [removeKey_cons, if_neg hne, ih hw.tail (by omega)]; rfl

/-! ### the keys in a list after `add_to` / `remove_from` -/

theorem key_mem_addKey {q : NKey} {ns : List Notifier} {n : Notifier} (h : n ∈ addKey q ns) :
    n.key = q ∨ ∃ n' ∈ ns, n'.key = n.key := by
  cases q with
  | maint mk g k =>
    rcases List.mem_append.1 h with h | h
    · exact .inr ⟨n, h, rfl⟩
    · exact .inl (List.mem_singleton.1 h ▸ rfl)
  | user k =>
    simp only [addKey] at h
    induction ns with
    | nil => exact .inl (List.mem_singleton.1 h ▸ rfl)
    | cons m ns ih =>
      have tl : (n.key = .user k ∨ ∃ n' ∈ ns, n'.key = n.key) → n.key = .user k ∨ ∃ n' ∈ m :: ns, n'.key = n.key :=
        Or.imp_right fun ⟨n', hm, e⟩ => ⟨n', List.mem_cons_of_mem _ hm, e⟩
      cases m with
      | maint mk g k' =>
        rcases List.mem_cons.1 h with rfl | h
        · exact .inr ⟨_, List.mem_cons_self .., rfl⟩
        · exact tl (ih h)
      | user k' rc =>
        rw [userAdd] at h
        split at h
        · rcases List.mem_cons.1 h with rfl | h
          · exact .inr ⟨.user k' rc, List.mem_cons_self .., rfl⟩
          · exact .inr ⟨n, List.mem_cons_of_mem _ h, rfl⟩
        · rcases List.mem_cons.1 h with rfl | h
          · exact .inr ⟨_, List.mem_cons_self .., rfl⟩
          · exact tl (ih h)

theorem key_mem_removeKey {q : NKey} {ns ns' : List Notifier} {n : Notifier} (h : removeKey q ns = .ok ns')
    (hn : n ∈ ns') : ∃ n' ∈ ns, n'.key = n.key := by
  induction ns generalizing ns' with
  | nil => rw [removeKey_nil] at h; cases h
  | cons m ns ih =>
    rw [removeKey_cons] at h
    by_cases he : m.key.equals q = true
    · rw [if_pos he] at h
      rcases Notifier.dec_ok h with ⟨_, rfl⟩ | ⟨k, rc, rfl, rfl⟩
      · exact ⟨n, List.mem_cons_of_mem _ hn, rfl⟩
      · rcases List.mem_cons.1 hn with rfl | hn
        · exact ⟨_, List.mem_cons_self .., rfl⟩
        · exact ⟨n, List.mem_cons_of_mem _ hn, rfl⟩
    · rw [if_neg he] at h
      cases hr : removeKey q ns with
      | error e => rw [hr] at h; cases h
      | ok l =>
        rw [hr] at h; cases h
        rcases List.mem_cons.1 hn with rfl | hn
        · exact ⟨_, List.mem_cons_self .., rfl⟩
        · obtain ⟨n', hm, e⟩ := ih hr hn
          exact ⟨n', List.mem_cons_of_mem _ hm, e⟩

end TraitsVerif.Model.Obs
