/-
Lemmas for `Model/SyncLive.lean`:
* the hand-written handlers are the interpretation (`PyLSync.interp`) of the
  programs generated from the source text (`Generated/SyncProg.lean`),
* the lock protocol survives partner death during a propagation,
* on states without armed triggers and without table entries for collected
  objects, `cascadeK` is `Sync.cascade`,
* a hub's surviving partners are updated.
-/
import TraitsVerif.Model.SyncLive
import TraitsVerif.Generated.SyncProg
import TraitsVerif.Lemmas.SyncOps
namespace TraitsVerif.Model.SyncLive
open TraitsVerif TraitsVerif.Py TraitsVerif.Model TraitsVerif.Model.Sync TraitsVerif.Model.PyLSync

variable {α : Type}

/-! ### The source tie -/

section
variable (rec : Rec α) (p : Pair) (pay : Payload α)

theorem interp_seq_norm {rec : Rec α} {p : Pair} {pay : Payload α} {a : Stmt} {cur : Option Pair}
    {s s1 : St α} (h : interp rec p pay a cur s = (s1, .norm)) (b : Stmt) :
    interp rec p pay (.seq a b) cur s = interp rec p pay b cur s1 := by
  rw [interp, h]

/-- The snapshot loop of the interpreter is a fold when the bodies agree and the
body never returns or raises (`emb`: how the model's loop state sits in the
interpreter's state). -/
theorem snapLoop_eq {σ : Type} (emb : σ → St α) (bodyI : St α → Pair → St α × Sig) (bodyK : σ → Pair → σ)
    (h : ∀ s q, ∃ sg, (sg = Sig.norm ∨ sg = Sig.cont) ∧ bodyI (emb s) q = (emb (bodyK s q), sg)) :
    ∀ (qs : List Pair) (s : σ), snapLoop bodyI qs (emb s) = (emb (qs.foldl bodyK s), .norm) := by
  intro qs
  induction qs with
  | nil => intro s; rfl
  | cons q qs ih =>
    intro s
    obtain ⟨sg, hsg, hb⟩ := h s q
    unfold snapLoop
    rw [hb]
    rcases hsg with rfl | rfl <;> exact ih _

/-- The loop over a snapshot of the partner table, as a fold (see `snapLoop_eq`). -/
theorem interp_forPartners {σ : Type} (emb : σ → St α) (bodyK : σ → Pair → σ) (body : Stmt)
    (h : ∀ s q, ∃ sg, (sg = Sig.norm ∨ sg = Sig.cont) ∧
      interp rec p pay body (some q) (emb s) = (emb (bodyK s q), sg))
    (s : σ) (hne : ((emb s).k.w.partners p).isEmpty = false) :
    interp rec p pay (.forPartners false body) none (emb s) =
      (emb (((emb s).k.w.partners p).foldl bodyK s), .norm) := by
  rw [interp]
  simp only [hne, Bool.false_eq_true, if_false]
  exact snapLoop_eq emb _ bodyK h _ s

/-- One round of the loop of either handler, around what it does to the partner:
a collected partner and a partner whose lock is set are skipped; whatever the
operation raises is passed over. -/
theorem interp_round (B : Stmt) (q : Pair) (s : St α) :
    interp rec p pay (.seq (.ite .partnerDead .cont .skip)
        (.ite (.not (.lockedAtPartner true)) (.tryPass true B) .skip)) (some q) s =
      if q.1 ∈ s.k.dead then (s, .cont)
      else if q ∈ s.k.w.locked then (s, .norm)
      else match interp rec p pay B (some q) s with
        | (s1, .exc _) => (s1, .norm)
        | r => r := by
  by_cases hd : q.1 ∈ s.k.dead
  · simp [interp, evalCond, hd]
  · by_cases hl : q ∈ s.k.w.locked
    · simp [interp, evalCond, hd, hl]
    · simp only [interp, evalCond, hd, hl, if_false, decide_false, Bool.not_false, Bool.true_or, if_true]
      rfl

theorem partners_lock (w : World α) (p r : Pair) : (w.lock p).partners r = w.partners r := rfl

/-- What `runHandler` makes of the interpreter's result. -/
def outcome : St α × Sig → KWorld α × Option Exc
  | (s, .exc e) => (s.k, some e)
  | (s, _) => (s.k, none)

theorem runHandler_eq (prog : Stmt) (k : KWorld α) :
    runHandler rec prog k p pay = outcome (interp rec p pay prog none { k := k, idx := initIdx pay }) := rfl

/-- Both handlers around their loop: return at once without a table; else set
the lock, run the loop, release the lock whatever happened. -/
theorem interp_handler (loop : Stmt) (s s2 : St α)
    (hloop : (s.k.w.partners p).isEmpty = false →
      interp rec p pay loop none (s.setW (s.k.w.lock p)) = (s2, .norm)) :
    outcome (interp rec p pay (.seq (.ite (.not .nameInInfo) .ret .skip)
        (.seq (.act .lock) (.tryFinally loop (.act .unlock)))) none s) =
      if (s.k.w.partners p).isEmpty then (s.k, none)
      else if p ∈ s2.k.w.locked then ({ s2.k with w := s2.k.w.unlock p }, none) else (s2.k, some .keyError) := by
  by_cases he : (s.k.w.partners p).isEmpty = true
  · simp [interp, evalCond, he, outcome]
  · simp only [Bool.not_eq_true] at he
    have h1 : interp rec p pay (.ite (.not .nameInInfo) .ret .skip) none s = (s, .norm) := by
      simp [interp, evalCond, he]
    have h2 : interp rec p pay (.act .lock) none s = (s.setW (s.k.w.lock p), .norm) := rfl
    rw [interp_seq_norm h1, interp_seq_norm h2, interp, hloop he]
    simp only [interp, doAct, he, Bool.false_eq_true, if_false]
    by_cases hp : p ∈ s2.k.w.locked <;> simp [hp, St.setW, outcome]

end

/-- `_sync_trait_modified` (hand-written) is the interpretation of its source text. -/
theorem handlerModified_is_source (rec : Rec α) (k : KWorld α) (p : Pair) (v : AVal α) :
    handlerModified rec k p v = runHandler rec Generated.SyncProg.syncTraitModified k p (.new v) := by
  unfold handlerModified handlerK Generated.SyncProg.syncTraitModified
  rw [runHandler_eq, interp_handler rec p (.new v) _ _
    { k := (k.w.partners p).foldl (visitK rec (.assign v)) { k with w := k.w.lock p }, idx := initIdx (.new v) } ?_]
  refine interp_forPartners rec p (.new v) (fun k => ({ k := k, idx := initIdx (.new v) } : St α))
    (visitK rec (.assign v)) _ (fun k q => ?_) { k with w := k.w.lock p }
  -- one round of the loop is `visitK`
  rw [interp_round]
  unfold visitK
  by_cases hd : q.1 ∈ k.dead
  · exact ⟨.cont, Or.inr rfl, by simp only [hd, if_true]⟩
  · refine ⟨.norm, Or.inl rfl, ?_⟩
    by_cases hl : q ∈ k.w.locked
    · simp only [hd, hl, if_true, if_false]
    · simp only [hd, hl, if_false, interp, doAct, callRec]
      cases rec k q (.assign v) <;> rfl

/-- `index` after the normalisation at the head of `_sync_trait_items_modified`. -/
def normIdx (e : Event α) : Slice :=
  match e.index with
  | .idx n => ⟨some n, some (n + e.removed.length), none⟩
  | .slc a b c => ⟨some a, some b, some c⟩

theorem norm_index (rec : Rec α) (p : Pair) (e : Event α) (k : KWorld α) :
    interp rec p (.event e) (.ite (.not .indexIsSlice) (.act .indexToSlice) .skip) none
      { k := k, idx := initIdx (.event e) } = ({ k := k, idx := .slice (normIdx e) }, .norm) := by
  unfold initIdx normIdx
  cases h : e.index <;> simp [interp, evalCond, doAct, h]

/-- `partner[index] = event.added` / `del partner[index]`, chosen as the source chooses. -/
theorem eventOp_eq (e : Event α) :
    (if (!e.added.isEmpty || (normIdx e).step.isNone) = true
      then Op.setSlice (normIdx e) e.added else Op.delSlice (normIdx e)) = eventOp e := by
  unfold eventOp normIdx
  cases e.index with
  | idx n => simp
  | slc a b c => cases e.added <;> simp

/-- `_sync_trait_items_modified` (hand-written) is the interpretation of its source text. -/
theorem handlerItems_is_source (rec : Rec α) (k : KWorld α) (p : Pair) (e : Event α) :
    handlerItems rec k p e = runHandler rec Generated.SyncProg.syncTraitItemsModified k p (.event e) := by
  unfold handlerItems handlerU Generated.SyncProg.syncTraitItemsModified
  rw [runHandler_eq, interp_seq_norm (norm_index rec p e k),
    interp_handler rec p (.event e) _ { k := k, idx := .slice (normIdx e) }
      { k := ((k.w.partners p).foldl (visitU rec (.mutate (eventOp e))) ({ k with w := k.w.lock p }, [p])).1,
        idx := .slice (normIdx e),
        upd := ((k.w.partners p).foldl (visitU rec (.mutate (eventOp e))) ({ k with w := k.w.lock p }, [p])).2 } ?_]
  refine fun hne => (interp_seq_norm (rfl : interp rec p (.event e) (.act .initUpdated) none _ = (_, .norm)) _).trans
    (interp_forPartners rec p (.event e)
      (fun s : KWorld α × List Pair => ({ k := s.1, idx := .slice (normIdx e), upd := s.2 } : St α))
      (visitU rec (.mutate (eventOp e))) _ (fun s q => ?_) ({ k with w := k.w.lock p }, [p]) hne)
  -- one round of the loop is `visitU`
  obtain ⟨k, U⟩ := s
  rw [interp_round]
  unfold visitU
  by_cases hd : q.1 ∈ k.dead
  · exact ⟨.cont, Or.inr rfl, by simp only [hd, if_true]⟩
  · by_cases hl : q ∈ k.w.locked
    · exact ⟨.norm, Or.inl rfl, by simp only [hd, hl, if_true, if_false]⟩
    · by_cases hu : q ∈ U
      · exact ⟨.cont, Or.inr rfl, by simp [interp, evalCond, hd, hl, hu]⟩
      · -- the partner is marked, then gets the operation the source selects: `eventOp e`
        refine ⟨.norm, Or.inl rfl, ?_⟩
        rw [← eventOp_eq e]
        cases ha : e.added.isEmpty <;> cases hs : (normIdx e).step.isNone <;>
          simp only [interp, evalCond, doAct, callRec, hd, hl, hu, ha, hs, if_false, decide_false,
            Bool.not_true, Bool.not_false, Bool.or_true, Bool.or_false, Bool.false_eq_true, if_true] <;>
          cases rec k q _ <;> rfl

/-! ### One round of the loops -/

/-- One round of `_sync_trait_modified`'s loop: nothing (the partner is collected
or locked, or its `setattr` raised), or what the nested call left. -/
theorem visitK_cases (rec : Rec α) (req : Req α) (k : KWorld α) (q : Pair) :
    visitK rec req k q = k ∨
      q.1 ∉ k.dead ∧ q ∉ k.w.locked ∧ ∃ r, rec k q req = .ok (visitK rec req k q, r) := by
  unfold visitK
  by_cases hd : q.1 ∈ k.dead
  · exact Or.inl (if_pos hd)
  · by_cases hl : q ∈ k.w.locked
    · exact Or.inl (by rw [if_neg hd, if_pos hl])
    · rw [if_neg hd, if_neg hl]
      cases rec k q req with
      | error e => exact Or.inl rfl
      | ok res => exact Or.inr ⟨hd, hl, res.2, rfl⟩

theorem visitK_skip {rec : Rec α} {req : Req α} {k : KWorld α} {q : Pair} (h : q.1 ∈ k.dead ∨ q ∈ k.w.locked) :
    visitK rec req k q = k := by
  unfold visitK
  split
  · rfl
  · rw [if_pos (h.resolve_left ‹_›)]

/-- A round of `_sync_trait_items_modified`'s loop is a round of the other loop that also remembers the
partner's list object — unless that object holds the change already, when nothing happens. -/
theorem visitU_eq (rec : Rec α) (req : Req α) (s : KWorld α × List Pair) (q : Pair) :
    visitU rec req s q =
      if q.1 ∈ s.1.dead ∨ q ∈ s.1.w.locked ∨ q ∈ s.2 then s else (visitK rec req s.1 q, q :: s.2) := by
  unfold visitU visitK
  by_cases hd : q.1 ∈ s.1.dead
  · simp only [hd, true_or, if_true]
  · by_cases hl : q ∈ s.1.w.locked
    · simp only [hd, hl, true_or, or_true, if_true, if_false]
    · by_cases hu : q ∈ s.2
      · simp only [hd, hl, hu, or_true, if_true, if_false]
      · simp only [hd, hl, hu, or_self, if_false]
        cases rec s.1 q req <;> rfl

/-! ### What a collection during a propagation can do -/

/-- No table lists a collected object. -/
def Tidy (k : KWorld α) : Prop := ∀ e ∈ k.w.edges, e.dst.1 ∉ k.dead

/-- What a step may do to the tables: locks stay, links only go, `Tidy` stays. -/
structure Shrink (k k' : KWorld α) : Prop where
  locked : k'.w.locked = k.w.locked
  edges : ∀ e ∈ k'.w.edges, e ∈ k.w.edges
  tidy : Tidy k → Tidy k'

theorem Shrink.refl (k : KWorld α) : Shrink k k := ⟨rfl, fun _ h => h, id⟩

theorem Shrink.trans {a b c : KWorld α} (h1 : Shrink a b) (h2 : Shrink b c) : Shrink a c :=
  ⟨h2.locked.trans h1.locked, fun e h => h1.edges e (h2.edges e h), fun h => h2.tidy (h1.tidy h)⟩

theorem Shrink.of_tabs {k : KWorld α} {w' : World α} (hl : w'.locked = k.w.locked) (he : w'.edges = k.w.edges) :
    Shrink k { k with w := w' } :=
  ⟨hl, fun _ h => he ▸ h, fun ht e h => ht e (he ▸ h)⟩

theorem kill_locked (w : World α) (o : Nat) (h : w.locked.any (fun l => decide (l.1 = o)) = false) :
    (w.kill o).locked = w.locked := by
  simp only [List.any_eq_false, decide_eq_true_eq] at h
  exact List.filter_eq_self.mpr fun a ha => by simpa using h a ha

/-- Collecting an object without a lock: its links go, `Tidy` stays (it is remembered as collected). -/
theorem killK_shrink (k : KWorld α) (o : Nat) (h : k.w.locked.any (fun l => decide (l.1 = o)) = false) :
    Shrink k (killK k o) := by
  refine ⟨kill_locked k.w o h, fun e he => (List.mem_filter.mp he).1, fun ht e he => ?_⟩
  obtain ⟨hm, hc⟩ := List.mem_filter.mp he
  simp only [ne_eq, decide_eq_true_eq] at hc
  simp only [killK]
  split
  · exact ht e hm
  · exact fun hd => (List.mem_cons.mp hd).elim hc.2 (ht e hm)

/-- The recording handlers collect only objects without a lock: links go, nothing else changes. -/
theorem fire_shrink (k : KWorld α) (p : Pair) :
    Shrink k (fire k p) ∧ (fire k p).w.val = k.w.val ∧ (fire k p).swallowed = k.swallowed := by
  refine List.foldlRecOn k.doom _ (motive := fun s => Shrink k s ∧ s.w.val = k.w.val ∧ s.swallowed = k.swallowed)
    ⟨Shrink.refl k, rfl, rfl⟩ fun s hs t _ => ?_
  split
  · rename_i h
    have hb := h.2
    simp only [isBusy, Bool.or_eq_false_iff] at hb
    exact ⟨hs.1.trans (killK_shrink s t.2 hb.2), hs.2⟩
  · exact hs

/-! ### The lock protocol with partner death during the propagation (repaired F97) -/

/-- Same lock tables, nothing swallowed. -/
def Calm (k k' : KWorld α) : Prop := k'.w.locked = k.w.locked ∧ k'.swallowed = k.swallowed

theorem Calm.refl (k : KWorld α) : Calm k k := ⟨rfl, rfl⟩

theorem Calm.trans {a b c : KWorld α} (h1 : Calm a b) (h2 : Calm b c) : Calm a c :=
  ⟨h2.1.trans h1.1, h2.2.trans h1.2⟩

theorem applyMutate_eq (E : Sync.Env α) (w : World α) (p : Pair) (op : Op α) :
    applyMutate E w p op =
      match applyMutateE E w p op with
      | .error e => .error e
      | .ok (w1, r, y) => .ok (w1, r, y.map eventOp) := by
  unfold applyMutate applyMutateE
  by_cases hl : E.isList p = true
  · simp only [hl, if_true]
    cases listStep (E.tl p) (w.list p) op with
    | error e => rfl
    | ok o =>
      simp only []
      cases o.event with
      | none => rfl
      | some e => by_cases hh : p ∈ w.hooked <;> simp [hh]
  · simp only [hl]; rfl

theorem applyK_locked [DecidableEq α] (E : Sync.Env α) {w w1 : World α} {p : Pair} {req : Req α} {r : Option α}
    {pay : Option (Payload α)} (h : applyK E w p req = .ok (w1, r, pay)) : w1.locked = w.locked := by
  cases req <;> simp only [applyK] at h <;> split at h <;> cases h
  · exact (local_assign E).locked ‹_›
  · rename_i ha; exact (local_mutate E).locked (y := _) (by rw [applyMutate_eq, ha])

section
variable {rec : Rec α} {req : Req α}
  (hrec : ∀ k q k' r, q ∉ k.w.locked → rec k q req = .ok (k', r) → Calm k k')
include hrec

theorem visitK_calm (k : KWorld α) (q : Pair) : Calm k (visitK rec req k q) := by
  rcases visitK_cases rec req k q with h | ⟨-, hl, r, h⟩
  · rw [h]; exact Calm.refl k
  · exact hrec k q _ r hl h

omit hrec in
/-- After a loop that kept the lock tables the lock of `p` is there to be released. -/
theorem unlock_calm {k k2 : KWorld α} {p : Pair} (hp : p ∉ k.w.locked) (hc : Calm { k with w := k.w.lock p } k2) :
    Calm k (if p ∈ k2.w.locked then ({ k2 with w := k2.w.unlock p }, none) else (k2, some Exc.keyError)).1 ∧
      (if p ∈ k2.w.locked then ({ k2 with w := k2.w.unlock p }, none) else (k2, some Exc.keyError)).2 = none := by
  rw [if_pos (by rw [hc.1]; exact List.mem_cons_self ..)]
  exact ⟨⟨(congrArg (List.filter (· ≠ p)) hc.1).trans (unlock_lock_locked hp), hc.2⟩, rfl⟩

/-- A handler started on an unlocked trait returns with the lock tables it
found, and nothing escapes it — whatever dies meanwhile. -/
theorem handlerK_calm (k : KWorld α) (p : Pair) (hp : p ∉ k.w.locked) :
    Calm k (handlerK rec req k p).1 ∧ (handlerK rec req k p).2 = none := by
  unfold handlerK
  split
  · exact ⟨Calm.refl k, rfl⟩
  · exact unlock_calm hp (List.foldlRecOn _ _ (motive := Calm _) (Calm.refl _) fun s hs q _ =>
      hs.trans (visitK_calm hrec s q))

theorem handlerU_calm (k : KWorld α) (p : Pair) (hp : p ∉ k.w.locked) :
    Calm k (handlerU rec req k p).1 ∧ (handlerU rec req k p).2 = none := by
  unfold handlerU
  split
  · exact ⟨Calm.refl k, rfl⟩
  · refine unlock_calm hp (List.foldlRecOn _ _ (motive := fun s : KWorld α × List Pair => Calm _ s.1) (Calm.refl _)
      fun s hs q _ => hs.trans ?_)
    rw [visitU_eq]
    split
    · exact Calm.refl _
    · exact visitK_calm hrec s.1 q

end

theorem swallow_none {r : KWorld α × Option Exc} (h : r.2 = none) : swallow r = r.1 := by
  obtain ⟨k, ex⟩ := r
  cases h
  rfl

theorem cascadeK_calm [DecidableEq α] (E : Sync.Env α) (d : Nat) :
    ∀ (k : KWorld α) (p : Pair) (req : Req α) (k' : KWorld α) (r : Option α),
      p ∉ k.w.locked → cascadeK E d k p req = .ok (k', r) → Calm k k' := by
  induction d with
  | zero => intro k p req k' r _ h; simp [cascadeK] at h
  | succ d ih =>
    intro k p req k' r hp h
    unfold cascadeK at h
    cases ha : applyK E k.w p req with
    | error e => rw [ha] at h; cases h
    | ok x =>
      obtain ⟨w1, r1, pay⟩ := x
      rw [ha] at h
      have hk1 : Calm k (if notified k.w w1 p then fire { k with w := w1 } p else { k with w := w1 }) := by
        refine Calm.trans (b := { k with w := w1 }) ⟨applyK_locked E ha, rfl⟩ ?_
        split
        · exact ⟨(fire_shrink _ p).1.locked, (fire_shrink _ p).2.2⟩
        · exact Calm.refl _
      cases pay with
      | none => cases h; exact hk1
      | some pl =>
        cases h
        refine Calm.trans hk1 ?_
        cases pl with
        | new v =>
          obtain ⟨hc, hn⟩ := handlerK_calm (fun k q k' r => ih k q (.assign v) k' r) _ p (hk1.1 ▸ hp)
          rw [runHandlerK, handlerModified, swallow_none hn]; exact hc
        | event e =>
          obtain ⟨hc, hn⟩ := handlerU_calm (fun k q k' r => ih k q (.mutate (eventOp e)) k' r) _ p (hk1.1 ▸ hp)
          rw [runHandlerK, handlerItems, swallow_none hn]; exact hc

/-- Empty lock table, `n` exceptions swallowed. -/
def Rest (n : Nat) (k : KWorld α) : Prop := k.w.locked = [] ∧ k.swallowed = n

theorem Rest.calm {n : Nat} {k k' : KWorld α} (h : Rest n k) (hc : Calm k k') : Rest n k' :=
  ⟨hc.1.trans h.1, hc.2.trans h.2⟩

theorem finishK_rest [DecidableEq α] (E : Sync.Env α) {n : Nat} (k : KWorld α) (p : Pair) (req : Req α) (d : Nat)
    (h : Rest n k) : Rest n (finishK k (cascadeK E d k p req)).world := by
  cases hc : cascadeK E d k p req with
  | error e => exact h
  | ok x => exact h.calm (cascadeK_calm E d k p req x.1 x.2 (by rw [h.1]; simp) hc)

/-- The state in which `linkOneS` calls `setattr`: both handlers registered, the entry made. -/
def regS (E : Sync.Env α) (k : KWorld α) (p q : Pair) : KWorld α :=
  let k1 := if (k.w.partners p).isEmpty then hookM k p else k
  let k2 := if E.isList p && E.isList q then hookI k1 p else k1
  PyLLink.setEdges k2 (k2.w.edges ++ [(⟨p, q⟩ : Edge)])

theorem linkOneS_eq [DecidableEq α] (E : Sync.Env α) (k : KWorld α) (p q : Pair) :
    linkOneS E k p q =
      if (⟨p, q⟩ : Edge) ∈ k.w.edges then (k, none)
      else match recB E (regS E k p q) q (.assign ((regS E k p q).w.val p)) with
        | .ok (k4, _) => (k4, none)
        | .error e => (regS E k p q, some e) := rfl

/-- Its tables are `World.register`'s; nothing else but the registration of
`_sync_trait_modified` differs from `k`. -/
theorem regS_eq (E : Sync.Env α) (k : KWorld α) (p q : Pair) :
    regS E k p q = { k with w := k.w.register E p q,
                            hookedM := if (k.w.partners p).isEmpty ∧ p ∉ k.hookedM then p :: k.hookedM else k.hookedM } := by
  unfold regS World.register hookI hookM PyLLink.setEdges PyLLink.setHooked
  by_cases hl : (E.isList p && E.isList q) = true <;> by_cases hm : (k.w.partners p).isEmpty = true <;>
    by_cases hh : p ∈ k.w.hooked <;> by_cases hM : p ∈ k.hookedM <;> simp [hl, hm, hh, hM]

/-- `linkOneS` ends with a `setattr` command on the partner. -/
theorem linkOneS_assignK [DecidableEq α] (E : Sync.Env α) (k : KWorld α) (p q : Pair) :
    linkOneS E k p q =
      if (⟨p, q⟩ : Edge) ∈ k.w.edges then (k, none)
      else ((assignK E (regS E k p q) q ((regS E k p q).w.val p)).world,
            (assignK E (regS E k p q) q ((regS E k p q).w.val p)).exc) := by
  rw [linkOneS_eq]
  split
  · rfl
  · unfold assignK recB
    cases cascadeK E (regS E k p q).w.budget (regS E k p q) q (.assign ((regS E k p q).w.val p)) <;> rfl

theorem linkOneS_rest [DecidableEq α] (E : Sync.Env α) {n : Nat} (k : KWorld α) (p q : Pair) (h : Rest n k) :
    Rest n (linkOneS E k p q).1 := by
  rw [linkOneS_assignK]
  split
  · exact h
  · exact finishK_rest E _ q _ _ (by rw [regS_eq]; exact h)

theorem linkS_rest [DecidableEq α] (E : Sync.Env α) {n : Nat} (k : KWorld α) (p q : Pair) (b : Bool) (h : Rest n k) :
    Rest n (linkS E k p q b).1 := by
  have h1 := linkOneS_rest E k p q h
  unfold linkS
  cases hl : linkOneS E k p q with
  | mk k1 ex =>
    rw [hl] at h1
    cases ex with
    | some e => exact h1
    | none =>
      cases b
      · exact h1
      · exact linkOneS_rest E k1 q p h1

/-- `unlinkOneS` touches the link tables and the registrations only. -/
theorem unlinkOneS_keeps (E : Sync.Env α) (k : KWorld α) (p q : Pair) :
    (unlinkOneS E k p q).w.locked = k.w.locked ∧ (unlinkOneS E k p q).swallowed = k.swallowed ∧
    (unlinkOneS E k p q).doom = k.doom ∧ (unlinkOneS E k p q).dead = k.dead := by
  unfold unlinkOneS PyLLink.setEdges PyLLink.setHooked
  split
  · exact ⟨rfl, rfl, rfl, rfl⟩
  · split
    · simp only []
      split <;> split <;> exact ⟨rfl, rfl, rfl, rfl⟩
    · exact ⟨rfl, rfl, rfl, rfl⟩

theorem unlinkOneS_rest (E : Sync.Env α) {n : Nat} (k : KWorld α) (p q : Pair) (h : Rest n k) :
    Rest n (unlinkOneS E k p q) :=
  ⟨(unlinkOneS_keeps E k p q).1.trans h.1, (unlinkOneS_keeps E k p q).2.1.trans h.2⟩

theorem stepK_rest [DecidableEq α] (E : Sync.Env α) {n : Nat} (k : KWorld α) (c : CmdK α) (h : Rest n k) :
    Rest n (stepK E k c).world := by
  cases c with
  | arm p o => exact h
  | cmd c =>
    have h0 : Rest n { k with busy := cmdObjs c } := h
    cases c with
    | assign p v => exact finishK_rest E _ p _ _ h0
    | mutate p op => exact finishK_rest E _ p _ _ h0
    | link p q m => exact linkS_rest E _ p q m h0
    | unlink p q m =>
      simp only [stepK, unlinkS]
      split
      · exact unlinkOneS_rest E _ q p (unlinkOneS_rest E _ p q h0)
      · exact unlinkOneS_rest E _ p q h0
    | kill o => exact ⟨by simp [stepK, killK, World.kill, h.1], h.2⟩

theorem runK_rest [DecidableEq α] (E : Sync.Env α) {n : Nat} (cs : List (CmdK α)) :
    ∀ k : KWorld α, Rest n k → Rest n (runK E k cs) := by
  induction cs with
  | nil => exact fun k h => h
  | cons c cs ih => exact fun k h => ih _ (stepK_rest E k c h)

/-! ### Conservativity: without armed triggers `cascadeK` is `Sync.cascade` -/

/-- A result of `Model.Sync` seen in `KWorld` `k`. -/
def lift (k : KWorld α) : Except Exc (World α × Option α) → Except Exc (KWorld α × Option α)
  | .ok (w', r) => .ok ({ k with w := w' }, r)
  | .error e => .error e

/-- No armed trigger, no table lists a collected object (`Tidy`), and no table lists a
partner twice (a dict holds a key once).  Kept by `unlinkS` and, on a state with an empty lock
table, by `killK` and by `linkS` between objects that are not collected (`Lemmas/SyncLink.lean`:
`unlinkS_quiet`, `killK_quiet`, `linkS_w`); a link to a collected object breaks it. -/
def Quiet (k : KWorld α) : Prop :=
  k.doom = [] ∧ (∀ e ∈ k.w.edges, e.dst.1 ∉ k.dead) ∧ k.w.edges.Nodup

theorem Quiet.of_edges {k : KWorld α} (h : Quiet k) (w' : World α) (he : w'.edges = k.w.edges) :
    Quiet { k with w := w' } :=
  ⟨h.1, by intro e hm; rw [he] at hm; exact h.2.1 e hm, by show w'.edges.Nodup; rw [he]; exact h.2.2⟩

/-- Without armed triggers the recording handlers collect nobody. -/
theorem fire_quiet (k : KWorld α) (w1 : World α) (p : Pair) (h : k.doom = []) :
    (if notified k.w w1 p then fire { k with w := w1 } p else { k with w := w1 }) = { k with w := w1 } := by
  split
  · simp [fire, h]
  · rfl

/-- With a partner table that lists nobody twice, and nested calls that keep the
lock tables, the bookkeeping of updated list objects changes nothing: the loop of
`_sync_trait_items_modified` is the loop of `_sync_trait_modified`. -/
theorem handlerU_eq_handlerK {rec : Rec α} {req : Req α}
    (hrec : ∀ k q k' r, q ∉ k.w.locked → rec k q req = .ok (k', r) → Calm k k')
    (k : KWorld α) (p : Pair) (hnd : (k.w.partners p).Nodup) : handlerU rec req k p = handlerK rec req k p := by
  have key : ∀ (P : List Pair) (s : KWorld α × List Pair), P.Nodup → (∀ q ∈ P, q ∈ s.2 → q ∈ s.1.w.locked) →
      (P.foldl (visitU rec req) s).1 = P.foldl (visitK rec req) s.1 := by
    intro P
    induction P with
    | nil => exact fun _ _ _ => rfl
    | cons q qs ih =>
      intro s hP hs
      rw [List.foldl_cons, List.foldl_cons, visitU_eq]
      split
      · -- skipped by both loops: a list object that holds the change belongs to a locked trait
        rename_i h
        rw [visitK_skip (h.imp_right fun h => h.elim id (hs q (List.mem_cons_self ..)))]
        exact ih s (List.nodup_cons.mp hP).2 fun t ht => hs t (List.mem_cons_of_mem _ ht)
      · refine ih _ (List.nodup_cons.mp hP).2 fun t ht htU => ?_
        rw [(visitK_calm hrec s.1 q).1]
        rcases List.mem_cons.mp htU with rfl | h
        · exact absurd ht (List.nodup_cons.mp hP).1
        · exact hs t (List.mem_cons_of_mem _ ht) h
  unfold handlerU handlerK
  rw [key _ _ hnd fun t _ ht => by rw [List.mem_singleton.mp ht]; exact List.mem_cons_self ..]

section
variable {π : Type} {rec : Rec α} {rec' : World α → Pair → π → Except Exc (World α × Option α)}
  {req : Req α} {y : π}
  (hrec : ∀ k q, Quiet k → rec k q req = lift k (rec' k.w q y))
  (hframe : ∀ w q w' r, q ∉ w.locked → rec' w q y = .ok (w', r) → SameTabs w w')
include hrec hframe

/-- On a quiet state `_sync_trait_modified` is `Model.Sync`'s handler. -/
theorem handlerK_quiet (k : KWorld α) (p : Pair) (hq : Quiet k) :
    handlerK rec req k p = ({ k with w := handle rec' k.w p (some y) }, none) := by
  unfold handlerK
  rw [handle_some]
  split
  · rfl
  · have hsim := List.foldl_rel (l := k.w.partners p) (f := visitK rec req) (g := visitPartner rec' y)
      (r := fun s t => s = { k with w := t } ∧ SameTabs (k.w.lock p) t)
      (a := { k with w := k.w.lock p }) (b := k.w.lock p) ⟨rfl, SameTabs.refl _⟩ fun q hq' s t hst => ?_
    · rw [hsim.1, if_pos (by rw [hsim.2.2.1]; exact List.mem_cons_self ..)]
    · obtain ⟨rfl, ht⟩ := hst
      have hd : q.1 ∉ k.dead := hq.2.1 ⟨p, q⟩ (mem_partners.mp hq')
      unfold visitK visitPartner
      rw [if_neg hd]
      split
      · exact ⟨rfl, ht⟩
      · rename_i hl
        rw [hrec _ q (hq.of_edges t ht.1)]
        cases hr : rec' t q y with
        | error e => exact ⟨rfl, ht⟩
        | ok res => exact ⟨rfl, ht.trans (hframe t q res.1 res.2 hl hr)⟩

end

theorem cascadeK_assign [DecidableEq α] (E : Sync.Env α) (d : Nat) :
    ∀ (k : KWorld α) (p : Pair) (v : AVal α), Quiet k →
      cascadeK E d k p (.assign v) = lift k (cascade (applyAssign E) d k.w p v) := by
  induction d with
  | zero => intro k p v _; rfl
  | succ d ih =>
    intro k p v hq
    unfold cascadeK
    rw [cascade_succ]
    simp only [applyK]
    cases ha : applyAssign E k.w p v with
    | error e => rfl
    | ok x =>
      obtain ⟨w1, r, y⟩ := x
      simp only [fire_quiet k w1 p hq.1]
      cases y with
      | none => rfl
      | some new =>
        simp only [Option.map_some, runHandlerK, handlerModified]
        rw [handlerK_quiet (fun k q hk => ih k q new hk) (fun w q w' r => cascade_frame (local_assign E) d w q new w' r)
          _ p (hq.of_edges w1 ((local_assign E).edges ha))]
        rfl

theorem cascadeK_mutate [DecidableEq α] (E : Sync.Env α) (d : Nat) :
    ∀ (k : KWorld α) (p : Pair) (op : Op α), Quiet k →
      cascadeK E d k p (.mutate op) = lift k (cascade (applyMutate E) d k.w p op) := by
  induction d with
  | zero => intro k p v _; rfl
  | succ d ih =>
    intro k p op hq
    unfold cascadeK
    rw [cascade_succ, applyMutate_eq]
    simp only [applyK]
    cases ha : applyMutateE E k.w p op with
    | error e => rfl
    | ok x =>
      obtain ⟨w1, r, y⟩ := x
      have he : w1.edges = k.w.edges :=
        (local_mutate E).edges (y := y.map eventOp) (by rw [applyMutate_eq, ha])
      simp only [fire_quiet k w1 p hq.1]
      cases y with
      | none => rfl
      | some e =>
        have hq1 := hq.of_edges w1 he
        simp only [Option.map_some, runHandlerK, handlerItems]
        rw [handlerU_eq_handlerK (fun k q k' r => cascadeK_calm E d k q _ k' r) _ p (partners_nodup hq1.2.2 p),
          handlerK_quiet (fun k q hk => ih k q (eventOp e) hk)
            (fun w q w' r => cascade_frame (local_mutate E) d w q (eventOp e) w' r) _ p hq1]
        rfl

/-! ### Survivors are updated (hub with partners that have no partner but the hub) -/

/-- A handler all of whose partners are locked changes nothing. -/
theorem handlerK_leaf (rec : Rec α) (req : Req α) (k : KWorld α) (q : Pair) (hq : q ∉ k.w.locked)
    (hleaf : ∀ t ∈ k.w.partners q, t ∈ k.w.locked) : handlerK rec req k q = (k, none) := by
  unfold handlerK
  split
  · rfl
  · have hfold : (k.w.partners q).foldl (visitK rec req) { k with w := k.w.lock q } = { k with w := k.w.lock q } :=
      List.foldlRecOn _ _ (motive := (· = { k with w := k.w.lock q })) rfl fun s hs t ht => ?_
    · simp only []
      rw [hfold, if_pos (show q ∈ (k.w.lock q).locked from List.mem_cons_self ..)]
      simp only [World.unlock, World.lock, unlock_lock_locked hq]
    · subst hs
      exact visitK_skip (Or.inr (List.mem_cons_of_mem q (hleaf t ht)))

/-- One level of `setattr` with everything it triggers: nothing if the value does not
change, else store and notify, the recording handlers, then `_sync_trait_modified`. -/
theorem cascadeK_assign_eq [DecidableEq α] (E : Sync.Env α) (d : Nat) (k : KWorld α) (p : Pair) {v new : AVal α}
    (hv : validate E p v = .ok new) :
    cascadeK E (d + 1) k p (.assign v) =
      if new = k.w.val p then .ok (k, none)
      else .ok (swallow (handlerK (cascadeK E d) (.assign new) (fire { k with w := k.w.store p new } p) p), none) := by
  rw [cascadeK]
  simp only [applyK, applyAssign_of_validate k.w hv]
  by_cases h : new = k.w.val p
  · simp [h, notified]
  · simp [h, notified, World.store, upd, runHandlerK, handlerModified]

/-- Visiting a partner all of whose partners are locked: only its own value may
change; if it is alive and accepts `y` unchanged, it holds `y`. -/
theorem visitK_leaf [DecidableEq α] (E : Sync.Env α) (d : Nat) (k : KWorld α) (q : Pair) (y : AVal α)
    (hleaf : ∀ t ∈ k.w.partners q, t ∈ k.w.locked) :
    Shrink k (visitK (cascadeK E (d + 1)) (.assign y) k q) ∧
    (∀ t, t ≠ q → (visitK (cascadeK E (d + 1)) (.assign y) k q).w.val t = k.w.val t) ∧
    (q.1 ∉ k.dead → q ∉ k.w.locked → validate E q y = .ok y →
      (visitK (cascadeK E (d + 1)) (.assign y) k q).w.val q = y) := by
  unfold visitK
  by_cases hd : q.1 ∈ k.dead
  · rw [if_pos hd]; exact ⟨Shrink.refl k, fun _ _ => rfl, fun h => absurd hd h⟩
  by_cases hl : q ∈ k.w.locked
  · rw [if_neg hd, if_pos hl]; exact ⟨Shrink.refl k, fun _ _ => rfl, fun _ h => absurd hl h⟩
  rw [if_neg hd, if_neg hl]
  cases hv : validate E q y with
  | error e =>
    have : cascadeK E (d + 1) k q (.assign y) = .error e := by rw [cascadeK]; simp [applyK, applyAssign, hv]
    rw [this]
    exact ⟨Shrink.refl k, fun _ _ => rfl, fun _ _ h => nomatch h⟩
  | ok new =>
    rw [cascadeK_assign_eq E d k q hv]
    by_cases hs : new = k.w.val q
    · rw [if_pos hs]
      exact ⟨Shrink.refl k, fun _ _ => rfl, fun _ _ h => by cases h; exact hs.symm⟩
    · -- stored; the recording handlers; then the handler, whose loop finds every partner locked
      rw [if_neg hs]
      obtain ⟨hf, hfv, -⟩ := fire_shrink { k with w := k.w.store q new } q
      rw [handlerK_leaf (cascadeK E d) (.assign new) _ q (hf.locked ▸ hl) fun t ht => by
        rw [hf.locked]; exact hleaf t (mem_partners.mpr (hf.edges _ (mem_partners.mp ht)))]
      refine ⟨Shrink.trans (Shrink.of_tabs (w' := k.w.store q new) rfl rfl) hf, fun t ht => ?_, fun _ _ h => ?_⟩
      · exact (congrFun hfv t).trans (upd_other _ _ _ _ ht)
      · cases h; exact (congrFun hfv q).trans (upd_same ..)

/-- The hub's loop, `F` being the state it ends in: every partner still in the
table at the end holds `y`. -/
theorem foldK_survivor [DecidableEq α] (E : Sync.Env α) (d : Nat) (y : AVal α) (p t0 : Pair)
    (hv0 : validate E t0 y = .ok y) (E0 : List Edge)
    (hback : ∀ e ∈ E0, e.src ≠ p → e.dst = p) :
    ∀ (P : List Pair) (k F : KWorld α), P.foldl (visitK (cascadeK E (d + 1)) (.assign y)) k = F →
      (∀ l, l ∈ k.w.locked ↔ l = p) → (∀ e ∈ k.w.edges, e ∈ E0) → Tidy k → p ∉ P →
      Shrink k F ∧ (∀ t, t ∉ P → F.w.val t = k.w.val t) ∧
      ((⟨p, t0⟩ : Edge) ∈ F.w.edges → (t0 ∈ P ∨ k.w.val t0 = y) → F.w.val t0 = y) := by
  intro P
  induction P with
  | nil => rintro k F rfl _ _ _ _; exact ⟨Shrink.refl k, fun _ _ => rfl, fun _ h => h.resolve_left (by simp)⟩
  | cons q qs ih =>
    intro k F hF hL hE ht hp
    have hqp : q ≠ p := fun h => hp (h ▸ List.mem_cons_self ..)
    obtain ⟨hs, hfr, hset⟩ := visitK_leaf E d k q y fun t hm =>
      (hL t).mpr (hback _ (hE _ (mem_partners.mp hm)) hqp)
    obtain ⟨hs2, hfr2, hfin⟩ := ih _ F hF (fun l => by rw [hs.locked]; exact hL l)
      (fun e he => hE e (hs.edges e he)) (hs.tidy ht) (fun h => hp (List.mem_cons_of_mem _ h))
    refine ⟨hs.trans hs2, fun t htn => ?_, fun hedge hor => hfin hedge ?_⟩
    · rw [hfr2 t (fun h => htn (List.mem_cons_of_mem _ h))]
      exact hfr t (fun h => htn (h ▸ List.mem_cons_self ..))
    -- after its own round `t0` holds `y` (it is alive: it is in the table at the end)
    have hown : q = t0 → (visitK (cascadeK E (d + 1)) (.assign y) k q).w.val t0 = y := by
      rintro rfl
      exact hset (ht _ (hs.edges _ (hs2.edges _ hedge))) (fun h => hqp ((hL q).mp h)) hv0
    rcases hor with hmem | hval
    · rcases List.mem_cons.mp hmem with rfl | h
      · exact Or.inr (hown rfl)
      · exact Or.inl h
    · by_cases h : t0 = q
      · exact Or.inr (hown h.symm)
      · exact Or.inr ((hfr t0 h).trans hval)

end TraitsVerif.Model.SyncLive
