/-
C15 — the derivation trees (`Cst` with `shape`) are exactly the derivations of
the grammar *data* (`Model.Dsl.grammar`, proved equal to the translation of the
.lark file in Props/C15.lean).  `gen_of_shape`: a tree's tokens are derived by `start`, the rule
alternatives looked up by position.  `shape_of_gen`: the converse, by giving every rule name its
set of trees (`RuleSem`) and checking that each alternative of the data respects it.
Core Lean only.
-/
import TraitsVerif.Model.DslGrammar
import TraitsVerif.Lemmas.DslShape
namespace TraitsVerif.Model.Dsl

theorem litTok_items : litTok "items" = some .items := by simp [litTok]
theorem litTok_plus : litTok "+" = some .plus := by simp [litTok]
theorem litTok_star : litTok "*" = some .star := by simp [litTok]
theorem litTok_dot : litTok "." = some (.conn .notify) := by simp [litTok]
theorem litTok_colon : litTok ":" = some (.conn .quiet) := by simp [litTok]
theorem litTok_comma : litTok "," = some .comma := by simp [litTok]
theorem litTok_lb : litTok "[" = some .lb := by simp [litTok]
theorem litTok_rb : litTok "]" = some .rb := by simp [litTok]

/-! ### trees ⊆ grammar -/

/-- Alternative `j` of rule `i` of the grammar data, both counted from 0 in the
order of the .lark file: trait, items, metadata, anytrait, notify, quiet,
element, series, parallel, series_terminal, parallel_terminal, start.  Looking
the rule up by position needs no comparison of rule names. -/
theorem G.alt (i j : Nat) {A : String} {inl : Bool} {alts : List (List GSym)} {alt : List GSym}
    {ts : List Tok} (h : G grammar (.inr alt) ts) (hi : grammar[i]? = some (A, inl, alts) := by rfl)
    (hj : alts[j]? = some alt := by rfl) : G grammar (.inl A) ts :=
  .rule (List.mem_of_getElem? hi) (List.mem_of_getElem? hj) h

theorem G.one {g : GRules} {A : String} {ts : List Tok} (h : G g (.inl A) ts) :
    G g (.inr [("nt", A)]) ts :=
  List.append_nil ts ▸ G.nt h G.nil

/-- `series conn X` under rule `i`, whose alternatives `j` and `j + d` are the ones
with `notify` and with `quiet` (in series_terminal the `anytrait` variants lie between) -/
theorem gen_ser_step (i j d : Nat) {S X : String} {inl : Bool} {alts : List (List GSym)}
    {tl tr : List Tok} (cn : Conn) (hl : G grammar (.inl "series") tl) (hr : G grammar (.inl X) tr)
    (hi : grammar[i]? = some (S, inl, alts) := by rfl)
    (h1 : alts[j]? = some [("nt", "series"), ("nt", "notify"), ("nt", X)] := by rfl)
    (h2 : alts[j + d]? = some [("nt", "series"), ("nt", "quiet"), ("nt", X)] := by rfl) :
    G grammar (.inl S) (tl ++ .conn cn :: tr) := by
  cases cn
  · exact .alt i j (.nt hl (.nt (.alt 4 0 (.lit litTok_dot .nil)) (.one hr))) hi h1
  · exact .alt i (j + d) (.nt hl (.nt (.alt 5 0 (.lit litTok_colon .nil)) (.one hr))) hi h2

/-- the token string of a tree of kind `k` is derived by every nonterminal from
`k` upwards; the kinds `ser` and `par` name two nonterminals each, since
`series_terminal` and `parallel_terminal` repeat the alternatives of `series`
and `parallel` instead of passing through to them -/
def InGrammar (ts : List Tok) : Kind → Prop
  | .elem => G grammar (.inl "element") ts
  | .ser => G grammar (.inl "series") ts ∧ G grammar (.inl "series_terminal") ts
  | .par => G grammar (.inl "parallel") ts ∧ G grammar (.inl "parallel_terminal") ts
  | .anyK => G grammar (.inl "anytrait") ts
  | .serT => G grammar (.inl "series_terminal") ts
  | .parT => G grammar (.inl "parallel_terminal") ts

namespace InGrammar
variable {ts : List Tok} {k : Kind} (h : InGrammar ts k)
include h

theorem ser (hk : k.leSer = true) : G grammar (.inl "series") ts := by
  cases k with
  | elem => exact .alt 7 2 (.one h)
  | ser => exact h.1
  | _ => cases hk

theorem par (hk : k.lePar = true) : G grammar (.inl "parallel") ts := by
  cases k with
  | par => exact h.1
  | anyK | serT | parT => cases hk
  | _ => exact .alt 8 1 (.one (h.ser rfl))

theorem serT (hk : k.leSerT = true) : G grammar (.inl "series_terminal") ts := by
  cases k with
  | elem => exact .alt 9 4 (.one h)
  | ser => exact h.2
  | anyK => exact .alt 9 5 (.one h)
  | serT => exact h
  | _ => cases hk

theorem parT : G grammar (.inl "parallel_terminal") ts := by
  cases k with
  | par => exact h.2
  | parT => exact h
  | _ => exact .alt 10 1 (.one (h.serT rfl))

end InGrammar

theorem Derives.inGrammar {c : Cst} {k : Kind} (h : Derives c k) : InGrammar (toks c) k := by
  induction h with
  | trait n => exact .alt 6 0 (.one (.alt 0 0 (.name .nil)))
  | items => exact .alt 6 1 (.one (.alt 1 0 (.lit litTok_items .nil)))
  | metadata n => exact .alt 6 2 (.one (.alt 2 0 (.lit litTok_plus (.name .nil))))
  | any => exact .alt 3 0 (.lit litTok_star .nil)
  | group _ hle ih => exact .alt 6 3 (.lit litTok_lb (.nt (ih.par hle) (.lit litTok_rb .nil)))
  | serElem cn _ hle _ ihl ihr =>
    exact ⟨gen_ser_step 7 0 1 cn (ihl.ser hle) ihr,
      gen_ser_step 9 0 2 cn (ihl.ser hle) ihr⟩
  | serAny cn _ hle ihl =>
    exact gen_ser_step 9 1 2 cn (ihl.ser hle) (.alt 3 0 (.lit litTok_star .nil))
  | par _ _ hl hr ihl ihr =>
    exact ⟨.alt 8 0 (.nt (ihl.par hl) (.lit litTok_comma (.one (ihr.ser hr)))),
      .alt 10 0 (.nt ihl.parT (.lit litTok_comma (.one (ihr.serT (leSer_leSerT hr)))))⟩
  | parT _ _ _ hT ihl ihr =>
    exact .alt 10 0 (.nt ihl.parT (.lit litTok_comma (.one (ihr.serT hT))))

theorem gen_of_shape (c : Cst) (h : (shape c).isSome = true) : Gen grammar "start" (toks c) := by
  obtain ⟨k, hk⟩ := isSome_shape.mp h
  exact .alt 11 0 (.one hk.inGrammar.parT)

/-! ### grammar ⊆ trees -/

def TreeToks (b : Kind → Bool) (ts : List Tok) : Prop := ∃ c k, Derives c k ∧ b k = true ∧ toks c = ts

theorem TreeToks.of {b : Kind → Bool} {c : Cst} {k : Kind} (h : Derives c k) (hb : b k = true) :
    TreeToks b (toks c) := ⟨c, k, h, hb, rfl⟩

theorem TreeToks.mono {b b' : Kind → Bool} {ts : List Tok} (h : TreeToks b ts)
    (hb : ∀ k, b k = true → b' k = true) : TreeToks b' ts :=
  let ⟨c, k, hd, hk, e⟩ := h; ⟨c, k, hd, hb k hk, e⟩

/-- what a rule's token strings are, in terms of trees -/
def RuleSem (A : String) (ts : List Tok) : Prop :=
  if A = "trait" then ∃ n, ts = [.name n]
  else if A = "items" then ts = [.items]
  else if A = "metadata" then ∃ n, ts = [.plus, .name n]
  else if A = "anytrait" then ts = [.star]
  else if A = "notify" then ts = [.conn .notify]
  else if A = "quiet" then ts = [.conn .quiet]
  else if A = "element" then TreeToks (· == .elem) ts
  else if A = "series" then TreeToks Kind.leSer ts
  else if A = "parallel" then TreeToks Kind.lePar ts
  else if A = "series_terminal" then TreeToks Kind.leSerT ts
  else if A = "parallel_terminal" then TreeToks (fun _ => true) ts
  else if A = "start" then TreeToks (fun _ => true) ts
  else False

def AltSem : List GSym → List Tok → Prop
  | [], ts => ts = []
  | (kind, v) :: rest, ts =>
    if kind = "nt" then ∃ t1 t2, ts = t1 ++ t2 ∧ RuleSem v t1 ∧ AltSem rest t2
    else if kind = "term" then ∃ n t2, ts = .name n :: t2 ∧ AltSem rest t2
    else ∃ t t2, litTok v = some t ∧ ts = t :: t2 ∧ AltSem rest t2

def GSem : String ⊕ List GSym → List Tok → Prop
  | .inl A, ts => RuleSem A ts
  | .inr alt, ts => AltSem alt ts

theorem AltSem_nil (ts : List Tok) : AltSem [] ts = (ts = []) := rfl
theorem AltSem_nt (A : String) (rest : List GSym) (ts : List Tok) :
    AltSem (("nt", A) :: rest) ts = ∃ t1 t2, ts = t1 ++ t2 ∧ RuleSem A t1 ∧ AltSem rest t2 := by simp [AltSem]
theorem AltSem_term (rest : List GSym) (ts : List Tok) :
    AltSem (("term", "NAME") :: rest) ts = ∃ n t2, ts = .name n :: t2 ∧ AltSem rest t2 := by simp [AltSem]
theorem AltSem_lit {v : String} {t : Tok} (h : litTok v = some t) (rest : List GSym) (ts : List Tok) :
    AltSem (("lit", v) :: rest) ts = ∃ t2, ts = t :: t2 ∧ AltSem rest t2 := by simp [AltSem, h]

theorem RuleSem_trait (ts) : RuleSem "trait" ts = ∃ n, ts = [.name n] := by simp [RuleSem]
theorem RuleSem_items (ts) : RuleSem "items" ts = (ts = [.items]) := by simp [RuleSem]
theorem RuleSem_metadata (ts) : RuleSem "metadata" ts = ∃ n, ts = [.plus, .name n] := by simp [RuleSem]
theorem RuleSem_anytrait (ts) : RuleSem "anytrait" ts = (ts = [.star]) := by simp [RuleSem]
theorem RuleSem_notify (ts) : RuleSem "notify" ts = (ts = [.conn .notify]) := by simp [RuleSem]
theorem RuleSem_quiet (ts) : RuleSem "quiet" ts = (ts = [.conn .quiet]) := by simp [RuleSem]
theorem RuleSem_element (ts) : RuleSem "element" ts = TreeToks (· == .elem) ts := by simp [RuleSem]
theorem RuleSem_series (ts) : RuleSem "series" ts = TreeToks Kind.leSer ts := by simp [RuleSem]
theorem RuleSem_parallel (ts) : RuleSem "parallel" ts = TreeToks Kind.lePar ts := by simp [RuleSem]
theorem RuleSem_series_terminal (ts) : RuleSem "series_terminal" ts = TreeToks Kind.leSerT ts := by simp [RuleSem]
theorem RuleSem_parallel_terminal (ts) : RuleSem "parallel_terminal" ts = TreeToks (fun _ => true) ts := by simp [RuleSem]
theorem RuleSem_start (ts) : RuleSem "start" ts = TreeToks (fun _ => true) ts := by simp [RuleSem]

-- from here on `RuleSem` and `AltSem` are used through the equations above only
attribute [irreducible] RuleSem AltSem

theorem AltSem_one {A : String} {ts : List Tok} (h : AltSem [("nt", A)] ts) : RuleSem A ts := by
  simp only [AltSem_nt, AltSem_nil] at h
  obtain ⟨t1, _, rfl, hq, rfl⟩ := h
  rwa [List.append_nil]

theorem AltSem_three {A B C : String} {ts : List Tok} (h : AltSem [("nt", A), ("nt", B), ("nt", C)] ts) :
    ∃ t1 t2 t3, ts = t1 ++ (t2 ++ t3) ∧ RuleSem A t1 ∧ RuleSem B t2 ∧ RuleSem C t3 := by
  rw [AltSem_nt] at h
  obtain ⟨t1, _, rfl, hA, h⟩ := h
  rw [AltSem_nt] at h
  obtain ⟨t2, t3, rfl, hB, h⟩ := h
  exact ⟨t1, t2, t3, rfl, hA, hB, AltSem_one h⟩

theorem AltSem_comma {A B : String} {ts : List Tok} (h : AltSem [("nt", A), ("lit", ","), ("nt", B)] ts) :
    ∃ t1 t3, ts = t1 ++ .comma :: t3 ∧ RuleSem A t1 ∧ RuleSem B t3 := by
  rw [AltSem_nt] at h
  obtain ⟨t1, _, rfl, hA, h⟩ := h
  rw [AltSem_lit litTok_comma] at h
  obtain ⟨t3, rfl, h⟩ := h
  exact ⟨t1, t3, rfl, hA, AltSem_one h⟩

/-- `series (notify|quiet) element` -/
theorem ser_elem_sound {C : String} {cn : Conn} {ts : List Tok} {b : Kind → Bool}
    (hC : ∀ t, RuleSem C t = (t = [.conn cn])) (hb : b .ser = true)
    (h : AltSem [("nt", "series"), ("nt", C), ("nt", "element")] ts) : TreeToks b ts := by
  obtain ⟨t1, t2, t3, rfl, h1, h2, h3⟩ := AltSem_three h
  obtain ⟨l, kl, hl, hle, rfl⟩ := (RuleSem_series _).mp h1
  obtain ⟨r, kr, hr, hk, rfl⟩ := (RuleSem_element _).mp h3
  cases eq_of_beq hk
  rw [(hC _).mp h2]
  exact .of (.serElem cn hl hle hr) hb

/-- `series (notify|quiet) anytrait` -/
theorem ser_any_sound {C : String} {cn : Conn} {ts : List Tok} {b : Kind → Bool}
    (hC : ∀ t, RuleSem C t = (t = [.conn cn])) (hb : b .serT = true)
    (h : AltSem [("nt", "series"), ("nt", C), ("nt", "anytrait")] ts) : TreeToks b ts := by
  obtain ⟨t1, t2, t3, rfl, h1, h2, h3⟩ := AltSem_three h
  obtain ⟨l, kl, hl, hle, rfl⟩ := (RuleSem_series _).mp h1
  rw [(hC _).mp h2, (RuleSem_anytrait _).mp h3]
  exact .of (.serAny cn hl hle) hb

/-- each rule alternative maps trees to trees -/
theorem rule_sound : ∀ r ∈ grammar, ∀ alt ∈ r.2.2, ∀ ts, AltSem alt ts → RuleSem r.1 ts := by
  simp only [grammar, List.forall_mem_cons, List.not_mem_nil, false_imp_iff, implies_true, and_true]
  refine ⟨?_, ?_, ?_, ?_, ?_, ?_, ⟨?_, ?_, ?_, ?_⟩, ⟨?_, ?_, ?_⟩, ⟨?_, ?_⟩, ⟨?_, ?_, ?_, ?_, ?_, ?_⟩,
    ⟨?_, ?_⟩, ?_⟩ <;> intro ts h
  · -- trait: NAME
    simp only [AltSem_term, AltSem_nil] at h
    obtain ⟨n, _, rfl, rfl⟩ := h
    exact (RuleSem_trait _).mpr ⟨n, rfl⟩
  · -- items: "items"
    simp only [AltSem_lit litTok_items, AltSem_nil] at h
    obtain ⟨_, rfl, rfl⟩ := h
    exact (RuleSem_items _).mpr rfl
  · -- metadata: "+" NAME
    simp only [AltSem_lit litTok_plus, AltSem_term, AltSem_nil] at h
    obtain ⟨_, rfl, n, _, rfl, rfl⟩ := h
    exact (RuleSem_metadata _).mpr ⟨n, rfl⟩
  · -- anytrait: "*"
    simp only [AltSem_lit litTok_star, AltSem_nil] at h
    obtain ⟨_, rfl, rfl⟩ := h
    exact (RuleSem_anytrait _).mpr rfl
  · -- notify: "."
    simp only [AltSem_lit litTok_dot, AltSem_nil] at h
    obtain ⟨_, rfl, rfl⟩ := h
    exact (RuleSem_notify _).mpr rfl
  · -- quiet: ":"
    simp only [AltSem_lit litTok_colon, AltSem_nil] at h
    obtain ⟨_, rfl, rfl⟩ := h
    exact (RuleSem_quiet _).mpr rfl
  -- element: trait | items | metadata | "[" parallel "]"
  · obtain ⟨n, rfl⟩ := (RuleSem_trait _).mp (AltSem_one h)
    exact (RuleSem_element _).mpr (.of (.trait n) rfl)
  · cases (RuleSem_items _).mp (AltSem_one h)
    exact (RuleSem_element _).mpr (.of .items rfl)
  · obtain ⟨n, rfl⟩ := (RuleSem_metadata _).mp (AltSem_one h)
    exact (RuleSem_element _).mpr (.of (.metadata n) rfl)
  · simp only [AltSem_lit litTok_lb, AltSem_nt, AltSem_lit litTok_rb, AltSem_nil, RuleSem_parallel] at h
    obtain ⟨_, rfl, _, _, rfl, ⟨c, k, hk, hle, rfl⟩, _, rfl, rfl⟩ := h
    exact (RuleSem_element _).mpr (.of (.group hk hle) rfl)
  -- series: series notify element | series quiet element | element
  · exact (RuleSem_series _).mpr (ser_elem_sound RuleSem_notify rfl h)
  · exact (RuleSem_series _).mpr (ser_elem_sound RuleSem_quiet rfl h)
  · exact (RuleSem_series _).mpr (((RuleSem_element _).mp (AltSem_one h)).mono fun _ hk => eq_of_beq hk ▸ rfl)
  -- parallel: parallel "," series | series
  · obtain ⟨t1, t3, rfl, h1, h3⟩ := AltSem_comma h
    obtain ⟨l, kl, hl, hle, rfl⟩ := (RuleSem_parallel _).mp h1
    obtain ⟨r, kr, hr, hre, rfl⟩ := (RuleSem_series _).mp h3
    exact (RuleSem_parallel _).mpr (.of (.par hl hr hle hre) rfl)
  · exact (RuleSem_parallel _).mpr (((RuleSem_series _).mp (AltSem_one h)).mono fun _ => leSer_lePar)
  -- series_terminal: series (notify | quiet) (element | anytrait) | element | anytrait
  · exact (RuleSem_series_terminal _).mpr (ser_elem_sound RuleSem_notify rfl h)
  · exact (RuleSem_series_terminal _).mpr (ser_any_sound RuleSem_notify rfl h)
  · exact (RuleSem_series_terminal _).mpr (ser_elem_sound RuleSem_quiet rfl h)
  · exact (RuleSem_series_terminal _).mpr (ser_any_sound RuleSem_quiet rfl h)
  · exact (RuleSem_series_terminal _).mpr
      (((RuleSem_element _).mp (AltSem_one h)).mono fun _ hk => eq_of_beq hk ▸ rfl)
  · cases (RuleSem_anytrait _).mp (AltSem_one h)
    exact (RuleSem_series_terminal _).mpr (.of .any rfl)
  -- parallel_terminal: parallel_terminal "," series_terminal | series_terminal
  · obtain ⟨t1, t3, rfl, h1, h3⟩ := AltSem_comma h
    obtain ⟨l, kl, hl, -, rfl⟩ := (RuleSem_parallel_terminal _).mp h1
    obtain ⟨r, kr, hr, hre, rfl⟩ := (RuleSem_series_terminal _).mp h3
    rw [RuleSem_parallel_terminal]
    cases hpp : (kl.lePar && kr.leSer) with
    | true =>
      rw [Bool.and_eq_true] at hpp
      exact .of (.par hl hr hpp.1 hpp.2) rfl
    | false => exact .of (.parT hl hr hpp hre) rfl
  · exact (RuleSem_parallel_terminal _).mpr (((RuleSem_series_terminal _).mp (AltSem_one h)).mono fun _ _ => rfl)
  · -- start: parallel_terminal
    exact (RuleSem_start _).mpr ((RuleSem_parallel_terminal _).mp (AltSem_one h))

theorem G_sound {x : String ⊕ List GSym} {ts : List Tok} (h : G grammar x ts) : GSem x ts := by
  induction h with
  | rule hmem halt _ ih => exact rule_sound _ hmem _ halt _ ih
  | nil => exact (AltSem_nil _).mpr rfl
  | nt _ _ ih1 ih2 => exact (AltSem_nt _ _ _).mpr ⟨_, _, rfl, ih1, ih2⟩
  | name _ ih => exact (AltSem_term _ _).mpr ⟨_, _, rfl, ih⟩
  | lit hl _ ih => exact (AltSem_lit hl _ _).mpr ⟨_, rfl, ih⟩

theorem shape_of_gen {ts : List Tok} (h : Gen grammar "start" ts) :
    ∃ c, (shape c).isSome = true ∧ toks c = ts := by
  obtain ⟨c, k, hk, -, rfl⟩ := (RuleSem_start _).mp (G_sound h)
  exact ⟨c, isSome_shape.mpr ⟨k, hk⟩, rfl⟩

end TraitsVerif.Model.Dsl
