/-
Cluster `obs`: what a mutation delivers.

* the two notifier loops keep whatever each live notifier keeps (`callTrait_inv`, `notifyCont_inv`), and a
  mutation is a plain heap change, a malformed request, or one of these loops on the notifiers of the
  mutated observable (`mutate_cases`); a maintainer only makes outermost `add_or_remove_notifiers` calls for
  its own key (`maint_inv`).  Together (`mutate_inv`): a predicate on hooks and deliveries that live user
  deliveries and live maintainers' runs keep is kept by every mutation;
* hence every delivered event is produced by a live user notifier sitting on the mutated observable and
  describes exactly that change (`callTrait_delivered`, `mutate_delivered`);
* notifiers whose weak fields are dead neither deliver nor run (`*_allDead`).
-/
import TraitsVerif.Lemmas.ObsRegister
namespace TraitsVerif.Model.Obs
open TraitsVerif

def Delivered.observable : Delivered → Observable
  | .trait _ o n _ _ => .trait o n
  | .list _ c .. => .cont c
  | .dict _ c .. => .cont c
  | .set _ c .. => .cont c

/-- The observable whose notifiers a mutation calls. -/
def Mutation.target : Mutation → Option Observable
  | .alloc .. => none
  | .setField o n _ _ => some (.trait o n)
  | .read o n _ => some (.trait o n)
  | .delField o n _ => some (.trait o n)
  | .addTrait o _ _ _ => some (.trait o nTraitAdded)
  | .announce o _ _ => some (.trait o nTraitAdded)
  | .listAppend c _ => some (.cont c)
  | .listInsert c _ _ => some (.cont c)
  | .listDel c _ => some (.cont c)
  | .listSet c _ _ => some (.cont c)
  | .listSlice c _ _ _ => some (.cont c)
  | .listStride c _ _ _ => some (.cont c)
  | .listClear c => some (.cont c)
  | .listExtend c _ => some (.cont c)
  | .dictSet c _ _ => some (.cont c)
  | .dictDel c _ => some (.cont c)
  | .dictClear c => some (.cont c)
  | .setAdd c _ => some (.cont c)
  | .setDiscard c _ => some (.cont c)
  | .setClear c => some (.cont c)

/-! ### the two loops over notifiers -/

theorem callTrait_inv (E : Env) (h : Heap) (o : Id) (n : Name) (old new : Val) (I : Hooks → List Delivered → Prop)
    (ns : List Notifier)
    (hu : ∀ k rc, Notifier.user k rc ∈ ns → E.dead k = false → preventTrait E h o n old new = false →
      ∀ H ds, I H ds → I H (ds ++ [.trait k o n old new]))
    (hm : ∀ mk g k, Notifier.maint mk g k ∈ ns → E.dead k = false →
      ∀ H ds, I H ds → I (maintTrait h mk g k o old new H).H ds) (H : Hooks) (ds : List Delivered) (hI : I H ds) :
    I (callTrait E h o n old new ns H ds).1 (callTrait E h o n old new ns H ds).2.1 := by
  induction ns generalizing H ds with
  | nil => exact hI
  | cons nt ns ih =>
    have ih' := ih (fun k rc hm' => hu k rc (List.mem_cons_of_mem _ hm')) fun mk g k hm' => hm mk g k (List.mem_cons_of_mem _ hm')
    cases nt with
    | user k rc =>
      rw [callTrait]
      split
      · exact ih' H ds hI
      · next hc =>
        rw [Bool.or_eq_true, not_or, Bool.not_eq_true, Bool.not_eq_true] at hc
        exact ih' H _ (hu k rc (List.mem_cons_self ..) hc.1 hc.2 H ds hI)
    | maint mk g k =>
      rw [callTrait]
      split
      · exact ih' H ds hI
      · next hc =>
        have := hm mk g k (List.mem_cons_self ..) (Bool.not_eq_true _ ▸ hc) H ds hI
        dsimp only
        split
        · exact this
        · exact ih' _ ds this

/-- A container's loop reads its LIVE list: the hypotheses speak of the notifiers of whatever hooks it has reached. -/
theorem notifyCont_inv (E : Env) (h : Heap) (c : Id) (ev : CEvent) (I : Hooks → List Delivered → Prop)
    (hu : ∀ k rc H ds, Notifier.user k rc ∈ H.get (.cont c) → E.dead k = false → I H ds →
      I H (ds ++ [deliverCont k c ev]))
    (hm : ∀ mk g k H ds, Notifier.maint mk g k ∈ H.get (.cont c) → E.dead k = false → I H ds →
      I (maintCont h g k ev H).H ds) :
    ∀ (fuel i : Nat) (H : Hooks) (ds : List Delivered), I H ds →
      I (notifyCont E h c ev fuel i H ds).1 (notifyCont E h c ev fuel i H ds).2.1 := by
  intro fuel
  induction fuel with
  | zero => intro i H ds hI; exact hI
  | succ fuel ih =>
    intro i H ds hI
    rw [notifyCont]
    cases hg : (H.get (.cont c))[i]? with
    | none => exact hI
    | some nt =>
      have hmem := List.mem_of_getElem? hg
      cases nt with
      | user k rc =>
        dsimp only
        split
        · exact ih _ H ds hI
        · next hc => exact ih _ H _ (hu k rc H ds hmem (Bool.not_eq_true _ ▸ hc) hI)
      | maint mk g k =>
        dsimp only
        split
        · exact ih _ H ds hI
        · next hc =>
          have := hm mk g k H ds hmem (Bool.not_eq_true _ ▸ hc) hI
          split
          · exact this
          · exact ih _ _ ds this

/-! ### what a mutation is -/

/-- A mutation is a plain heap change, a malformed request (`skip`), or a notifier loop on the mutated observable:
`fire` (twice for `del`) on an instance trait, `runCont` on a container. -/
theorem mutate_cases (E : Env) (st : St) (m : Mutation) (P : Out → Prop)
    (plain : ∀ h', P ⟨⟨h', st.H⟩, [], none⟩) (skp : P (skip st))
    (hfire : ∀ o n h' old new, m.target = some (.trait o n) → P (fire E st.H h' o n old new))
    (hrefire : ∀ o n h' cmp old new, m.target = some (.trait o n) →
      P (refire E (fire E st.H h' o n .unset new) o n cmp old new))
    (hcont : ∀ c h' ev, m.target = some (.cont c) → P (runCont E st h' c ev)) : P (mutate E st m) := by
  -- unfold `mutate` at the constructor, down to the first stuck `match`
  cases m <;> (conv => arg 1; whnf)
  case alloc => exact plain _
  case setField =>
    split
    · split
      · exact skp
      · split
        · exact plain _
        · dsimp only
          split
          · exact plain _
          · exact hfire _ _ _ _ _ rfl
    · exact skp
  case read =>
    split
    · split
      · exact skp
      · split
        · exact hfire _ _ _ _ _ rfl
        · exact plain st.h
    · exact skp
  case delField =>
    split
    · split
      · exact skp
      · split
        · exact plain st.h
        · exact hrefire _ _ _ _ _ _ rfl
    · exact skp
  case addTrait =>
    split
    · split
      · exact plain _
      · exact hfire _ _ _ _ _ rfl
    · exact skp
  case announce =>
    split
    · split
      · exact plain st.h
      · exact hfire _ _ _ _ _ rfl
    · exact skp
  case listAppend | listClear | listExtend | dictClear | setClear =>
    split
    · exact hcont _ _ _ rfl
    · exact skp
  case listInsert | listDel | listSet | listSlice | listStride | dictDel =>
    split
    · split
      · exact hcont _ _ _ rfl
      · exact skp
    · exact skp
  case dictSet =>
    split
    · split
      · exact hcont _ _ _ rfl
      · exact hcont _ _ _ rfl
    · exact skp
  case setAdd =>
    split
    · split
      · exact plain st.h
      · exact hcont _ _ _ rfl
    · exact skp
  case setDiscard =>
    split
    · split
      · exact hcont _ _ _ rfl
      · exact plain st.h
    · exact skp

/-! ### what every mutation keeps -/

/-- What a maintainer's run does to the hooks: outermost calls for its own key, on its graph or (the
`trait_added` maintainer) on a restriction of it. -/
theorem maint_inv (I : Hooks → Prop) (k : HKey) (g : Graph)
    (hcall : ∀ h rm extra g' x H, (g' = g ∨ ∃ n, g' = restrict g n) → I H → I (addRemove h k rm extra g' x H).H) :
    (∀ h mk o old new H, I H → I (maintTrait h mk g k o old new H).H) ∧
    (∀ h ev H, I H → I (maintCont h g k ev H).H) := by
  have hg := fun h rm extra x H => hcall h rm extra g x H (.inl rfl)
  refine ⟨fun h mk o old new H hI => ?_, fun h ev H hI => ?_⟩
  · unfold maintTrait
    cases mk with
    | trait =>
      have r1 : I (removeOld h k g old H).H := by
        unfold removeOld
        split
        · dsimp only; split <;> exact hg h true true _ H hI
        · exact hI
      dsimp only
      split
      · exact r1
      · unfold addNew
        split
        · exact hg h false true _ _ r1
        · exact r1
    | added =>
      dsimp only
      split
      · split
        · exact hcall h false false _ _ H (.inr ⟨_, rfl⟩) hI
        · exact hI
      · exact hI
    | list | dict | set => exact hI
  · unfold maintCont walkAll
    have r1 := foldRes_pres I (addRemove h k true true g) (ev.removed.map some) (fun y _ H' => hg h true true y H') H hI
    dsimp only
    split
    · exact r1
    · exact foldRes_pres I (addRemove h k false true g) (ev.added.map some) (fun y _ H' => hg h false true y H') _ r1

theorem deliverCont_observable (k : HKey) (c : Id) (ev : CEvent) :
    (deliverCont k c ev).observable = .cont c ∧ (deliverCont k c ev).key = k := by
  cases ev <;> exact ⟨rfl, rfl⟩

/-- What a predicate `I` on hooks and deliveries has to admit for every mutation of target `tgt` to keep it.
`N` is what `I` knows of the notifiers held (the trait loop calls those held when it starts, the container
loop those held when it gets to them); a live user notifier delivers, a live maintainer runs. -/
structure MutInv (E : Env) (tgt : Option Observable) (N : Notifier → Prop) (I : Hooks → List Delivered → Prop) :
    Prop where
  held : ∀ H ds, I H ds → ∀ o, ∀ n ∈ H.get o, N n
  user : ∀ k rc d, N (.user k rc) → E.dead k = false → d.key = k → some d.observable = tgt →
    ∀ H ds, I H ds → I H (ds ++ [d])
  maintT : ∀ mk g k, N (.maint mk g k) → E.dead k = false →
    ∀ h o old new H ds, I H ds → I (maintTrait h mk g k o old new H).H ds
  maintC : ∀ mk g k, N (.maint mk g k) → E.dead k = false → ∀ h ev H ds, I H ds → I (maintCont h g k ev H).H ds

section
variable {E : Env} {tgt : Option Observable} {N : Notifier → Prop} {I : Hooks → List Delivered → Prop}

/-- `call_notifiers` on the notifiers of `o.n`, after `ds0` has been delivered -/
theorem MutInv.fire (hI : MutInv E tgt N I) (H0 : Hooks) (ds0 : List Delivered) (h0 : I H0 ds0) (h' : Heap) (o : Id)
    (n : Name) (old new : Val) (ht : tgt = some (.trait o n)) :
    I (fire E H0 h' o n old new).st.H (ds0 ++ (fire E H0 h' o n old new).delivered) := by
  have hN := hI.held H0 ds0 h0 (.trait o n)
  refine callTrait_inv E h' o n old new (fun H ds => I H (ds0 ++ ds)) _ ?_ ?_ H0 [] (by rwa [List.append_nil])
  · intro k rc hm hk _ H ds hi
    rw [← List.append_assoc]
    exact hI.user k rc (.trait k o n old new) (hN _ hm) hk rfl ht.symm H _ hi
  · intro mk g k hm hk H ds hi
    exact hI.maintT mk g k (hN _ hm) hk h' o old new H _ hi

theorem mutate_inv (st : St) (m : Mutation) (hI : MutInv E m.target N I) (h0 : I st.H []) :
    I (mutate E st m).st.H (mutate E st m).delivered := by
  refine mutate_cases E st m (fun out => I out.st.H out.delivered) (fun _ => h0) h0 ?_ ?_ ?_
  · intro o n h' old new ht
    exact hI.fire st.H [] h0 h' o n old new ht
  · intro o n h' cmp old new ht
    have r1 := hI.fire st.H [] h0 h' o n .unset new ht
    rw [List.nil_append] at r1
    unfold refire
    split
    · exact r1
    · split
      · exact hI.fire _ _ r1 _ o n old new ht
      · exact r1
  · intro c h' ev ht
    cases ev with
    | none => exact h0
    | some ev =>
      refine notifyCont_inv E h' c ev I ?_ ?_ _ 0 st.H [] h0
      · intro k rc H ds hm hk hi
        exact hI.user k rc _ (hI.held H ds hi _ _ hm) hk (deliverCont_observable k c ev).2
          (by rw [(deliverCont_observable k c ev).1, ht]) H ds hi
      · intro mk g k H ds hm hk hi
        exact hI.maintC mk g k (hI.held H ds hi _ _ hm) hk h' ev H ds hi

end

/-! ### what is delivered -/

theorem callTrait_delivered (E : Env) (h : Heap) (o : Id) (n : Name) (old new : Val) :
    ∀ (ns : List Notifier) (H : Hooks) (ds : List Delivered),
      ∀ d ∈ (callTrait E h o n old new ns H ds).2.1,
        d ∈ ds ∨ ∃ k rc, Notifier.user k rc ∈ ns ∧ E.dead k = false ∧ preventTrait E h o n old new = false ∧
          d = .trait k o n old new := by
  intro ns H ds
  refine callTrait_inv E h o n old new (fun _ ds' => ∀ d ∈ ds', d ∈ ds ∨ ∃ k rc, Notifier.user k rc ∈ ns ∧
    E.dead k = false ∧ preventTrait E h o n old new = false ∧ d = .trait k o n old new) ns ?_ (fun _ _ _ _ _ _ _ hI => hI)
    H ds fun d hd => .inl hd
  intro k rc hm hk hp _ ds' hI d hd
  rcases List.mem_append.1 hd with h1 | h1
  · exact hI d h1
  · exact .inr ⟨k, rc, hm, hk, hp, List.mem_singleton.1 h1⟩

theorem mutate_delivered (E : Env) (st : St) (m : Mutation) :
    ∀ d ∈ (mutate E st m).delivered, some d.observable = m.target ∧ E.dead d.key = false := by
  refine mutate_inv (N := fun _ => True) (I := fun _ ds => ∀ d ∈ ds, some d.observable = m.target ∧ E.dead d.key = false)
    st m ⟨fun _ _ _ _ _ _ => trivial, ?_, fun _ _ _ _ _ _ _ _ _ _ _ hI => hI, fun _ _ _ _ _ _ _ _ _ hI => hI⟩ nofun
  intro k rc d _ hk hd ht H ds hI
  exact List.forall_mem_append.2 ⟨hI, List.forall_mem_singleton.2 ⟨ht, hd ▸ hk⟩⟩

theorem setField_delivered (E : Env) (st : St) (o : Id) (n : Name) (v : Val) (fresh : Id) :
    ∀ d ∈ (mutate E st (.setField o n v fresh)).delivered,
      ∃ k old rc, d = .trait k o n old v ∧ (old = v → fieldCmp st.h o n = .none) ∧
        Notifier.user k rc ∈ st.H.get (.trait o n) := by
  intro d hd
  simp only [mutate] at hd
  cases ho : st.h.get o with
  | inst fs =>
    simp only [ho] at hd
    cases hf : findField fs n with
    | none => simp [hf, skip] at hd
    | some f =>
      simp only [hf] at hd
      split at hd
      · simp at hd
      · split at hd
        · simp at hd
        · rename_i hne
          rcases callTrait_delivered E _ o n _ v _ st.H [] d hd with h1 | ⟨k, rc, hm, _, _, rfl⟩
          · cases h1
          · refine ⟨k, _, rc, rfl, ?_, hm⟩
            intro he
            simp only [fieldCmp, ho, hf]
            simp only [Bool.and_eq_true, bne_iff_ne, ne_eq, beq_iff_eq, not_and] at hne
            exact Classical.byContradiction (fun hc => hne hc he)
  | list l => simp [ho, skip] at hd
  | dict l => simp [ho, skip] at hd
  | set l => simp [ho, skip] at hd
  | junk => simp [ho, skip] at hd

/-! ### dead weak references -/

/-- Every notifier of the list has a collected target or handler owner. -/
def AllDead (E : Env) (ns : List Notifier) : Prop := ∀ n ∈ ns, E.dead (NKey.hkey n.key) = true

theorem callTrait_allDead (E : Env) (h : Heap) (o : Id) (n : Name) (old new : Val) :
    ∀ (ns : List Notifier) (H : Hooks) (ds : List Delivered), AllDead E ns →
      callTrait E h o n old new ns H ds = (H, ds, none) := by
  intro ns
  induction ns with
  | nil => intro H ds _; rfl
  | cons nt ns ih =>
    intro H ds hall
    have hnt : E.dead (NKey.hkey nt.key) = true := hall nt (List.mem_cons_self ..)
    have hrest : AllDead E ns := fun n' hn' => hall n' (List.mem_cons_of_mem _ hn')
    cases nt with
    | user k rc => rw [callTrait, show E.dead k = true from hnt, Bool.true_or, if_pos rfl]; exact ih H ds hrest
    | maint mk g k => rw [callTrait, show E.dead k = true from hnt, if_pos rfl]; exact ih H ds hrest

theorem notifyCont_allDead (E : Env) (h : Heap) (c : Id) (ev : CEvent) (H : Hooks)
    (hall : AllDead E (H.get (.cont c))) :
    ∀ (fuel i : Nat) (ds : List Delivered), (H.get (.cont c)).length - i < fuel →
      notifyCont E h c ev fuel i H ds = (H, ds, none) := by
  intro fuel
  induction fuel with
  | zero => intro i ds hlt; omega
  | succ fuel ih =>
    intro i ds hlt
    rw [notifyCont]
    cases hg : (H.get (.cont c))[i]? with
    | none => rfl
    | some nt =>
      have hi : i < (H.get (.cont c)).length := (List.getElem?_eq_some_iff.1 hg).1
      have hnt : E.dead (NKey.hkey nt.key) = true := hall nt (List.mem_of_getElem? hg)
      cases nt with
      | user k rc => dsimp only; rw [show E.dead k = true from hnt, if_pos rfl]; exact ih (i + 1) ds (by omega)
      | maint mk g k => dsimp only; rw [show E.dead k = true from hnt, if_pos rfl]; exact ih (i + 1) ds (by omega)

theorem runCont_allDead (E : Env) (st : St) (h' : Heap) (c : Id) (ev : Option CEvent)
    (hall : ∀ o, AllDead E (st.H.get o)) : runCont E st h' c ev = ⟨⟨h', st.H⟩, [], none⟩ := by
  cases ev with
  | none => rfl
  | some ev =>
    simp only [runCont]
    rw [notifyCont_allDead E h' c ev st.H (hall _) _ 0 [] (by omega)]

theorem fire_allDead (E : Env) (H : Hooks) (h' : Heap) (o : Id) (n : Name) (old new : Val)
    (hall : ∀ o, AllDead E (H.get o)) : fire E H h' o n old new = ⟨⟨h', H⟩, [], none⟩ := by
  simp only [fire]
  rw [callTrait_allDead E h' o n old new _ H [] (hall _)]

theorem mutate_allDead (E : Env) (st : St) (m : Mutation) (hall : ∀ o, AllDead E (st.H.get o)) :
    (mutate E st m).delivered = [] ∧ (mutate E st m).st.H = st.H ∧
      ((mutate E st m).err = none ∨ mutate E st m = skip st) := by
  let P : Out → Prop := fun out => out.delivered = [] ∧ out.st.H = st.H ∧ (out.err = none ∨ out = skip st)
  have hplain : ∀ h', P ⟨⟨h', st.H⟩, [], none⟩ := fun _ => ⟨rfl, rfl, .inl rfl⟩
  refine mutate_cases E st m P hplain ⟨rfl, rfl, .inr rfl⟩ ?_ ?_ ?_
  · intro o n h' old new _
    rw [fire_allDead E st.H h' o n old new hall]; exact hplain h'
  · intro o n h' cmp old new _
    rw [fire_allDead E st.H h' o n _ new hall]
    unfold refire
    split
    · exact hplain h'
    · split
      · dsimp only; rw [fire_allDead E st.H h' o n old new hall]; exact hplain h'
      · exact hplain h'
  · intro c h' ev _
    rw [runCont_allDead E st h' c ev hall]; exact hplain h'

end TraitsVerif.Model.Obs
