/-
The simp sets of the deep-embedded interpreters: one attribute per language, holding the interpreter's stated
equations (and the value lemmas a run needs), so that a run names the set and what is particular to it.
An attribute cannot be used in the module that declares it: hence this module.
-/
import Lean.Meta.Tactic.Simp.RegisterCommand

/-- equations of the ResL interpreter (Lemmas/ResolveSource.lean) -/
register_simp_attr resl

/-- equations of the PyVSrc interpreter (Lemmas/ValPySrc.lean) -/
register_simp_attr pyv

/-- what a run of a notifier wrapper unfolds (Lemmas/WrapSource.lean) -/
register_simp_attr pyw
