/-
`TraitList.step` refines the builtin list model on validated arguments: one
equation for the contents and the return value, exceptions included
(`step_core`); success, failure and completeness follow.
-/
import TraitsVerif.Lemmas.SeqStep
import TraitsVerif.Lemmas.Common
namespace TraitsVerif.Model
open TraitsVerif TraitsVerif.Py
variable {α : Type}

/-- What `TraitList` evaluates before it validates anything: `removed = self[key]` of a slice assignment. -/
def precheck (l : List α) : Op α → Except Exc Unit
  | .setSlice s _ => (Py.getSlice l s).map fun _ => ()
  | _ => .ok ()

theorem step_core (E : Env α) (l : List α) (op : Op α) :
    (TraitList.step E l op).map (fun o => (o.items, o.ret)) =
      (precheck l op).bind fun _ => (validateOp E op).bind (pyStep E l) := by
  -- in every arm of the model both sides evaluate, given the arm's guards …
  fun_cases TraitList.step E l op <;>
    simp +zetaDelta [precheck, validateOp, pyStep, Except.map, Except.bind, *]
  -- … but for the four where the model consults the builtin list a second time.
  -- Slice assignment / deletion with an event: `_normalize_slice_or_index` is defined wherever `l[s]` is
  case case8 hget _ _ _ _ _ hnone => obtain ⟨_, _, h⟩ := normalizeSlice_of_getSlice hget; simp [h] at hnone
  case case17 hget _ _ _ hnone => obtain ⟨_, _, h⟩ := normalizeSlice_of_getSlice hget; simp [h] at hnone
  -- `del l[s]`: a slice that cannot be read cannot be deleted
  case case14 s _ hget => cases hidx : s.indices l.length <;> simp_all [Py.getSlice, Py.delSlice]
  -- `remove`: `index` found nothing, so the builtin `remove` raises too
  case case35 hidx => simp [Py.remove, hidx]

section
attribute [local simp] validateOp pyStep precheck Except.map

/-- A slice the builtin list rejects on reading is rejected on writing. -/
theorem pyStep_of_precheck_error {E : Env α} {l : List α} {op : Op α} {e : Exc} (h : precheck l op = .error e) :
    pyStep E l op = .error e := by
  cases op with
  | setSlice s xs => cases hidx : s.indices l.length <;> simp_all [Py.getSlice, Py.setSlice]
  | _ => cases h

theorem precheck_of_pyStep_ok {E : Env α} {l : List α} {op op' : Op α} {r : List α × Option α}
    (hv : validateOp E op = .ok op') (hp : pyStep E l op' = .ok r) : precheck l op = .ok () := by
  cases op with
  | setSlice s xs =>
    cases hv' : valAll E.v 0 xs with
    | error e => simp [hv'] at hv
    | ok ys =>
      simp only [validateOp, hv', Except.map, Except.ok.injEq] at hv
      subst hv
      cases hidx : s.indices l.length <;> simp_all [Py.getSlice, Py.setSlice]
  | _ => rfl
end

theorem step_refines_ok (E : Env α) (l : List α) (op : Op α) (o : Out α)
    (h : TraitList.step E l op = .ok o) :
    ∃ op', validateOp E op = .ok op' ∧ pyStep E l op' = .ok (o.items, o.ret) := by
  have hc := step_core E l op
  rw [h] at hc
  obtain ⟨_, _, hb⟩ := Except.bind_eq_ok hc.symm
  exact Except.bind_eq_ok hb

/-- Failure: the exception is the validator's, or the one the builtin list
raises on the validated (or, for a zero slice step, on the raw) arguments. -/
theorem step_refines_error (E : Env α) (l : List α) (op : Op α) (e : Exc)
    (h : TraitList.step E l op = .error e) :
    validateOp E op = .error e
    ∨ (∃ op', validateOp E op = .ok op' ∧ pyStep E l op' = .error e)
    ∨ pyStep E l op = .error e := by
  have hc := step_core E l op
  rw [h] at hc
  cases hp : precheck l op with
  | error e' =>
    rw [hp] at hc
    cases hc
    exact .inr (.inr (pyStep_of_precheck_error hp))
  | ok _ =>
    rw [hp] at hc
    cases hv : validateOp E op with
    | error e' => rw [hv] at hc; cases hc; exact .inl rfl
    | ok op' => rw [hv] at hc; exact .inr (.inl ⟨op', rfl, hc.symm⟩)

theorem step_refines_complete (E : Env α) (l : List α) (op op' : Op α) (l' : List α)
    (r : Option α) (hv : validateOp E op = .ok op') (hp : pyStep E l op' = .ok (l', r)) :
    ∃ o, TraitList.step E l op = .ok o ∧ o.items = l' ∧ o.ret = r := by
  have hc := step_core E l op
  rw [precheck_of_pyStep_ok hv hp, hv] at hc
  cases hs : TraitList.step E l op with
  | error e => rw [hs] at hc; cases hc.trans hp
  | ok o =>
    rw [hs] at hc
    exact ⟨o, rfl, Prod.mk.inj (Except.ok.inj (hc.trans hp))⟩

theorem step_ret_none (E : Env α) (l : List α) (op : Op α) (o : Out α)
    (h : TraitList.step E l op = .ok o) (hp : ∀ i, op ≠ .pop i) : o.ret = none := by
  revert h
  fun_cases TraitList.step E l op <;> intro h <;> cases h
  -- the arm of `pop` that succeeds
  case case34 => exact absurd rfl (hp _)
  all_goals rfl

end TraitsVerif.Model
