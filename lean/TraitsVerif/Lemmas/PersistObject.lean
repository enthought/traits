/-
Object-level lemmas for the `persist` cluster: `__getstate__`, the pickle of the
state, `__setstate__`, composed slot by slot.
-/
import TraitsVerif.Lemmas.PersistValue
namespace TraitsVerif.Lemmas.Persist
open TraitsVerif TraitsVerif.Model.Persist

/-! ## Well-formed objects -/

def slotIds (sl : Slot) : List Nat :=
  match sl.val with
  | some v => ids v
  | none => []

def objIds (s : Obj) : List Nat := s.slots.flatMap slotIds

/-- What the live models guarantee of every slot of a reachable object: the
stored value and the default are fixed points of the trait's validation. -/
structure WFSlot (E : Env) (sl : Slot) : Prop where
  /-- whatever the default factory hands out is valid for the trait -/
  dflt : ∀ n, Valid E sl.decl.shape (defaultOf sl n).1
  val : ∀ v, sl.val = some v → Valid E sl.decl.shape v

theorem defaultOf_le (sl : Slot) (n : Nat) : n ≤ (defaultOf sl n).2 := by
  unfold defaultOf; split <;> simp

theorem defaultOf_ids (sl : Slot) (n : Nat) : ∀ i ∈ ids (defaultOf sl n).1, i ∈ ids sl.decl.dflt := by
  unfold defaultOf
  split
  · intro i hi; simp [ids] at hi
  · intro i hi; exact hi

def WFObj (E : Env) (s : Obj) : Prop := ∀ sl ∈ s.slots, WFSlot E sl

/-- All identities in use are below `n` (the allocator never hands one out twice). -/
def BelowSlots (n : Nat) (l : List Slot) : Prop := ∀ sl ∈ l, ∀ i ∈ slotIds sl, i < n

inductive Forall2 {α β : Type} (R : α → β → Prop) : List α → List β → Prop where
  | nil : Forall2 R [] []
  | cons {a b as bs} : R a b → Forall2 R as bs → Forall2 R (a :: as) (b :: bs)

theorem Forall2.comp {α β γ : Type} {R : α → β → Prop} {S : β → γ → Prop} {T : α → γ → Prop}
    (h : ∀ a b c, R a b → S b c → T a c) :
    ∀ {l1 : List α} {l2 : List β} {l3 : List γ}, Forall2 R l1 l2 → Forall2 S l2 l3 → Forall2 T l1 l3
  | [], _, _, .nil, .nil => .nil
  | _ :: _, _, _, .cons r rs, .cons s ss => .cons (h _ _ _ r s) (Forall2.comp h rs ss)

theorem Forall2.imp {α β : Type} {R S : α → β → Prop} (h : ∀ a b, R a b → S a b) :
    ∀ {l1 : List α} {l2 : List β}, Forall2 R l1 l2 → Forall2 S l1 l2
  | [], _, .nil => .nil
  | _ :: _, _, .cons r rs => .cons (h _ _ r) (Forall2.imp h rs)

theorem Forall2.forall_right {α β : Type} {R : α → β → Prop} {P : β → Prop} (h : ∀ a b, R a b → P b) :
    ∀ {l1 : List α} {l2 : List β}, Forall2 R l1 l2 → ∀ b ∈ l2, P b
  | [], _, .nil => nofun
  | _ :: _, _, .cons r rs => List.forall_mem_cons.mpr ⟨h _ _ r, Forall2.forall_right h rs⟩

theorem Forall2.length {α β : Type} {R : α → β → Prop} :
    ∀ {l1 : List α} {l2 : List β}, Forall2 R l1 l2 → l1.length = l2.length
  | [], _, .nil => rfl
  | _ :: _, _, .cons _ rs => by simp [Forall2.length rs]

inductive Forall3 {α β γ : Type} (R : α → β → γ → Prop) : List α → List β → List γ → Prop where
  | nil : Forall3 R [] [] []
  | cons {a b c as bs cs} : R a b c → Forall3 R as bs cs → Forall3 R (a :: as) (b :: bs) (c :: cs)

theorem Forall3.length12 {α β γ : Type} {R : α → β → γ → Prop} :
    ∀ {l1 : List α} {l2 : List β} {l3 : List γ}, Forall3 R l1 l2 l3 → l2.length = l1.length
  | _, _, _, .nil => rfl
  | _, _, _, .cons _ rs => by simp [Forall3.length12 rs]

/-! ## Reading -/

theorem readSlot_spec {E : Env} (hI : Idem E) {sl : Slot} (hw : WFSlot E sl) (o n : Nat) :
    Valid E sl.decl.shape (readSlot E o n sl).1 ∧ (readSlot E o n sl).2.1.decl = sl.decl ∧
      (readSlot E o n sl).2.1.val = some (readSlot E o n sl).1 ∧ n ≤ (readSlot E o n sl).2.2 := by
  fun_cases readSlot E o n sl
  · rename_i v hv
    exact ⟨hw.val v hv, rfl, hv, Nat.le_refl _⟩
  -- the default is read: it is valid, so its validation succeeds
  · rename_i hval
    exact ⟨(validate_live hI o _ _ _ _ _ hval).valid, rfl, rfl,
      Nat.le_trans (defaultOf_le sl n) (validate_ids o _ _ _ _ _ hval).1⟩
  · rename_i herr
    obtain ⟨_, _, hval, -⟩ := validate_of_valid (hw.dflt n) o (defaultOf sl n).2
    cases hval.symm.trans herr

theorem readSlot_some {E : Env} {sl : Slot} {v : CVal} (hv : sl.val = some v) (o n : Nat) :
    readSlot E o n sl = (v, sl, n) := by
  simp [readSlot, hv]

theorem readSlot_wf {E : Env} (hI : Idem E) {sl : Slot} (hw : WFSlot E sl) (o n : Nat) :
    WFSlot E (readSlot E o n sl).2.1 := by
  obtain ⟨h1, h2, h3, -⟩ := readSlot_spec hI hw o n
  refine ⟨fun m => by
    have e : defaultOf (readSlot E o n sl).2.1 m = defaultOf sl m := by simp [defaultOf, h2]
    rw [e, h2]; exact hw.dflt m, ?_⟩
  intro v hv
  rw [h3] at hv
  cases hv
  rw [h2]
  exact h1

/-! ## Assignment to a fresh slot -/

theorem assignSlot_fresh {E : Env} (d : Decl) (hk : d.kind ≠ .event) (o n : Nat) (v : CVal) :
    assignSlot E o n ⟨d, none⟩ v =
      match validate E o d.shape n v with
      | .error e => .error e
      | .ok (v', n') => .ok (⟨d, some v'⟩, n') := by
  unfold assignSlot
  cases hd : d.kind with
  | event => exact absurd hd hk
  | _ =>
    dsimp only
    generalize validate E o d.shape n v = r
    cases r with | error e => rfl | ok p => cases p; rfl

/-- Identities in use, defaults' templates included, are below `n`. -/
def BelowAll (n : Nat) (l : List Slot) : Prop :=
  ∀ sl ∈ l, (∀ i ∈ slotIds sl, i < n) ∧ (∀ i ∈ ids sl.decl.dflt, i < n)

theorem readSlot_val (E : Env) (o n : Nat) (sl : Slot) :
    (readSlot E o n sl).2.1.val = some (readSlot E o n sl).1 := by
  fun_cases readSlot E o n sl
  · assumption
  · rfl
  · rfl

theorem readSlot_ids {E : Env} {sl : Slot} {n m : Nat}
    (hb : (∀ i ∈ slotIds sl, i < m) ∧ (∀ i ∈ ids sl.decl.dflt, i < m)) (o : Nat) :
    (∀ i ∈ slotIds (readSlot E o n sl).2.1, i < m ∨ (n ≤ i ∧ i < (readSlot E o n sl).2.2)) ∧
      n ≤ (readSlot E o n sl).2.2 := by
  have hd := defaultOf_le sl n
  have hdi := defaultOf_ids sl n
  fun_cases readSlot E o n sl
  · exact ⟨fun i hi => Or.inl (hb.1 i hi), Nat.le_refl _⟩
  -- the default is read: its containers are the template's or allocated by its validation
  · rename_i v' n' hval
    have hl := validate_ids o _ _ _ _ _ hval
    refine ⟨fun i hi => ?_, Nat.le_trans hd hl.1⟩
    rcases hl.2 i (by simpa [slotIds] using hi) with h | h
    · exact Or.inr ⟨Nat.le_trans hd h.1, h.2⟩
    · exact Or.inl (hb.2 i (hdi i h))
  · exact ⟨fun i hi => Or.inl (hb.2 i (hdi i (by simpa [slotIds] using hi))), hd⟩

theorem readSlot_below {E : Env} {sl : Slot} {n m : Nat} (hb : (∀ i ∈ slotIds sl, i < m) ∧ (∀ i ∈ ids sl.decl.dflt, i < m))
    (hm : m ≤ n) (o : Nat) :
    (∀ i ∈ slotIds (readSlot E o n sl).2.1, i < (readSlot E o n sl).2.2) ∧ n ≤ (readSlot E o n sl).2.2 := by
  obtain ⟨h1, h2⟩ := readSlot_ids (E := E) (n := n) hb o
  exact ⟨fun i hi => by rcases h1 i hi with h | h <;> omega, h2⟩

/-! ## `__getstate__` -/

theorem getstateL_below {E : Env} (o : Nat) (slots : List Slot) (n m : Nat) :
    BelowAll m slots → m ≤ n →
      (∀ sl ∈ (getstateL E o n slots).2.1, ∀ i ∈ slotIds sl, i < (getstateL E o n slots).2.2) ∧
      n ≤ (getstateL E o n slots).2.2 := by
  fun_induction getstateL E o n slots with
  | case1 n => exact fun _ _ => ⟨fun _ h => (by cases h), Nat.le_refl _⟩
  -- a persisted slot is read; what the later reads allocate lies above
  | case2 n sl sls hp r rs ih =>
    intro hb hm
    obtain ⟨r1, r3⟩ := readSlot_below (E := E) (hb sl (by simp)) hm o
    have ih := ih (fun s hs => hb s (by simp [hs])) (Nat.le_trans hm r3)
    simp only [List.forall_mem_cons]
    exact ⟨⟨fun i hi => Nat.lt_of_lt_of_le (r1 i hi) ih.2, ih.1⟩, Nat.le_trans r3 ih.2⟩
  | case3 n sl sls hp rs ih =>
    intro hb hm
    have ih := ih (fun s hs => hb s (by simp [hs])) hm
    simp only [List.forall_mem_cons]
    exact ⟨⟨fun i hi => Nat.lt_of_lt_of_le (Nat.lt_of_lt_of_le ((hb sl (by simp)).1 i hi) hm) ih.2, ih.1⟩, ih.2⟩

theorem pickleState_le : ∀ (st : List (Option CVal)) (n : Nat), n ≤ (pickleState n st).2
  | [], _ => Nat.le_refl _
  | none :: xs, n => pickleState_le xs n
  | some v :: xs, n =>
    Nat.le_trans (pickleV_eq v n ▸ (rebuild_fresh _ v n).1) (pickleState_le xs (pickleV n v).2)

/-! ## The round trip, slot by slot -/

/-- Original slot (after the reads of `__getstate__`) versus restored slot. -/
structure Restored (E : Env) (o' : Nat) (a b : Slot) : Prop where
  decl : b.decl = a.decl
  /-- a persisted trait: equal value, live for the new owner -/
  pers : a.decl.persisted = true →
    ∃ v w, a.val = some v ∧ b.val = some w ∧ norm w = norm v ∧ Live E o' a.decl.shape w
  /-- a transient trait (or an event): not in the copy's `__dict__`, i.e. at its default -/
  trans : a.decl.persisted = false → b.val = none

theorem Restored.live {E : Env} {o' : Nat} {a b : Slot} (r : Restored E o' a b) (w : CVal) (hw : b.val = some w) :
    Live E o' b.decl.shape w := by
  by_cases hp : a.decl.persisted = true
  · obtain ⟨_, w', _, hb, _, hl⟩ := r.pers hp
    cases hb.symm.trans hw
    exact r.decl ▸ hl
  · cases (r.trans (by simpa using hp)).symm.trans hw

/-- Original slot before versus after `__getstate__` (reads may store a default). -/
structure ReadOnlyChange (E : Env) (a a' : Slot) : Prop where
  decl : a'.decl = a.decl
  wf : WFSlot E a'
  kept : ∀ v, a.val = some v → a'.val = some v
  untouched : a.decl.persisted = false → a' = a

/-- `__getstate__`, the pickle and `__setstate__` each thread their own allocator state through the slots.  Started
from ANY three states they compose slot by slot: a persisted slot is read, the value read is rebuilt by the pickle
and assigned to the new slot (`validate_rebuild`); any other slot is passed over by all three.  Every container of
the copy is allocated by the pickling (from `n1`) or by the restoring (from `n2`). -/
theorem roundTrip_slots {E : Env} (hI : Idem E) (hC : CopyStable E) (o o' : Nat) :
    ∀ (slots : List Slot) (n n1 n2 : Nat), (∀ sl ∈ slots, WFSlot E sl) →
      ∃ copy n', setstateL E o' n2 (slots.map fun sl => ⟨sl.decl, none⟩)
          (pickleState n1 (getstateL E o n slots).1).1 = .ok (copy, n') ∧
        Forall2 (ReadOnlyChange E) slots (getstateL E o n slots).2.1 ∧
        Forall2 (Restored E o') (getstateL E o n slots).2.1 copy ∧
        ∀ c ∈ copy, ∀ i ∈ slotIds c, n1 ≤ i ∨ n2 ≤ i
  | [], _, _, n2, _ => ⟨[], n2, rfl, .nil, .nil, fun _ h => (by cases h)⟩
  | sl :: sls, n, n1, n2, hw => by
    have hsl := hw sl (by simp)
    have htl : ∀ s ∈ sls, WFSlot E s := fun s hs => hw s (by simp [hs])
    by_cases hp : sl.decl.persisted = true
    · obtain ⟨hv, hd, hval, -⟩ := readSlot_spec hI hsl o n
      have hk : sl.decl.kind ≠ .event := fun hk => by simp [Decl.persisted, hk] at hp
      obtain ⟨w, n3, hw3, hnorm, hlive, hle, hids⟩ := validate_rebuild Binding.afterSetstate hI hC hv o' n1 n2
      obtain ⟨copy, n', h1, h2, h3, h4⟩ := roundTrip_slots hI hC o o' sls (readSlot E o n sl).2.2
        (rebuild Binding.afterSetstate n1 (readSlot E o n sl).1).2 n3 htl
      simp only [getstateL, hp, ↓reduceIte, pickleState, List.map_cons, setstateL, assignSlot_fresh _ hk, pickleV_eq,
        hw3, h1]
      refine ⟨⟨sl.decl, some w⟩ :: copy, n', rfl, .cons ⟨hd, readSlot_wf hI hsl o n, ?_, ?_⟩ h2,
        .cons ⟨hd.symm, fun _ => ⟨_, w, hval, rfl, hnorm, hd ▸ hlive⟩, ?_⟩ h3, ?_⟩
      · intro v hv'; rw [readSlot_some hv']; exact hv'
      · intro hc; rw [hp] at hc; cases hc
      · intro hc; rw [hd, hp] at hc; cases hc
      · have hmono := (rebuild_fresh Binding.afterSetstate (readSlot E o n sl).1 n1).1
        intro c hc i hi
        rcases List.mem_cons.mp hc with rfl | hc
        · exact (hids i (by simpa [slotIds] using hi)).symm.imp And.left And.left
        · exact (h4 c hc i hi).imp (Nat.le_trans hmono) (Nat.le_trans hle)
    · have hp' : sl.decl.persisted = false := by simpa using hp
      obtain ⟨copy, n', h1, h2, h3, h4⟩ := roundTrip_slots hI hC o o' sls n n1 n2 htl
      simp only [getstateL, hp', Bool.false_eq_true, ↓reduceIte, pickleState, List.map_cons, setstateL, h1]
      refine ⟨⟨sl.decl, none⟩ :: copy, n', rfl, .cons ⟨rfl, hsl, fun _ h => h, fun _ => rfl⟩ h2,
        .cons ⟨rfl, fun hc => (by rw [hp'] at hc; cases hc), fun _ => rfl⟩ h3, ?_⟩
      intro c hc i hi
      rcases List.mem_cons.mp hc with rfl | hc
      · simp [slotIds] at hi
      · exact h4 c hc i hi

theorem pickleRoundTrip_spec {E : Env} (hI : Idem E) (hC : CopyStable E) {s : Obj} (hw : WFObj E s)
    (o' n : Nat) :
    ∃ c, pickleRoundTrip E s o' n = .ok c ∧ c.copy.oid = o' ∧ c.orig.oid = s.oid ∧
      Forall2 (ReadOnlyChange E) s.slots c.orig.slots ∧ Forall2 (Restored E o') c.orig.slots c.copy.slots := by
  obtain ⟨copy, n', h1, h2, h3, -⟩ := roundTrip_slots hI hC s.oid o' s.slots n (getstateL E s.oid n s.slots).2.2
    (pickleState (getstateL E s.oid n s.slots).2.2 (getstateL E s.oid n s.slots).1).2 hw
  exact ⟨⟨⟨o', copy⟩, ⟨s.oid, (getstateL E s.oid n s.slots).2.1⟩, n'⟩, by simp only [pickleRoundTrip, h1], rfl, rfl,
    h2, h3⟩

theorem pickle_no_sharing {E : Env} (hI : Idem E) (hC : CopyStable E) {s : Obj} (hw : WFObj E s)
    {o' n m : Nat} (hb : BelowAll m s.slots) (hm : m ≤ n) {c : Copied}
    (h : pickleRoundTrip E s o' n = .ok c) :
    ∃ g, (∀ sl ∈ c.orig.slots, ∀ i ∈ slotIds sl, i < g) ∧ (∀ sl ∈ c.copy.slots, ∀ i ∈ slotIds sl, g ≤ i) := by
  -- the boundary is where `__getstate__` leaves the allocator: the pickle starts there, `__setstate__` later
  obtain ⟨copy, n', h1, -, -, h4⟩ := roundTrip_slots hI hC s.oid o' s.slots n (getstateL E s.oid n s.slots).2.2
    (pickleState (getstateL E s.oid n s.slots).2.2 (getstateL E s.oid n s.slots).1).2 hw
  simp only [pickleRoundTrip, h1] at h
  cases h
  exact ⟨_, (getstateL_below (E := E) s.oid s.slots n m hb hm).1,
    fun c hc i hi => (h4 c hc i hi).elim id (Nat.le_trans (pickleState_le _ _))⟩

/-! ## Write-once traits -/

theorem norm_undefined {v : CVal} (h : norm v = .leaf .undefined) : v = .leaf .undefined := by
  cases v with
  | leaf a => cases a <;> simp [norm, Leaf.norm] at h ⊢
  | node => simp [norm] at h

theorem assignSlot_readonly_written {E : Env} {sl : Slot} {w : CVal} (hk : sl.decl.kind = .readonly)
    (hv : sl.val = some w) (hw : w ≠ .leaf .undefined) (o n : Nat) (x : CVal) :
    assignSlot E o n sl x = .error .traitError := by
  unfold assignSlot
  -- the `some _` arm of the match overlaps the `Undefined` arm: its equation has the side condition `hw`
  simp only [hk, hv]

end TraitsVerif.Lemmas.Persist
