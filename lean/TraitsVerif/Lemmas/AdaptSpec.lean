/-
Specification vocabulary for C17 (what a *valid adapter chain* is, independently of
the search), and the basic facts tying it to the model's building blocks
(`applicable`, `walk`).
-/
import TraitsVerif.Lemmas.AdaptSort
import TraitsVerif.Lemmas.Common
namespace TraitsVerif.Lemmas.Adapt
open TraitsVerif TraitsVerif.Model.Adapt
variable {α : Type}

/-! ## Valid chains -/

def Registered (cfg : Cfg) (o : Offer) : Prop := ∃ g ∈ cfg.groups, o ∈ g

/-- Every offer of a bucket adapts from the same protocol as the bucket's first
offer.  This is what the registry's keying by `from_protocol_name` gives when
distinct protocols have distinct names (`groupsOf_homogeneous`). -/
def Homogeneous (cfg : Cfg) : Prop :=
  ∀ g ∈ cfg.groups, ∀ o0, g.head? = some o0 → ∀ o ∈ g, o.frm = o0.frm

/-- `Homogeneous` by evaluation, for a concrete registry. -/
theorem homogeneous_of_all {cfg : Cfg}
    (h : cfg.groups.all (fun g => g.all fun o => g.head?.all fun o0 => o.frm == o0.frm) = true) : Homogeneous cfg := by
  intro g hg o0 h0 o ho
  have := List.all_eq_true.1 (List.all_eq_true.1 h g hg) o ho
  simpa [h0] using this

def endOf (src : Nat) (p : List Offer) : Nat :=
  match p.getLast? with
  | none => src
  | some o => o.to

@[simp] theorem endOf_nil (src : Nat) : endOf src [] = src := rfl

@[simp] theorem endOf_concat (src : Nat) (p : List Offer) (o : Offer) : endOf src (p ++ [o]) = o.to := by
  simp [endOf]

theorem endOf_cons (src : Nat) (o : Offer) (os : List Offer) : endOf src (o :: os) = endOf o.to os := by
  cases os with
  | nil => simp [endOf]
  | cons o' os' =>
    simp only [endOf, List.getLast?_cons_cons]
    cases h : (o' :: os').getLast? with
    | none => simp at h
    | some x => rfl

def Applicable (cfg : Cfg) : Nat → List Offer → Prop
  | _, [] => True
  | cur, o :: os => Registered cfg o ∧ cfg.provides cur o.frm = true ∧ Applicable cfg o.to os

def OfferSimple (chain : List Offer) : Prop := (chain.map (·.id)).Nodup

structure ValidChain (cfg : Cfg) (src target : Nat) (chain : List Offer) : Prop where
  nonempty : chain ≠ []
  applicable : Applicable cfg src chain
  simple : OfferSimple chain
  arrives : cfg.provides (endOf src chain) target = true

/-- The factories of the chain all succeed when called one after the other,
starting at call ordinal `k`, on `a`; `r` is the adapter that comes out. -/
def SucceedsFrom (f : Factory α) : Nat → List Offer → α → α → Prop
  | _, [], a, r => r = a
  | k, o :: os, a, r => ∃ a', f k o a = .adapter a' ∧ SucceedsFrom f (k + 1) os a' r

def Deterministic (f : Factory α) : Prop := ∀ k k' o a, f k o a = f k' o a

def NoRaise (f : Factory α) : Prop := ∀ k o a e, f k o a ≠ .raise e

theorem Applicable_append {cfg : Cfg} : ∀ (p q : List Offer) (cur : Nat),
    Applicable cfg cur (p ++ q) ↔ Applicable cfg cur p ∧ Applicable cfg (endOf cur p) q
  | [], q, cur => by simp [Applicable]
  | o :: os, q, cur => by
    simp only [List.cons_append, Applicable, endOf_cons, Applicable_append os q o.to]
    constructor
    · rintro ⟨h1, h2, h3, h4⟩; exact ⟨⟨h1, h2, h3⟩, h4⟩
    · rintro ⟨⟨h1, h2, h3⟩, h4⟩; exact ⟨h1, h2, h3, h4⟩

/-! ## `walk` and `SucceedsFrom` -/

theorem walk_done_iff (f : Factory α) (os : List Offer) (a : α) (tr : List CallRec) (r : α) :
    (walk f os a tr).1 = .done r ↔ SucceedsFrom f tr.length os a r := by
  fun_induction walk f os a tr
  -- the path is walked to its end
  case case1 => simp only [SucceedsFrom, WalkRes.done.injEq]; exact eq_comm
  -- the factory hands out an adapter: the walk goes on with it, at the next ordinal
  case case2 hf ih => simpa [SucceedsFrom, hf] using ih
  -- the factory returns `None` or raises
  case case3 hf | case4 hf => simp [SucceedsFrom, hf]

theorem SucceedsFrom_det {f : Factory α} (hdet : Deterministic f) :
    ∀ (os : List Offer) (k k' : Nat) (a r : α), SucceedsFrom f k os a r → SucceedsFrom f k' os a r
  | [], _, _, _, _, h => h
  | o :: os, k, k', a, r, h => by
    obtain ⟨a', h1, h2⟩ := h
    exact ⟨a', by rw [hdet k' k]; exact h1, SucceedsFrom_det hdet os _ _ _ _ h2⟩

theorem SucceedsFrom_prefix {f : Factory α} : ∀ (c rest : List Offer) (k : Nat) (a r : α),
    SucceedsFrom f k (c ++ rest) a r → ∃ r', SucceedsFrom f k c a r'
  | [], _, _, a, _, _ => ⟨a, rfl⟩
  | o :: os, rest, k, a, r, h => by
    obtain ⟨a', h1, h2⟩ := h
    obtain ⟨r', h3⟩ := SucceedsFrom_prefix os rest _ _ _ h2
    exact ⟨r', a', h1, h3⟩

theorem walk_failed_fails {f : Factory α} (hdet : Deterministic f) {os : List Offer} {a : α}
    {tr : List CallRec} (h : (walk f os a tr).1 = .failed) : ¬ ∃ r, SucceedsFrom f 0 os a r := by
  rintro ⟨r, hr⟩
  have := (walk_done_iff f os a tr r).2 (SucceedsFrom_det hdet os _ _ _ _ hr)
  rw [h] at this
  cases this

/-! ## `dist`, `applicable` -/

theorem dist_some_provides {cfg : Cfg} {t p d : Nat} (h : dist cfg t p = some d) :
    cfg.provides t p = true := by
  unfold dist at h
  by_cases hp : cfg.provides t p = true
  · exact hp
  · simp [hp] at h

theorem provides_dist {cfg : Cfg} {t p : Nat} (h : cfg.provides t p = true) :
    ∃ d, dist cfg t p = some d := by
  unfold dist; simp [h]

theorem inPath_false_iff {o : Offer} {path : List Offer} :
    inPath o path = false ↔ o.id ∉ path.map (·.id) := by
  unfold inPath
  rw [List.any_eq_false]
  simp only [List.mem_map, not_exists, not_and, beq_iff_eq]

theorem mem_groupEdges {cfg : Cfg} {cur : Nat} {path g : List Offer} {d : Nat} {o : Offer} :
    (d, o) ∈ groupEdges cfg cur path g ↔
      ∃ o0, g.head? = some o0 ∧ dist cfg cur o0.frm = some d ∧ o ∈ g ∧ inPath o path = false := by
  cases g with
  | nil => simp [groupEdges]
  | cons o0 tl =>
    simp only [groupEdges, List.head?_cons, Option.some.injEq, exists_eq_left']
    cases hd : dist cfg cur o0.frm with
    | none => simp
    | some d' =>
      simp only [List.mem_map, List.mem_filter, Prod.mk.injEq, Option.some.injEq, Bool.not_eq_true']
      constructor
      · rintro ⟨o', ⟨h1, h2⟩, h3, h4⟩
        subst h4; exact ⟨h3, h1, h2⟩
      · rintro ⟨h1, h2, h3⟩
        exact ⟨o, ⟨h2, h3⟩, h1, rfl⟩

theorem mem_applicable {cfg : Cfg} {cur : Nat} {path : List Offer} {d : Nat} {o : Offer} :
    (d, o) ∈ applicable cfg cur path ↔
      ∃ g ∈ cfg.groups, ∃ o0, g.head? = some o0 ∧ dist cfg cur o0.frm = some d ∧ o ∈ g ∧
        inPath o path = false := by
  unfold applicable
  rw [List.mem_flatMap]
  constructor
  · rintro ⟨g, hg, h⟩; exact ⟨g, hg, mem_groupEdges.1 h⟩
  · rintro ⟨g, hg, h⟩; exact ⟨g, hg, mem_groupEdges.2 h⟩

theorem applicable_facts {cfg : Cfg} (hh : Homogeneous cfg) {cur : Nat} {path : List Offer} {d : Nat}
    {o : Offer} (h : (d, o) ∈ applicable cfg cur path) :
    Registered cfg o ∧ cfg.provides cur o.frm = true ∧ o.id ∉ path.map (·.id) ∧
      dist cfg cur o.frm = some d := by
  obtain ⟨g, hg, o0, h0, hd, hog, hin⟩ := mem_applicable.1 h
  have hf : o.frm = o0.frm := hh g hg o0 h0 o hog
  refine ⟨⟨g, hg, hog⟩, ?_, inPath_false_iff.1 hin, ?_⟩
  · rw [hf]; exact dist_some_provides hd
  · rw [hf]; exact hd

theorem applicable_of {cfg : Cfg} (hh : Homogeneous cfg) {cur : Nat} {path : List Offer} {o : Offer}
    (hr : Registered cfg o) (hp : cfg.provides cur o.frm = true) (hn : o.id ∉ path.map (·.id)) :
    ∃ d, (d, o) ∈ applicable cfg cur path := by
  obtain ⟨g, hg, hog⟩ := hr
  cases g with
  | nil => cases hog
  | cons o0 tl =>
    have hf : o.frm = o0.frm := hh _ hg o0 rfl o hog
    obtain ⟨d, hd⟩ := provides_dist (cfg := cfg) (t := cur) (p := o0.frm) (by rw [← hf]; exact hp)
    exact ⟨d, mem_applicable.2 ⟨_, hg, o0, rfl, hd, hog, inPath_false_iff.2 hn⟩⟩

/-! ## Paths the search can generate -/

def kids (cfg : Cfg) (src : Nat) (p : List Offer) : List Edge := applicable cfg (endOf src p) p

/-- Paths that are pushed on the queue: built edge by edge, never through a
protocol that already provides the target. -/
inductive Reach (cfg : Cfg) (src target : Nat) : List Offer → Prop
  | nil : Reach cfg src target []
  | snoc {p : List Offer} {d : Nat} {o : Offer} : Reach cfg src target p → (d, o) ∈ kids cfg src p →
      cfg.provides o.to target = false → Reach cfg src target (p ++ [o])

/-- Candidate chains: a queued path plus one edge that arrives.  These are the
chains whose factories `_adapt` runs. -/
def Cand (cfg : Cfg) (src target : Nat) (c : List Offer) : Prop :=
  ∃ p d o, c = p ++ [o] ∧ Reach cfg src target p ∧ (d, o) ∈ kids cfg src p ∧
    cfg.provides o.to target = true

theorem Reach.snoc_inv {cfg : Cfg} {src target : Nat} {p : List Offer} {o : Offer}
    (h : Reach cfg src target (p ++ [o])) :
    Reach cfg src target p ∧ (∃ d, (d, o) ∈ kids cfg src p) ∧ cfg.provides o.to target = false := by
  generalize hq : p ++ [o] = q at h
  cases h with
  | nil => simp at hq
  | @snoc p' d o' hr hk hn =>
    have := List.append_inj' hq rfl
    obtain ⟨h1, h2⟩ := this
    simp only [List.cons.injEq, and_true] at h2
    subst h1; subst h2
    exact ⟨hr, ⟨d, hk⟩, hn⟩

theorem Reach.of_prefix {cfg : Cfg} {src target : Nat} {p : List Offer} (h : Reach cfg src target p) :
    ∀ q, q <+: p → Reach cfg src target q := by
  induction h with
  | nil => intro q hq; rw [List.prefix_nil] at hq; subst hq; exact Reach.nil
  | @snoc p d o hr hk hn ih =>
    intro q hq
    rcases List.prefix_concat_iff.1 hq with h | h
    · subst h; exact Reach.snoc hr hk hn
    · exact ih q h

theorem valid_snoc {cfg : Cfg} (hh : Homogeneous cfg) {src : Nat} {p : List Offer} {d : Nat} {o : Offer}
    (hk : (d, o) ∈ kids cfg src p) (h : Applicable cfg src p ∧ OfferSimple p) :
    Applicable cfg src (p ++ [o]) ∧ OfferSimple (p ++ [o]) := by
  obtain ⟨h1, h2, h3, _⟩ := applicable_facts hh hk
  exact ⟨(Applicable_append p [o] src).2 ⟨h.1, h1, h2, trivial⟩, Common.nodup_map_concat h.2 h3⟩

theorem Reach.valid {cfg : Cfg} (hh : Homogeneous cfg) {src target : Nat} {p : List Offer}
    (h : Reach cfg src target p) : Applicable cfg src p ∧ OfferSimple p := by
  induction h with
  | nil => simp [Applicable, OfferSimple]
  | snoc _ hk _ ih => exact valid_snoc hh hk ih

theorem Cand.valid {cfg : Cfg} (hh : Homogeneous cfg) {src target : Nat} {c : List Offer}
    (h : Cand cfg src target c) : ValidChain cfg src target c := by
  obtain ⟨p, d, o, rfl, hr, hk, ha⟩ := h
  obtain ⟨hap, hsim⟩ := valid_snoc hh hk (hr.valid hh)
  exact ⟨by simp, hap, hsim, by simpa using ha⟩

/-- Every valid chain has a candidate chain as a prefix: cut it at the first
protocol that provides the target. -/
theorem exists_cand_prefix {cfg : Cfg} (hh : Homogeneous cfg) {src target : Nat} :
    ∀ (rest p : List Offer), Reach cfg src target p → rest ≠ [] →
      Applicable cfg (endOf src p) rest → OfferSimple (p ++ rest) →
      cfg.provides (endOf src (p ++ rest)) target = true →
      ∃ c, Cand cfg src target c ∧ c <+: p ++ rest
  | [], _, _, hne, _, _, _ => absurd rfl hne
  | o :: rest, p, hr, _, hap, hsim, harr => by
    obtain ⟨hreg, hprov, hap'⟩ := hap
    have hnin : o.id ∉ p.map (·.id) := by
      unfold OfferSimple at hsim
      rw [List.map_append, List.nodup_append] at hsim
      intro hmem
      exact hsim.2.2 _ hmem _ (by simp) rfl
    obtain ⟨d, hk⟩ := applicable_of hh (path := p) hreg hprov hnin
    by_cases ht : cfg.provides o.to target = true
    · refine ⟨p ++ [o], ⟨p, d, o, rfl, hr, hk, ht⟩, ?_⟩
      exact ⟨rest, by simp⟩
    · have ht' : cfg.provides o.to target = false := by simpa using ht
      have hr' : Reach cfg src target (p ++ [o]) := Reach.snoc hr hk ht'
      have hne' : rest ≠ [] := by
        rintro rfl
        rw [endOf_concat] at harr
        rw [harr] at ht'; cases ht'
      have heq : p ++ o :: rest = (p ++ [o]) ++ rest := by simp
      rw [heq] at hsim harr ⊢
      exact exists_cand_prefix hh rest (p ++ [o]) hr' hne' (by rw [endOf_concat]; exact hap') hsim harr

end TraitsVerif.Lemmas.Adapt
