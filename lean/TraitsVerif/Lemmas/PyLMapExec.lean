/-
The equations of the two interpreters of `Model/PyLMap.lean` for the container
methods (`D`: dict, `S`: set), in the form in which `simp` runs a translated
method body statement by statement: frames are list literals, and `seq` hands
the rest of the program to `andThen` as an unapplied function, so that a
statement whose outcome depends on something not yet known (a validator's
verdict, a lookup) stops the run there with the continuation still folded; the
proof then splits on that one thing and runs on.

The runs are `simp -implicitDefEqProofs`: these equations hold by `rfl`, and for
a `rfl` lemma `simp` would otherwise record no rewriting step and leave the
unfolding of the interpreter to the kernel, which has to find its own way
through it.

The lemmas are `scoped simp`: opening `PyLM.D` / `PyLM.S` makes `simp` an
executor for that interpreter.
-/
import TraitsVerif.Model.PyLMap
set_option linter.unusedSectionVars false
namespace TraitsVerif.Model.PyLM
open TraitsVerif TraitsVerif.Py

/-! ## Dict methods -/
namespace D
open TraitsVerif.Model.Map
open TraitsVerif.Py.Dict (Op Ret)
variable {K V : Type}

@[scoped simp] theorem getVar_zero (v : Val K V) (fr : Frame K V) : getVar (some v :: fr) 0 = .ok v := rfl
@[scoped simp] theorem getVar_succ (x : Option (Val K V)) (fr : Frame K V) (n : Nat) :
    getVar (x :: fr) (n + 1) = getVar fr n := rfl
@[scoped simp] theorem setVar_zero (x : Option (Val K V)) (fr : Frame K V) (v : Val K V) :
    setVar (x :: fr) 0 v = some v :: fr := rfl
@[scoped simp] theorem setVar_succ (x : Option (Val K V)) (fr : Frame K V) (n : Nat) (v : Val K V) :
    setVar (x :: fr) (n + 1) v = x :: setVar fr n v := rfl

/-- Go on with `k` after a statement that fell through to the next one. -/
def andThen (r : St K V × Flow K V) (k : St K V → St K V × Flow K V) : St K V × Flow K V :=
  match r with
  | (st, .next) => k st
  | r => r

@[scoped simp] theorem andThen_next (st : St K V) (k : St K V → St K V × Flow K V) :
    andThen (st, .next) k = k st := rfl
@[scoped simp] theorem andThen_raised (st : St K V) (e : Exc) (k : St K V → St K V × Flow K V) :
    andThen (st, .raised e) k = (st, .raised e) := rfl
@[scoped simp] theorem andThen_returned (st : St K V) (v : Val K V) (k : St K V → St K V × Flow K V) :
    andThen (st, .returned v) k = (st, .returned v) := rfl

variable [DecidableEq K] (C : Ctx K V) (st : St K V)

@[scoped simp] theorem exec_seq (a b : Stmt) :
    exec C (.seq a b) st = andThen (exec C a st) (exec C b) := rfl

@[scoped simp] theorem exec_skip : exec C .skip st = (st, .next) := rfl

@[scoped simp] theorem exec_assign (i : Nat) (e : Expr) :
    exec C (.assign i e) st = match eval st.self st.vars e with
      | .ok v => ({ st with vars := setVar st.vars i v }, .next)
      | .error x => (st, .raised x) := rfl

@[scoped simp] theorem exec_ifS (c : Expr) (t e : Stmt) :
    exec C (.ifS c t e) st = match eval st.self st.vars c with
      | .ok v =>
        (match truthy v with
         | some true => exec C t st
         | some false => exec C e st
         | none => (st, .raised .other))
      | .error x => (st, .raised x) := rfl

@[scoped simp] theorem exec_validate (w : Which) (i : Nat) (e : Expr) :
    exec C (.validate w i e) st = match w, eval st.self st.vars e with
      | .key, .ok (.key k) =>
        (match C.kv st.kcount k with
         | .ok k' => ({ st with vars := setVar st.vars i (.key k'), kcount := st.kcount + 1 }, .next)
         | .error ex => ({ st with kcount := st.kcount + 1 }, .raised ex))
      | .value, .ok (.val v) =>
        (match C.vv st.vcount v with
         | .ok v' => ({ st with vars := setVar st.vars i (.val v'), vcount := st.vcount + 1 }, .next)
         | .error ex => ({ st with vcount := st.vcount + 1 }, .raised ex))
      | _, .error x => (st, .raised x)
      | _, _ => (st, .raised .other) := rfl

/-- The body is handed to `forLoop` as the function `exec C body`, not yet run. -/
@[scoped simp] theorem exec_forPairs (ki vi : Nat) (e : Expr) (body : Stmt) :
    exec C (.forPairs ki vi e body) st = match eval st.self st.vars e with
      | .ok (.pairs ps) => forLoop ki vi (exec C body) ps st
      | .ok _ => (st, .raised .other)
      | .error x => (st, .raised x) := rfl

@[scoped simp] theorem exec_setItem (i : Nat) (k v : Expr) :
    exec C (.setItem i k v) st = match getVar st.vars i, eval st.self st.vars k, eval st.self st.vars v with
      | .ok (.dict a), .ok (.key k'), .ok (.val v') =>
        ({ st with vars := setVar st.vars i (.dict (Dict.set a k' v')) }, .next)
      | .error x, _, _ => (st, .raised x)
      | _, .error x, _ => (st, .raised x)
      | _, _, .error x => (st, .raised x)
      | _, _, _ => (st, .raised .other) := rfl

@[scoped simp] theorem exec_super (i : Option Nat) (m : String) (args : List Expr) :
    exec C (.super i m args) st = match evalAll st.self st.vars args with
      | .error x => (st, .raised x)
      | .ok vs =>
        match C.sup m vs st.self with
        | .raised x items evs => ({ st with self := items, events := st.events ++ evs }, .raised x)
        | .done items r evs =>
          ({ st with self := items, events := st.events ++ evs,
                     vars := match i with | some j => setVar st.vars j (valOfRet r) | none => st.vars }, .next) := rfl

@[scoped simp] theorem exec_notify (args : List Expr) :
    exec C (.notify args) st = match evalAll st.self st.vars args with
      | .ok [.dict r, .dict a, .dict c] => ({ st with events := st.events ++ [⟨r, a, c⟩] }, .next)
      | .ok _ => (st, .raised .other)
      | .error x => (st, .raised x) := rfl

@[scoped simp] theorem exec_ret (e : Expr) :
    exec C (.ret e) st = match eval st.self st.vars e with
      | .ok v => (st, .returned v)
      | .error x => (st, .raised x) := rfl

attribute [scoped simp] eval evalAll truthy valOfRet evalDefault builtinSup Dict.step

@[scoped simp] theorem summarize_raised (e : Exc) :
    summarize (st, .raised e) = .raised e st.self st.events := rfl
@[scoped simp] theorem summarize_next : summarize (st, .next) = .done st.self .none st.events := rfl
@[scoped simp] theorem summarize_returned (v : Val K V) :
    summarize (st, .returned v) = match v with
      | .none => .done st.self .none st.events
      | .val v => .done st.self (.val v) st.events
      | .pair k v => .done st.self (.pair k v) st.events
      | .selfRef => .done st.self .self st.events
      | _ => .raised .other st.self st.events := by
  cases v <;> rfl

attribute [scoped simp] summaryOfStep runTraitDictM lookupFn bindArgs

end D
/-! ## Set methods -/
namespace S
open TraitsVerif.Model.SetM
open TraitsVerif.Py.PSet (Op)
variable {α : Type}

@[scoped simp] theorem getVar_zero (v : Val α) (fr : Frame α) : getVar (some v :: fr) 0 = .ok v := rfl
@[scoped simp] theorem getVar_succ (x : Option (Val α)) (fr : Frame α) (n : Nat) :
    getVar (x :: fr) (n + 1) = getVar fr n := rfl
@[scoped simp] theorem setVar_zero (x : Option (Val α)) (fr : Frame α) (v : Val α) :
    setVar (x :: fr) 0 v = some v :: fr := rfl
@[scoped simp] theorem setVar_succ (x : Option (Val α)) (fr : Frame α) (n : Nat) (v : Val α) :
    setVar (x :: fr) (n + 1) v = x :: setVar fr n v := rfl

/-- Go on with `k` after a statement that fell through to the next one. -/
def andThen (r : St α × Flow α) (k : St α → St α × Flow α) : St α × Flow α :=
  match r with
  | (st, .next) => k st
  | r => r

@[scoped simp] theorem andThen_next (st : St α) (k : St α → St α × Flow α) : andThen (st, .next) k = k st := rfl
@[scoped simp] theorem andThen_raised (st : St α) (e : Exc) (k : St α → St α × Flow α) :
    andThen (st, .raised e) k = (st, .raised e) := rfl

variable [DecidableEq α] (C : Ctx α) (st : St α)

@[scoped simp] theorem exec_seq (a b : Stmt) :
    exec C (.seq a b) st = andThen (exec C a st) (exec C b) := rfl

@[scoped simp] theorem exec_skip : exec C .skip st = (st, .next) := rfl

@[scoped simp] theorem exec_assign (i : Nat) (e : Expr) :
    exec C (.assign i e) st = match eval st.self st.vars e with
      | .ok v => ({ st with vars := setVar st.vars i v }, .next)
      | .error x => (st, .raised x) := rfl

@[scoped simp] theorem exec_ifS (c : Expr) (t e : Stmt) :
    exec C (.ifS c t e) st = match eval st.self st.vars c with
      | .ok v =>
        (match truthy v with
         | some true => exec C t st
         | some false => exec C e st
         | none => (st, .raised .other))
      | .error x => (st, .raised x) := rfl

@[scoped simp] theorem exec_validate (w : Which) (i : Nat) (e : Expr) :
    exec C (.validate w i e) st = match w, eval st.self st.vars e with
      | .item, .ok (.item x) =>
        (match C.v st.vcount x with
         | .ok y => ({ st with vars := setVar st.vars i (.item y), vcount := st.vcount + 1 }, .next)
         | .error ex => ({ st with vcount := st.vcount + 1 }, .raised ex))
      | _, .error x => (st, .raised x)
      | _, _ => (st, .raised .other) := rfl

@[scoped simp] theorem exec_validateAllSet (i : Nat) (e : Expr) :
    exec C (.validateAllSet i e) st = match eval st.self st.vars e with
      | .ok v =>
        (match itemsOf v with
         | some xs =>
           (match valAll C.v st.vcount xs with
            | .ok ys =>
              ({ st with vars := setVar st.vars i (.set (PSet.ofList ys)), vcount := st.vcount + xs.length }, .next)
            | .error ex => ({ st with vcount := st.vcount + xs.length }, .raised ex))
         | none => (st, .raised .other))
      | .error x => (st, .raised x) := rfl

@[scoped simp] theorem exec_super (i : Option Nat) (m : String) (args : List Expr) :
    exec C (.super i m args) st = match evalAll st.self st.vars args with
      | .error x => (st, .raised x)
      | .ok vs =>
        match C.sup m vs st.self with
        | .raised x items evs => ({ st with self := items, events := st.events ++ evs }, .raised x)
        | .done items r evs =>
          ({ st with self := items, events := st.events ++ evs,
                     vars := match i with | some j => setVar st.vars j (valOfRet r) | none => st.vars }, .next) :=
  rfl

@[scoped simp] theorem exec_notify (args : List Expr) :
    exec C (.notify args) st = match evalAll st.self st.vars args with
      | .ok [.set r, .set a] => ({ st with events := st.events ++ [⟨r, a⟩] }, .next)
      | .ok _ => (st, .raised .other)
      | .error x => (st, .raised x) := rfl

@[scoped simp] theorem exec_ret (e : Expr) :
    exec C (.ret e) st = match eval st.self st.vars e with
      | .ok v => (st, .returned v)
      | .error x => (st, .raised x) := rfl

attribute [scoped simp] eval evalAll truthy itemsOf valOfRet builtinSup PSet.step

@[scoped simp] theorem summarize_raised (e : Exc) :
    summarize (st, .raised e) = .raised e st.self st.events := rfl
@[scoped simp] theorem summarize_next : summarize (st, .next) = .done st.self .none st.events := rfl
@[scoped simp] theorem summarize_returned (v : Val α) :
    summarize (st, .returned v) = match v with
      | .none => .done st.self .none st.events
      | .item x => .done st.self (.item x) st.events
      | .selfRef => .done st.self .self st.events
      | .notImplemented => .raised .typeError st.self st.events
      | _ => .raised .other st.self st.events := by
  cases v <;> rfl

attribute [scoped simp] summaryOfStep runTraitSetM lookupFn bindArgs operand retOf

end S

end TraitsVerif.Model.PyLM
