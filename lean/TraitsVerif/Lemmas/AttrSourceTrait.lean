/-
`setattr_trait` (Generated/AttrProg.lean) against `Model.Attr.setattrTrait`.  The C function is cut at the program
points where its paths meet again (`stTail k` = its statements from number k on): after validation (8), before the
old value is fetched (16), before the store (17).  One lemma per segment, for the machine state every path has at
that point, proved by running the segment alone and appealing to the lemma of the next point.  The delete block
(`value == NULL`) returns on all its paths and is run in one piece.
-/
import TraitsVerif.Lemmas.AttrSourceMiniC
namespace TraitsVerif.Lemmas.AttrSource
open TraitsVerif TraitsVerif.Model.Attr TraitsVerif.Model.MiniC
open TraitsVerif.Generated

def stBody : Stmt := AttrProg.setattr_trait.body
/-- `setattr_trait` from its `k`-th top-level statement to the end -/
def stTail (k : Nat) : Stmt := tailN k stBody

/-- the model from the store on: `post_setattr`, then the notifiers -/
def tailStore (E : Env) (t : TraitCore) (original value newValue : Id) (oldOpt : Option Id) (changed dn : Bool)
    (tn on : Option (List Notifier)) (s2 : OSt) : Option Exc × OSt :=
  let s3 := { s2 with slot := some newValue }
  if changed then
    let postArg := if testFlag t.flags TRAIT_POST_SETATTR_ORIGINAL_VALUE then original else value
    match postSetattr E t postArg s3 with
    | (some e, s4) => (some e, s4)
    | (none, s4) =>
      match oldOpt, dn with
      | some old, true => callNotifiers E t tn on old newValue s4
      | _, _ => (none, s4)
  else (none, s3)

theorem call_setattr_trait (C : IC) (v : Val) (s : OSt) (dn idn : Bool) :
    call C AttrProg.setattr_trait [.trait, .trait, .self, .name, v] s dn idn
      = outOf (exec C (stTail 0) ⟨ofList [.trait, .trait, .self, .name, v], s, dn, idn, none⟩) := by
  rw [call_eq C _ _ s dn idn rfl, bindArgs_zero]
  rfl

/-- the value of `post_setattr != NULL || do_notifiers` -/
theorem lor_post (a : Option Nat) (b : Bool) :
    (if a = none then (if b = true then (1 : Int) else 0) else 1) = if (a.isSome = true ∨ b = true) then 1 else 0 := by
  cases a <;> simp

/-- the truth of `changed` after `if (!changed) changed = (old != value);` -/
theorem truthy_chg (f m : Nat) (a b : Id) :
    truthy (.int (if testFlag f m = false then (if a = b then 0 else 1) else ((f &&& m : Nat) : Int)))
      = (testFlag f m || a != b) := by
  cases h : testFlag f m
  · by_cases hab : a = b <;> simp [hab]
  · simpa using (truthy_band f m).trans h

theorem tail17 (C : IC) (s : OSt) (idn : Bool) (orig value nv : Id) (oldOpt : Option Id) (chg : Int)
    (changed dn : Bool) (tn on : Option (List Notifier)) (a0 a10 : Val) (hchg : truthy (.int chg) = changed)
    (hold : dn = true → oldOpt.isSome) :
    outOf (exec C (stTail 17) ⟨ofList [a0, .trait, .self, .name, .obj value, nlv tn .t, nlv on .o, ptrv oldOpt, .dict,
        .int chg, a10, .obj orig, .obj nv, .int (if dn then 1 else 0), postV C], s, false, idn, none⟩)
      = ofInt (tailStore C.E C.t orig value nv oldOpt changed dn tn on s) := by
  subst hchg
  unfold tailStore
  simp [stTail, tailN, stBody, AttrProg.setattr_trait]
  by_cases hc : chg = 0 <;> simp [hc]
  rcases postSetattr C.E C.t _ _ with ⟨_ | e, s4⟩ <;> simp
  cases dn <;> simp
  obtain ⟨old, rfl⟩ := Option.isSome_iff_exists.mp (hold rfl)
  simp
  rcases callNotifiers C.E C.t tn on old nv s4 with ⟨_ | e, s'⟩ <;> simp

theorem e16 : stTail 16 = .seq (nthS 16 stBody) (stTail 17) := rfl

/-- the model from the old-value fetch on -/
def tailFetch (E : Env) (t : TraitCore) (orig value nv : Id) (dn : Bool) (tn on : Option (List Notifier))
    (s1 : OSt) : Option Exc × OSt :=
  match s1.fetchOld E t (testFlag t.flags TRAIT_COMPARISON_MODE_NONE) dn value with
  | (.error e, s2) => (some e, s2)
  | (.ok (oldOpt, changed), s2) => tailStore E t orig value nv oldOpt changed dn tn on s2

theorem tail16 (C : IC) (s : OSt) (idn : Bool) (orig value nv : Id) (dn : Bool) (tn on : Option (List Notifier))
    (a10 : Val) :
    outOf (exec C (stTail 16) ⟨ofList [.trait, .trait, .self, .name, .obj value, nlv tn .t, nlv on .o, .null, .dict,
        .int ((C.t.flags &&& TRAIT_COMPARISON_MODE_NONE : Nat) : Int), a10, .obj orig, .obj nv,
        .int (if dn then 1 else 0), postV C], s, false, idn, none⟩)
      = ofInt (tailFetch C.E C.t orig value nv dn tn on s) := by
  rw [e16]
  unfold tailFetch OSt.fetchOld
  simp [nthS, stBody, AttrProg.setattr_trait, lor_post]
  by_cases hcond : C.t.post.isSome = true ∨ dn = true <;> simp [hcond]
  · -- every path through the fetch ends with `changed |= (old != value)`, in one state; then the store
    cases hs : s.slot with
    | some old =>
      simp
      exact tail17 C _ idn orig value nv (some old) _ _ dn tn on _ _ (truthy_chg ..) (fun _ => rfl)
    | none =>
      simp
      rcases s.defaultValueFor C.E C.t with ⟨e | old, s2⟩ <;> simp
      rcases postSetattr C.E C.t old _ with ⟨_ | e, s4⟩ <;> simp
      exact tail17 C _ idn orig value nv (some old) _ _ dn tn on _ _ (truthy_chg ..) (fun _ => rfl)
  · exact tail17 C _ idn orig value nv none _ _ dn tn on _ _ (truthy_band ..) (fun h => absurd (Or.inr h) hcond)

theorem e8 : stTail 8 = .seq (nthS 8 stBody) (.seq (nthS 9 stBody) (.seq (nthS 10 stBody) (.seq (nthS 11 stBody)
    (.seq (nthS 12 stBody) (.seq (nthS 13 stBody) (.seq (nthS 14 stBody) (.seq (nthS 15 stBody) (stTail 16)))))))) := rfl

/-- the model of an assignment after validation -/
def restAssign (E : Env) (t : TraitCore) (orig value : Id) (s1 : OSt) : Option Exc × OSt :=
  tailFetch E t orig value (if testFlag t.flags TRAIT_SETATTR_ORIGINAL_VALUE then orig else value)
    (hasNotifiers s1.tn s1.on) s1.tn s1.on s1

theorem tail8 (C : IC) (s : OSt) (dn idn : Bool) (orig value : Id) (a5 a6 a7 a10 : Val) :
    outOf (exec C (stTail 8) ⟨ofList [.trait, .trait, .self, .name, .obj value, a5, a6, a7,
        if dn then .null else .dict, .int ((C.t.flags &&& TRAIT_COMPARISON_MODE_NONE : Nat) : Int), a10, .obj orig],
        s, dn, idn, none⟩)
      = ofInt (restAssign C.E C.t orig value s) := by
  rw [e8]
  simp +contextual [nthS, stBody, AttrProg.setattr_trait]
  exact tail16 C s idn orig value _ _ s.tn s.on a10

theorem setattrTrait_some (E : Env) (t : TraitCore) (v : Id) (s : OSt) :
    setattrTrait E t (some v) s =
      match s.validateAssigned E t v with
      | (.error e, s1) => (some e, s1)
      | (.ok value, s1) => restAssign E t v value s1 := by
  rfl

theorem e0 : stTail 0 = .seq (nthS 0 stBody) (.seq (nthS 1 stBody) (.seq (nthS 2 stBody) (.seq (nthS 3 stBody)
    (.seq (nthS 4 stBody) (.seq (nthS 5 stBody) (.seq (nthS 6 stBody) (.seq (nthS 7 stBody) (stTail 8)))))))) := rfl

theorem setattr_trait_assign (C : IC) (v : Id) (s : OSt) (dn idn : Bool) :
    outOf (exec C (stTail 0) ⟨ofList [.trait, .trait, .self, .name, .obj v], s, dn, idn, none⟩)
      = ofInt (setattrTrait C.E C.t (some v) s) := by
  rw [e0, setattrTrait_some]
  unfold OSt.validateAssigned
  cases hv : C.t.validate with
  | none =>
    simp [nthS, stBody, AttrProg.setattr_trait, hv]
    exact tail8 C s dn idn v v _ _ _ _
  | some k =>
    by_cases hu : v = undef
    · simp [nthS, stBody, AttrProg.setattr_trait, hv, hu]
      exact tail8 C s dn idn undef undef _ _ _ _
    · simp [nthS, stBody, AttrProg.setattr_trait, hv, hu, runValidate]
      rcases C.E.validate k s.ctx.nval v with e | w <;> simp
      exact tail8 C _ dn idn v w _ _ _ _

/-- the value of `tnotifiers != NULL || onotifiers != NULL` -/
theorem lor_isSome (a b : Option (List Notifier)) :
    (if a = none then if b = none then (0 : Int) else 1 else 1) = if (a.isSome || b.isSome) then 1 else 0 := by
  cases a <;> cases b <;> rfl

theorem del_block (C : IC) (s : OSt) (dn idn : Bool) (hdn : dn = true → s.slot = none) (K : Stmt) :
    outOf (exec C (.seq (nthS 0 stBody) (.seq (nthS 1 stBody) (.seq (nthS 2 stBody) (.seq (nthS 3 stBody)
        (.seq (nthS 4 stBody) (.seq (nthS 5 stBody) K))))))
      ⟨ofList [.trait, .trait, .self, .name, .null], s, dn, idn, none⟩)
      = ofInt (setattrTraitDel C.E C.t (testFlag C.t.flags TRAIT_COMPARISON_MODE_NONE) s) := by
  unfold setattrTraitDel
  simp only [nthS, stBody, AttrProg.setattr_trait]
  cases hs : s.slot with
  | none => cases dn <;> simp [hs]
  | some old =>
    have hd : dn = false := by cases dn <;> simp_all
    subst hd
    cases hnn : s.noNotify <;> simp [hs, hnn, lor_isSome]
    by_cases hb : s.tn.isSome = true ∨ s.on.isSome = true <;> simp [hb]
    rcases traitGetattr C.E C.t _ with ⟨e | v, s2⟩ <;> simp [truthy_chg]
    by_cases hch : testFlag C.t.flags TRAIT_COMPARISON_MODE_NONE = true ∨ ¬old = v <;> simp [hch]
    rcases postSetattr C.E C.t v s2 with ⟨_ | e, s3⟩ <;> simp
    by_cases hn : hasNotifiers s.tn s.on = true <;> simp [hn]
    rcases callNotifiers C.E C.t s.tn s.on old v s3 with ⟨_ | e, s'⟩ <;> simp
theorem setattr_trait_is_source (C : IC) (value : Option Id) (s : OSt) (dn idn : Bool)
    (hdn : dn = true → s.slot = none) :
    call C AttrProg.setattr_trait [.trait, .trait, .self, .name, ofValue value] s dn idn
      = ofInt (setattrTrait C.E C.t value s) := by
  rw [call_setattr_trait]
  cases value with
  | none => exact e0 ▸ del_block C s dn idn hdn _
  | some v => exact setattr_trait_assign C v s dn idn

/-- `setattr_trait_is_source` on a silent path: `del obj.name` when nothing is stored. -/
theorem setattr_trait_del_absent (C : IC) (s : OSt) (dn idn : Bool) (hs : s.slot = none) :
    call C AttrProg.setattr_trait [.trait, .trait, .self, .name, .null] s dn idn
      = ofInt (setattrTrait C.E C.t none s) :=
  setattr_trait_is_source C none s dn idn fun _ => hs

/-- `setattr_trait_is_source` on a silent path: a rejected assignment.  `hval`, `hu`, `hr` only name the path. -/
theorem setattr_trait_rejected (C : IC) (s : OSt) (dn idn : Bool) (v : Id) (k : Nat) (e : Exc)
    (hval : C.t.validate = some k) (hu : v ≠ undef) (hr : C.E.validate k s.ctx.nval v = .error e) :
    call C AttrProg.setattr_trait [.trait, .trait, .self, .name, .obj v] s dn idn
      = ofInt (setattrTrait C.E C.t (some v) s) :=
  (call_setattr_trait C _ s dn idn).trans (setattr_trait_assign C v s dn idn)

end TraitsVerif.Lemmas.AttrSource
