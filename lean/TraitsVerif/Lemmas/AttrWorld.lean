/-
C10: several instances of several classes.  What an operation on instance `i`
can change in the world — for EVERY environment (`WFrame`, `step_frame`).
-/
import TraitsVerif.Lemmas.AttrCtx
namespace TraitsVerif.Model.Attr
open TraitsVerif

/-! ### Association lists -/

/-- `assocSet`, like `heapSet`, is `Common.upsert`. -/
theorem assocGet_assocSet_self {β : Type} (l : List (Name × β)) (n : Name) (b : β) :
    assocGet (assocSet l n b) n = some b :=
  congrArg (Option.map Prod.snd) (Common.find?_upsert_self l n b)

theorem assocGet_assocSet_ne {β : Type} (l : List (Name × β)) (n m : Name) (b : β) (h : m ≠ n) :
    assocGet (assocSet l n b) m = assocGet l m :=
  congrArg (Option.map Prod.snd) (Common.find?_upsert_ne l b h)

theorem assocGet_assocErase {β : Type} (l : List (Name × β)) (n m : Name) :
    assocGet (assocErase l n) m = if m = n then none else assocGet l m := by
  unfold assocGet assocErase
  rw [List.find?_filter]
  split
  · rename_i h
    subst h
    rw [List.find?_eq_none.mpr (fun x _ => by simp)]
    rfl
  · rename_i h
    congr 2
    funext e
    by_cases he : e.1 = m <;> simp [he, h]

theorem assocGet_mem {β : Type} (l : List (Name × β)) (n : Name) (b : β) (h : assocGet l n = some b) :
    ∃ p ∈ l, p.2 = b := by
  unfold assocGet at h
  cases hf : l.find? (fun e => e.1 == n) with
  | none => simp [hf] at h
  | some p =>
    simp [hf] at h
    exact ⟨p, List.mem_of_find?_eq_some hf, h⟩

theorem mem_assocSet {β : Type} (l : List (Name × β)) (n : Name) (b : β) (p : Name × β)
    (h : p ∈ assocSet l n b) : p ∈ l ∨ p = (n, b) := by
  unfold assocSet at h
  split at h
  · simp only [List.mem_map] at h
    obtain ⟨q, hq, rfl⟩ := h
    split
    · exact Or.inr rfl
    · exact Or.inl hq
  · simp only [List.mem_append, List.mem_singleton] at h
    exact h

theorem absorb_dict (o : Inst) (n : Name) (core : TraitCore) (s : OSt) (m : Name) :
    assocGet (o.absorb n core s).dict m = if m = n then s.slot else assocGet o.dict m := by
  unfold Inst.absorb
  by_cases hmn : m = n
  · subst hmn
    cases hs : s.slot with
    | none => simp [assocGet_assocErase]
    | some v => simp [assocGet_assocSet_self]
  · cases hs : s.slot with
    | none => simp [assocGet_assocErase, hmn]
    | some v => simp [assocGet_assocSet_ne _ _ _ _ hmn, hmn]

/-! ### Reachability -/

/-- Elements of the container `x` (nothing for an object that is not a container). -/
def World.kids (w : World) (x : Id) : List Id := (heapGet w.ctx.heap x).getD []

/-- `x` is a value stored on instance number `i`, or an element of such a value. -/
def World.ReachIdx (w : World) (i : Nat) (x : Id) : Prop :=
  ∃ o, w.insts[i]? = some o ∧ ∃ n v, assocGet o.dict n = some v ∧ (x = v ∨ x ∈ w.kids v)

/-- `x` is a mutable object (a container). -/
def World.Mut (w : World) (x : Id) : Prop := (heapGet w.ctx.heap x).isSome = true

/-- The instance an operation acts on. -/
def WOp.target : WOp → Option Nat
  | .new _ => none
  | .get i _ | .set i _ _ | .mutate i _ _ | .mutateInner i _ _ | .regDyn i _ _ | .regObs i _ _ | .regAny i _
  | .addTrait i _ _ | .del i _ | .query i => some i

theorem World.run_induction (E : Env) (I : World → Prop) (ok : WOp → Prop)
    (step : ∀ w op, I w → ok op → I (World.step E w op).2) :
    ∀ (h : List WOp) (w : World), I w → (∀ op ∈ h, ok op) → I (World.run E w h)
  | [], _, g, _ => g
  | op :: h, w, g, H =>
    World.run_induction E I ok step h _ (step w op g (H op List.mem_cons_self))
      (fun o ho => H o (List.mem_cons_of_mem _ ho))

/-! ### What one operation can change -/

/-- Frame of an operation on instance `i`: class records, every other instance
record (values, instance traits with their definitions and notifier lists,
anytrait notifiers), the handler calls and factory calls concerning other
objects are untouched; a container that existed before keeps its contents
unless it is reachable from instance `i` afterwards. -/
structure WFrame (i : Nat) (w w' : World) : Prop where
  classes : w'.classes = w.classes
  others : ∀ j, j ≠ i → w'.insts[j]? = w.insts[j]?
  len : w.insts.length ≤ w'.insts.length
  ident : ∀ o, w.insts[i]? = some o → ∃ o', w'.insts[i]? = some o' ∧ o'.oid = o.oid ∧ o'.cls = o.cls
  le : w.ctx.alloc ≤ w'.ctx.alloc
  heap : ∀ x, x < w.ctx.alloc → heapGet w'.ctx.heap x = heapGet w.ctx.heap x ∨ w'.ReachIdx i x
  /-- a container stays a container, a non-container does not become one -/
  kept : ∀ x, x < w.ctx.alloc → (heapGet w'.ctx.heap x).isSome = (heapGet w.ctx.heap x).isSome
  log : ∃ l, w'.ctx.log = w.ctx.log ++ l ∧ ∀ c ∈ l, ∃ o, w.insts[i]? = some o ∧ c.obj = o.oid
  fcalls : ∃ l, w'.ctx.fcalls = w.ctx.fcalls ++ l ∧ ∀ f ∈ l, ∃ o, w.insts[i]? = some o ∧ f.2.1 = o.oid

theorem WFrame.refl (i : Nat) (w : World) : WFrame i w w :=
  ⟨rfl, fun _ _ => rfl, Nat.le_refl _, fun o h => ⟨o, h, rfl, rfl⟩, Nat.le_refl _, fun _ _ => Or.inl rfl,
   fun _ _ => rfl, ⟨[], by simp, by simp⟩, [], by simp, by simp⟩

theorem setInst_get_self (w : World) (i : Nat) (o o' : Inst) (c : Ctx) (h : w.insts[i]? = some o) :
    (w.setInst i o' c).insts[i]? = some o' := by
  unfold World.setInst
  have hi : i < w.insts.length := by
    rcases Nat.lt_or_ge i w.insts.length with h' | h'
    · exact h'
    · rw [List.getElem?_eq_none h'] at h; cases h
  simp [hi]

theorem setInst_get_other (w : World) (i j : Nat) (o' : Inst) (c : Ctx) (h : j ≠ i) :
    (w.setInst i o' c).insts[j]? = w.insts[j]? := by
  unfold World.setInst
  simp [Ne.symm h]

theorem setInst_get (w : World) (i : Nat) (o o' : Inst) (c : Ctx) (hi : w.insts[i]? = some o) (j : Nat) (oj : Inst)
    (hj : (w.setInst i o' c).insts[j]? = some oj) : (j = i ∧ oj = o') ∨ (j ≠ i ∧ w.insts[j]? = some oj) := by
  by_cases hji : j = i
  · subst hji
    rw [setInst_get_self w j o _ _ hi] at hj
    injection hj with hj
    exact Or.inl ⟨rfl, hj.symm⟩
  · rw [setInst_get_other w i j _ _ hji] at hj
    exact Or.inr ⟨hji, hj⟩

theorem onAttr_cases (w : World) (i : Nat) (n : Name) (f : TraitCore → OSt → Res × OSt) :
    ((w.onAttr i n f).2 = w ∧ (w.onAttr i n f).1.val = none) ∨
    ∃ o td r s, w.insts[i]? = some o ∧ w.traitOf o n = some td ∧ f td.core (w.focus o n) = (r, s) ∧
      w.onAttr i n f = (r, w.setInst i (o.absorb n td.core s) s.ctx) := by
  unfold World.onAttr
  cases hi : w.insts[i]? with
  | none => exact Or.inl ⟨rfl, rfl⟩
  | some o =>
    simp only []
    cases ht : w.traitOf o n with
    | none => exact Or.inl ⟨rfl, rfl⟩
    | some td =>
      simp only []
      cases hr : f td.core (w.focus o n) with
      | mk r s => exact Or.inr ⟨o, td, r, s, rfl, ht, hr, rfl⟩

theorem setInst_frame (w : World) (i : Nat) (o o' : Inst) (c : Ctx) (hi : w.insts[i]? = some o)
    (h1 : o'.oid = o.oid) (h2 : o'.cls = o.cls) (hle : w.ctx.alloc ≤ c.alloc)
    (hheap : ∀ x, x < w.ctx.alloc → heapGet c.heap x = heapGet w.ctx.heap x)
    (hlog : ∃ l, c.log = w.ctx.log ++ l ∧ ∀ x ∈ l, x.obj = o.oid)
    (hfc : ∃ l, c.fcalls = w.ctx.fcalls ++ l ∧ ∀ f ∈ l, f.2.1 = o.oid) : WFrame i w (w.setInst i o' c) := by
  refine ⟨rfl, fun k hk => setInst_get_other w i k _ _ hk, by simp [World.setInst], ?_, hle,
    fun x hx => Or.inl (hheap x hx), fun x hx => congrArg Option.isSome (hheap x hx),
    hlog.imp fun l h => ⟨h.1, fun x hx => ⟨o, hi, h.2 x hx⟩⟩, hfc.imp fun l h => ⟨h.1, fun f hf => ⟨o, hi, h.2 f hf⟩⟩⟩
  intro o2 ho2
  rw [hi] at ho2
  injection ho2 with ho2
  subst ho2
  exact ⟨_, setInst_get_self w i o _ _ hi, h1, h2⟩

theorem onAttr_frame (w : World) (i : Nat) (n : Name) (f : TraitCore → OSt → Res × OSt)
    (hf : ∀ t s, SFrame s (f t s).2) :
    WFrame i w (w.onAttr i n f).2 ∧
    ∀ x, x < w.ctx.alloc → heapGet (w.onAttr i n f).2.ctx.heap x = heapGet w.ctx.heap x := by
  rcases onAttr_cases w i n f with ⟨h, -⟩ | ⟨o, td, r, s, hi, ht, hr, h⟩ <;> rw [h]
  · exact ⟨WFrame.refl i w, fun _ _ => rfl⟩
  · have hs := hf td.core (w.focus o n)
    rw [hr] at hs
    exact ⟨setInst_frame w i o _ s.ctx hi rfl rfl hs.le hs.heap hs.log
      (hs.fcalls.imp fun l h => ⟨h.1, fun f hf => by rw [h.2 f hf]; rfl⟩), hs.heap⟩

/-! ### Reading returns what is stored afterwards -/

theorem getattro_ok_slot (E : Env) (t : TraitCore) (s : OSt) (v : Id) (h : (getattro E t s).1 = .ok v) :
    (getattro E t s).2.slot = some v := by
  rw [getattro_eq] at h ⊢
  cases hs : s.slot <;> cases hk : t.kind <;> simp only [hs, hk] at h ⊢
  · exact materialise_ok h
  · cases h
  all_goals injection h with h; exact h ▸ rfl

/-! ### Container mutation -/

theorem heapGet_heapSet_ne (heap : List (Id × List Id)) (k x : Id) (v : List Id) (h : x ≠ k) :
    heapGet (heapSet heap k v) x = heapGet heap x :=
  congrArg (Option.map Prod.snd) (Common.find?_upsert_ne heap v h)

theorem heapGet_heapSet_self (heap : List (Id × List Id)) (k : Id) (v : List Id) :
    heapGet (heapSet heap k v) k = some v :=
  congrArg (Option.map Prod.snd) (Common.find?_upsert_self heap k v)

theorem heapSet_isSome (heap : List (Id × List Id)) (k x : Id) (v : List Id)
    (hk : (heapGet heap k).isSome = true) :
    (heapGet (heapSet heap k v) x).isSome = (heapGet heap x).isSome := by
  by_cases h : x = k
  · subst h
    rw [hk, heapGet_heapSet_self]
    rfl
  · rw [heapGet_heapSet_ne _ _ _ _ h]

theorem mutate_frame (c : Ctx) (cid x : Id) :
    (c.mutate cid x).2.alloc = c.alloc ∧ (c.mutate cid x).2.log = c.log ∧ (c.mutate cid x).2.fcalls = c.fcalls ∧
    (∀ y, y ≠ cid → heapGet (c.mutate cid x).2.heap y = heapGet c.heap y) ∧
    (∀ y, (heapGet (c.mutate cid x).2.heap y).isSome = (heapGet c.heap y).isSome) := by
  unfold Ctx.mutate
  cases hg : heapGet c.heap cid with
  | none => exact ⟨rfl, rfl, rfl, fun _ _ => rfl, fun _ => rfl⟩
  | some xs =>
    simp only []
    split
    · exact ⟨rfl, rfl, rfl, fun _ _ => rfl, fun _ => rfl⟩
    · exact ⟨rfl, rfl, rfl, fun y hy => heapGet_heapSet_ne _ _ _ _ hy,
        fun y => heapSet_isSome _ _ _ _ (by rw [hg]; rfl)⟩

/-! ### Every operation respects the frame -/

theorem onAttr_get_stored (E : Env) (w : World) (i : Nat) (n : Name) (v : Id)
    (h : (w.onAttr i n (fun t s => Attr.step E t s .get)).1.val = some v) :
    ∃ o, (w.onAttr i n (fun t s => Attr.step E t s .get)).2.insts[i]? = some o ∧ assocGet o.dict n = some v := by
  rcases onAttr_cases w i n (fun t s => Attr.step E t s .get) with ⟨-, h0⟩ | ⟨o, td, r, s, hi, ht, hr, h1⟩
  · rw [h0] at h; cases h
  · rw [h1] at h ⊢
    refine ⟨_, setInst_get_self w i o _ _ hi, ?_⟩
    have hsl : s.slot = some v := by
      have key := getattro_ok_slot E td.core (w.focus o n) v
      simp only [Attr.step] at hr
      cases hg : getattro E td.core (w.focus o n) with
      | mk r' s' =>
        rw [hg] at key hr
        cases r' with
        | error e => injection hr with hr1; subst hr1; cases h
        | ok u =>
          injection hr with hr1 hr2
          subst hr1 hr2
          injection h with h
          exact key (by rw [h])
    rw [absorb_dict, if_pos rfl, hsl]

theorem reach_of_stored (w : World) (i : Nat) (o : Inst) (n : Name) (v : Id) (hi : w.insts[i]? = some o)
    (hv : assocGet o.dict n = some v) : w.ReachIdx i v :=
  ⟨o, hi, n, v, hv, Or.inl rfl⟩

/-- `obj.n.append(x)` and `obj.n[0].append(x)` are a read of `obj.n` followed — unless the read fails or there is
nothing to mutate — by `Ctx.mutate` on an object reachable from the instance. -/
theorem step_mutate (E : Env) (w : World) (i : Nat) (n : Name) (x : Id) (op : WOp)
    (hop : op = .mutate i n x ∨ op = .mutateInner i n x) (w1 : World)
    (hw : w1 = (w.onAttr i n (fun t s => Attr.step E t s .get)).2) :
    (World.step E w op).2 = w1 ∨
      ∃ tgt, w1.ReachIdx i tgt ∧ (World.step E w op).2 = { w1 with ctx := (w1.ctx.mutate tgt x).2 } := by
  have hst := onAttr_get_stored E w i n
  subst hw
  rcases hop with rfl | rfl
  · simp only [World.step]
    cases hr : w.onAttr i n (fun t s => Attr.step E t s .get) with
    | mk r w1 =>
      rw [hr] at hst
      simp only []
      cases hv : r.val with
      | none => exact Or.inl rfl
      | some cid =>
        obtain ⟨o1, ho1, hd1⟩ := hst cid hv
        simp only []
        refine Or.inr ⟨cid, ⟨o1, ho1, n, cid, hd1, Or.inl rfl⟩, ?_⟩
        cases w1.ctx.mutate cid x with
        | mk e c => cases e <;> rfl
  · simp only [World.step]
    cases hr : w.onAttr i n (fun t s => Attr.step E t s .get) with
    | mk r w1 =>
      rw [hr] at hst
      simp only []
      cases hv : r.val with
      | none => exact Or.inl rfl
      | some cid =>
        obtain ⟨o1, ho1, hd1⟩ := hst cid hv
        simp only []
        cases hin : (heapGet w1.ctx.heap cid).bind (·.head?) with
        | none => exact Or.inl rfl
        | some inner =>
          refine Or.inr ⟨inner, ⟨o1, ho1, n, cid, hd1, Or.inr ?_⟩, ?_⟩
          · unfold World.kids
            cases hg : heapGet w1.ctx.heap cid with
            | none => simp [hg] at hin
            | some ys =>
              simp only [hg, Option.bind_some] at hin
              simpa using List.mem_of_head? hin
          · simp only []
            cases w1.ctx.mutate inner x with
            | mk e c => cases e <;> rfl

/-- An object reachable from instance `i` is still reachable from it after being mutated (also a container that
is its own element: its new contents still contain it). -/
theorem reach_mutate (w : World) (i : Nat) (tgt x : Id) (h : w.ReachIdx i tgt) :
    ({ w with ctx := (w.ctx.mutate tgt x).2 } : World).ReachIdx i tgt := by
  obtain ⟨o, ho, n, v, hv, hx⟩ := h
  refine ⟨o, ho, n, v, hv, hx.imp id fun hk => ?_⟩
  show tgt ∈ (heapGet (w.ctx.mutate tgt x).2.heap v).getD []
  unfold World.kids at hk
  by_cases hvt : v = tgt
  · subst hvt
    cases hys : heapGet w.ctx.heap v with
    | none => simp [hys] at hk
    | some ys =>
      rw [hys] at hk
      unfold Ctx.mutate
      simp only [hys]
      split
      · simpa [hys] using hk
      · simp only [heapGet_heapSet_self, Option.getD_some, List.mem_append]
        exact Or.inl hk
  · rw [(mutate_frame w.ctx tgt x).2.2.2.1 v hvt]
    exact hk

theorem WFrame.mutate {i : Nat} {w w1 : World} (hf : WFrame i w w1)
    (hold : ∀ y, y < w.ctx.alloc → heapGet w1.ctx.heap y = heapGet w.ctx.heap y) (tgt x : Id)
    (hr : w1.ReachIdx i tgt) : WFrame i w { w1 with ctx := (w1.ctx.mutate tgt x).2 } := by
  have hm := mutate_frame w1.ctx tgt x
  obtain ⟨l, hl, hlm⟩ := hf.log
  obtain ⟨k, hk, hkm⟩ := hf.fcalls
  refine ⟨hf.classes, hf.others, hf.len, hf.ident, ?_, ?_, ?_, ⟨l, ?_, hlm⟩, k, ?_, hkm⟩
  · show w.ctx.alloc ≤ (w1.ctx.mutate tgt x).2.alloc
    rw [hm.1]; exact hf.le
  · intro y hy
    by_cases hyc : y = tgt
    · subst hyc
      exact Or.inr (reach_mutate w1 i y x hr)
    · left
      show heapGet (w1.ctx.mutate tgt x).2.heap y = heapGet w.ctx.heap y
      rw [hm.2.2.2.1 y hyc]
      exact hold y hy
  · intro y hy
    show (heapGet (w1.ctx.mutate tgt x).2.heap y).isSome = _
    rw [hm.2.2.2.2 y, hold y hy]
  · show (w1.ctx.mutate tgt x).2.log = w.ctx.log ++ l
    rw [hm.2.1]; exact hl
  · show (w1.ctx.mutate tgt x).2.fcalls = w.ctx.fcalls ++ k
    rw [hm.2.2.1]; exact hk

theorem step_frame (E : Env) (w : World) (op : WOp) (i : Nat) (ht : op.target = some i) :
    WFrame i w (World.step E w op).2 := by
  have hon := fun n (a : Op) => onAttr_frame w i n _ (fun t s => step_sframe E t s a)
  have hattr : ∀ n (a : Op), WFrame i w (w.onAttr i n (fun t s => Attr.step E t s a)).2 := fun n a => (hon n a).1
  have hmut : ∀ n x (op : WOp), op = .mutate i n x ∨ op = .mutateInner i n x → WFrame i w (World.step E w op).2 := by
    intro n x op hop
    rcases step_mutate E w i n x op hop _ rfl with h | ⟨tgt, hr, h⟩ <;> rw [h]
    · exact hattr n .get
    · exact (hon n .get).1.mutate (hon n .get).2 tgt x hr
  have hinst : ∀ o o' : Inst, w.insts[i]? = some o → o'.oid = o.oid → o'.cls = o.cls →
      WFrame i w (w.setInst i o' w.ctx) := fun o o' hi h1 h2 =>
    setInst_frame w i o o' w.ctx hi h1 h2 (Nat.le_refl _) (fun _ _ => rfl) ⟨[], by simp, nofun⟩ ⟨[], by simp, nofun⟩
  cases op with
  | new k => cases ht
  | get j n => cases ht; exact hattr n _
  | set j n v => cases ht; exact hattr n _
  | regDyn j n h => cases ht; exact hattr n _
  | regObs j n h => cases ht; exact hattr n _
  | del j n => cases ht; exact hattr n _
  | mutate j n x => cases ht; exact hmut n x _ (Or.inl rfl)
  | mutateInner j n x => cases ht; exact hmut n x _ (Or.inr rfl)
  | regAny j h =>
    cases ht
    simp only [World.step]
    cases hi : w.insts[i]? with
    | none => exact WFrame.refl i w
    | some o => exact hinst o _ hi rfl rfl
  | addTrait j n t =>
    cases ht
    simp only [World.step, World.addTrait]
    cases hi : w.insts[i]? with
    | none => exact WFrame.refl i w
    | some o => exact hinst o _ hi rfl rfl
  | query j =>
    cases ht
    simp only [World.step]
    cases w.insts[i]? <;> exact WFrame.refl i w

end TraitsVerif.Model.Attr
