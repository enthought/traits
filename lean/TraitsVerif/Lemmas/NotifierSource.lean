/-
Cluster `obs`: `userAdd` / `userRemove` / `maintAdd` / `maintRemove` / `NKey.equals` of
Model/Hooks.lean and Model/ObsGraph.lean ARE the interpretation (Model/NotL.lean) of the programs
and comparison tables translated from the source text of the two notifier classes
(Generated/NotifierProg.lean).
-/
import TraitsVerif.Generated.NotifierProg
import TraitsVerif.Lemmas.ObsBasic
set_option linter.unusedSimpArgs false
namespace TraitsVerif.Model.NotL
open TraitsVerif TraitsVerif.Model.Obs TraitsVerif.Generated

theorem ofI_toI (n : Notifier) : ofI (toI n) = n := by
  cases n <;> simp [toI, ofI]

@[simp] theorem map_ofI_toI (ns : List Notifier) : (ns.map toI).map ofI = ns := by
  induction ns with
  | nil => rfl
  | cons n ns ih => simp only [List.map_cons, ofI_toI, ih]

@[simp] theorem map_ofI_comp (ns : List Notifier) : List.map (ofI ∘ toI) ns = ns := by
  rw [← List.map_map]; exact map_ofI_toI ns

@[simp] theorem ofI_toI' (n : Notifier) : ofI (toI n) = n := ofI_toI n

theorem erase_at_len {α} (pre : List α) (o : α) (rest : List α) :
    (pre ++ o :: rest).eraseIdx pre.length = pre ++ rest := by
  simp [List.eraseIdx_append_of_length_le]

theorem set_at_len {α} (pre : List α) (o x : α) (rest : List α) :
    (pre ++ o :: rest).set pre.length x = pre ++ x :: rest := by
  simp [List.set_append_right]

/-! ### the loop `for other in notifiers: if self.equals(other): …` of the three methods -/

/-- what the loop does: `act` at the first notifier equal to `self` (its result: the list from there on, and how
the loop ends), nothing when there is none -/
def scanI (q : NKey) (act : INot → List INot → List INot × NFlow) : List INot → Option (List INot × NFlow)
  | [] => none
  | o :: rest => if NKey.equals q o.key then some (act o rest) else (scanI q act rest).map fun r => (o :: r.1, r.2)

/-- The loop as an equation: given that the body, at an equal notifier, ends the loop (`break` / `raise`) and changes only the
list — to what `act` says — and the loop variable, the whole loop leaves `scanI` of the list and touches nothing else but the
loop variable (which no method reads after the loop: hence `∃ oth`). -/
theorem loop_scan (q : NKey) (B : NSt) (act : INot → List INot → List INot × NFlow)
    (hB : ∀ (pre rest : List INot) (o : INot) (st : NSto), st.ns = pre ++ o :: rest →
      (act o rest).2 ≠ .next ∧ ∃ oth, execB NKey.equals B { st with other := some (some pre.length, o) } =
        ({ st with ns := pre ++ (act o rest).1, other := oth }, (act o rest).2)) :
    ∀ (rest pre : List INot) (st : NSto), st.ns = pre ++ rest → st.self.key = q →
      ∃ oth, loop NKey.equals (.ifS .equalsOther B .skip) rest pre.length st =
        match scanI q act rest with
        | some (l, fl) => ({ st with ns := pre ++ l, other := oth }, fl)
        | none => ({ st with other := oth }, .next) := by
  intro rest
  induction rest with
  | nil => intro pre st _ _; exact ⟨st.other, rfl⟩
  | cons o rest ih =>
    intro pre st hns hk
    simp only [loop, execB, evalN, Option.map, hk, scanI]
    cases he : NKey.equals q o.key with
    | true =>
      obtain ⟨h3, oth, h1⟩ := hB pre rest o st hns
      simp only [if_true, h1]
      generalize (act o rest).2 = fl at h3
      cases fl <;> first | exact absurd rfl h3 | exact ⟨oth, rfl⟩
    | false =>
      simp only [Bool.false_eq_true, if_false, if_true]
      obtain ⟨oth, h1⟩ := ih (pre ++ [o]) { st with other := some (some pre.length, o) } (by simp [hns]) hk
      simp only [List.length_append, List.length_cons, List.length_nil, Nat.zero_add] at h1
      refine ⟨oth, h1.trans ?_⟩
      cases scanI q act rest <;> simp

/-! ### TraitEventNotifier.add_to -/

/-- `other._ref_count += 1; break` -/
def bump (o : INot) (rest : List INot) : List INot × NFlow := ({ o with rc := o.rc + 1 } :: rest, .brk)

theorem userAdd_eq_scan (k : HKey) (ns : List Notifier) :
    match scanI (.user k) bump (ns.map toI) with
    | some r => userAdd k ns = r.1.map ofI ∧ r.2 = .brk
    | none => userAdd k ns = ns ++ [.user k 1] := by
  induction ns with
  | nil => rfl
  | cons n ns ih =>
    cases n with
    | user k' rc =>
      simp only [userAdd, List.map_cons, toI, scanI, NKey.equals]
      by_cases hk : (k == k') = true
      · simp [hk, ofI, bump]
      · simp only [hk, if_false]
        cases hs : scanI (.user k) bump (ns.map toI) <;> rw [hs] at ih <;> simp [ofI, ih]
    | maint mk g k' =>
      simp only [userAdd, List.map_cons, toI, scanI, NKey.equals, Bool.false_eq_true, if_false]
      cases hs : scanI (.user k) bump (ns.map toI) <;> rw [hs] at ih <;> simp [ofI, ih]

/-- SOURCE TIE: `userAdd` is the interpreted `TraitEventNotifier.add_to`. -/
theorem userAdd_is_source (k : HKey) (ns : List Notifier) :
    runMethod NKey.equals userAddProg (.user k) ns = some (userAdd k ns, none) := by
  unfold runMethod userAddProg
  simp only [execT]
  obtain ⟨oth, hr⟩ := loop_scan (.user k) (.seq (.addRcOther 1) .brk) bump
    (fun pre rest o st hns => ⟨by simp [bump], by simp [execB, hns, set_at_len, bump]⟩)
    (ns.map toI) [] ⟨ns.map toI, ⟨.user k, 0⟩, none, none⟩ rfl rfl
  simp only [List.length_nil, List.nil_append] at hr
  rw [hr]
  have hm := userAdd_eq_scan k ns
  cases hs : scanI (.user k) bump (ns.map toI) with
  | some p =>
    rw [hs] at hm
    simp [hm.1, hm.2]
  | none =>
    rw [hs] at hm
    simp [execB, evalN, hm, ofI]

/-! ### `remove_from` of both classes: the first equal notifier is dealt with, as in `removeKey_cons` -/

theorem toI_key (n : Notifier) : (toI n).key = n.key := by cases n <;> rfl

theorem equals_comm (a b : NKey) : NKey.equals a b = NKey.equals b a := by
  cases h : NKey.equals b a with
  | true => exact NKey.equals_symm h
  | false =>
    cases h' : NKey.equals a b with
    | false => rfl
    | true => rw [NKey.equals_symm h'] at h; cases h

/-- `act` at the first equal notifier is the model's `Notifier.dec` there -/
def IsDec (q : NKey) (act : INot → List INot → List INot × NFlow) : Prop :=
  ∀ (n : Notifier) (rest : List Notifier), NKey.equals q n.key = true →
    match act (toI n) (rest.map toI) with
    | (l, .brk) => n.dec rest = .ok (l.map ofI)
    | (l, .raised e) => n.dec rest = .error e ∧ l.map ofI = n :: rest
    | _ => False

theorem removeKey_eq_scan (q : NKey) (act : INot → List INot → List INot × NFlow) (hact : IsDec q act)
    (ns : List Notifier) :
    match scanI q act (ns.map toI) with
    | some (l, .brk) => removeKey q ns = .ok (l.map ofI)
    | some (l, .raised e) => removeKey q ns = .error e ∧ l.map ofI = ns
    | some _ => False
    | none => removeKey q ns = .error .notifierNotFound := by
  induction ns with
  | nil => exact removeKey_nil q
  | cons n ns ih =>
    -- the model asks `other.equals(self)`, the source `self.equals(other)`
    rw [List.map_cons, scanI, removeKey_cons, toI_key, equals_comm n.key q]
    cases he : NKey.equals q n.key with
    | true =>
      have := hact n ns he
      simp only [if_true]
      generalize act (toI n) (ns.map toI) = p at this ⊢
      obtain ⟨l, fl⟩ := p
      cases fl <;> exact this
    | false =>
      simp only [Bool.false_eq_true, if_false]
      cases hs : scanI q act (ns.map toI) with
      | none => rw [hs] at ih; simp [ih, Except.map]
      | some p =>
        obtain ⟨l, fl⟩ := p
        rw [hs] at ih
        cases fl <;> simp only [Option.map] at ih ⊢ <;> simp [ih, Except.map, ofI_toI]

/-- SOURCE TIE for `remove_from` of both classes: `for other in notifiers[:]: if self.equals(other): B` with
`else: raise NotifierNotFound`, where `B` does at the first equal notifier what `Notifier.dec` does, is `removeKey`
(a call that raises leaves the list, read with natural reference counts, as it was). -/
theorem remove_is_source (q : NKey) (B : NSt) (act : INot → List INot → List INot × NFlow)
    (hB : ∀ (pre rest : List INot) (o : INot) (st : NSto), st.ns = pre ++ o :: rest →
      (act o rest).2 ≠ .next ∧ ∃ oth, execB NKey.equals B { st with other := some (some pre.length, o) } =
        ({ st with ns := pre ++ (act o rest).1, other := oth }, (act o rest).2))
    (hact : IsDec q act) (ns : List Notifier) :
    runMethod NKey.equals (.forOther true (.ifS .equalsOther B .skip) (.raise .notifierNotFound)) q ns =
      some (match removeKey q ns with
        | .ok l => (l, none)
        | .error e => (ns, some e)) := by
  unfold runMethod
  simp only [execT]
  obtain ⟨oth, hr⟩ := loop_scan q B act hB (ns.map toI) [] ⟨ns.map toI, ⟨q, 0⟩, none, none⟩ rfl rfl
  simp only [List.length_nil, List.nil_append] at hr
  rw [hr]
  have hm := removeKey_eq_scan q act hact ns
  cases hs : scanI q act (ns.map toI) with
  | none =>
    rw [hs] at hm
    simp [execB, hm]
  | some p =>
    obtain ⟨l, fl⟩ := p
    rw [hs] at hm
    cases fl with
    | brk | raised e => simp only at hm; simp [hm]
    | next | stuck => exact hm.elim

/-! ### TraitEventNotifier.remove_from -/

/-- `if other._ref_count == 1: notifiers.remove(other)`, then `other._ref_count -= 1`, RuntimeError below 0, `break` -/
def dec1 (o : INot) (rest : List INot) : List INot × NFlow :=
  if o.rc = 1 then (rest, .brk)
  else if o.rc - 1 < 0 then ({ o with rc := o.rc - 1 } :: rest, .raised .runtimeError)
  else ({ o with rc := o.rc - 1 } :: rest, .brk)

/-- SOURCE TIE: `userRemove` is the interpreted `TraitEventNotifier.remove_from` (a call that raises
leaves the list, read with natural reference counts, as it was). -/
theorem userRemove_is_source (k : HKey) (ns : List Notifier) :
    runMethod NKey.equals userRemoveProg (.user k) ns =
      some (match userRemove k ns with
        | .ok l => (l, none)
        | .error e => (ns, some e)) := by
  refine remove_is_source (.user k) _ dec1 (fun pre rest o st hns => ?_) (fun n rest he => ?_) ns
  · simp only [execB, evalN, Option.map, dec1]
    by_cases h1 : o.rc = 1
    · simp [h1, hns, erase_at_len]
    · have hb1 : (o.rc == 1) = false := by simpa using h1
      by_cases h2 : o.rc - 1 < 0
      · have h2' : o.rc + -1 < 0 := by omega
        simp [h1, hb1, h2, h2', hns, Int.sub_eq_add_neg, set_at_len]
      · have h2' : ¬ o.rc + -1 < 0 := by omega
        simp [h1, hb1, h2, h2', hns, Int.sub_eq_add_neg, set_at_len]
  · cases n with
    | maint => cases he
    | user k' rc =>
      simp only [toI, dec1, Notifier.dec]
      by_cases h1 : rc = 1
      · simp [h1]
      · by_cases h0 : rc = 0
        · simp [h0, ofI, map_ofI_toI]
        · have : ¬ ((rc : Int) - 1 < 0) := by omega
          have h1' : ¬ ((rc : Int) = 1) := by omega
          simp [h1, h0, this, h1', ofI, map_ofI_toI]

/-! ### ObserverChangeNotifier.add_to / remove_from -/

/-- SOURCE TIE: `maintAdd` is the interpreted `ObserverChangeNotifier.add_to`. -/
theorem maintAdd_is_source (mk : MKind) (g : Graph) (k : HKey) (ns : List Notifier) :
    runMethod NKey.equals maintAddProg (.maint mk g k) ns = some (maintAdd mk g k ns, none) := by
  simp [runMethod, maintAddProg, execT, execB, maintAdd, map_ofI_toI, ofI]

/-- SOURCE TIE: `maintRemove` is the interpreted `ObserverChangeNotifier.remove_from`. -/
theorem maintRemove_is_source (mk : MKind) (g : Graph) (k : HKey) (ns : List Notifier) :
    runMethod NKey.equals maintRemoveProg (.maint mk g k) ns =
      some (match maintRemove mk g k ns with
        | .ok l => (l, none)
        | .error e => (ns, some e)) := by
  refine remove_is_source (.maint mk g k) _ (fun _ rest => (rest, .brk))
    (fun pre rest o st hns => by simp [execB, hns, erase_at_len]) (fun n rest he => ?_) ns
  cases n with
  | user => cases he
  | maint => simp [Notifier.dec, map_ofI_toI]

/-! ### `equals` -/

/-- the `equals` method `self.equals(other)` dispatches on the class of `self` -/
def equalsRows : NKey → List EqRow
  | .user _ => userEqualsRows
  | .maint .. => maintEqualsRows

theorem hkey_beq (h1 h2 : Nat) (t1 t2 : Id) :
    ((⟨h1, t1⟩ : HKey) == ⟨h2, t2⟩) = (h1 == h2 && t1 == t2) := by
  rw [Bool.eq_iff_iff]
  simp [HKey.mk.injEq]

/-- SOURCE TIE: `NKey.equals` is the conjunction the two `equals` methods spell out — for EVERY reading
`eqo` of `==` on two distinct targets (so it holds only as long as targets are compared with `is`). -/
theorem equals_is_source (eqo : Id → Id → Bool) (a b : NKey) :
    rowsHold eqo (equalsRows a) a b = some (NKey.equals a b) := by
  cases a with
  | user k =>
    cases b with
    | user k' =>
      obtain ⟨h1, t1⟩ := k
      obtain ⟨h2, t2⟩ := k'
      simp [equalsRows, userEqualsRows, rowsHold, rowHolds, NKey.equals, hkey_beq]
    | maint mk g k' => simp [equalsRows, userEqualsRows, rowsHold, rowHolds, NKey.equals]
  | maint mk g k =>
    cases b with
    | user k' => simp [equalsRows, maintEqualsRows, rowsHold, rowHolds, NKey.equals]
    | maint mk' g' k' =>
      obtain ⟨h1, t1⟩ := k
      obtain ⟨h2, t2⟩ := k'
      simp only [equalsRows, maintEqualsRows, rowsHold, rowHolds, NKey.equals, hkey_beq]
      simp
      cases (mk == mk') <;> cases (h1 == h2) <;> cases (t1 == t2) <;> cases Graph.beq g g' <;> rfl


/-! ### `ObserverGraph.__eq__` -/

theorem graphRows_decode : decodeGraphRows graphEqRows = some ⟨true, .asSets⟩ := by decide

mutual
theorem geq_eq_beq : ∀ g g' : Graph, geq ⟨true, .asSets⟩ g g' = Graph.beq g g'
  | .node o cs, .node o' cs' => by
    have h1 := geqAllAny_eq cs cs'
    have h2 : ∀ c', geqAnyL ⟨true, .asSets⟩ cs c' = Graph.anyL cs c' := fun c' => geqAnyL_eq cs c'
    simp only [geq, Graph.beq, Bool.not_true, Bool.false_or, h1, h2, Bool.and_assoc]
theorem geqAllAny_eq : ∀ cs cs' : List Graph, geqAllAny ⟨true, .asSets⟩ cs cs' = Graph.allAny cs cs'
  | [], _ => by simp only [geqAllAny, Graph.allAny]
  | c :: cs, cs' => by
    have h1 : ∀ c', geq ⟨true, .asSets⟩ c c' = Graph.beq c c' := fun c' => geq_eq_beq c c'
    simp only [geqAllAny, Graph.allAny, h1, geqAllAny_eq cs cs']
theorem geqAnyL_eq : ∀ (cs : List Graph) (c' : Graph), geqAnyL ⟨true, .asSets⟩ cs c' = Graph.anyL cs c'
  | [], _ => by simp only [geqAnyL, Graph.anyL]
  | c :: cs, c' => by
    simp only [geqAnyL, Graph.anyL, geq_eq_beq c c', geqAnyL_eq cs c']
end

/-- SOURCE TIE: `Graph.beq` is `ObserverGraph.__eq__` as its rows (type `is`, node `==`, children compared as
sets) say. -/
theorem graph_beq_is_source (g g' : Graph) :
    (decodeGraphRows graphEqRows).map (fun m => geq m g g') = some (Graph.beq g g') := by
  rw [graphRows_decode]
  simp [geq_eq_beq]

end TraitsVerif.Model.NotL
