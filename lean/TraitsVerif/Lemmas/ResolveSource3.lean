/-
`…_src` lemmas for `has_traits_setattro` and `has_traits_getattro`, from any interpreter state.  Where
several paths through a function join, the part before the join is a lemma about its statements followed
by arbitrary statements `ss`, with what `ss` returns as a hypothesis; the common part is interpreted
once.  `cases nI <;> …` runs the same steps for `obj->itrait_dict` NULL and not NULL.
-/
import TraitsVerif.Lemmas.ResolveSource2
namespace TraitsVerif.Model.ResL
open TraitsVerif TraitsVerif.Model.Resolve TraitsVerif.Generated

/-- The invariant tying the ghost NULL flags to the maps. -/
def St.Wf (st : St) : Prop :=
  (st.nullI = true → st.o.itraits = []) ∧ (st.nullO = true → st.o.dict = [])

theorem user7_get_prefix_trait (E : Env) (a : List V) (st : St) :
    user7 E .get_prefix_trait a st = user6 E .get_prefix_trait a st := rfl

/-! ### `has_traits_setattro` -/

section setattro
variable (E : Env) (w : World) (oi : Nat) (o : Obj) (c : Cls) (nI nO : Bool) (fr : Option DictId)
  (er : Option Exc) (env e : List (Var × V)) (name : Name) (value : Option Val)
  (ho : envGet env .obj = .obj) (hn : envGet env .name = .name name) (hv : envGet env .value = vOpt value)
include ho hn hv

/-- `return trait->setattr(trait, trait, obj, name, value)`, once `trait` has been assigned. -/
theorem setattro_dispatch (Γ : Ctx) (t : Trait) (ss : List Stmt) :
    asSet (leave e false (execs Γ false (ResolveC.has_traits_setattro.stmt 1 :: ss)
        (St.mk w oi o c nI nO fr er ((.trait, .trait t) :: env)))) =
      some (match setattrKind Γ.E t o.dict name value with
        | .error x => (w, .error x)
        | .ok d => (setDict w oi d, .ok .done)) := by
  simp only [Fun.stmt, ResolveC.has_traits_setattro, List.getD_cons_succ, List.getD_cons_zero]
  cases value <;> resl_eval [ho, hn, hv] <;>
    (cases hs : setattrKind Γ.E t o.dict name _ <;> resl_eval [hs] <;> rfl)

/-- The lookup: instance trait, class trait, `get_prefix_trait(obj, name, 1)`. -/
theorem setattro_lookup (hI : nI = true → o.itraits = []) (hstar : NoStar c) (ss : List Stmt)
    (hss : ∀ w' o' c' nI' fr' er' env' t, envGet env' .obj = .obj → envGet env' .name = .name name →
      envGet env' .value = vOpt value →
      asSet (leave e false (execs ⟨E, user6 E⟩ false ss (St.mk w' oi o' c' nI' nO fr' er' ((.trait, .trait t) :: env')))) =
        some (match setattrKind E t o'.dict name value with
          | .error x => (w', .error x)
          | .ok d => (setDict w' oi d, .ok .done))) :
    asSet (leave e false (execs ⟨E, user6 E⟩ false (ResolveC.has_traits_setattro.stmt 0 :: ss)
        (St.mk w oi o c nI nO fr er env))) = some (setattro E w oi o c name value) := by
  have hi : nI = true → o.itraits.get name = none := fun h => by rw [hI h]; rfl
  simp only [Fun.stmt, ResolveC.has_traits_setattro, List.getD_cons_zero, setattro, resolveSet]
  cases hi' : o.itraits.get name with
  | some t =>
    cases nI with
    | true => rw [hi rfl] at hi'; cases hi'
    | false => resl_eval [ho, hn, hv, hi', hss]; rfl
  | none =>
    cases hc : c.ctraits.get name with
    | some t => cases nI <;> resl_eval [ho, hn, hv, hi', hc, hss] <;> rfl
    | none =>
      cases hpt : prefixTrait c o name true with
      | error x =>
        obtain ⟨hm, hr⟩ := get_prefix_trait_error E w oi o c nI nO name true 1 rfl hI hstar hpt
        rw [hm]
        cases nI <;> resl_eval [ho, hn, hv, hi', hc, hr] <;> rfl
      | ok t =>
        obtain ⟨tt, hm, hr⟩ := get_prefix_trait_ok E w oi o c nI nO name true 1 rfl hI hstar hpt
        rw [hm]
        cases nI <;> resl_eval [ho, hn, hv, hi', hc, hr, hss, (fireTraitAdded_dict o name).1] <;> rfl

end setattro

theorem setattro_src (E : Env) (st : St) (name : Name) (value : Option Val)
    (hI : st.nullI = true → st.o.itraits = []) (hstar : NoStar st.c) :
    asSet (user7 E .has_traits_setattro [.obj, .name name, vOpt value] st)
      = some (setattro E st.w st.oi st.o st.c name value) := by
  obtain ⟨w, oi, o, c, nI, nO, fr, er, env⟩ := st
  simp only [user7, runFun_mk]
  exact setattro_lookup E w oi o c nI nO fr er _ env name value rfl rfl rfl hI hstar _
    fun w' o' c' nI' fr' er' env' t ho hn hv =>
      setattro_dispatch w' oi o' c' nI' nO fr' er' env' env name value ho hn hv ⟨E, user6 E⟩ t []

/-! ### `has_traits_getattro` -/

section getattro
variable (E : Env) (w : World) (oi : Nat) (o : Obj) (c : Cls) (nI nO : Bool) (fr : Option DictId)
  (er : Option Exc) (env e : List (Var × V)) (name : Name)
  (ho : envGet env .obj = .obj) (hn : envGet env .name = .name name)
include ho hn

/-- The `__dict__` short cut, given what the statements after it return when the name is not there. -/
theorem getattro_dict (hO : nO = true → o.dict = []) (ss : List Stmt)
    (hss : o.dict.get name = none → ∀ env', envGet env' .obj = .obj → envGet env' .name = .name name →
      asGet (leave e false (execs ⟨E, user6 E⟩ false ss (St.mk w oi o c nI nO fr er env'))) =
        some (getattro E w oi o c name)) :
    asGet (leave e false (execs ⟨E, user6 E⟩ false
        (ResolveC.has_traits_getattro.stmt 0 :: ResolveC.has_traits_getattro.stmt 1 :: ss)
        (St.mk w oi o c nI nO fr er env))) = some (getattro E w oi o c name) := by
  simp only [Fun.stmt, ResolveC.has_traits_getattro, List.getD_cons_succ, List.getD_cons_zero]
  cases nO with
  | true => resl_eval [ho, hn, hss (by rw [hO rfl]; rfl)]
  | false =>
    cases hd : o.dict.get name with
    | some v => resl_eval [ho, hn, hd, getattro]; rfl
    | none => resl_eval [ho, hn, hd, hss hd]

/-- The trait lookup and `trait->getattr`, given what the statements after it return when there is
neither an instance trait nor a class trait. -/
theorem getattro_lookup (hI : nI = true → o.itraits = []) (hd : o.dict.get name = none) (ss : List Stmt)
    (hss : trait0 c o name = none → ∀ env', envGet env' .obj = .obj → envGet env' .name = .name name →
      asGet (leave e false (execs ⟨E, user6 E⟩ false ss (St.mk w oi o c nI nO fr er env'))) =
        some (getattro E w oi o c name)) :
    asGet (leave e false (execs ⟨E, user6 E⟩ false (ResolveC.has_traits_getattro.stmt 2 :: ss)
        (St.mk w oi o c nI nO fr er env))) = some (getattro E w oi o c name) := by
  have hi : nI = true → o.itraits.get name = none := fun h => by rw [hI h]; rfl
  simp only [Fun.stmt, ResolveC.has_traits_getattro, List.getD_cons_succ, List.getD_cons_zero]
  cases hi' : o.itraits.get name with
  | some t =>
    cases nI with
    | true => rw [hi rfl] at hi'; cases hi'
    | false =>
      resl_eval [ho, hn, hi', getattro, hd, trait0]
      cases hg : getattrKind E t o.dict name <;> resl_eval [hg] <;> rfl
  | none =>
    cases hc : c.ctraits.get name with
    | some t =>
      cases nI <;> resl_eval [ho, hn, hi', hc, getattro, hd, trait0] <;>
        (cases hg : getattrKind E t o.dict name <;> resl_eval [hg] <;> rfl)
    | none => cases nI <;> resl_eval [ho, hn, hi', hc, hss (by simp only [trait0, hi', hc])]

/-- `PyObject_GenericGetAttr`, then the fallback to `get_prefix_trait(obj, name, 0)`: the last five
statements. -/
theorem getattro_rest (hI : nI = true → o.itraits = []) (hstar : NoStar c) (hd : o.dict.get name = none)
    (ht : trait0 c o name = none) :
    asGet (leave e false (execs ⟨E, user6 E⟩ false (ResolveC.has_traits_getattro.body.drop 3)
        (St.mk w oi o c nI nO fr er env))) = some (getattro E w oi o c name) := by
  simp only [ResolveC.has_traits_getattro, List.drop_succ_cons, List.drop_zero, getattro, hd, ht]
  cases hca : E.classAttr name with
  | some v => resl_eval [ho, hn, genericGet, hd, hca]; rfl
  | none =>
    cases hpt : prefixTrait c o name false with
    | error x =>
      obtain ⟨hm, hr⟩ := get_prefix_trait_error E w oi o c nI nO name false 0 rfl hI hstar hpt
      rw [hm]
      resl_eval [ho, hn, genericGet, hd, hca, hr]
      rfl
    | ok t =>
      obtain ⟨tt, hm, hr⟩ := get_prefix_trait_ok E w oi o c nI nO name false 0 rfl hI hstar hpt
      rw [hm]
      resl_eval [ho, hn, genericGet, hd, hca, hr, (fireTraitAdded_dict o name).1]
      cases hg : getattrKind E tt o.dict name <;> resl_eval [hg] <;> rfl

end getattro

theorem getattro_src (E : Env) (st : St) (name : Name) (hI : st.nullI = true → st.o.itraits = [])
    (hO : st.nullO = true → st.o.dict = []) (hstar : NoStar st.c) :
    asGet (user7 E .has_traits_getattro [.obj, .name name] st) = some (getattro E st.w st.oi st.o st.c name) := by
  obtain ⟨w, oi, o, c, nI, nO, fr, er, env⟩ := st
  simp only [user7, runFun_mk]
  exact getattro_dict E w oi o c nI nO fr er _ env name rfl rfl hO _ fun hd env' ho hn =>
    getattro_lookup E w oi o c nI nO fr er env' env name ho hn hI hd _ fun ht env'' ho hn =>
      getattro_rest E w oi o c nI nO fr er env'' env name ho hn hI hstar hd ht
