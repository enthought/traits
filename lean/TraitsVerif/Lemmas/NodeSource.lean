/-
Cluster `obs`: the IObserver node interface of Model/ObsGraph.lean (`observables`,
`objects`, `Observer.notify`, the extra graph, the notifier keys) IS the
interpretation of the source text of the five observer classes
(Generated/NodeProg.lean, emitted by harness/translate/nodel.py; language and
interpreter: Model/NodeL.lean).

The interpreter is used through the rules of the first section: one rule per construct,
saying what the construct does given what its parts do; a method is run by chaining
rules along its text.  Methods whose result does not depend on the heap are evaluated
(`rfl`) — unless a string would have to be compared on the way.
-/
import TraitsVerif.Generated.NodeProg
namespace TraitsVerif.Lemmas.NodeSource
open TraitsVerif TraitsVerif.Model.Obs TraitsVerif.Model.NodeL
open TraitsVerif.Generated

/-! ### the interpreter, rule by rule -/

section rules
variable {call : Call} {h : Heap} {self : Self} {ρ ρ' : Env} {a b c d e g hd tg dp : Ex} {s t : St} {it : It}
  {v va vb r : V} {ys : List V} {x : W} {i : Id} {nm : Name} {fs : List Field} {bb : Bool} {k : Nat}

theorem eval_var (hv : ρ k = some v) : eval call h self (.var k) ρ = .ok v := by
  unfold eval; rw [hv]

theorem eval_not (he : eval call h self e ρ = .ok (.bool bb)) : eval call h self (.not e) ρ = .ok (.bool (!bb)) := by
  unfold eval; rw [he]

theorem eval_and_false (ha : eval call h self a ρ = .ok (.bool false)) :
    eval call h self (.and a b) ρ = .ok (.bool false) := by
  unfold eval; rw [ha]

theorem eval_and_true (ha : eval call h self a ρ = .ok (.bool true)) :
    eval call h self (.and a b) ρ = eval call h self b ρ := by
  conv => lhs; unfold eval
  rw [ha]

theorem eval_isNotNone_none (he : eval call h self e ρ = .ok (.val .none)) :
    eval call h self (.isNotNone e) ρ = .ok (.bool false) := by
  unfold eval; rw [he]

theorem eval_isNotNone_ctrait {fl : Field} (he : eval call h self e ρ = .ok (.ctrait fl)) :
    eval call h self (.isNotNone e) ρ = .ok (.bool true) := by
  unfold eval; rw [he]

theorem eval_isInstance (cls : Cls) (he : eval call h self e ρ = .ok (.w x)) :
    eval call h self (.isInstance e cls) ρ = .ok (.bool (isInst h x cls)) := by
  unfold eval; rw [he]

/-- `o._trait(n, 0)` of an instance: the CTrait, or `None` -/
theorem eval_traitOf0 (ho : eval call h self a ρ = .ok (.w (some i))) (hn : eval call h self b ρ = .ok (.name nm))
    (hx : h.at (some i) = .inst fs) :
    eval call h self (.traitOf a b 0) ρ = .ok ((findField fs nm).elim (.val .none) .ctrait) := by
  unfold eval; rw [ho, hn]; dsimp only; rw [hx]; dsimp only
  cases findField fs nm <;> rfl

/-- `o._trait(n, 2)` of an instance -/
theorem eval_traitOf (ho : eval call h self a ρ = .ok (.w (some i))) (hn : eval call h self b ρ = .ok (.name nm))
    (hx : h.at (some i) = .inst fs) : eval call h self (.traitOf a b 2) ρ = .ok (.itrait i nm) := by
  unfold eval; rw [ho, hn]; dsimp only; rw [hx]; rfl

theorem eval_dictGet {dv : Val} (ho : eval call h self a ρ = .ok (.w x)) (hn : eval call h self b ρ = .ok (.name nm))
    (hd : eval call h self d ρ = .ok (.val dv)) :
    eval call h self (.dictGet a b d) ρ = .ok (.val (bif fieldVal h x nm == .unset then dv else fieldVal h x nm)) := by
  unfold eval; rw [ho, hn, hd]; dsimp only
  cases fieldVal h x nm <;> rfl

theorem eval_allIsNot {w : Val} (cs : List Const) (he : eval call h self e ρ = .ok (.val w)) :
    eval call h self (.allIsNot e cs) ρ = .ok (.bool (cs.all fun c => w != constVal c)) := by
  unfold eval; rw [he]

theorem eval_call2 {q : String} (ha : eval call h self a ρ = .ok va) (hb : eval call h self b ρ = .ok vb)
    (hc : call q .none va vb = .ok (ys, some r)) : eval call h self (.call2 q a b) ρ = .ok r := by
  unfold eval; rw [ha, hb]; dsimp only; rw [hc]

theorem eval_callF {f : Filter} (hf : eval call h self c ρ = .ok (.filt f)) (ha : eval call h self a ρ = .ok va)
    (hb : eval call h self b ρ = .ok vb) (hc : call (filterCallee f).1 (filterCallee f).2 va vb = .ok (ys, some r)) :
    eval call h self (.callF c a b) ρ = .ok r := by
  unfold eval; rw [hf, ha, hb]; dsimp only; rw [hc]

theorem eval_maintNotifier {oh ef : String} {pe : PE} {mk : MKind} {gr : Graph} (hmk : mkindOf oh = .ok mk)
    (hg : eval call h self g ρ = .ok (.graph gr)) (hh : eval call h self hd ρ = .ok (.handler k))
    (ht : eval call h self tg ρ = .ok (.w (some i))) (hdp : eval call h self dp ρ = .ok .dispatcher) :
    eval call h self (.maintNotifier oh ef pe g hd tg dp) ρ = .ok (.notifier (.maint mk gr ⟨k, i⟩) ef pe) := by
  unfold eval; rw [hg, hh, ht, hdp, hmk]; rfl

theorem evalIt_call2 {q : String} {rv : Option V} (ha : eval call h self a ρ = .ok va)
    (hb : eval call h self b ρ = .ok vb) (hc : call q .none va vb = .ok (ys, rv)) :
    evalIt call h self (.call2 q a b) ρ = .ok ys := by
  rw [evalIt, ha, hb]; dsimp only; rw [hc]

theorem exec_assign (he : eval call h self e ρ = .ok v) :
    exec call h self (.assign k e) ρ = .ok ([], .next (ρ.upd k v)) := by
  unfold exec; rw [he]

theorem exec_ifS (hc : eval call h self c ρ = .ok (.bool bb)) :
    exec call h self (.ifS c s t) ρ = bif bb then exec call h self s ρ else exec call h self t ρ := by
  conv => lhs; unfold exec
  rw [hc]; cases bb <;> rfl

theorem exec_seq_next (hs : exec call h self s ρ = .ok (ys, .next ρ')) :
    exec call h self (.seq s t) ρ = (exec call h self t ρ').map fun p => (ys ++ p.1, p.2) := by
  conv => lhs; unfold exec
  rw [hs]; dsimp only
  rcases exec call h self t ρ' with _ | ⟨_, _⟩ <;> rfl

theorem exec_seq_done {rv : Option V} (hs : exec call h self s ρ = .ok (ys, .done rv)) :
    exec call h self (.seq s t) ρ = .ok (ys, .done rv) := by
  unfold exec; rw [hs]

theorem exec_seq_err {ex : Exc} (hs : exec call h self s ρ = .error ex) :
    exec call h self (.seq s t) ρ = .error ex := by
  unfold exec; rw [hs]

theorem exec_retE (he : eval call h self e ρ = .ok v) : exec call h self (.retE e) ρ = .ok ([], .done (some v)) := by
  unfold exec; rw [he]

theorem exec_yield (he : eval call h self e ρ = .ok v) : exec call h self (.yield e) ρ = .ok ([v], .next ρ) := by
  unfold exec; rw [he]

theorem exec_yieldFrom : exec call h self (.yieldFrom it) ρ = (evalIt call h self it ρ).map fun vs => (vs, .next ρ) := by
  unfold exec
  cases evalIt call h self it ρ <;> rfl

theorem exec_forTraits (j : Nat) (he : eval call h self e ρ = .ok (.w x)) :
    exec call h self (.forTraits k j e s) ρ =
      match h.at x with
      | .inst fs => loop (fun fl ρ' => exec call h self s ((ρ'.upd k (.name fl.name)).upd j (.ctrait fl))) fs ρ
      | _ => .error .attributeError := by
  conv => lhs; unfold exec
  rw [he]; rfl

/-- The guard every `iter_*` of an optional observer starts with:
`if not c: (if self.optional: return); raise ValueError(…)`. -/
abbrev guard (c : Ex) : St := .ifS (.not c) (.seq (.ifS (.selfF .optional) .ret .skip) (.raise .valueError)) .skip

theorem exec_guard {opt : Bool} (hc : eval call h self c ρ = .ok (.bool bb)) (ho : selfField self .optional = .ok (.bool opt)) :
    exec call h self (.seq (guard c) s) ρ =
      bif bb then exec call h self s ρ else bif opt then .ok ([], .done none) else .error .valueError := by
  have hopt : exec call h self (.ifS (.selfF .optional) .ret .skip) ρ =
      bif opt then .ok ([], .done none) else .ok ([], .next ρ) := exec_ifS ho
  cases bb
  · have hif : exec call h self (guard c) ρ =
        exec call h self (.seq (.ifS (.selfF .optional) .ret .skip) (.raise .valueError)) ρ := exec_ifS (eval_not hc)
    cases opt
    · exact exec_seq_err (hif.trans (exec_seq_next hopt))
    · exact exec_seq_done (hif.trans (exec_seq_done hopt))
  · have hif : exec call h self (guard c) ρ = .ok ([], .next ρ) := exec_ifS (eval_not hc)
    rw [exec_seq_next hif]
    rcases exec call h self s ρ with _ | ⟨_, _⟩ <;> rfl

end rules

/-! ### what the statements below and in Props/C09 are phrased with -/

/-- the names `traits()` lists are distinct (it is a dict), so that `__dict__.get(name)`
reads the value of the listed trait itself -/
def FieldsDistinct (h : Heap) (x : W) : Prop :=
  ∀ fs, h.at x = .inst fs → ∀ fl ∈ fs, findField fs fl.name = some fl

/-- the `optional` flag of the `TraitAddedObserver` at the root of the extra graph -/
def extraOptional : Observer → Option Bool
  | .named _ _ o => some o          -- _named_trait_observer.py: `optional=self.optional`
  | .filtered .. => some false      -- _filtered_trait_observer.py: `optional=False`
  | _ => none                       -- `yield from ()`

/-- its `match_func` -/
def extraMatch : Observer → Option MF
  | .named n nt o => some (.lam 1 2 (.eq (.var 1) (.selfF .name)) (.ob (.named n nt o)))
  | .filtered f _ => some (.listed f)
  | _ => none

def extrasOf (ob : Observer) (g : Graph) : List Extra :=
  match extraMatch ob, extraOptional ob with
  | some m, some o => [⟨m, o, g⟩]
  | _, _ => []

/-- `TraitAddedObserver.iter_observables` (_trait_added_observer.py:68-90) for a given `optional` -/
def traitAddedObservables (h : Heap) (optional : Bool) (x : W) : Except Exc (List Observable) :=
  match x, h.at x with
  | some i, .inst _ => .ok [.trait i nTraitAdded]
  | _, _ => if optional then .ok [] else .error .valueError

/-- the translated methods of the class of an observer -/
structure ClassProgs where
  iterObservables : St
  iterObjects : St
  getNotifier : St
  getMaintainer : St
  iterExtraGraphs : St

def classOf : Observer → ClassProgs
  | .named .. => ⟨NodeProg.namedIterObservables, NodeProg.namedIterObjects, NodeProg.namedGetNotifier,
      NodeProg.namedGetMaintainer, NodeProg.namedIterExtraGraphs⟩
  | .listItems .. => ⟨NodeProg.listItemsIterObservables, NodeProg.listItemsIterObjects,
      NodeProg.listItemsGetNotifier, NodeProg.listItemsGetMaintainer, NodeProg.listItemsIterExtraGraphs⟩
  | .dictItems .. => ⟨NodeProg.dictItemsIterObservables, NodeProg.dictItemsIterObjects,
      NodeProg.dictItemsGetNotifier, NodeProg.dictItemsGetMaintainer, NodeProg.dictItemsIterExtraGraphs⟩
  | .setItems .. => ⟨NodeProg.setItemsIterObservables, NodeProg.setItemsIterObjects,
      NodeProg.setItemsGetNotifier, NodeProg.setItemsGetMaintainer, NodeProg.setItemsIterExtraGraphs⟩
  | .filtered .. => ⟨NodeProg.filteredIterObservables, NodeProg.filteredIterObjects,
      NodeProg.filteredGetNotifier, NodeProg.filteredGetMaintainer, NodeProg.filteredIterExtraGraphs⟩

/-- `event_factory=` of both notifiers of an observer (not visible in the model: recorded here) -/
def eventFactoryOf : Observer → String
  | .named .. => "_trait_change_event.trait_event_factory"
  | .filtered .. => "_trait_change_event.trait_event_factory"
  | .listItems .. => "_list_change_event.list_event_factory"
  | .dictItems .. => "_dict_change_event.dict_event_factory"
  | .setItems .. => "_set_change_event.set_event_factory"

/-- `prevent_event=` of the user notifier: `ctrait_prevent_event` for trait observers
(Model/Maintain.lean: `preventTrait`), nothing is prevented for the item observers -/
def preventUserOf : Observer → PE
  | .named .. => .ref "_has_traits_helpers.ctrait_prevent_event"
  | .filtered .. => .ref "_has_traits_helpers.ctrait_prevent_event"
  | _ => .constLam false

/-- the translated method `meth` of the class of an observer -/
def clsMeth (ob : Observer) (meth : String) : Option St :=
  if meth = "get_notifier" then some (classOf ob).getNotifier
  else if meth = "get_maintainer" then some (classOf ob).getMaintainer
  else none

/-- run a method body whose result may be a pending tail call into the class of another observer -/
def runTailS (h : Heap) (s : St) (self : Self) (ρ : Env) : Except Exc V :=
  match runRetS NodeProg.table h s self ρ with
  | .ok v => resolveTail NodeProg.table clsMeth h v
  | .error e => .error e

def observable : Val → Bool
  | .unset => false
  | .undef => false
  | .none => false
  | _ => true

theorem allIsNot_eq (v : Val) :
    ([Const.undefined, .uninitialized, .noneLit].all (fun c => v != constVal c)) = observable v := by
  cases v <;> rfl

theorem at_none (h : Heap) : h.at none = .junk := rfl

/-- `self.notify` as read by the interpreter is `Observer.notify`. -/
theorem notify_is_field (ob : Observer) : selfField (.ob ob) .notify = .ok (.bool ob.notify) := by
  cases ob <;> rfl

/-- an object is an instance, or `isinstance(x, CHasTraits)` fails and it has no trait -/
theorem inst_or (h : Heap) (x : W) (n : Name) :
    (∃ i fs, x = some i ∧ h.at (some i) = .inst fs) ∨ (isInst h x .cHasTraits = false ∧ hasTrait h x n = false) := by
  unfold isInst hasTrait
  rcases x with _ | i
  · exact .inr ⟨rfl, rfl⟩
  · cases hx : h.at (some i)
    · exact .inl ⟨i, _, rfl, hx⟩
    all_goals exact .inr ⟨rfl, rfl⟩

theorem hasTrait_inst {h : Heap} {x : W} {n : Name} (ht : hasTrait h x n = true) :
    ∃ i fs, x = some i ∧ h.at (some i) = .inst fs := by
  rcases inst_or h x n with r | ⟨_, hf⟩
  · exact r
  · rw [hf] at ht; cases ht

/-! ### the translated callees -/

theorem callTable_eq {tbl : List (String × St)} {q : String} {s : St} (h : Heap) (self : Self) (a b : V)
    (hl : lookup tbl q = some s) : callTable tbl h q self a b = runBody noCall h self s a b := by
  unfold callTable; rw [hl]

theorem runBody_done {call : Call} {h : Heap} {self : Self} {s : St} {a b : V} {ys : List V} {r : Option V}
    (he : exec call h self s ((Env.empty.upd 0 a).upd 1 b) = .ok (ys, .done r)) :
    runBody call h self s a b = .ok (ys, r) := by
  unfold runBody; rw [he]

/-- `object_has_named_trait(object, name)` is `hasTrait`. -/
theorem call_hasNamed (h : Heap) (x : W) (n : Name) :
    callTable NodeProg.table h "_has_traits_helpers.object_has_named_trait" .none (.w x) (.name n)
      = .ok ([], some (.bool (hasTrait h x n))) := by
  rw [callTable_eq h _ _ _ (s := NodeProg.objectHasNamedTrait) (by simp [lookup, NodeProg.table])]
  apply runBody_done
  have h0 : eval noCall h .none (.var 0) ((Env.empty.upd 0 (.w x)).upd 1 (.name n)) = .ok (.w x) := eval_var rfl
  have hinst := eval_isInstance .cHasTraits h0
  rcases inst_or h x n with ⟨i, fs, rfl, hx⟩ | ⟨hi, ht⟩
  · have hi : isInst h (some i) .cHasTraits = true := by unfold isInst; rw [hx]
    have ht : hasTrait h (some i) n = (findField fs n).isSome := by unfold hasTrait; rw [hx]
    have htr := eval_traitOf0 h0 (eval_var (k := 1) rfl) hx
    rw [hi] at hinst
    rw [ht]
    refine exec_retE ((eval_and_true hinst).trans ?_)
    cases hf : findField fs n
    · rw [hf] at htr; exact eval_isNotNone_none htr
    · rw [hf] at htr; exact eval_isNotNone_ctrait htr
  · rw [hi] at hinst
    rw [ht]
    exact exec_retE (eval_and_false hinst)

/-- what `iter_objects(object, name)` yields for the `__dict__` entry `v` -/
def yieldsOf : Val → List V
  | .unset => []
  | .undef => []
  | .none => []
  | v => [.val v]

theorem mapE_toW_yieldsOf (v : Val) : mapE toW (yieldsOf v) = .ok (valObjects v) := by
  cases v <;> rfl

/-- `iter_objects(object, name)` of _has_traits_helpers.py yields `valObjects` of the field. -/
theorem call_iterObjects (h : Heap) (x : W) (n : Name) :
    callTable NodeProg.table h "_has_traits_helpers.iter_objects" .none (.w x) (.name n)
      = .ok (yieldsOf (fieldVal h x n), none) := by
  rw [callTable_eq h _ _ _ (s := NodeProg.iterObjects) (by simp [lookup, NodeProg.table])]
  unfold runBody
  obtain ⟨v, hv⟩ : ∃ v, v = bif fieldVal h x n == .unset then Val.undef else fieldVal h x n := ⟨_, rfl⟩
  have hd : eval noCall h .none (.dictGet (.var 0) (.var 1) (.const .undefined))
      ((Env.empty.upd 0 (.w x)).upd 1 (.name n)) = .ok (.val v) :=
    hv ▸ eval_dictGet (eval_var rfl) (eval_var rfl) rfl
  have hc := eval_allIsNot (call := noCall) (h := h) (self := .none)
    (ρ := ((Env.empty.upd 0 (.w x)).upd 1 (.name n)).upd 2 (.val v)) (w := v) [.undefined, .uninitialized, .noneLit]
    (eval_var (k := 2) rfl)
  rw [allIsNot_eq] at hc
  rw [NodeProg.iterObjects, exec_seq_next (exec_assign hd), exec_ifS hc]
  subst hv
  cases fieldVal h x n <;> rfl

/-- `self.filter(name, ctrait)` is `Filter.matches`. -/
theorem call_filter (h : Heap) (f : Filter) (n : Name) (fl : Field) :
    callTable NodeProg.table h (filterCallee f).1 (filterCallee f).2 (.name n) (.ctrait fl)
      = .ok ([], some (.bool (f.matches fl))) := by
  obtain ⟨nm, tagged, d, v, c⟩ := fl
  cases f
  · exact (callTable_eq (q := "_anytrait_filter.anytrait_filter") (s := NodeProg.anytraitFilter) h _ _ _
      (by simp [lookup, NodeProg.table])).trans rfl
  · exact (callTable_eq (q := "_metadata_filter.MetadataFilter.__call__") (s := NodeProg.metadataFilterCall) h _ _ _
      (by simp [lookup, NodeProg.table])).trans (by cases tagged <;> rfl)

/-! ### running a generator method -/

section gen
variable {tbl : List (String × St)} {h : Heap} {s : St} {self : Self} {x : W} {r : Except Exc (List V × Flow)}

theorem runIterObservablesS_eq (he : exec (callTable tbl h) h self s (Env.empty.upd 0 (.w x)) = r) :
    runIterObservablesS tbl h s self x = r.bind fun p => mapE toObservable p.1 := by
  rw [runIterObservablesS, runGenS, he]
  rcases r with _ | ⟨_, _⟩ <;> rfl

theorem runIterObjectsS_eq (he : exec (callTable tbl h) h self s (Env.empty.upd 0 (.w x)) = r) :
    runIterObjectsS tbl h s self x = r.bind fun p => mapE toW p.1 := by
  rw [runIterObjectsS, runGenS, he]
  rcases r with _ | ⟨_, _⟩ <;> rfl

end gen

/-- the observer's own methods are run with `self` the observer -/
theorem runIterObservables_eq (tbl : List (String × St)) (h : Heap) (s : St) (ob : Observer) (x : W) :
    runIterObservables tbl h s ob x = runIterObservablesS tbl h s (.ob ob) x := rfl
theorem runIterObjects_eq (tbl : List (String × St)) (h : Heap) (s : St) (ob : Observer) (x : W) :
    runIterObjects tbl h s ob x = runIterObjectsS tbl h s (.ob ob) x := rfl

theorem mapE_append {α β} (f : α → Except Exc β) (l₁ l₂ : List α) (r₁ r₂ : List β)
    (h₁ : mapE f l₁ = .ok r₁) (h₂ : mapE f l₂ = .ok r₂) : mapE f (l₁ ++ l₂) = .ok (r₁ ++ r₂) := by
  induction l₁ generalizing r₁ with
  | nil => cases h₁; exact h₂
  | cons a l ih =>
    simp only [mapE, List.cons_append] at h₁ ⊢
    cases hfa : f a with
    | error e => simp [hfa] at h₁
    | ok b =>
      cases hl : mapE f l with
      | error e => simp [hfa, hl] at h₁
      | ok bs =>
        simp [hfa, hl] at h₁
        subst h₁
        simp [ih bs hl]

theorem mapE_flatMap {α β γ} (f : α → Except Exc β) (k : γ → List α) (k' : γ → List β) (hk : ∀ c, mapE f (k c) = .ok (k' c)) :
    ∀ l : List γ, mapE f (l.flatMap k) = .ok (l.flatMap k')
  | [] => rfl
  | c :: l => mapE_append f _ _ _ _ (hk c) (mapE_flatMap f k k' hk l)

/-! ### NamedTraitObserver, and `TraitAddedObserver.iter_observables` (the same text on the name "trait_added") -/

/-- `if not object_has_named_trait(object, <name>): …` then `yield object._trait(<name>, 2)` -/
theorem traitObservables_src (h : Heap) (self : Self) (ne : Ex) (n : Name) (opt : Bool) (x : W)
    (hn : eval (callTable NodeProg.table h) h self ne (Env.empty.upd 0 (.w x)) = .ok (.name n))
    (ho : selfField self .optional = .ok (.bool opt)) :
    runIterObservablesS NodeProg.table h
      (.seq (guard (.call2 "_has_traits_helpers.object_has_named_trait" (.var 0) ne)) (.yield (.traitOf (.var 0) ne 2))) self x =
      if hasTrait h x n then .ok (x.toList.map (.trait · n)) else if opt then .ok [] else .error .valueError := by
  have h0 : eval (callTable NodeProg.table h) h self (.var 0) (Env.empty.upd 0 (.w x)) = .ok (.w x) := eval_var rfl
  rw [runIterObservablesS_eq (exec_guard (eval_call2 h0 hn (call_hasNamed h x n)) ho)]
  cases ht : hasTrait h x n
  · cases opt <;> rfl
  · obtain ⟨i, fs, rfl, hx⟩ := hasTrait_inst ht
    rw [cond_true, exec_yield (eval_traitOf h0 hn hx)]
    rfl

/-- `yield from iter_objects(object, <name>)` -/
theorem exec_iterObjects {h : Heap} {self : Self} {ne : Ex} {n : Name} {x : W} {ρ : Env}
    (h0 : eval (callTable NodeProg.table h) h self (.var 0) ρ = .ok (.w x))
    (hn : eval (callTable NodeProg.table h) h self ne ρ = .ok (.name n)) :
    exec (callTable NodeProg.table h) h self (.yieldFrom (.call2 "_has_traits_helpers.iter_objects" (.var 0) ne)) ρ =
      .ok (yieldsOf (fieldVal h x n), .next ρ) := by
  rw [exec_yieldFrom, evalIt_call2 h0 hn (call_iterObjects h x n)]; rfl

/-! ### ListItemObserver / DictItemObserver / SetItemObserver: one text up to the class tested -/

theorem item_observables_src (h : Heap) (self : Self) (c : Cls) (opt : Bool) (x : W)
    (ho : selfField self .optional = .ok (.bool opt)) :
    runIterObservablesS NodeProg.table h (.seq (guard (.isInstance (.var 0) c)) (.yield (.var 0))) self x =
      bif isInst h x c then mapE toObservable [.w x] else bif opt then .ok [] else .error .valueError := by
  have h0 : eval (callTable NodeProg.table h) h self (.var 0) (Env.empty.upd 0 (.w x)) = .ok (.w x) := eval_var rfl
  rw [runIterObservablesS_eq (exec_guard (eval_isInstance c h0) ho), exec_yield h0]
  cases isInst h x c <;> cases opt <;> rfl

theorem item_objects_src (h : Heap) (self : Self) (c : Cls) (it : It) (opt : Bool) (x : W)
    (ho : selfField self .optional = .ok (.bool opt)) :
    runIterObjectsS NodeProg.table h (.seq (guard (.isInstance (.var 0) c)) (.yieldFrom it)) self x =
      bif isInst h x c then (evalIt (callTable NodeProg.table h) h self it (Env.empty.upd 0 (.w x))).bind (mapE toW)
      else bif opt then .ok [] else .error .valueError := by
  rw [runIterObjectsS_eq (exec_guard (eval_isInstance c (eval_var rfl)) ho), exec_yieldFrom]
  cases isInst h x c
  · cases opt <;> rfl
  · cases evalIt (callTable NodeProg.table h) h self it (Env.empty.upd 0 (.w x)) <;> rfl

theorem mapE_toW_map {α} (g : α → W) : ∀ l : List α, mapE toW (l.map (fun a => V.w (g a))) = .ok (l.map g)
  | [] => rfl
  | a :: l => by rw [List.map_cons, mapE, mapE_toW_map g l]; rfl

/-- what iterating `object` / `object.values()` hands on -/
theorem iter_toW (call : Call) (h : Heap) (self : Self) (x : W) :
    (evalIt call h self (.iter (.var 0)) (Env.empty.upd 0 (.w x))).bind (mapE toW) =
      match h.at x with
      | .list items => .ok (items.map some)
      | .set items => .ok (items.map some)
      | .dict items => .ok (items.map fun kv => some kv.1)
      | _ => .error .typeError := by
  rw [evalIt, eval_var (v := .w x) rfl]
  dsimp only
  cases h.at x <;> first | rfl | exact mapE_toW_map _ _

theorem values_toW (call : Call) (h : Heap) (self : Self) (x : W) :
    (evalIt call h self (.values (.var 0)) (Env.empty.upd 0 (.w x))).bind (mapE toW) =
      match h.at x with
      | .dict items => .ok (items.map fun kv => some kv.2)
      | _ => .error .attributeError := by
  rw [evalIt, eval_var (v := .w x) rfl]
  dsimp only
  cases h.at x <;> first | rfl | exact mapE_toW_map _ _

/-! ### FilteredTraitObserver -/

/-- a loop over the traits whose body yields `ys fl` for the traits the filter accepts, nothing for the others -/
theorem loop_filter (F : Field → Env → Except Exc (List V × Flow)) (P : Env → Prop) (p : Field → Bool) (ys : Field → List V)
    (hF : ∀ fl ρ, P ρ → ∃ ρ', F fl ρ = .ok (bif p fl then ys fl else [], .next ρ') ∧ P ρ') :
    ∀ (fs : List Field) (ρ : Env), P ρ → ∃ ρ', loop F fs ρ = .ok ((fs.filter p).flatMap ys, .next ρ') ∧ P ρ'
  | [], ρ, h0 => ⟨ρ, rfl, h0⟩
  | fl :: fs, ρ, h0 => by
    obtain ⟨ρ₁, h1, hP1⟩ := hF fl ρ h0
    obtain ⟨ρ', hl, hρ'⟩ := loop_filter F P p ys hF fs ρ₁ hP1
    refine ⟨ρ', ?_, hρ'⟩
    rw [loop, h1]; dsimp only; rw [hl, List.filter_cons]
    cases p fl <;> rfl

/-- `for name, trait in object.traits().items(): if self.filter(name, trait): <body>`: on an instance, what the body
yields for the traits the filter accepts; `object.traits` of anything else is an AttributeError -/
theorem filtered_src (h : Heap) (f : Filter) (nt : Bool) (x : W) (body : St) (ys : Field → List V)
    (hb : ∀ fs, h.at x = .inst fs → ∀ fl ρ, ρ 0 = some (.w x) → ρ 1 = some (.name fl.name) →
      exec (callTable NodeProg.table h) h (.ob (.filtered f nt)) body ρ = .ok (ys fl, .next ρ)) :
    match h.at x with
    | .inst fs => ∃ ρ', exec (callTable NodeProg.table h) h (.ob (.filtered f nt))
        (.forTraits 1 2 (.var 0) (.ifS (.callF (.selfF .filter) (.var 1) (.var 2)) body .skip)) (Env.empty.upd 0 (.w x))
      = .ok ((fs.filter f.matches).flatMap ys, .next ρ')
    | _ => exec (callTable NodeProg.table h) h (.ob (.filtered f nt))
        (.forTraits 1 2 (.var 0) (.ifS (.callF (.selfF .filter) (.var 1) (.var 2)) body .skip)) (Env.empty.upd 0 (.w x))
      = .error .attributeError := by
  rw [exec_forTraits 2 (eval_var rfl)]
  cases hx : h.at x with
  | inst fs =>
    dsimp only
    refine (loop_filter _ (fun ρ => ρ 0 = some (.w x)) f.matches ys (fun fl ρ h0 => ?_) fs _ rfl).imp fun _ => And.left
    refine ⟨(ρ.upd 1 (.name fl.name)).upd 2 (.ctrait fl), ?_, h0⟩
    rw [exec_ifS (eval_callF (f := f) rfl (eval_var (k := 1) rfl) (eval_var (k := 2) rfl) (call_filter h f _ fl))]
    cases f.matches fl
    · rfl
    · exact hb fs hx fl _ h0 rfl
  | _ => rfl

/-! ### `iter_extra_graphs`, `get_notifier`, `get_maintainer` -/

theorem extra_graphs (h : Heap) (ob : Observer) (g : Graph) :
    runIterExtraGraphs NodeProg.table h (classOf ob).iterExtraGraphs ob g = .ok (extrasOf ob g) := by
  cases ob <;> rfl

theorem extraObservables_eq (h : Heap) (ob : Observer) (x : W) :
    extraObservables h ob x =
      match extraOptional ob with
      | some opt => traitAddedObservables h opt x
      | none => .ok [] := by
  cases ob <;> rfl

theorem get_notifier (h : Heap) (ob : Observer) (hd : Nat) (t : Id) :
    runGetNotifier NodeProg.table h (classOf ob).getNotifier ob hd (some t)
      = .ok (.notifier (.user ⟨hd, t⟩) (eventFactoryOf ob) (preventUserOf ob)) := by
  cases ob <;> rfl

theorem runRet_retE {tbl : List (String × St)} {h : Heap} {ob : Observer} {e : Ex} {ρ : Env} {v : V}
    (he : eval (callTable tbl h) h (.ob ob) e ρ = .ok v) : runRet tbl h (.retE e) ob ρ = .ok v := by
  rw [runRet, exec_retE he]

theorem get_maintainer (h : Heap) (ob : Observer) (c : Graph) (hd : Nat) (t : Id) :
    runGetMaintainer NodeProg.table h (classOf ob).getMaintainer ob c hd (some t)
      = .ok (.notifier (.maint ob.mkind c ⟨hd, t⟩) (eventFactoryOf ob) (.constLam false)) := by
  cases ob <;>
    exact runRet_retE (eval_maintNotifier (by simp [mkindOf, Observer.mkind]) (eval_var rfl) (eval_var rfl)
      (eval_var rfl) (eval_var rfl))

/-- `match_func(name, trait)` of the extra graph of a named observer: `name == self.name`. -/
theorem match_named (h : Heap) (n : Name) (nt o : Bool) (m : Name) (fl : Field) :
    applyMatch NodeProg.table h (.lam 1 2 (.eq (.var 1) (.selfF .name)) (.ob (.named n nt o))) m fl
      = .ok (.bool (m == n)) := rfl

/-- … of a filtered observer: the translated `_ListedTraitFilter.__call__`
(`name[-6:] != "_items" and self.filter(name, trait)`), i.e. the filter itself: the model's
names never end in "_items". -/
theorem match_filtered (h : Heap) (f : Filter) (m : Name) (fl : Field) :
    applyMatch NodeProg.table h (.listed f) m fl = .ok (.bool (f.matches fl)) := by
  have hs : eval (callTable NodeProg.table h) h (.listed f) (.strLit "_items")
      ((Env.empty.upd 0 (.name m)).upd 1 (.ctrait fl)) = .ok (.str "_items") := by
    unfold eval; simp
  have hne : eval (callTable NodeProg.table h) h (.listed f) (.ne (.sliceFrom (.var 0) (-6)) (.strLit "_items"))
      ((Env.empty.upd 0 (.name m)).upd 1 (.ctrait fl)) = .ok (.bool true) := by
    conv => lhs; unfold eval
    rw [hs]; rfl
  rw [applyMatch, show lookup NodeProg.table "_filtered_trait_observer._ListedTraitFilter.__call__" =
    some NodeProg.listedFilterCall by simp [lookup, NodeProg.table], NodeProg.listedFilterCall]
  dsimp only
  rw [runBody_done (exec_retE ((eval_and_true hne).trans
    (eval_callF (f := f) rfl (eval_var (k := 0) rfl) (eval_var (k := 1) rfl) (call_filter h f m fl))))]

/-! ### the node interface is the source -/

theorem observables_is_source (h : Heap) (ob : Observer) (x : W) :
    observables h ob x = runIterObservables NodeProg.table h (classOf ob).iterObservables ob x := by
  cases ob with
  | named n nt o =>
    show _ = runIterObservables NodeProg.table h NodeProg.namedIterObservables _ x
    rw [runIterObservables_eq, NodeProg.namedIterObservables,
      traitObservables_src h (.ob (.named n nt o)) (.selfF .name) n o x rfl rfl]
    rcases x with _ | i <;> rfl
  | filtered f nt =>
    show _ = runIterObservables NodeProg.table h NodeProg.filteredIterObservables _ x
    rw [runIterObservables_eq, NodeProg.filteredIterObservables]
    rcases x with _ | i
    · rfl
    · have he := filtered_src h f nt (some i) _ (fun fl => [V.itrait i fl.name]) fun fs hx fl ρ h0 h1 =>
        exec_yield (eval_traitOf (eval_var h0) (eval_var h1) hx)
      unfold observables
      dsimp only
      cases hx : h.at (some i) with
      | inst fs =>
        rw [hx] at he
        obtain ⟨ρ', he⟩ := he
        rw [runIterObservablesS_eq he]
        dsimp only
        rw [List.map_eq_flatMap]
        exact (mapE_flatMap _ _ _ (fun _ => rfl) _).symm
      | _ => rw [hx] at he; rw [runIterObservablesS_eq he]; rfl
  | _ =>
    rename_i nt opt
    rw [runIterObservables_eq]
    refine Eq.trans ?_ (item_observables_src h _ _ opt x rfl).symm
    rcases x with _ | i
    · cases opt <;> rfl
    · unfold observables isInst
      dsimp only
      cases h.at (some i) <;> cases opt <;> rfl

/-- only the filtered observer needs the distinctness of the listed names -/
theorem objects_is_source (h : Heap) (ob : Observer) (x : W)
    (hd : FieldsDistinct h x ∨ ∀ f nt, ob ≠ .filtered f nt) :
    objects h ob x = runIterObjects NodeProg.table h (classOf ob).iterObjects ob x := by
  cases ob with
  | named n nt o =>
    show _ = runIterObjects NodeProg.table h NodeProg.namedIterObjects _ x
    have h0 : eval (callTable NodeProg.table h) h (.ob (.named n nt o)) (.var 0) (Env.empty.upd 0 (.w x)) = .ok (.w x) :=
      eval_var rfl
    rw [runIterObjects_eq, NodeProg.namedIterObjects,
      runIterObjectsS_eq (exec_guard (eval_call2 (b := .selfF .name) h0 rfl (call_hasNamed h x n)) (rfl : _ = Except.ok (V.bool o))),
      exec_iterObjects h0 rfl, objects]
    cases hasTrait h x n
    · cases o <;> rfl
    · exact (mapE_toW_yieldsOf _).symm
  | filtered f nt =>
    show _ = runIterObjects NodeProg.table h NodeProg.filteredIterObjects _ x
    rw [runIterObjects_eq, NodeProg.filteredIterObjects]
    have he := filtered_src h f nt x _ (fun fl => yieldsOf (fieldVal h x fl.name)) fun fs hx fl ρ h0 h1 =>
      exec_iterObjects (eval_var h0) (eval_var h1)
    unfold objects
    dsimp only
    cases hx : h.at x with
    | inst fs =>
      rw [hx] at he
      obtain ⟨ρ', he⟩ := he
      rw [runIterObjectsS_eq he]
      refine Eq.trans ?_ (mapE_flatMap _ _ _ (fun _ => mapE_toW_yieldsOf _) _).symm
      dsimp only
      rw [List.flatMap_def, List.flatMap_def]
      refine congrArg (fun l => Except.ok (List.flatten l)) (List.map_congr_left fun fl hfl => ?_)
      rw [fieldVal, hx]; dsimp only; rw [(hd.resolve_right fun hf => hf f nt rfl) fs hx fl (List.mem_filter.mp hfl).1]
    | _ => rw [hx] at he; rw [runIterObjectsS_eq he]; rfl
  | _ =>
    rename_i nt opt
    rw [runIterObjects_eq]
    refine Eq.trans ?_ (item_objects_src h _ _ _ opt x rfl).symm
    simp only [iter_toW, values_toW]
    unfold objects isInst
    rcases x with _ | i
    · cases opt <;> rfl
    · dsimp only
      cases h.at (some i) <;> cases opt <;> rfl

/-- non-vacuity: an instance with two distinct traits satisfies `FieldsDistinct`, the filtered
observer yields both objects, and the interpreted source agrees. -/
example :
    let h : Heap := [(1, .inst [⟨0, true, .val .none, .ref 2, .equality⟩, ⟨1, false, .val .none, .ref 3, .equality⟩])]
    FieldsDistinct h (some 1) ∧
    runIterObjects NodeProg.table h NodeProg.filteredIterObjects (.filtered .anyTrait true) (some 1)
      = .ok [some 2, some 3] := by
  have hd : FieldsDistinct [(1, .inst [⟨0, true, .val .none, .ref 2, .equality⟩, ⟨1, false, .val .none, .ref 3, .equality⟩])]
      (some 1) := by
    intro fs hfs fl hfl
    cases hfs
    simp at hfl
    rcases hfl with rfl | rfl <;> rfl
  exact ⟨hd, (objects_is_source _ (.filtered .anyTrait true) _ (.inl hd)).symm⟩

/-- the hypothesis is needed: with a repeated name the source reads `__dict__` by name (the
value of the first), the model the value of each listed field. -/
example :
    let h : Heap := [(1, .inst [⟨0, true, .val .none, .ref 2, .equality⟩, ⟨0, true, .val .none, .ref 3, .equality⟩])]
    objects h (.filtered .anyTrait true) (some 1) = .ok [some 2, some 3] ∧ ¬ FieldsDistinct h (some 1) := by
  refine ⟨rfl, ?_⟩
  intro hd
  have := hd _ rfl ⟨0, true, .val .none, .ref 3, .equality⟩ (by simp)
  simp [findField] at this

/-! ### TraitAddedObserver / _RestrictedNamedTraitObserver (_trait_added_observer.py) -/

/-- `TraitAddedObserver.notify` is `False`. -/
theorem added_notify (h : Heap) (m : MF) (opt : Bool) :
    runNotify NodeProg.table h NodeProg.addedNotify (.added m opt) = .ok (.bool false) := rfl

/-- `_RestrictedNamedTraitObserver.notify` is the wrapped observer's. -/
theorem restricted_notify (h : Heap) (n : Name) (w : Observer) :
    runNotify NodeProg.table h NodeProg.restrictedNotify (.restricted n w) = .ok (.bool w.notify) := by
  cases w <;> rfl

/-- `TraitAddedObserver.iter_observables`: the `trait_added` trait of an instance, else nothing
(optional) / ValueError — what `extraObservables` uses (`extraObservables_eq`). -/
theorem added_observables (h : Heap) (m : MF) (opt : Bool) (x : W)
    (hta : ∀ fs, h.at x = .inst fs → (findField fs nTraitAdded).isSome) :
    runIterObservablesS NodeProg.table h NodeProg.addedIterObservables (.added m opt) x
      = traitAddedObservables h opt x := by
  have hn : eval (callTable NodeProg.table h) h (.added m opt) (.strLit "trait_added") (Env.empty.upd 0 (.w x)) =
      .ok (.name nTraitAdded) := by unfold eval; simp
  rw [NodeProg.addedIterObservables, traitObservables_src h _ _ _ opt x hn rfl]
  unfold traitAddedObservables hasTrait
  rcases x with _ | i
  · cases opt <;> rfl
  · cases hx : h.at (some i) with
    | inst fs => exact if_pos (hta fs hx)
    | _ => cases opt <;> rfl

/-- `TraitAddedObserver.iter_objects` / `iter_extra_graphs` and
`_RestrictedNamedTraitObserver.iter_extra_graphs` yield nothing. -/
theorem added_restricted_empty (h : Heap) (m : MF) (opt : Bool) (n : Name) (w : Observer) (x : W) (g : Graph) :
    runIterObjectsS NodeProg.table h NodeProg.addedIterObjects (.added m opt) x = .ok [] ∧
    runIterExtraGraphsS NodeProg.table h NodeProg.addedIterExtraGraphs (.added m opt) g = .ok [] ∧
    runIterExtraGraphsS NodeProg.table h NodeProg.restrictedIterExtraGraphs (.restricted n w) g = .ok [] :=
  ⟨rfl, rfl, rfl⟩

/-- `TraitAddedObserver.get_maintainer`: an `ObserverChangeNotifier` whose `observer_handler` is
`TraitAddedObserver.observer_change_handler` (`MKind.added`) and whose `prevent_event` is
`self.prevent_event`. -/
theorem added_get_maintainer (h : Heap) (m : MF) (opt : Bool) (c : Graph) (hd : Nat) (t : Id) :
    runRetS NodeProg.table h NodeProg.addedGetMaintainer (.added m opt)
        ((((Env.empty.upd 0 (.graph c)).upd 1 (.handler hd)).upd 2 (.w (some t))).upd 3 .dispatcher)
      = .ok (.notifier (.maint .added c ⟨hd, t⟩) "_trait_change_event.trait_event_factory"
          (.ref "_trait_added_observer.TraitAddedObserver.prevent_event")) := by
  rw [runRetS, NodeProg.addedGetMaintainer, exec_retE (eval_maintNotifier (mk := .added) (by simp [mkindOf]) (eval_var rfl)
    (eval_var rfl) (eval_var rfl) (eval_var rfl))]

/-- `_RestrictedNamedTraitObserver.iter_observables` yields `object._trait(self.name, 2)` UNCONDITIONALLY
(AttributeError on a non-instance), which is the model's row (`observables` of `named n notify false`:
the graph `Maintain.restrict g n`) when the trait exists — it does when the handler runs: `trait_added`
fires for a trait that has just been added. -/
theorem restricted_observables (h : Heap) (n : Name) (w : Observer) (x : W) (ht : hasTrait h x n = true) :
    runIterObservablesS NodeProg.table h NodeProg.restrictedIterObservables (.restricted n w) x
      = observables h (.named n w.notify false) x := by
  obtain ⟨i, fs, rfl, hx⟩ := hasTrait_inst ht
  rw [NodeProg.restrictedIterObservables,
    runIterObservablesS_eq (exec_yield (eval_traitOf (self := .restricted n w) (b := .selfF .name) (eval_var (k := 0) rfl) rfl hx)),
    observables, ht]
  rfl

/-- `_RestrictedNamedTraitObserver.iter_objects`: the `iter_objects` helper on `self.name`,
never the wrapped observer's `iter_objects`. -/
theorem restricted_objects (h : Heap) (n : Name) (w : Observer) (x : W) (ht : hasTrait h x n = true) :
    runIterObjectsS NodeProg.table h NodeProg.restrictedIterObjects (.restricted n w) x
      = objects h (.named n w.notify false) x := by
  rw [NodeProg.restrictedIterObjects,
    runIterObjectsS_eq (exec_iterObjects (self := .restricted n w) (ne := .selfF .name) (eval_var (k := 0) rfl) rfl),
    objects, ht]
  exact mapE_toW_yieldsOf _

theorem runTailS_tail {h : Heap} {s prog : St} {self : Self} {ρ : Env} {ob : Observer} {meth : String} {a b c d : V}
    (hr : runRetS NodeProg.table h s self ρ = .ok (.tail ob meth a b c d)) (hc : clsMeth ob meth = some prog) :
    runTailS h s self ρ = runRet NodeProg.table h prog ob ((((Env.empty.upd 0 a).upd 1 b).upd 2 c).upd 3 d) := by
  rw [runTailS, hr]; dsimp only; rw [resolveTail, hc]

/-- `_RestrictedNamedTraitObserver.get_notifier` / `get_maintainer` are the wrapped observer's
(a tail call resolved in the class of the wrapped observer). -/
theorem restricted_get_notifier (h : Heap) (n : Name) (w : Observer) (hd : Nat) (t : Id) :
    runTailS h NodeProg.restrictedGetNotifier (.restricted n w)
        (((Env.empty.upd 0 (.handler hd)).upd 1 (.w (some t))).upd 2 .dispatcher)
      = .ok (.notifier (.user ⟨hd, t⟩) (eventFactoryOf w) (preventUserOf w)) := by
  refine (runTailS_tail rfl (if_pos rfl)).trans ?_
  cases w <;> rfl

theorem restricted_get_maintainer (h : Heap) (n : Name) (w : Observer) (c : Graph) (hd : Nat) (t : Id) :
    runTailS h NodeProg.restrictedGetMaintainer (.restricted n w)
        ((((Env.empty.upd 0 (.graph c)).upd 1 (.handler hd)).upd 2 (.w (some t))).upd 3 .dispatcher)
      = .ok (.notifier (.maint w.mkind c ⟨hd, t⟩) (eventFactoryOf w) (.constLam false)) :=
  (runTailS_tail rfl ((if_neg (by decide)).trans (if_pos rfl))).trans (get_maintainer h w c hd t)

end TraitsVerif.Lemmas.NodeSource
