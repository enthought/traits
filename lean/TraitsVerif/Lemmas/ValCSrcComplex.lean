/-
`validate_trait_complex`.  The body of its loop fetches entry `i` of the compound and switches
on its kind (`cx_fetch`); each `case` of the switch, run on its own from the state the fetch
leaves, does what the arm of `complexCase` for that kind does (`cx_*`).  All a `case` needs to
know of the rest of the function is what its continuation does with a `break`, a `goto done` and
a `return` (`CxK`); the induction over the loop (`cx_iter`) supplies that.  Then the theorem for
every descriptor (`srcAlone_eq`).
-/
import TraitsVerif.Lemmas.ValCSrcAlone
namespace TraitsVerif.Model.CSrc
open TraitsVerif TraitsVerif.Py.Value TraitsVerif.Model.Val TraitsVerif.Generated.CValidators

variable (E : Env) (inner : Desc → Val → Res) (cdflt : Val) (fuel : Nat)

def cxLoop : Stmt × Expr × Expr × Stmt := getLoop fn_validate_trait_complex.body
def cxCases : Cases := cxLoop.2.2.2.cases
/-- `case k:` of the switch of `validate_trait_complex`. -/
def cxArm (k : Int) : Stmt := (cxCases.arm k).getD .skip

theorem resToC_norm (r : Res) : toRes (some (resToC r)) = some (norm r) := by
  cases r with
  | ok w => rfl
  | traitError => rfl
  | raised e => cases e <;> rfl

/-- The adapt arm of `entryOk` on its own: an `adapt='default'` member whose default is the compound's (F49). -/
def dfltOk (cdflt : Val) : Desc → Prop
  | .adapt _ mode _ dflt => mode = 0 ∨ mode = 1 ∨ dflt = cdflt
  | _ => True

/-- The local variables of `validate_trait_complex` inside its loop: the four
parameters, `list_type_info`, `n`, the loop counter `i`, and whatever the other locals hold. -/
abbrev cxS (ds : List Desc) (v : Val) (i : Int) (a4 a5 a6 a7 a8 a9 a10 a11 a15 a16 a17 a18 a19 : CV) : St :=
  ⟨[.trait (.complex ds), .hobj, .name, .obj v, a4, a5, a6, a7, a8, a9, a10, a11,
    .infos ds, .int ds.length, .int i, a15, a16, a17, a18, a19], none⟩

/-- What a `case` of the switch sees of its continuation: after a `break` the validation goes
on to yield `r` whatever the locals hold; `goto done` returns the value, `goto error` raises
the TraitError; `return` returns. -/
structure CxK (K : Out → St → Option (CV × Err)) (ds : List Desc) (v : Val) (i : Int)
    (r : Option (CV × Err)) : Prop where
  brk : ∀ b4 b5 b6 b7 b8 b9 b10 b11 b15 b16 b17 b18 b19,
    K .brk (cxS ds v i b4 b5 b6 b7 b8 b9 b10 b11 b15 b16 b17 b18 b19) = r
  done : ∀ b4 b5 b6 b7 b8 b9 b10 b11 b15 b16 b17 b18 b19,
    K (.goto "done") (cxS ds v i b4 b5 b6 b7 b8 b9 b10 b11 b15 b16 b17 b18 b19) = some (.obj v, none)
  error : ∀ b4 b5 b6 b7 b8 b9 b10 b11 b15 b16 b17 b18 b19,
    K (.goto "error") (cxS ds v i b4 b5 b6 b7 b8 b9 b10 b11 b15 b16 b17 b18 b19) = some (.null, some .traitError)
  ret : ∀ x s, K (.ret x) s = some (x, s.err)

/-- The `switch` of `validate_trait_complex` on the entry `d`: its `case`, or the default. -/
def cxSwitch (K : Out → St → Option (CV × Err)) (s : St) (d : Desc) : Option (CV × Err) :=
  match cxCases.arm d.kind with
  | some arm => exec (C1 E inner cdflt fuel) fuel arm s K
  | none => K (.goto "error") s

theorem layout_kind (d : Desc) (h : ∀ f, d ≠ .python f) : (layout d).getD 0 .undef = kindItem d.kind := by
  cases d with
  | python f => exact absurd rfl (h f)
  | _ => rfl

/-- The loop body: `type_info = PyTuple_GET_ITEM(list_type_info, i); switch (kind of type_info)`. -/
theorem cx_fetch (K : Out → St → Option (CV × Err)) (ds : List Desc) (v : Val) (n : Nat) (d : Desc)
    (a4 a5 a6 a7 a8 a9 a10 a11 a15 a16 a17 a18 a19 : CV) (hd : ds[n]? = some d) (hpy : ∀ f, d ≠ .python f) :
    exec (C1 E inner cdflt fuel) fuel cxLoop.2.2.2 (cxS ds v n a4 a5 a6 a7 a8 a9 a10 a11 a15 a16 a17 a18 a19) K =
      cxSwitch E inner cdflt fuel (swK K) (cxS ds v n a4 a5 a6 a7 (.info d) a9 a10 a11 a15 a16 a17 a18 a19) d := by
  show exec _ _ (.seq _ (.switch _ cxCases (.goto "error"))) ⟨_, _⟩ _ = _
  simp [-List.getD_eq_getElem?_getD, List.getD_cons_succ, List.getD_cons_zero, hd, layout_kind d hpy, kindItem,
    execCases_arm]
  rfl

/-- What the theorem about `validate_trait_complex` asks of the entries:
* an `adapt='default'` member: its default is the compound's default — the C code calls
  `default_value_for(trait, …)` with the COMPOUND trait (finding F49), the model takes the member's;
* the `slow` entry: `slow_validate` reports a TraitError as `traitError` (never as `raised traitError`);
* a coerce entry: its tuple is shorter than the loop bound of the interpreter;
* a tuple entry: `TupleCheckSpec` (discharged by `tupleCheckSpec_holds`, Lemmas/ValCSrcTuple.lean);
* no `python` entry (kind 14): `_trait_set_validate` never stores one inside a compound. -/
def entryOk (E : Env) (inner : Desc → Val → Res) (cdflt : Val) (fuel : Nat) : Desc → Prop
  | .adapt _ mode _ dflt => mode = 0 ∨ mode = 1 ∨ dflt = cdflt
  | .tuple items => TupleCheckSpec E inner cdflt fuel items
  | .slow h => ∀ x, h x ≠ .raised .traitError
  | .coerce _ tys => tys.length < fuel
  | .python _ => False
  | _ => True

section cases
variable (K : Out → St → Option (CV × Err)) (ds : List Desc) (v : Val) (i : Int) (rest : List Desc)
  (a4 a5 a6 a7 a9 a10 a11 a15 a16 a17 a18 a19 : CV)
variable (hK : CxK K ds v i (some (resToC (fastComplex E rest v))))

include hK in
/-- `case 11`: the coerce check. -/
theorem cx_coerce (ty : Ty) (tys : List (Option Ty)) (hf : tys.length < fuel) :
    cxSwitch E inner cdflt fuel K (cxS ds v i a4 a5 a6 a7 (.info (.coerce ty tys)) a9 a10 a11 a15 a16 a17 a18 a19)
      (.coerce ty tys) = some (resToC (fastComplex E (.coerce ty tys :: rest) v)) := by
  show exec _ _ (.seq _ (.seq _ (.seq _ (.seq _ (Stmt.drop 4 (cxArm 11)))))) ⟨_, _⟩ _ = _
  simp only [fastComplex, complexCase]
  by_cases h0 : Val.isInst ty v = true
  · csrc_eval [layout, h0, hK.done, resToC]
  csrc_eval [layout, h0]
  show exec _ _ (.seq (.forLoop _ _ _ _) (Stmt.drop 5 (cxArm 11))) _ _ = _
  csrc_eval []
  have hlt : ∀ p : Nat, ((p : Int) + 2 < ↑tys.length + 1 + 1) ↔ p < tys.length := fun p => by omega
  have hto : ∀ p : Nat, ((p : Int) + 2).toNat = p + 2 := fun p => by omega
  refine iter_coerce_scan _ _ _ _
    (fun p t => ⟨[.trait (.complex ds), .hobj, .name, .obj v, a4, a5, a6, a7, .info (.coerce ty tys), .ty ty, t, a11,
      .infos ds, .int ↑ds.length, .int i, a15, .int (↑tys.length + 1 + 1), .int (p + 2), a18, a19], none⟩)
    tys v (.goto "done") (by simp)
    (fun p t k' => ?hc) (fun p t rec => ?hi) (fun r => r = _)
    (fun p t k' x hx => ?hb) fuel 0 a10 (by omega) fun p' t' hend => ?hQ
  case hc => simp [hlt]
  case hi => simp [Int.add_right_comm]
  case hb =>
    cases x <;> csrc_eval [hto, layout_coerce_item ty tys p _ hx, fTy]
  case hQ =>
    rw [List.drop_zero] at hend ⊢
    rcases hcs : coerceScan v tys with ⟨_ | _, after⟩ <;> rw [hcs] at hend <;> csrc_eval [hK.done, resToC]
    show exec _ _ (.seq (.forLoop _ _ _ _) .brk) _ _ = _
    csrc_eval []
    refine iter_coerce_any _ _ _ _
      (fun p t => ⟨[.trait (.complex ds), .hobj, .name, .obj v, a4, a5, a6, a7, .info (.coerce ty tys), .ty ty, t, a11,
        .infos ds, .int ↑ds.length, .int i, a15, .int (↑tys.length + 1 + 1), .int (p + 2), a18, a19], none⟩)
      tys v (.ret (exceptToC (E.cast ty v)).1) (by simp)
      (fun p t k' => by simp [hlt]) (fun p t rec => by simp [Int.add_right_comm]) (fun r => r = _)
      (fun s => { s with err := (exceptToC (E.cast ty v)).2 }) (fun p t k' x hx => ?hb)
      fuel (p' + 1) t' (by omega) fun p2 t2 => ?hQ
    case hb =>
      cases x <;> csrc_eval [C1, hto, layout_coerce_item ty tys p _ hx, fTy, helpers_type_converter]
    case hQ =>
      rw [← hend rfl]
      by_cases hany : coerceAny v after = true
      · cases E.cast ty v <;> simp [hany, exceptToC, hK.ret]
      · simp [hany, hK.brk, resToC]

include hK in
/-- Every `case` of the switch does what the arm of `complexCase` for its kind does. -/
theorem cx_case (hA : AdaptSome E) (d : Desc) (hd : entryOk E inner cdflt fuel d) :
    cxSwitch E inner cdflt fuel K (cxS ds v i a4 a5 a6 a7 (.info d) a9 a10 a11 a15 a16 a17 a18 a19) d =
      some (resToC (fastComplex E (d :: rest) v)) := by
  have hb := hK.brk; have hdn := hK.done; have hr := hK.ret
  cases d
  case complex ds' => exact hK.error ..
  case python h => exact hd.elim
  case coerce ty tys => exact cx_coerce E inner cdflt fuel K ds v i rest a4 a5 a6 a7 a9 a10 a11 a15 a16 a17 a18 a19 hK ty tys hd
  all_goals show exec _ _ (.seq _ _) ⟨_, _⟩ _ = _
  case int =>
    csrc_eval [layout, C1, helpers_as_integer, fastComplex, complexCase]
    cases asInteger v with
    | ok w => simp [exceptToC, resToC, *]
    | error e => by_cases he : e = .typeError <;> simp [exceptToC, resToC, *]
  case float =>
    csrc_eval [layout, C1, helpers_validate_float, fastComplex, complexCase]
    cases validateFloat v with
    | ok w => simp [exceptToC, resToC, *]
    | error e => by_cases he : e = .typeError <;> simp [exceptToC, resToC, *]
  case complexNumber =>
    csrc_eval [layout, C1, helpers_validate_complex_number, fastComplex, complexCase]
    cases validateComplexNumber v with
    | ok w => simp [exceptToC, resToC, *]
    | error e => by_cases he : e = .typeError <;> simp [exceptToC, resToC, *]
  case typeChk an ty =>
    csrc_eval [↓info_noneSlot, fastComplex, complexCase, isNone_iff]
    cases an <;> cases v.isNone <;> cases Val.isInst ty v <;> simp [resToC, *]
  case instChk an ty =>
    csrc_eval [↓info_noneSlot, fastComplex, complexCase, isNone_iff]
    cases an <;> cases v.isNone <;> cases Val.isInst ty v <;> simp [resToC, *]
  case selfType an =>
    cases an <;> csrc_eval [layout, C1, fastComplex, complexCase, isNone_iff] <;>
      cases v.isNone <;> cases Val.isInst (.user E.selfCls) v <;> simp [resToC, *]
  case floatRange lo hi mask =>
    csrc_eval [layout, C1, helpers_validate_float, fastComplex, complexCase]
    cases validateFloat v with
    | ok w =>
      simp [exceptToC, helpers_in_float_range]
      cases inFloatRange (floatOf w) lo hi mask <;> simp [resToC, *]
    | error e => by_cases he : e = .typeError <;> simp [exceptToC, resToC, *]
  case enum vals =>
    csrc_eval [layout, fastComplex, complexCase]
    cases seqContains vals v <;> simp [resToC, *]
  case map keys =>
    csrc_eval [layout, fastComplex, complexCase]
    cases h : dictFind keys v with
    | ok o => cases o <;> simp [resToC, *]
    | error e => simp [resToC, *]
  case slow h =>
    csrc_eval [layout, fastComplex, complexCase, hb, hr]
    cases hv : h v with
    | ok w | traitError => rfl
    | raised e =>
      have hne : e ≠ .traitError := fun he => hd v (he ▸ hv)
      simp [hne, resToC]
  case tuple items =>
    csrc_eval [layout, C1, hd v, tupleCheck, fastComplex, complexCase]
    cases tupleCheckWith items.length (tupleItems E items) v <;> simp [tupToC, resToC, *]
  case cast ty =>
    csrc_eval [layout, C1, fastComplex, complexCase, helpers_type_converter]
    cases Val.exactTy ty v <;> simp [resToC, *]
    cases E.cast ty v <;> simp [exceptToC, *]
  case function f =>
    csrc_eval [layout, C1, fastComplex, complexCase, helpers_call_validator]
    cases E.fn f v <;> simp [exceptToC, resToC, *]
  case callable an =>
    csrc_eval [layout, C1, fastComplex, complexCase, helpers_callable]
    cases validateCallable an v <;> simp [resToC, *]
  case adapt cls mode an dflt =>
    have hm : (mode : Int) ≠ -1 := by omega
    have h0i : ((mode : Int) = 0) ↔ mode = 0 := by omega
    have h1 : ((mode : Int) = 1) ↔ mode = 1 := by omega
    csrc_eval [layout, C1, hm, h0i, h1, hb, hdn, hr, fastComplex, complexCase, isNone_iff]
    cases v.isNone
    · simp only [Bool.false_eq_true, ↓reduceIte]
      by_cases h0 : mode = 0
      · simp only [h0, ↓reduceIte]
        cases Val.isInst cls v <;> rfl
      · have hd : mode = 1 ∨ dflt = cdflt := hd.resolve_left h0
        simp only [h0, ↓reduceIte]
        cases ha : E.adapt v cls with
        | error e => rfl
        | ok o =>
          cases o with
          | some r =>
            have hrn : r.isNone = false := Bool.eq_false_iff.2 fun h => hA v cls r ha ((isNone_iff r).2 h)
            simp [hrn, resToC]
          | none =>
            rcases hd with h | h
            · cases Val.isInst cls v <;> simp [h, resToC]
            · subst h
              cases Val.isInst cls v <;> by_cases h1' : mode = 1 <;> simp [h1', resToC]
    · simp only [↓reduceIte]
      cases an <;> rfl

end cases

/-! ## The loop -/

/-- The loop of `validate_trait_complex` with `m` iterations allowed, as `runFn` runs it. -/
def cxIter (m : Nat) : St → Option (CV × Err) :=
  iter (fun s k' => evalE (C1 E inner cdflt fuel) cxLoop.2.1 s k')
    (fun s k' => evalE (C1 E inner cdflt fuel) cxLoop.2.2.1 s k')
    (fun s k' => exec (C1 E inner cdflt fuel) fuel cxLoop.2.2.2 s k')
    (fnK (C1 E inner cdflt fuel) fuel fn_validate_trait_complex) m

/-- Inside the loop, a `case` continues into the remaining iterations `rec`. -/
theorem cxK_loop (rec : St → Option (CV × Err)) (ds : List Desc) (v : Val) (n : Nat) (r : Option (CV × Err))
    (ih : ∀ b4 b5 b6 b7 b8 b9 b10 b11 b15 b16 b17 b18 b19,
      rec (cxS ds v (n + 1) b4 b5 b6 b7 b8 b9 b10 b11 b15 b16 b17 b18 b19) = r) :
    CxK (swK (bodyK (fun s k' => evalE (C1 E inner cdflt fuel) cxLoop.2.2.1 s k')
      (fnK (C1 E inner cdflt fuel) fuel fn_validate_trait_complex) rec)) ds v n r where
  brk := by
    intros
    rw [swK_brk, bodyK_norm]
    show evalE _ (.postInc 14) ⟨_, _⟩ _ = _
    csrc_eval []
    exact ih ..
  done := by
    intros
    rw [swK_goto, bodyK_goto, fnK_goto]
    show runTails _ _ (.cons "done" _ .nil) _ = _
    csrc_eval [cxS]
  error := by
    intros
    rw [swK_goto, bodyK_goto, fnK_goto]
    show runTails _ _ (.cons "error" _ _) _ = _
    csrc_eval [cxS]
  ret := fun _ _ => rfl


theorem cx_iter (hA : AdaptSome E) (v : Val) (ds : List Desc)
    (hd : ∀ d ∈ ds, entryOk E inner cdflt fuel d) :
    ∀ (suf pre : List Desc) (m : Nat) (a4 a5 a6 a7 a8 a9 a10 a11 a15 a16 a17 a18 a19 : CV),
      ds = pre ++ suf → suf.length < m →
      cxIter E inner cdflt fuel m (cxS ds v pre.length a4 a5 a6 a7 a8 a9 a10 a11 a15 a16 a17 a18 a19) =
        some (resToC (fastComplex E suf v)) := by
  intro suf
  induction suf with
  | nil =>
    intro pre m a4 a5 a6 a7 a8 a9 a10 a11 a15 a16 a17 a18 a19 hds hm
    obtain ⟨m, rfl⟩ : ∃ m', m = m' + 1 := ⟨m - 1, by simp at hm; omega⟩
    subst hds
    rw [cxIter, iter_succ]
    show evalE _ (.lt (.var 14) (.var 13)) ⟨_, _⟩ _ = _
    csrc_eval []
    show runTails _ _ (.cons "error" _ _) _ = _
    csrc_eval [fastComplex, resToC]
  | cons d rest ih =>
    intro pre m a4 a5 a6 a7 a8 a9 a10 a11 a15 a16 a17 a18 a19 hds hm
    obtain ⟨m, rfl⟩ : ∃ m', m = m' + 1 := ⟨m - 1, by omega⟩
    have hlt : pre.length < ds.length := by subst hds; simp
    have hget : ds[pre.length]? = some d := by subst hds; simp
    have hdd : entryOk E inner cdflt fuel d := hd d (by subst hds; simp)
    have hK := cxK_loop E inner cdflt fuel (cxIter E inner cdflt fuel m) ds v pre.length _
      fun b4 b5 b6 b7 b8 b9 b10 b11 b15 b16 b17 b18 b19 => by
        simpa using ih (pre ++ [d]) m b4 b5 b6 b7 b8 b9 b10 b11 b15 b16 b17 b18 b19 (by simp [hds])
          (by simp at hm; omega)
    rw [cxIter, iter_succ]
    show evalE _ (.lt (.var 14) (.var 13)) ⟨_, _⟩ _ = _
    csrc_eval [hlt]
    exact (cx_fetch E inner cdflt fuel _ ds v pre.length d a4 a5 a6 a7 a8 a9 a10 a11 a15 a16 a17 a18 a19 hget
      fun f hf => by simp [hf, entryOk] at hdd).trans
      (cx_case E inner cdflt fuel _ ds v _ rest a4 a5 a6 a7 a9 a10 a11 a15 a16 a17 a18 a19 hK hA d hdd)

theorem src_complex (hA : AdaptSome E) (ds : List Desc) (v : Val)
    (hd : ∀ d ∈ ds, entryOk E inner cdflt fuel d) (hf : ds.length < fuel) :
    srcFn E inner cdflt fuel "validate_trait_complex" (.complex ds) v =
      some (norm (fastAlone E (.complex ds) v)) := by
  apply srcFn_of E inner cdflt fuel fn_validate_trait_complex
  simp only [runFn_eq, fastAlone, ← resToC_norm]
  show toRes (exec _ _ (.seq _ (.seq _ (.forLoop _ _ _ _))) ⟨[_, _, _, _, _, _, _, _, _, _, _, _, _, _, _, _, _, _, _, _], _⟩ _) = _
  csrc_eval [layout]
  exact congrArg _ (cx_iter E inner cdflt fuel hA v ds hd ds [] fuel _ _ _ _ _ _ _ _ _ _ _ _ _ rfl hf)


/-! ## Every descriptor -/

/-- Side conditions of the source tie for a stand-alone descriptor (see `entryOk`);
kind 8 (`slow`) has no stand-alone C function (`validate_handlers[8]` is NULL). -/
def descOk (E : Env) (inner : Desc → Val → Res) (cdflt : Val) (fuel : Nat) : Desc → Prop
  | .complex ds => (∀ d ∈ ds, entryOk E inner cdflt fuel d) ∧ ds.length < fuel
  | .coerce _ tys => tys.length < fuel
  | .tuple items => TupleCheckSpec E inner cdflt fuel items
  | .slow _ => False
  | _ => True

/-- For every descriptor and every value: the C function `validate_handlers[kind]`, interpreted
on its translated source text, returns what `fastAlone` returns. -/
theorem srcAlone_eq (hA : AdaptSome E) (d : Desc) (v : Val) (hok : descOk E inner cdflt fuel d) :
    srcAlone E inner cdflt fuel d v = some (norm (fastAlone E d v)) := by
  by_cases hs : straight d = true
  · exact srcAlone_straight E inner cdflt fuel hA d v hs
  · cases d <;> simp [straight] at hs <;> simp only [srcAlone, Desc.kind]
    case complex ds => exact src_complex E inner cdflt fuel hA ds v hok.1 hok.2
    case tuple items => exact src_tuple E inner cdflt fuel items hok v
    case coerce ty tys => exact src_coerce E inner cdflt fuel ty tys v hok
    case slow h => exact absurd hok (by simp [descOk])

/-- The copy of a case inside the `switch` of `validate_trait_complex`, run on the
one-entry compound `(7, (d,))`, interpreted on the translated source text, is `fastInCompound`. -/
theorem srcInCompound_eq (hA : AdaptSome E) (d : Desc) (v : Val) (hok : entryOk E inner cdflt fuel d)
    (hf : 1 < fuel) :
    srcFn E inner cdflt fuel "validate_trait_complex" (.complex [d]) v = some (norm (fastInCompound E d v)) := by
  have := src_complex E inner cdflt fuel hA [d] v (by simpa using hok) (by simpa using hf)
  simpa [fastInCompound, fastAlone] using this

end TraitsVerif.Model.CSrc
