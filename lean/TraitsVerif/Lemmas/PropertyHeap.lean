/-
Heap / view lemmas for the C12 model: a mutation changes exactly one observable,
and a mutation that is not `relevant` leaves everything the expression selects
unchanged (locality / frame lemma).
-/
import TraitsVerif.Model.Property
namespace TraitsVerif.Model.Property
open TraitsVerif

theorem get_put (ob : Obj) (w : Write) (s : Slot) :
    (ob.put w).get s = if s = w.slot then w.content else ob.get s := by
  cases w with
  | scalar f v => cases f <;> cases s <;> (try rename_i f'; cases f') <;> simp [Obj.put, Obj.get, Write.slot, Write.content]
  | inst t => cases s <;> (try rename_i f'; cases f') <;> simp [Obj.put, Obj.get, Write.slot, Write.content]
  | kids l => cases s <;> (try rename_i f'; cases f') <;> simp [Obj.put, Obj.get, Write.slot, Write.content]
  | byname d => cases s <;> (try rename_i f'; cases f') <;> simp [Obj.put, Obj.get, Write.slot, Write.content]
  | tags t => cases s <;> (try rename_i f'; cases f') <;> simp [Obj.put, Obj.get, Write.slot, Write.content]

theorem content_apply (m : Mutation) (h : Heap) (o : Id) (s : Slot) :
    content (apply m h) o s =
      if o = m.obj ∧ s = m.w.slot then m.w.content else content h o s := by
  unfold content apply
  by_cases ho : o = m.obj
  · simp [ho, get_put]
  · simp [ho]

/-- Heaps that agree on every observable the path selects from `o` have the same view from `o`. -/
theorem sameView_of_agree (h h' : Heap) :
    ∀ (ls : List Link) (leaf : Slot) (o : Id),
      (∀ t, matchedAt h t ls leaf o = true → content h t.1 t.2 = content h' t.1 t.2) → SameView h h' ls leaf o
  | [], leaf, o, H => H (o, leaf) (by simp [matchedAt])
  | l :: ls, leaf, o, H =>
    ⟨H (o, l.slot) (by simp [matchedAt]), fun t ht => sameView_of_agree h h' ls leaf t fun x hx =>
      H x (by simp only [matchedAt, Bool.or_eq_true, List.any_eq_true]; exact Or.inr ⟨t, ht, hx⟩)⟩

/-- A mutation that is not relevant writes to an observable that is not selected, or writes what was there. -/
theorem sameViews_of_not_relevant (E : Expr) (root : Id) (h : Heap) (m : Mutation)
    (hr : relevant E root h m = false) : SameViews h (apply m h) E root := by
  intro p hp
  refine sameView_of_agree h _ _ _ _ fun t ht => ?_
  rw [content_apply]
  split
  · rename_i hc
    have ht' : t = (m.obj, m.w.slot) := Prod.ext hc.1 hc.2
    subst ht'
    -- the observable written is selected, so the change does not notify: it writes what was there
    have hm : matched h E root (m.obj, m.w.slot) = true := List.any_eq_true.2 ⟨p, hp, ht⟩
    simp [relevant, hm, changed] at hr
    exact hr.2
  · rfl

theorem foldView_congr {α : Type} (lf : Content → α) (nf : Content → List α → α) (h h' : Heap) :
    ∀ (ls : List Link) (leaf : Slot) (o : Id), SameView h h' ls leaf o →
      foldView lf nf h ls leaf o = foldView lf nf h' ls leaf o
  | [], leaf, o, hv => by
    simp only [foldView]
    rw [show content h o leaf = content h' o leaf from hv]
  | l :: ls, leaf, o, hv => by
    obtain ⟨hc, ht⟩ := hv
    simp only [foldView, targets]
    rw [← hc]
    congr 1
    apply List.map_congr_left
    intro t htm
    exact foldView_congr lf nf h h' ls leaf t (ht t htm)

theorem dependsOnly_foldExpr {α β : Type} (lf : Content → α) (nf : Content → List α → α)
    (E : Expr) (root : Id) (k : List α → β) :
    DependsOnly (fun h => k (foldExpr lf nf h E root)) E root := by
  intro h h' hv
  show k _ = k _
  congr 1
  unfold foldExpr
  apply List.map_congr_left
  intro p hp
  exact foldView_congr lf nf h h' p.links p.leaf root (hv p hp)

theorem firesSpec_sound (P : Env Val) (hf : P.fires = firesSpec P.E P.root) : ObserveSound P := by
  intro h m hr
  rw [hf]
  exact hr

theorem firesSpec_tight (P : Env Val) (hf : P.fires = firesSpec P.E P.root) : ObserveTight P := by
  intro h m _ hfm
  rw [hf] at hfm
  exact hfm

end TraitsVerif.Model.Property
