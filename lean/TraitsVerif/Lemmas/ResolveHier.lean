/-
The declarative reading of "which trait governs a name" (`Governs`), its
agreement with the lookup of the model (`Dispatch`) on coherent classes, linear
hierarchies (`chain`) below `HasTraits` / `HasStrictTraits` /
`HasPrivateTraits`, and the initial world.
-/
import TraitsVerif.Lemmas.ResolveGov
namespace TraitsVerif.Model.Resolve
open TraitsVerif

/-! ### the property's resolution order, declaratively -/

/-- "instance trait of that name if one was added, else the class trait of that
name (own or inherited), else the wildcard trait with the longest matching
prefix (the '' wildcard = class default)" — plus the two rules the code has for
`__xxx__` names, which the property text does not mention. -/
inductive Governs (c : Cls) (o : Obj) (name : Name) (isSet : Bool) : Except Exc Trait → Prop
  | inst {t : Trait} (h : o.itraits.get name = some t) : Governs c o name isSet (.ok t)
  | declared {t : Trait} (hi : o.itraits.get name = none) (h : c.decl.get name = some t) :
      Governs c o name isSet (.ok t)
  | dunderClass (hi : o.itraits.get name = none) (hd : c.decl.get name = none) (h : name = classDunder) :
      Governs c o name isSet (.ok genericTrait)
  | dunderSet (hi : o.itraits.get name = none) (hd : c.decl.get name = none) (hdu : isDunder name = true)
      (hne : name ≠ classDunder) (hs : isSet = true) : Governs c o name isSet (.ok anyTrait)
  | dunderGet (hi : o.itraits.get name = none) (hd : c.decl.get name = none) (hdu : isDunder name = true)
      (hne : name ≠ classDunder) (hs : isSet = false) : Governs c o name isSet (.error .attributeError)
  | wildcard {e : Name × Trait} (hi : o.itraits.get name = none) (hd : c.decl.get name = none)
      (hdu : isDunder name = false) (hm : e ∈ c.prefixes) (hp : e.1 <+: name)
      (hmax : ∀ e' ∈ c.prefixes, e'.1 <+: name → e'.1.length ≤ e.1.length) :
      Governs c o name isSet (.ok e.2)

theorem classDunder_isDunder : isDunder classDunder = true := by decide

theorem resolve₀_governs {c : Cls} {o : Obj} {name : Name} {b : Bool} {r : Except Exc Trait}
    (hc : ClsInv c) (hi : o.itraits.get name = none) (hd : c.decl.get name = none)
    (h : resolve₀ c.prefixes name b = r) : Governs c o name b r := by
  subst h
  fun_cases resolve₀ c.prefixes name b
  -- `__class__`; `__xxx__` written; `__xxx__` read; first match; no match (there is a '' wildcard)
  · exact .dunderClass hi hd ‹_›
  · exact .dunderSet hi hd ‹_› ‹_› ‹_›
  · exact .dunderGet hi hd ‹_› ‹_› (Bool.eq_false_iff.mpr ‹_›)
  · rename_i hdu e hf
    exact .wildcard hi hd (Bool.eq_false_iff.mpr hdu) (firstMatch_some hf).1 (firstMatch_some hf).2
      (firstMatch_longest hc.sorted hf)
  · rename_i hf
    obtain ⟨e, he⟩ := firstMatch_total hc.hasDefault name
    rw [he] at hf; cases hf

theorem Dispatch.governs {c : Cls} {o : Obj} {name : Name} {b : Bool} {r : Except Exc Trait}
    (h : Dispatch c o name b r) (hc : ClsInv c) (hcp : ClsPlain c) (hop : ObjPlain o)
    (hside : b = true ∨ isDunder name = false) : Governs c o name b r := by
  cases h with
  | inst h => exact .inst h
  | cls hi h =>
    cases hd : c.decl.get name with
    | some t' =>
      have := hc.declSub name t' hd
      rw [h] at this; cases this
      exact .declared hi hd
    | none =>
      -- a cached entry is what a write resolves to, and names other than `__xxx__` resolve alike for reads
      obtain ⟨b', hb'⟩ := hc.coherent name _ h hd
      have hw := resolve₀_ok_write hb'
      rcases hside with rfl | hside
      · exact resolve₀_governs hc hi hd hw
      · rw [resolve₀_not_dunder hside true b] at hw; exact resolve₀_governs hc hi hd hw
  | pref hi hct h =>
    have hd : c.decl.get name = none := by
      cases hd : c.decl.get name with
      | none => rfl
      | some t' => have := hc.declSub name t' hd; rw [hct] at this; cases this
    rw [prefixTrait_plain_eq hcp hop] at h
    exact resolve₀_governs hc hi hd h

/-! ### linear hierarchies -/

/-- `chain root [body₁, …, bodyₙ]`: the class obtained by subclassing `root`
n times, `bodyₙ` being the most derived class body. -/
def chain (root : Cls) : List (List (Name × Trait)) → Cls
  | [] => root
  | decls :: rest => chain (mkClass [root] decls) rest

theorem ensureDefault_of_get {pl : List (Name × Trait)} {t : Trait} (h : Map.get pl [] = some t) :
    ensureDefault pl = pl := by
  unfold ensureDefault; rw [h]

theorem mergePrefixes_key (acc : List (Name × Trait)) {base : List (Name × Trait)} {k : Name}
    (h : ∃ t, (k, t) ∈ base) : ∃ t, Map.get (mergePrefixes acc base) k = some t := by
  rw [mergePrefixes_get]
  cases Map.get acc k with
  | some t => exact ⟨t, rfl⟩
  | none => obtain ⟨t0, h0⟩ := h; exact Map.get_isSome_of_mem (e := (k, t0)) h0

theorem mkClass1_prefix_mem {root : Cls} (htot : Total root) {decls : List (Name × Trait)} {e : Name × Trait}
    (h : e ∈ (mkClass [root] decls).prefixes) : e ∈ ownPrefixes decls ∨ e ∈ root.prefixes := by
  unfold mkClass at h
  simp only [List.foldl_cons, List.foldl_nil] at h
  have hm := mem_sortPrefixes.mp h
  obtain ⟨t, ht⟩ := mergePrefixes_key (ownPrefixes decls) htot
  rw [ensureDefault_of_get ht] at hm
  exact mergePrefixes_mem hm

theorem chain_total {root : Cls} (htot : Total root) (levels : List (List (Name × Trait))) :
    Total (chain root levels) := by
  induction levels generalizing root with
  | nil => exact htot
  | cons d rest ih => exact ih (mkClass_hasDefault _ _)

theorem chain_prefix_mem {root : Cls} (htot : Total root) {levels : List (List (Name × Trait))}
    {e : Name × Trait} (h : e ∈ (chain root levels).prefixes) :
    (∃ l ∈ levels, e ∈ ownPrefixes l) ∨ e ∈ root.prefixes := by
  induction levels generalizing root with
  | nil => exact Or.inr h
  | cons d rest ih =>
    rcases ih (mkClass_hasDefault _ _) h with ⟨l, hl, he⟩ | he
    · exact Or.inl ⟨l, List.mem_cons_of_mem _ hl, he⟩
    · rcases mkClass1_prefix_mem htot he with he | he
      · exact Or.inl ⟨d, List.mem_cons_self, he⟩
      · exact Or.inr he

theorem chain_ctraits_none {root : Cls} {name : Name} (hroot : root.ctraits.get name = none)
    {levels : List (List (Name × Trait))} (hown : ∀ l ∈ levels, (ownTraits l).get name = none) :
    (chain root levels).ctraits.get name = none := by
  induction levels generalizing root with
  | nil => exact hroot
  | cons d rest ih =>
    apply ih
    · rw [mkClass_ctraits_get, hown d List.mem_cons_self]
      simp [firstSome, hroot]
    · intro l hl; exact hown l (List.mem_cons_of_mem _ hl)

theorem chain_sorted {root : Cls} (hs : Sorted root.prefixes) (levels : List (List (Name × Trait))) :
    Sorted (chain root levels).prefixes := by
  induction levels generalizing root with
  | nil => exact hs
  | cons d rest ih => exact ih (mkClass_sorted _ _)

/-- Only the key survives: a subclass may redeclare the wildcard with another trait. -/
theorem mkClass1_prefix_key {root : Cls} (d : List (Name × Trait)) {k : Name}
    (h : ∃ t, (k, t) ∈ root.prefixes) : ∃ t, (k, t) ∈ (mkClass [root] d).prefixes := by
  obtain ⟨t, ht⟩ := mergePrefixes_key (ownPrefixes d) h
  refine ⟨t, ?_⟩
  unfold mkClass
  simp only [List.foldl_cons, List.foldl_nil]
  apply mem_sortPrefixes.mpr
  have hmm := Map.mem_of_get ht
  unfold ensureDefault
  cases Map.get (mergePrefixes (ownPrefixes d) root.prefixes) [] with
  | some _ => exact hmm
  | none => exact List.mem_append_left _ hmm

theorem chain_prefix_key {root : Cls} (levels : List (List (Name × Trait))) {k : Name}
    (h : ∃ t, (k, t) ∈ root.prefixes) : ∃ t, (k, t) ∈ (chain root levels).prefixes := by
  induction levels generalizing root with
  | nil => exact h
  | cons d rest ih => exact ih (mkClass1_prefix_key d h)

theorem chain_classGov {P : Trait → Prop} {root : Cls} (htot : Total root) {name : Name}
    (hdu : isDunder name = false) (hroot : root.ctraits.get name = none)
    (hrootP : ∀ e ∈ root.prefixes, e.1 <+: name →
      (∀ e' ∈ root.prefixes, e'.1 <+: name → e'.1.length ≤ e.1.length) → P e.2)
    (hs : Sorted root.prefixes)
    {levels : List (List (Name × Trait))} (hown : ∀ l ∈ levels, (ownTraits l).get name = none)
    (hwild : ∀ l ∈ levels, ∀ e ∈ ownPrefixes l, ¬ e.1 <+: name) :
    ClassGov P (chain root levels) name := by
  intro t ht
  rw [chain_ctraits_none hroot hown] at ht
  rcases ht with ht | ⟨_, b, ht⟩
  · cases ht
  · unfold resolve₀ at ht
    simp only [hdu] at ht
    cases hf : firstMatch (chain root levels).prefixes name with
    | none => rw [hf] at ht; simp at ht
    | some e =>
      rw [hf] at ht; simp at ht; subst ht
      obtain ⟨hm, hp⟩ := firstMatch_some hf
      have hmax := firstMatch_longest (chain_sorted hs levels) hf
      rcases chain_prefix_mem htot hm with ⟨l, hl, he⟩ | he
      · exact absurd hp (hwild l hl e he)
      · apply hrootP e he hp
        intro e' he' hp'
        -- the prefix of e' is still a key of the derived class's table, so the first match is at least as long
        obtain ⟨t'', h''⟩ := chain_prefix_key levels (k := e'.1) ⟨e'.2, he'⟩
        exact hmax (e'.1, t'') h'' hp'

/-! ### the sample environment and the initial world -/

/-- The environment the line-protocol driver runs in (`Driver/Resolve.lean` has its own definition `env`
with this text): validator 0 = "is an int", 1 = "is a str"; no type attributes; delegates unreachable. -/
def Env.sample : Env :=
  { validate := fun i _ v =>
      match i, v with
      | 0, .int n => .ok (.int n)
      | 1, .str s => .ok (.str s)
      | _, _ => .error .traitError
    classAttr := fun _ => none
    delegGet := fun _ _ => .error .attributeError
    delegSet := fun _ _ => .error .traitError }

theorem clean_clsHasTraits : Clean clsHasTraits := mkClass_clean _ (by intro b hb; cases hb)

theorem clean_below_clsHasTraits : ∀ b ∈ [clsHasTraits], Clean b :=
  fun _ hb => List.mem_singleton.mp hb ▸ clean_clsHasTraits

theorem clean_clsHasStrictTraits : Clean clsHasStrictTraits := mkClass_clean _ clean_below_clsHasTraits

theorem clean_clsHasPrivateTraits : Clean clsHasPrivateTraits := mkClass_clean _ clean_below_clsHasTraits

theorem World.init_classes {Q : Cls → Prop} (h0 : Q clsHasTraits) (h1 : Q clsHasStrictTraits)
    (h2 : Q clsHasPrivateTraits) : ∀ c ∈ World.init.classes, Q c := by
  intro c hc
  simp [World.init] at hc
  rcases hc with rfl | rfl | rfl
  · exact h0
  · exact h1
  · exact h2

theorem allClean_init : AllClean World.init :=
  World.init_classes clean_clsHasTraits clean_clsHasStrictTraits clean_clsHasPrivateTraits

theorem noDeleg_init : NoDeleg World.init := by
  have h0 : ClsPlain clsHasTraits := mkClass_plain (by intro b hb; cases hb) (by decide)
  have h1 : ∀ b ∈ [clsHasTraits], ClsPlain b := fun _ hb => List.mem_singleton.mp hb ▸ h0
  refine ⟨World.init_classes h0 (mkClass_plain h1 (by decide)) (mkClass_plain h1 (by decide)), ?_, ?_⟩
  · intro o ho; simp [World.init] at ho
  · intro o ho; simp [World.init] at ho

theorem inv_init : Inv World.init :=
  ⟨noDeleg_init, World.init_classes (mkClass_inv _ (by intro b hb; cases hb))
    (mkClass_inv _ clean_below_clsHasTraits) (mkClass_inv _ clean_below_clsHasTraits)⟩

end TraitsVerif.Model.Resolve
