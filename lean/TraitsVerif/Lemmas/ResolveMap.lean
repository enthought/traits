/-
Lemmas about the association-list dictionaries of Model/Resolve and about the
two merge loops of `update_traits_class_dict`.
-/
import TraitsVerif.Model.Resolve
import TraitsVerif.Lemmas.MapDict
import TraitsVerif.Lemmas.Common
namespace TraitsVerif.Model.Resolve
open TraitsVerif

variable {β : Type}

@[simp] theorem Map.get_nil (k : Name) : Map.get ([] : Map β) k = none := rfl

theorem Map.get_cons (k' : Name) (v : β) (m : Map β) (k : Name) :
    Map.get ((k', v) :: m) k = if k' = k then some v else Map.get m k := rfl

/-- The dictionaries of this model are `Py.Dict`s keyed by names (with `d[k] = v` putting the entry in
front): what is proved there about reading, deleting and appending holds here. -/
theorem Map.get_eq (m : Map β) (k : Name) : m.get k = Py.Dict.get? m k := by
  induction m with
  | nil => rfl
  | cons p m ih => obtain ⟨a, v⟩ := p; simp only [Map.get, Py.Dict.get?, ih]

theorem Map.get_set (m : Map β) (k : Name) (v : β) (k' : Name) :
    (m.set k v).get k' = if k = k' then some v else m.get k' := rfl

theorem Map.get_set_same (m : Map β) (k : Name) (v : β) : (m.set k v).get k = some v := by
  simp [Map.get_set]

theorem Map.get_set_ne (m : Map β) {k k' : Name} (v : β) (h : k ≠ k') :
    (m.set k v).get k' = m.get k' := by
  simp [Map.get_set, h]

theorem Map.get_erase (m : Map β) (k k' : Name) :
    (m.erase k).get k' = if k = k' then none else m.get k' := by
  rw [Map.get_eq, Map.get_eq]; exact (Py.Dict.get?_erase m k k').trans (by simp only [eq_comm])

theorem Map.get_erase_same (m : Map β) (k : Name) : (m.erase k).get k = none := by
  simp [Map.get_erase]

theorem Map.get_erase_ne (m : Map β) {k k' : Name} (h : k ≠ k') : (m.erase k).get k' = m.get k' := by
  simp [Map.get_erase, h]

theorem Map.erase_of_get_none (m : Map β) (k : Name) (h : m.get k = none) : m.erase k = m := by
  induction m with
  | nil => rfl
  | cons e m ih =>
    obtain ⟨k', v⟩ := e
    rw [Map.get_cons] at h
    by_cases hk : k' = k
    · rw [if_pos hk] at h; cases h
    · rw [if_neg hk] at h
      show List.filter _ _ = _
      simp only [List.filter_cons, ne_eq, hk, not_false_eq_true, decide_true, ↓reduceIte]
      exact congrArg _ (ih h)

theorem Map.mem_of_get {m : Map β} {k : Name} {v : β} (h : m.get k = some v) : (k, v) ∈ m :=
  Py.Dict.mem_of_get? (Map.get_eq m k ▸ h)

theorem Map.get_eq_none_iff {m : Map β} {k : Name} : m.get k = none ↔ ∀ e ∈ m, e.1 ≠ k := by
  rw [Map.get_eq, Py.Dict.get?_eq_none_iff]
  exact ⟨fun h e he hk => h (List.mem_map.mpr ⟨e, he, hk⟩),
    fun h hm => by obtain ⟨e, he, hk⟩ := List.mem_map.mp hm; exact h e he hk⟩

theorem Map.get_isSome_of_mem {m : Map β} {e : Name × β} (h : e ∈ m) : ∃ v, m.get e.1 = some v := by
  cases hg : m.get e.1 with
  | some v => exact ⟨v, rfl⟩
  | none => exact absurd rfl (Map.get_eq_none_iff.mp hg e h)

theorem Map.mem_erase {m : Map β} {k : Name} {e : Name × β} (h : e ∈ m.erase k) : e ∈ m :=
  Py.Dict.mem_erase h

theorem Map.get_append (a b : Map β) (k : Name) :
    Map.get (a ++ b) k = match Map.get a k with
      | some v => some v
      | none => Map.get b k := by
  simp only [Map.get_eq]; exact Py.Dict.get?_append a b k

/-- Keys pairwise distinct (what a Python `dict` guarantees). -/
def NodupKeys (m : Map β) : Prop := (m.map (·.1)).Nodup

theorem NodupKeys.get_of_mem {m : Map β} (hn : NodupKeys m) {k : Name} {v : β} (h : (k, v) ∈ m) :
    m.get k = some v := (Map.get_eq m k).trans (Py.Dict.get?_of_mem hn h)

theorem NodupKeys.get_iff_mem {m : Map β} (hn : NodupKeys m) {k : Name} {v : β} :
    m.get k = some v ↔ (k, v) ∈ m := ⟨Map.mem_of_get, hn.get_of_mem⟩

theorem NodupKeys.snoc {m : Map β} (hn : NodupKeys m) {e : Name × β} (he : m.get e.1 = none) :
    NodupKeys (m ++ [e]) :=
  Common.nodup_map_concat hn (Py.Dict.get?_eq_none_iff.mp ((Map.get_eq m e.1).symm.trans he))

theorem NodupKeys.perm {m m' : Map β} (hn : NodupKeys m) (hp : m.Perm m') : NodupKeys m' := by
  unfold NodupKeys at *
  exact (hp.map _).nodup_iff.mp hn

theorem Map.get_perm {m m' : Map β} (hn : NodupKeys m) (hp : m.Perm m') (k : Name) :
    Map.get m k = Map.get m' k := by
  have hn' := hn.perm hp
  cases h : Map.get m k with
  | some v =>
    exact (hn'.get_of_mem (hp.mem_iff.mp (Map.mem_of_get h))).symm
  | none =>
    cases h' : Map.get m' k with
    | none => rfl
    | some v =>
      have := hn.get_of_mem (hp.mem_iff.mpr (Map.mem_of_get h'))
      rw [h] at this; cases this

/-- "first base that has it". -/
def firstSome {α : Type} : List (Option α) → Option α
  | [] => none
  | some a :: _ => some a
  | none :: xs => firstSome xs

/-! ### the two merge loops of `update_traits_class_dict`

`mergeMap` (class traits) and `mergePrefixes` (wildcards) are the same loop: keep an entry that is
there, add one that is missing — in front (`d[k] = v` on the association list) or at the end (the
order of the wildcard list matters).  What is proved about them needs two facts about "add". -/

def mergeWith (ins : Map Trait → Name × Trait → Map Trait) (acc base : Map Trait) : Map Trait :=
  base.foldl (fun acc e => match Map.get acc e.1 with
    | some _ => acc
    | none => ins acc e) acc

section mergeWith
variable {ins : Map Trait → Name × Trait → Map Trait}
  (hget : ∀ acc e k, Map.get acc e.1 = none → Map.get (ins acc e) k = if e.1 = k then some e.2 else Map.get acc k)
  (hmem : ∀ acc e x, x ∈ ins acc e → x ∈ acc ∨ x = e)

include hget in
theorem mergeWith_get (acc base : Map Trait) (k : Name) :
    Map.get (mergeWith ins acc base) k = match Map.get acc k with
      | some v => some v
      | none => Map.get base k := by
  unfold mergeWith
  induction base generalizing acc with
  | nil => simp only [List.foldl_nil]; cases Map.get acc k <;> rfl
  | cons e base ih =>
    simp only [List.foldl_cons]
    rw [ih, Map.get_cons]
    cases hacc : Map.get acc e.1 with
    | some u =>
      cases hk : Map.get acc k with
      | some v => rfl
      | none =>
        have : e.1 ≠ k := by intro h; rw [h, hk] at hacc; cases hacc
        simp only [this, ↓reduceIte]
    | none =>
      simp only [hget acc e k hacc]
      by_cases hek : e.1 = k
      · rw [← hek, hacc]; simp only [↓reduceIte]
      · simp only [hek, ↓reduceIte]

include hmem in
theorem mergeWith_mem {acc base : Map Trait} {x : Name × Trait} (h : x ∈ mergeWith ins acc base) :
    x ∈ acc ∨ x ∈ base := by
  unfold mergeWith at h
  induction base generalizing acc with
  | nil => exact Or.inl h
  | cons e base ih =>
    simp only [List.foldl_cons] at h
    rcases ih h with h | h
    · cases hx : Map.get acc e.1 with
      | some u => rw [hx] at h; exact Or.inl h
      | none =>
        rw [hx] at h
        rcases hmem acc e x h with h | h
        · exact Or.inl h
        · exact Or.inr (h ▸ List.mem_cons_self)
    · exact Or.inr (List.mem_cons_of_mem _ h)

include hget in
theorem foldl_mergeWith_get {γ : Type} (f : γ → Map Trait) (bases : List γ) (own : Map Trait) (k : Name) :
    Map.get (bases.foldl (fun acc b => mergeWith ins acc (f b)) own) k = match Map.get own k with
      | some v => some v
      | none => firstSome (bases.map (fun b => Map.get (f b) k)) := by
  induction bases generalizing own with
  | nil => simp only [List.foldl_nil, List.map_nil, firstSome]; cases Map.get own k <;> rfl
  | cons b bases ih =>
    simp only [List.foldl_cons, List.map_cons]
    rw [ih, mergeWith_get hget]
    cases Map.get own k with
    | some v => rfl
    | none => cases Map.get (f b) k <;> rfl

include hmem in
theorem foldl_mergeWith_mem {γ : Type} (f : γ → Map Trait) {bases : List γ} {own : Map Trait}
    {e : Name × Trait} (h : e ∈ bases.foldl (fun acc b => mergeWith ins acc (f b)) own) :
    e ∈ own ∨ ∃ b ∈ bases, e ∈ f b := by
  induction bases generalizing own with
  | nil => exact Or.inl h
  | cons b bases ih =>
    simp only [List.foldl_cons] at h
    rcases ih h with h | ⟨b', hb', h⟩
    · rcases mergeWith_mem hmem h with h | h
      · exact Or.inl h
      · exact Or.inr ⟨b, List.mem_cons_self, h⟩
    · exact Or.inr ⟨b', List.mem_cons_of_mem _ hb', h⟩

end mergeWith

theorem Map.get_snoc_of_none (acc : Map Trait) (e : Name × Trait) (k : Name) (h : Map.get acc e.1 = none) :
    Map.get (acc ++ [e]) k = if e.1 = k then some e.2 else Map.get acc k := by
  rw [Map.get_append]
  by_cases hek : e.1 = k
  · rw [← hek, h, if_pos rfl]; exact if_pos rfl
  · cases Map.get acc k with
    | some v => rw [if_neg hek]
    | none => rw [if_neg hek]; exact if_neg hek

theorem foldl_mergeMap_get {γ : Type} (f : γ → Map Trait) (bases : List γ) (own : Map Trait) (k : Name) :
    (bases.foldl (fun acc b => mergeMap acc (f b)) own).get k = match own.get k with
      | some v => some v
      | none => firstSome (bases.map (fun b => (f b).get k)) :=
  foldl_mergeWith_get (fun acc e k _ => Map.get_set acc e.1 e.2 k) f bases own k

theorem foldl_mergeMap_mem {γ : Type} (f : γ → Map Trait) {bases : List γ} {own : Map Trait}
    {e : Name × Trait} (h : e ∈ bases.foldl (fun acc b => mergeMap acc (f b)) own) :
    e ∈ own ∨ ∃ b ∈ bases, e ∈ f b :=
  foldl_mergeWith_mem (fun _ _ _ hx => (List.mem_cons.mp hx).symm) f h

theorem mergePrefixes_get (acc base : List (Name × Trait)) (k : Name) :
    Map.get (mergePrefixes acc base) k = match Map.get acc k with
      | some v => some v
      | none => Map.get base k :=
  mergeWith_get Map.get_snoc_of_none acc base k

theorem mem_snoc {acc : Map Trait} {e x : Name × Trait} (h : x ∈ acc ++ [e]) : x ∈ acc ∨ x = e := by
  simpa using h

theorem mergePrefixes_mem {acc base : List (Name × Trait)} {e : Name × Trait}
    (h : e ∈ mergePrefixes acc base) : e ∈ acc ∨ e ∈ base :=
  mergeWith_mem (fun _ _ _ => mem_snoc) h

theorem foldl_mergePrefixes_get {γ : Type} (f : γ → List (Name × Trait)) (bases : List γ)
    (own : List (Name × Trait)) (k : Name) :
    Map.get (bases.foldl (fun acc b => mergePrefixes acc (f b)) own) k = match Map.get own k with
      | some v => some v
      | none => firstSome (bases.map (fun b => Map.get (f b) k)) :=
  foldl_mergeWith_get Map.get_snoc_of_none f bases own k

theorem foldl_mergePrefixes_mem {γ : Type} (f : γ → List (Name × Trait)) {bases : List γ}
    {own : List (Name × Trait)} {e : Name × Trait}
    (h : e ∈ bases.foldl (fun acc b => mergePrefixes acc (f b)) own) :
    e ∈ own ∨ ∃ b ∈ bases, e ∈ f b :=
  foldl_mergeWith_mem (fun _ _ _ => mem_snoc) f h

theorem mergePrefixes_nodup {acc base : List (Name × Trait)} (h : NodupKeys acc) :
    NodupKeys (mergePrefixes acc base) := by
  unfold mergePrefixes
  induction base generalizing acc with
  | nil => exact h
  | cons x base ih =>
    simp only [List.foldl_cons]
    cases hx : Map.get acc x.1 with
    | some u => exact ih h
    | none => exact ih (h.snoc hx)

theorem foldl_mergePrefixes_nodup {γ : Type} (f : γ → List (Name × Trait)) {bases : List γ}
    {own : List (Name × Trait)} (h : NodupKeys own) :
    NodupKeys (bases.foldl (fun acc b => mergePrefixes acc (f b)) own) := by
  induction bases generalizing own with
  | nil => exact h
  | cons b bases ih => exact ih (mergePrefixes_nodup h)

end TraitsVerif.Model.Resolve
