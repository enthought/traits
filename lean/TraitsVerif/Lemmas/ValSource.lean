/-
Provenance of exceptions other than TraitError (C01_passthrough): a validator
raises only what one of the things it calls out to raised.

Two sets of sources.  `Src2` is what the property statement allows plus the two
documented user callbacks; it holds for what assignment runs (`ctraitValidate`)
after the repairs of F45 (BaseEnum guards its containment check) and F48 (a
compound member without validate method accepts), provided Base* classes wrap
plain trait types (`realBase`).  `Src` adds what the Python `validate` methods of
the legacy handlers can let out (`==` of the value, a user validator function,
"NoneType is not callable") and holds of every term of the model, Python
methods included.
-/
import TraitsVerif.Lemmas.ValSound
namespace TraitsVerif.Model.Val
open TraitsVerif TraitsVerif.Py.Value

/-- The sources the property statement allows (first four) plus the two
documented user callbacks. -/
def Src2 (E : Env) (e : Exc) : Prop :=
  (∃ x, index x = .error e) ∨ (∃ x, asDouble x = .error e) ∨ (∃ x, asComplex x = .error e) ∨
  (∃ t x, E.cast t x = .error e) ∨ (∃ x c, E.adapt x c = .error e) ∨ (∃ f x, E.pred f x = .error e)

/-- `e` was raised by something the validators call: the value's `__index__` /
`__float__` / `__complex__` (or the int → float overflow inside them), a type
constructor, `adapt`, a user validator function, an `==` of the value — or it is
the TypeError of calling the missing validate method of an `Any` member. -/
def Src (E : Env) (e : Exc) : Prop :=
  (∃ x, index x = .error e) ∨ (∃ x, asDouble x = .error e) ∨ (∃ x, asComplex x = .error e) ∨
  (∃ t x, E.cast t x = .error e) ∨ (∃ x c, E.adapt x c = .error e) ∨
  (∃ m x, Val.pyEq m x = .raises e) ∨ (∃ f x, E.fn f x = .error e) ∨ (∃ f x, E.pred f x = .error e) ∨
  e = .typeError

def Res.RaisesOnly (S : Exc → Prop) (r : Res) : Prop := ∀ e, r = .raised e → S e

variable {E : Env}

theorem Src2.ofIndex {e : Exc} {x : Val} (h : asInteger x = .error e) : Src2 E e := by
  unfold asInteger at h
  split at h
  · cases h
  · cases hi : index x <;> rw [hi] at h <;> cases h
    exact Or.inl ⟨x, hi⟩

theorem Src2.ofDouble {e : Exc} {x : Val} (h : validateFloat x = .error e) : Src2 E e := by
  unfold validateFloat at h
  split at h
  · cases h
  · cases hi : asDouble x <;> rw [hi] at h <;> cases h
    exact Or.inr (Or.inl ⟨x, hi⟩)

theorem Src2.ofComplex {e : Exc} {x : Val} (h : validateComplexNumber x = .error e) : Src2 E e := by
  unfold validateComplexNumber at h
  split at h
  · cases h
  · cases hi : asComplex x <;> rw [hi] at h <;> cases h
    exact Or.inr (Or.inr (Or.inl ⟨x, hi⟩))

theorem Src2.ofCast {e : Exc} {t : Ty} {x : Val} (h : E.cast t x = .error e) : Src2 E e :=
  Or.inr (Or.inr (Or.inr (Or.inl ⟨t, x, h⟩)))
theorem Src2.ofAdapt {e : Exc} {x : Val} {c : Ty} (h : E.adapt x c = .error e) : Src2 E e :=
  Or.inr (Or.inr (Or.inr (Or.inr (Or.inl ⟨x, c, h⟩))))
theorem Src2.ofPred {e : Exc} {f : Nat} {x : Val} (h : E.pred f x = .error e) : Src2 E e :=
  Or.inr (Or.inr (Or.inr (Or.inr (Or.inr ⟨f, x, h⟩))))

theorem Src2.src {e : Exc} (h : Src2 E e) : Src E e := by
  rcases h with h | h | h | h | h | h
  · exact .inl h
  · exact .inr (.inl h)
  · exact .inr (.inr (.inl h))
  · exact .inr (.inr (.inr (.inl h)))
  · exact .inr (.inr (.inr (.inr (.inl h))))
  · exact .inr (.inr (.inr (.inr (.inr (.inr (.inr (.inl h)))))))

theorem Src.ofContains {vals : List Val} {v : Val} {e : Exc} (h : seqContains vals v = .raises e) : Src E e := by
  induction vals with
  | nil => cases h
  | cons m ms ih =>
    rw [seqContains] at h
    cases hm : Val.pyEq m v with
    | yes => rw [hm] at h; cases h
    | no => rw [hm] at h; exact ih h
    | raises e' => rw [hm] at h; cases h; exact Or.inr (Or.inr (Or.inr (Or.inr (Or.inr (Or.inl ⟨m, v, hm⟩)))))

theorem Src.ofFn {e : Exc} {f : Nat} {x : Val} (h : E.fn f x = .error e) : Src E e :=
  Or.inr (Or.inr (Or.inr (Or.inr (Or.inr (Or.inr (Or.inl ⟨f, x, h⟩))))))
theorem Src.typeError : Src E .typeError :=
  Or.inr (Or.inr (Or.inr (Or.inr (Or.inr (Or.inr (Or.inr (Or.inr rfl)))))))

theorem dictFind_err {keys : List Val} {v : Val} {e : Exc} (h : dictFind keys v = .error e) : e = .typeError := by
  unfold dictFind at h
  split at h <;> cases h; rfl

/-! ## Leaves -/

/-- The compiled validators (everything but the tuple check, which needs the
inner traits): every arm that ends in `.raised e` has the failed call in scope. -/
theorem fastAlone_raisesOnly (d : Desc) (v : Val) (ha : d.isAlt = true)
    (hnt : ∀ items, d ≠ .tuple items) : (fastAlone E d v).RaisesOnly (Src2 E) := by
  intro e h
  cases d
  case complex | python | slow => cases ha
  case tuple items => exact absurd rfl (hnt items)
  case int => exact Src2.ofIndex (Res.ofNumeric_raised (show Res.ofNumeric (asInteger v) = _ from h))
  case float => exact Src2.ofDouble (Res.ofNumeric_raised (show Res.ofNumeric (validateFloat v) = _ from h))
  case complexNumber =>
    exact Src2.ofComplex (Res.ofNumeric_raised (show Res.ofNumeric (validateComplexNumber v) = _ from h))
  case floatRange => rw [fastAlone_floatRange] at h; exact Src2.ofDouble (Res.ofNumeric_raised h)
  case coerce ty rest =>
    unfold fastAlone at h
    repeat' split at h
    all_goals cases h
    exact Src2.ofCast ‹_›
  case adapt cls mode an dflt =>
    unfold fastAlone at h
    repeat' split at h
    all_goals cases h
    exact Src2.ofAdapt ‹_›
  all_goals
    unfold fastAlone at h
    repeat' split at h
    all_goals cases h

/-- False for the atomic trait types whose PYTHON validate can let something
foreign out (`==` of the value, a user validator function, calling a missing method). -/
def TraitType.noForeign : TraitType → Bool
  | .enumH _ | .functionH _ | .any | .module => false
  | _ => true

theorem pyValidate_raisesOnly_atomic (t : TraitType) (v : Val) (hs : t.subs = none) (hn : t.isNoFast = false)
    (hf : t.noForeign = true) : (pyValidate E t v).RaisesOnly (Src2 E) := by
  intro e h
  cases t <;> cases hs <;> cases hn <;> cases hf
  -- BaseInt / BaseFloat / BaseComplex .validate are the compiled validators word for word
  case int => exact fastAlone_raisesOnly .int v rfl (fun _ h => nomatch h) e h
  case float => exact fastAlone_raisesOnly .float v rfl (fun _ h => nomatch h) e h
  case complex => exact fastAlone_raisesOnly .complexNumber v rfl (fun _ h => nomatch h) e h
  case rangeF => rw [pyValidate_rangeF] at h; exact Src2.ofDouble (Res.ofNumeric_raised h)
  case rangeI => rw [pyValidate_rangeI] at h; exact Src2.ofIndex (Res.ofNumeric_raised h)
  case bool | cint | cfloat | ccomplex | coerceH =>
    simp only [pyValidate, pyCastNumeric, pyCoerceValidate] at h
    repeat' split at h
    all_goals cases h
    all_goals exact Src2.ofCast ‹_›
  case «instance» =>
    simp only [pyValidate, pyInstanceValidate] at h
    repeat' split at h
    all_goals cases h
    exact Src2.ofAdapt ‹_›
  case map =>
    simp only [pyValidate, pyMapValidate] at h
    repeat' split at h
    all_goals cases h
    exact absurd (dictFind_err ‹_›) ‹_›
  all_goals
    simp only [pyValidate, pyCastAny, pySafeEnumValidate, stringValidate, completeValue, stringRun, arrayValidate] at h
    repeat' split at h
    all_goals cases h

/-- All atomic trait types; the four `noForeign` excludes raise what `Src` adds. -/
theorem pyValidate_raisesOnly_src_atomic (t : TraitType) (v : Val) (hs : t.subs = none) (hn : t.isNoFast = false) :
    (pyValidate E t v).RaisesOnly (Src E) := by
  by_cases hf : t.noForeign = true
  · exact fun e h => (pyValidate_raisesOnly_atomic t v hs hn hf e h).src
  · intro e h
    cases t <;> first | exact absurd rfl hf | skip
    case any | module => cases h; exact Src.typeError
    case enumH vals =>
      simp only [pyValidate, pyEnumValidate] at h
      cases hc : seqContains vals v <;> rw [hc] at h <;> cases h
      exact Src.ofContains hc
    case functionH f =>
      simp only [pyValidate] at h
      cases hc : E.fn f v with
      | ok w => rw [hc] at h; cases h
      | error e' => rw [hc] at h; cases e' <;> cases h <;> exact Src.ofFn hc

/-! ## Through tuples, unions and compounds -/

mutual
/-- Every Base* class (`noFast t`), at every depth, wraps an atomic trait type
whose Python validate lets nothing foreign out (`noForeign`): not a compound, a
tuple, a Union or another Base* class. -/
def TraitType.realBase : TraitType → Bool
  | .tuple items => realBaseL items
  | .baseTuple items => realBaseL items
  | .validatedTuple items _ => realBaseL items
  | .either alts _ => realBaseL alts
  | .union alts => realBaseL alts
  | .compoundH hs => realBaseL hs
  | .noFast t => t.subs.isNone && !t.isNoFast && t.noForeign
  | _ => true
def realBaseL : List TraitType → Bool
  | [] => true
  | t :: ts => t.realBase && realBaseL ts
end

theorem realBaseL_mem {ts : List TraitType} : realBaseL ts = true → ∀ t ∈ ts, t.realBase = true :=
  forall_mem_of_and fun _ _ => rfl

theorem Res.raisesOnly_raised {S : Exc → Prop} {e : Exc} (h : S e) : (Res.raised e).RaisesOnly S := by
  rintro _ ⟨⟩; exact h

theorem tuple_raisesOnly {S : Exc → Prop} {ts : List TraitType}
    (ih : ∀ t' ∈ ts, ∀ v, (ctraitValidate E t' v).RaisesOnly S) (v : Val) :
    (fastAlone E (.tuple (ctraitDescL E ts)) v).RaisesOnly S ∧ (pyValidate E (.tuple ts) v).RaisesOnly S := by
  refine tuple_of (fun _ h => nomatch h) (fun vs e h => ?_) (fun _ _ _ _ _ _ _ _ h => nomatch h)
  obtain ⟨t', ht', b, hb⟩ := ctraitValidateL_raised E ts vs e h
  exact Res.raisesOnly_raised (ih t' ht' b e hb)

/-- What assignment runs for a trait type with members raises what the members'
validators raise, and what `fvalidate` of a ValidatedTuple raises. -/
theorem ctraitValidate_raisesOnly_node {S : Exc → Prop} (hpred : ∀ f x e, E.pred f x = .error e → S e)
    (t : TraitType) (ts : List TraitType) (hs : t.subs = some ts)
    (ih : ∀ t' ∈ ts, ∀ v, (ctraitValidate E t' v).RaisesOnly S) (v : Val) : (ctraitValidate E t v).RaisesOnly S := by
  have either : ∀ wn, (ctraitValidate E (.either ts wn) v).RaisesOnly S := fun wn =>
    ctraitValidate_either_of (fun _ h => nomatch h) (fun t' ht' => ih t' ht' v) fun _ e h => by
      unfold fastAlone at h; split at h <;> cases h
  have seq : ∀ fv, (pyValidate E (.validatedTuple ts fv) v).RaisesOnly S := fun fv =>
    validatedTuple_of (fun _ h => nomatch h) (fun f x e h => Res.raisesOnly_raised (hpred f x e h))
      (fun _ _ _ _ _ _ _ h => nomatch h)
  cases t <;> cases hs
  case tuple => exact (tuple_raisesOnly ih v).1
  case baseTuple =>
    show (pyValidate E (.baseTuple ts) v).RaisesOnly S
    rw [pyValidate_baseTuple]; exact seq none
  case validatedTuple fv => exact seq fv
  case union => exact ctraitValidate_union_of (fun _ h => nomatch h) fun t' ht' => ih t' ht' v
  case either wn => exact either wn
  case compoundH => exact ctraitValidate_compoundH E ts v ▸ either false

/-- What assignment runs is the compiled validator, else the Python method, else nothing. -/
theorem ctraitValidate_raisesOnly {S : Exc → Prop} (t : TraitType) (v : Val)
    (hfast : ∀ d, descOf E t = some d → (fastAlone E d v).RaisesOnly S)
    (hpy : descOf E t = none → hasPy t = true → (pyValidate E t v).RaisesOnly S) :
    (ctraitValidate E t v).RaisesOnly S := by
  cases hd : descOf E t with
  | some d => rw [ctraitValidate_of_some E v hd]; exact hfast d hd
  | none =>
    rw [ctraitValidate_of_none E v hd]
    split
    · exact hpy hd ‹_›
    · exact fun _ h => nomatch h

variable (E)

theorem srcP2_all : ∀ t : TraitType, t.realBase = true → ∀ v, (ctraitValidate E t v).RaisesOnly (Src2 E) := by
  refine TraitType.induct (fun t hs hn _ v => ?_) (fun t _ hb v => ?_) fun t ts hs ih hb v => ?_
  · refine ctraitValidate_raisesOnly t v
      (fun d hd => fastAlone_raisesOnly d v (descOf_leaf E t d hs hd).1 (descOf_leaf E t d hs hd).2)
      fun hd hp => pyValidate_raisesOnly_atomic t v hs hn ?_
    -- the Python methods that let something foreign out belong to handlers with a descriptor
    cases t <;> try rfl
    case any | module => cases hp
    case enumH | functionH => cases hd
  · simp only [TraitType.realBase, Bool.and_eq_true, Option.isNone_iff_eq_none, Bool.not_eq_true'] at hb
    exact ctraitValidate_raisesOnly (.noFast t) v (fun _ hd => nomatch hd)
      fun _ _ => pyValidate_raisesOnly_atomic t v hb.1.1 hb.1.2 hb.2
  · have hb : realBaseL ts = true := by cases t <;> cases hs <;> exact hb
    exact ctraitValidate_raisesOnly_node (fun _ _ _ => Src2.ofPred) t ts hs
      (fun t' ht' => ih t' ht' (realBaseL_mem hb t' ht')) v

variable {E} in
/-- `ctraitValidate_raisesOnly_node` with the Python `validate` method beside it, for `Src`. -/
theorem raisesOnly_node (t : TraitType) (ts : List TraitType) (hs : t.subs = some ts)
    (ih : ∀ t' ∈ ts, ∀ v, (ctraitValidate E t' v).RaisesOnly (Src E) ∧ (pyValidate E t' v).RaisesOnly (Src E))
    (v : Val) : (ctraitValidate E t v).RaisesOnly (Src E) ∧ (pyValidate E t v).RaisesOnly (Src E) := by
  have ct := ctraitValidate_raisesOnly_node (fun _ _ _ h => (Src2.ofPred h).src) t ts hs
    (fun t' ht' v => (ih t' ht' v).1) v
  have either : ∀ wn, (pyValidate E (.either ts wn) v).RaisesOnly (Src E) := fun wn =>
    pyValidate_either_of (fun _ h => nomatch h) (fun t' ht' => (ih t' ht' v).2) (fun t' ht' => (ih t' ht' v).1)
      fun _ e h => by
        unfold pyEnumValidate at h
        cases hc : seqContains [Val.none] v <;> rw [hc] at h <;> cases h
        exact Src.ofContains hc
  refine ⟨ct, ?_⟩
  cases t <;> cases hs
  case tuple => exact (tuple_raisesOnly (fun t' ht' v => (ih t' ht' v).1) v).2
  case either wn => exact either wn
  case compoundH => exact pyValidate_compoundH E ts v ▸ either false
  -- BaseTuple, ValidatedTuple, Union have no descriptor: assignment runs the Python method
  all_goals exact ct

/-- Every exception other than TraitError that a validator of the model raises
has a source: what assignment runs, and the Python `validate` method. -/
theorem srcP_all : ∀ (t : TraitType) (v : Val),
    (ctraitValidate E t v).RaisesOnly (Src E) ∧ (pyValidate E t v).RaisesOnly (Src E) := by
  refine TraitType.induct (fun t hs hn v => ?_) (fun t ih v => ?_) raisesOnly_node
  · have py := pyValidate_raisesOnly_src_atomic (E := E) t v hs hn
    exact ⟨ctraitValidate_raisesOnly t v (fun d hd e h =>
      (fastAlone_raisesOnly d v (descOf_leaf E t d hs hd).1 (descOf_leaf E t d hs hd).2 e h).src) fun _ _ => py, py⟩
  · exact ⟨ctraitValidate_raisesOnly (.noFast t) v (fun _ hd => nomatch hd) fun _ _ => (ih v).2, (ih v).2⟩

end TraitsVerif.Model.Val
