/-
`call_notifiers` (Generated/AttrProg.lean) against `Model.Attr.callNotifiers`.
  `copy_loop`  a loop whose round writes `l[k]` to position `k + off` of the list in variable 11 and touches nothing
               else fills positions `off … off + |l| - 1`; the two copy loops are its instances (trait's list at
               offset 0, object's list behind it): the snapshot is built in a NEW list;
  `loop3`      walking that list (veto test before every call, stop at the first raw exception) is `notifyLoop`
               over the snapshot;
  `tail9`      the three loops composed; `call_notifiers_is_source` adds the prologue (NO_NOTIFY, args tuple,
               lengths, allocation).
-/
import TraitsVerif.Lemmas.AttrSourceMiniC
namespace TraitsVerif.Lemmas.AttrSource
open TraitsVerif TraitsVerif.Model.Attr TraitsVerif.Model.MiniC
open TraitsVerif.Generated

def cnBody : Stmt := AttrProg.call_notifiers.body
def cnTail (k : Nat) : Stmt := tailN k cnBody
def bodyOf : Stmt → Stmt
  | .forRange _ _ b => b
  | s => s
/-- bodies of the three loops of `call_notifiers` -/
def cnB1 : Stmt := bodyOf (nthS 9 cnBody)
def cnB2 : Stmt := bodyOf (nthS 10 cnBody)
def cnB3 : Stmt := bodyOf (nthS 11 cnBody)

theorem vflag_test (b : Bool) : testFlag (if b then HASTRAITS_VETO_NOTIFY else 0) HASTRAITS_VETO_NOTIFY = b := by
  cases b <;> decide

/-- A copy loop: if one round of `body` writes `l[k]` to position `k + off` of the list in variable 11 and changes
nothing else than its own two variables (`st xs i item` is the machine state as a function of these three), then rounds
`k … k + r - 1` replace the `r` entries behind the first `k + off` by the rest of `l`. -/
theorem copy_loop (body : MS → MS × Flow) (st : List (Option (Notifier × Loc)) → Val → Val → MS)
    (hset : ∀ xs a b (k : Nat), { st xs a b with vars := setVar (st xs a b).vars 12 (.int k) } = st xs (.int k) b)
    (l : List Notifier) (loc : Loc) (off : Nat)
    (hstep : ∀ xs b (k : Nat) (hk : k < l.length), k + off < xs.length →
      body (st xs (.int k) b) = (st (xs.set (k + off) (some (l[k], loc))) (.int k) (.item l[k] loc), .next)) :
    ∀ (r k : Nat) (A B D : List (Option (Notifier × Loc))) a b, k + r = l.length → A.length = k + off → B.length = r →
      ∃ b', loop body 12 k r (st (A ++ (B ++ D)) a b)
        = (st (A ++ ((l.drop k).map (fun n => some (n, loc)) ++ D)) (.int (k + r : Nat)) b', .next) := by
  intro r
  induction r with
  | zero =>
    intro k A B D a b hk hA hB
    obtain rfl := List.eq_nil_of_length_eq_zero hB
    exact ⟨b, by rw [loop, hset, List.drop_eq_nil_of_le (by omega)]; rfl⟩
  | succ r ih =>
    intro k A B D a b hk hA hB
    obtain ⟨y, B, rfl⟩ := List.exists_cons_of_length_eq_add_one hB
    have hk' : k < l.length := by omega
    obtain ⟨b', h⟩ := ih (k + 1) (A ++ [some (l[k], loc)]) B D (.int k) (.item l[k] loc) (by omega) (by simp; omega)
      (by simpa using hB)
    refine ⟨b', ?_⟩
    rw [loop, hset, hstep _ b k hk' (by simp; omega), ← hA, List.set_append_right _ _ (Nat.le_refl _), Nat.sub_self,
      List.drop_eq_getElem_cons hk']
    simpa only [List.append_assoc, List.cons_append, List.nil_append, List.set_cons_zero, List.map_cons,
      Nat.add_right_comm k 1 r, ← Nat.add_assoc] using h

theorem e9 : cnTail 9 = .seq (.forRange 12 (.var 9) cnB1) (.seq (.forRange 12 (.var 10) cnB2)
    (.seq (.forRange 12 (.bin .add (.var 9) (.var 10)) cnB3) (.ret (.var 6)))) := rfl

/-- the value of `new_value_has_traits && (new_value->flags & HASTRAITS_VETO_NOTIFY)` -/
theorem land_val (a b : Bool) :
    (if a = true then (if b = true then (1 : Int) else 0) else 0) = if (a && b) = true then 1 else 0 := by
  cases a <;> cases b <;> rfl

/-- One round of the dispatch loop: the veto test, then the `k`-th notifier of the private list. -/
theorem step3 (C : IC) (hveto : ∀ v, C.E.veto v = (C.isHT v && C.vflag v)) (old new : Id)
    (xs : List (Option (Notifier × Loc))) (k : Nat) (n : Notifier) (loc : Loc) (hxk : xs[k]? = some (some (n, loc)))
    (v0 v1 v2 v3 v4 v9 v10 a13 a14 : Val) (s : OSt) (dn idn : Bool) :
    exec C cnB3 ⟨ofList [v0, v1, v2, v3, v4, .obj new, .int 0, .args4 old new, .int (if C.isHT new then 1 else 0),
        v9, v10, .items xs, .int k, a13, a14], s, dn, idn, none⟩
      = if C.E.veto new then
          (⟨ofList [v0, v1, v2, v3, v4, .obj new, .int 0, .args4 old new, .int (if C.isHT new then 1 else 0),
            v9, v10, .items xs, .int k, a13, a14], s, dn, idn, none⟩, .broke)
        else match callWrapper C.E C.t n loc old new s with
          | (none, s1) =>
            (⟨ofList [v0, v1, v2, v3, v4, .obj new, .int 0, .args4 old new, .int (if C.isHT new then 1 else 0),
              v9, v10, .items xs, .int k, a13, .obj noneId], s1, dn, idn, none⟩, .next)
          | (some e, s1) =>
            (⟨ofList [v0, v1, v2, v3, v4, .obj new, .int (-1), .args4 old new, .int (if C.isHT new then 1 else 0),
              v9, v10, .items xs, .int k, a13, .null], s1, dn, idn, some e⟩, .broke) := by
  simp [cnB3, bodyOf, nthS, cnBody, AttrProg.call_notifiers, land_val, ← hveto]
  cases C.E.veto new <;> simp [hxk]
  rcases callWrapper C.E C.t n loc old new s with ⟨_ | e, s1⟩ <;> simp

theorem loop3 (C : IC) (hveto : ∀ v, C.E.veto v = (C.isHT v && C.vflag v)) (old new : Id)
    (snap : List (Notifier × Loc)) (v0 v1 v2 v3 v4 v9 v10 : Val) (dn idn : Bool) :
    ∀ (r k : Nat) (s : OSt) (a12 a13 a14 : Val), k + r = snap.length →
      ∃ ms', loop (exec C cnB3) 12 k r ⟨ofList [v0, v1, v2, v3, v4, .obj new, .int 0, .args4 old new,
          .int (if C.isHT new then 1 else 0), v9, v10, .items (snap.map some), a12, a13, a14], s, dn, idn, none⟩
          = (ms', .next) ∧
        (ms'.vars 6, ms'.s, ms'.err) = ofInt (notifyLoop C.E C.t old new (snap.drop k) s) := by
  intro r
  induction r with
  | zero =>
    intro k s a12 a13 a14 hk
    have : snap.drop k = [] := by simp; omega
    exact ⟨_, rfl, by simp [this, notifyLoop]⟩
  | succ r ih =>
    intro k s a12 a13 a14 hk
    have hk' : k < snap.length := by omega
    have hd : snap.drop k = snap[k] :: snap.drop (k + 1) := by simp
    rw [hd, loop, notifyLoop]
    simp only [setVar_ofList, setL]
    rw [step3 C hveto old new _ k snap[k].1 snap[k].2 (by rw [List.getElem?_map, List.getElem?_eq_getElem hk']; rfl)]
    cases C.E.veto new
    · rcases callWrapper C.E C.t snap[k].1 snap[k].2 old new s with ⟨_ | e, s1⟩
      · exact ih (k + 1) s1 _ _ _ (by omega)
      · exact ⟨_, rfl, by simp⟩
    · exact ⟨_, rfl, by simp⟩

theorem tail9 (C : IC) (hveto : ∀ v, C.E.veto v = (C.isHT v && C.vflag v)) (tn on : Option (List Notifier))
    (old new : Id) (s : OSt) (dn idn : Bool) (xs : List (Option (Notifier × Loc))) (a12 a13 a14 : Val)
    (hlen : xs.length = (tn.getD []).length + (on.getD []).length) :
    outOf (exec C (cnTail 9) ⟨ofList [nlv tn .t, nlv on .o, .self, .name, .obj old, .obj new, .int 0, .args4 old new,
        .int (if C.isHT new then 1 else 0), .int ((tn.getD []).length : Nat), .int ((on.getD []).length : Nat),
        .items xs, a12, a13, a14], s, dn, idn, none⟩)
      = ofInt (notifyLoop C.E C.t old new (snapshot tn on) s) := by
  -- both copy loops leave all but variables 11 to 13 alone
  have cl := fun body => copy_loop body
    (fun xs a b => ⟨ofList [nlv tn .t, nlv on .o, .self, .name, .obj old, .obj new, .int 0, .args4 old new,
      .int (if C.isHT new then 1 else 0), .int ((tn.getD []).length : Nat), .int ((on.getD []).length : Nat),
      .items xs, a, b, a14], s, dn, idn, none⟩) (fun _ _ _ _ => by simp)
  obtain ⟨b1, hl1⟩ := cl (exec C cnB1) (tn.getD []) .t 0
    (fun xs b k hk hx => by
      cases tn with
      | none => simp at hk
      | some l =>
        simp only [Option.getD_some] at hk
        simp [cnB1, bodyOf, nthS, cnBody, AttrProg.call_notifiers, nlv, hk, show k < xs.length from hx])
    (tn.getD []).length 0 [] (xs.take (tn.getD []).length) (xs.drop (tn.getD []).length) a12 a13 (by omega) rfl
    (by simp; omega)
  obtain ⟨b2, hl2⟩ := cl (exec C cnB2) (on.getD []) .o (tn.getD []).length
    (fun xs b k hk hx => by
      cases on with
      | none => simp at hk
      | some l =>
        simp only [Option.getD_some] at hk
        have e1 : ((k : Int) + ((tn.getD []).length : Int)).toNat = k + (tn.getD []).length := by omega
        have e2 : (0 : Int) ≤ (k : Int) + ((tn.getD []).length : Int) := by omega
        simp [cnB2, bodyOf, nthS, cnBody, AttrProg.call_notifiers, nlv, hk, e1, e2, hx])
    (on.getD []).length 0 ((tn.getD []).map (some ⟨·, .t⟩)) (xs.drop (tn.getD []).length) []
    (.int ((tn.getD []).length : Nat)) b1 (by omega) (by simp) (by simp; omega)
  obtain ⟨ms3, hl3, hr3⟩ := loop3 C hveto old new (snapshot tn on) (nlv tn .t) (nlv on .o) .self .name (.obj old)
    (.int ((tn.getD []).length : Nat)) (.int ((on.getD []).length : Nat)) dn idn (snapshot tn on).length 0 s
    (.int ((on.getD []).length : Nat)) b2 a14 (by omega)
  simp only [List.nil_append, List.take_append_drop, List.drop_zero, Nat.zero_add, List.append_nil] at hl1 hl2
  simp [snapshot, Function.comp_def] at hl3
  rw [e9]
  simp [hl1, hl2, hl3]
  simpa using hr3

theorem e0cn : cnTail 0 = .seq (nthS 0 cnBody) (.seq (nthS 1 cnBody) (.seq (nthS 2 cnBody) (.seq (nthS 3 cnBody)
    (.seq (nthS 4 cnBody) (.seq (nthS 5 cnBody) (.seq (nthS 6 cnBody) (.seq (nthS 7 cnBody) (.seq (nthS 8 cnBody)
    (cnTail 9))))))))) := rfl

/-- `len = list != NULL ? PyList_GET_SIZE(list) : 0` is the length of `o.getD []` -/
theorem exec_sizeIf (C : IC) (ms : MS) (i j : Nat) (o : Option (List Notifier)) (loc : Loc)
    (hi : eval C (.var i) ms = (nlv o loc, ms)) :
    exec C (.ifS (.bin .ne (.var i) .null) (.expr (.assign j (.call .PyList_GET_SIZE [.var i])))
        (.expr (.assign j (.intLit 0)))) ms
      = ({ ms with vars := setVar ms.vars j (.int ((o.getD []).length : Nat)) }, .next) := by
  cases o <;> simp_all [nlv]

theorem call_notifiers_is_source (C : IC) (hveto : ∀ v, C.E.veto v = (C.isHT v && C.vflag v))
    (tn on : Option (List Notifier)) (old new : Id) (s : OSt) (dn idn : Bool) :
    call C AttrProg.call_notifiers [nlv tn .t, nlv on .o, .self, .name, .obj old, .obj new] s dn idn
      = ofInt (callNotifiers C.E C.t tn on old new s) := by
  rw [call_eq C _ _ s dn idn rfl, bindArgs_zero, ← ofList_append_stuck _ 9]
  show outOf (exec C (cnTail 0) _) = _
  rw [e0cn]
  unfold callNotifiers
  cases hnn : s.noNotify <;> simp [nthS, cnBody, AttrProg.call_notifiers, hnn,
    ↓exec_sizeIf (o := tn) (loc := .t), ↓exec_sizeIf (o := on) (loc := .o)]
  exact tail9 C hveto tn on old new s dn idn _ _ _ _ (by simp; omega)
end TraitsVerif.Lemmas.AttrSource
