/-
The reference ledger (`Model/RefLedger`): how `PyDict_SetItem` and `PyDict_DelItem` move the references
`obj.__dict__` holds, each as one equation over `Nat` with the conditions counted by `b2n`; that the attribute
operations write nothing but the dict; what a successful `setattr_trait` leaves in it; the loop invariant of the
tuple validator.
-/
import TraitsVerif.Model.RefLedger
namespace TraitsVerif.Lemmas.Ledger
open TraitsVerif TraitsVerif.Model.RefLedger

theorem lookup_cons (e : Slot) (es : List Slot) (m : String) :
    lookup (e :: es) m = if e.name = m then some e.val else lookup es m := by
  by_cases h : e.name = m <;> simp [lookup, h]

/-- `[p]` as a number. -/
def b2n (p : Prop) [Decidable p] : Nat := if p then 1 else 0

/-- The key object the dict keeps for `name`. -/
def keyOf (d : List Slot) (name : String) : Option Id :=
  match d.find? (fun e => e.name = name) with
  | some e => some e.key
  | none => none

theorem b2n_some (a b : Id) : b2n (some a = some b) = b2n (a = b) := by simp [b2n]

theorem b2n_of_not {p : Prop} [Decidable p] (h : ¬ p) : b2n p = 0 := by simp [b2n, h]

theorem keyOf_cons (e : Slot) (es : List Slot) (m : String) :
    keyOf (e :: es) m = if e.name = m then some e.key else keyOf es m := by
  by_cases h : e.name = m <;> simp [keyOf, h]

theorem heldBy_cons (e : Slot) (d : List Slot) (id : Id) :
    heldBy (e :: d) id = b2n (e.val = id) + b2n (e.key = id) + heldBy d id := by
  unfold heldBy b2n
  simp only [List.filter_cons]
  by_cases h1 : e.val = id <;> by_cases h2 : e.key = id <;> simp [h1, h2] <;> omega

/-- `PyDict_SetItem`: the value reference of the slot moves from the old value
to the new one; the key object gains a reference only when the entry is new. -/
theorem heldBy_dictSet (name : String) (key v id : Id) (d : List Slot) :
    heldBy (dictSet d name key v) id + b2n (lookup d name = some id)
      = heldBy d id + b2n (v = id) + b2n (lookup d name = none ∧ key = id) := by
  fun_induction dictSet d name key v with
  | case1 name key v =>
    have : lookup [] name = none := rfl
    simp only [heldBy_cons, this, b2n_of_not (p := none = some id) nofun, true_and]
    omega
  -- the entry for `name`: its value is replaced, its key object stays
  | case2 e es key v =>
    simp only [heldBy_cons, lookup_cons, ↓reduceIte, b2n_some, b2n_of_not (p := some e.val = none ∧ key = id) (by simp)]
    omega
  | case3 e es name key v hn ih =>
    simp only [heldBy_cons, lookup_cons, hn, ↓reduceIte]
    omega

theorem lookup_dictSet_same (name : String) (key v : Id) (d : List Slot) :
    lookup (dictSet d name key v) name = some v := by
  fun_induction dictSet d name key v with
  | case1 => simp [lookup_cons]
  | case2 => simp [lookup_cons]
  | case3 e es name key v hn ih => simp [lookup_cons, hn, ih]

theorem lookup_dictSet_other (name m : String) (key v : Id) (h : m ≠ name) (d : List Slot) :
    lookup (dictSet d name key v) m = lookup d m := by
  fun_induction dictSet d name key v with
  | case1 => simp [lookup_cons, Ne.symm h]
  | case2 => simp [lookup_cons, Ne.symm h]
  | case3 e es name key v hn ih => simp [lookup_cons, ih h]

/-- Setting a slot twice is setting it once: the first value leaves no trace, and the key object of a new entry is
the one the first `PyDict_SetItem` put there. -/
theorem dictSet_dictSet (name : String) (key old v : Id) (d : List Slot) :
    dictSet (dictSet d name key old) name key v = dictSet d name key v := by
  fun_induction dictSet d name key old with
  | case1 => simp [dictSet]
  | case2 => simp [dictSet]
  | case3 e es name key old hn ih => simp [dictSet, hn, ih]

/-- `PyDict_DelItem`: the slot's two references are released. -/
theorem heldBy_dictDel (name : String) (id : Id) :
    ∀ d : List Slot,
      heldBy (dictDel d name) id + b2n (lookup d name = some id) + b2n (keyOf d name = some id)
        = heldBy d id := by
  intro d
  fun_induction dictDel d name with
  | case1 => simp [lookup, keyOf, b2n, heldBy]
  | case2 e es =>
    simp only [heldBy_cons, lookup_cons, keyOf_cons, ↓reduceIte, b2n_some]
    omega
  | case3 e es name hn ih =>
    simp only [heldBy_cons, lookup_cons, keyOf_cons, hn, ↓reduceIte]
    omega

theorem lookup_dictDel_other (name m : String) (h : m ≠ name) :
    ∀ d : List Slot, lookup (dictDel d name) m = lookup d m := by
  intro d
  fun_induction dictDel d name with
  | case1 => rfl
  | case2 => simp [lookup_cons, Ne.symm h]
  | case3 e es name hn ih => simp [lookup_cons, ih h]

/-! ### The operations -/

theorem setFinish_ok {E : Env} {c : TraitCfg} {s s' : St} {name : String} {key v value : Id}
    {old : Option Id} {d p : Nat}
    (h : setFinish E c s name key v value old d p = (none, s')) :
    s' = { s with dict := dictSet s.dict name key (storedOf c v value) } := by
  unfold setFinish at h
  split at h
  · cases h
  · exact (Prod.mk.inj h).2.symm

section frame
variable (E : Env) (c : TraitCfg) (s : St) (name : String) (key : Id)

/-- However an operation ends, it writes nothing but the dict: `stray`, the notifier flags and `noNotify` are as
before. -/
theorem setFinish_frame (v value : Id) (old : Option Id) (d p : Nat) :
    ∃ dict, (setFinish E c s name key v value old d p).2 = { s with dict := dict } := by
  unfold setFinish
  split <;> exact ⟨_, rfl⟩

theorem getattrTrait_frame (d p n : Nat) :
    ∃ dict, (getattrTrait E c s name key d p n).2.2 = { s with dict := dict } := by
  unfold getattrTrait
  split
  · exact ⟨_, rfl⟩
  · split <;> exact ⟨_, rfl⟩

theorem setattrTrait_frame (v : Id) :
    ∃ dict, (setattrTrait E c s name key v).2 = { s with dict := dict } := by
  fun_cases setattrTrait E c s name key v
  -- the validator raises
  · exact ⟨_, rfl⟩
  -- the old value is in the dict
  · exact setFinish_frame ..
  -- it is not: the default factory raises; the name cannot be hashed; `post_setattr` of the default raises
  · exact ⟨_, rfl⟩
  · exact ⟨_, rfl⟩
  · exact ⟨_, rfl⟩
  -- the default is stored as the old value
  · exact setFinish_frame E c { s with dict := _ } ..
  -- no old value is needed
  · exact setFinish_frame ..

theorem delattrTrait_frame :
    ∃ dict, (delattrTrait E c s name key).2 = { s with dict := dict } := by
  have fr := getattrTrait_frame E c { s with dict := dictDel s.dict name } name key 0 0 0
  fun_cases delattrTrait E c s name key
  -- nothing stored
  · exact ⟨_, rfl⟩
  -- the slot is deleted and the trait read again: the three outcomes of `getattr_trait`
  · rename_i hg; rwa [hg] at fr
  · rename_i hg; rwa [hg] at fr
  · rename_i hg; rwa [hg] at fr
  -- no notifier: the slot is deleted
  · exact ⟨_, rfl⟩

theorem step_frame (op : Op) : ∃ dict, (step E c s op).2 = { s with dict := dict } := by
  cases op with
  | set name key v => exact setattrTrait_frame ..
  | del name key => exact delattrTrait_frame ..
  | get name key =>
    simp only [step, getattr]
    split
    · exact ⟨_, rfl⟩
    · exact getattrTrait_frame ..

end frame

/-- The dict after a successful assignment: one `PyDict_SetItem` on the slot.  When the old value had to be
produced, the default was materialised in the same slot first and is overwritten (`dictSet_dictSet`). -/
theorem setattrTrait_ok {E : Env} {c : TraitCfg} {s s' : St} {name : String} {key v : Id}
    (h : setattrTrait E c s name key v = (none, s')) :
    ∃ value, (if c.hasValidate then E.validate 0 v else .ok v) = .ok value ∧
      s'.dict = dictSet s.dict name key (storedOf c v value) := by
  revert h
  fun_cases setattrTrait E c s name key v <;> intro h
  -- the validator raises
  · cases h
  -- the old value is in the dict
  · exact ⟨_, ‹_›, congrArg St.dict (setFinish_ok h)⟩
  -- it is not: the default factory raises; the name cannot be hashed; `post_setattr` of the default raises
  · cases h
  · cases h
  · cases h
  -- the default is stored as the old value
  · exact ⟨_, ‹_›, (congrArg St.dict (setFinish_ok h)).trans (dictSet_dictSet ..)⟩
  -- no old value is needed
  · exact ⟨_, ‹_›, congrArg St.dict (setFinish_ok h)⟩

theorem setattrTrait_held {E : Env} {c : TraitCfg} {s s' : St} {name : String} {key v : Id}
    (h : setattrTrait E c s name key v = (none, s')) :
    ∃ value, (if c.hasValidate then E.validate 0 v else .ok v) = .ok value ∧
      lookup s'.dict name = some (storedOf c v value) ∧
      (∀ m, m ≠ name → lookup s'.dict m = lookup s.dict m) ∧
      ∀ id, held s' id + b2n (lookup s.dict name = some id)
        = held s id + b2n (storedOf c v value = id) + b2n (lookup s.dict name = none ∧ key = id) := by
  obtain ⟨value, hv, hd⟩ := setattrTrait_ok h
  refine ⟨value, hv, by rw [hd]; exact lookup_dictSet_same .., fun m hm => ?_, fun id => ?_⟩
  · rw [hd]; exact lookup_dictSet_other _ _ _ _ hm _
  · unfold held
    rw [hd]
    exact heldBy_dictSet name key _ id s.dict

/-! ### The tuple validator -/

theorem net_append (a b : List Ev) (id : Id) : net (a ++ b) id = net a id + net b id := by
  simp only [net, List.filter_append, List.length_append]
  omega

theorem net_nil (id : Id) : net [] id = 0 := by simp [net]

theorem net_inc (a id : Id) : net [.inc a] id = if a = id then 1 else 0 := by
  by_cases h : a = id <;> simp [net, h]

theorem net_dec (a id : Id) : net [.dec a] id = if a = id then -1 else 0 := by
  by_cases h : a = id <;> simp [net, h]

theorem net_map_inc (l : List Id) (id : Id) : net (l.map .inc) id = (l.count id : Int) := by
  induction l with
  | nil => simp [net]
  | cons a as ih =>
    have : (a :: as).map Ev.inc = [Ev.inc a] ++ as.map Ev.inc := rfl
    rw [this, net_append, ih, net_inc, List.count_cons]
    by_cases h : a = id <;> simp [h] <;> omega

theorem net_map_dec (l : List Id) (id : Id) : net (l.map .dec) id = -(l.count id : Int) := by
  induction l with
  | nil => simp [net]
  | cons a as ih =>
    have : (a :: as).map Ev.dec = [Ev.dec a] ++ as.map Ev.dec := rfl
    rw [this, net_append, ih, net_dec, List.count_cons]
    by_cases h : a = id <;> simp [h] <;> omega

/-- Loop invariant: the events so far amount, for every object, to the slots of
the tuple under construction (nothing when none has been started). -/
theorem tupleLoop_exact (ev : Nat → Id → Except Exc Id) (value : List Id) (id : Id)
    (bs : List Id) (i : Nat) (t : Option (List Id)) (evs : List Ev) :
    net evs id = ((t.getD []).count id : Int) →
      match (tupleLoop ev value i bs t evs).result with
      | some (some l) => net (tupleLoop ev value i bs t evs).evs id = (l.count id : Int)
      | _ => net (tupleLoop ev value i bs t evs).evs id = 0 := by
  fun_induction tupleLoop ev value i bs t evs with
  -- no item left
  | case1 i t evs => intro h; cases t <;> simpa using h
  -- the element validator raises: the slots filled so far are released
  | case2 i b bs t evs e hv =>
    intro h
    simp only
    rw [net_append, net_map_dec, h]
    omega
  -- a tuple has been started: the new item goes into it
  | case3 i b bs evs a hv evs1 l ih =>
    intro h
    apply ih
    simp only [Option.getD_some] at h ⊢
    rw [net_append, net_inc, h, List.count_append, List.count_cons, List.count_nil]
    by_cases ha : a = id <;> simp [ha]
  -- the first converted item: the tuple is started with the items before it, each INCREF'ed
  | case4 i b bs evs a hv evs1 hab ih =>
    intro h
    apply ih
    simp only [Option.getD_none, List.count_nil, Option.getD_some] at h ⊢
    rw [net_append, net_append, net_inc, net_map_inc, h, List.count_append, List.count_cons, List.count_nil]
    by_cases ha : a = id <;> simp [ha] <;> omega
  -- the item came back unchanged: its new reference is released
  | case5 i b bs evs a hv evs1 hab ih =>
    intro h
    apply ih
    simp only [Option.getD_none, List.count_nil] at h ⊢
    rw [net_append, net_append, net_inc, net_dec, h]
    by_cases ha : a = id <;> simp [ha]

/-! ### Dispatch -/

theorem dispatchLoop_calls (act : Id → HAct) : ∀ (snap : List Id) (l : Lists), (dispatchLoop act snap l).1 = snap
  | [], _ => rfl
  | h :: rest, l => by simp [dispatchLoop, dispatchLoop_calls act rest]

end TraitsVerif.Lemmas.Ledger
