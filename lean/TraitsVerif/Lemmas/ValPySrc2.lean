/-
Source tie of the Python-level validate methods, the methods without loops: for each translated
method `m` of trait_types.py / trait_handlers.py, `runMethod C m [self, object, name, value]` in an
arbitrary context `C` is `resToM` of the arm of `pyValidate`, given what the method reads from
`self` (`C.cfg`) and what the methods it calls return (`C.callM`).
-/
import TraitsVerif.Lemmas.ValPySrc
namespace TraitsVerif.Model.PyVSrc
open TraitsVerif TraitsVerif.Py.Value TraitsVerif.Model.Val TraitsVerif.Generated.PyValidators

variable (C : Ctx) (v : Val)

theorem run_validate_int :
    runMethod C fn__validate_int [.val v] = ofExcept (pyValidateInt v) MRes.ret MRes.exc := by
  pyv_eval [fn__validate_int]
  rcases v with a | _ | _
  · cases a with
    | int sub n => cases sub <;> rfl
    | idx r => cases r <;> rfl
    | idxflt i f => cases i <;> rfl
    | _ => rfl
  · rfl
  · rfl

theorem run_BaseInt (hc : C.callM "_validate_int" [.val v] = ofExcept (pyValidateInt v) MRes.ret MRes.exc) :
    runMethod C m_BaseInt_validate [.self_, .hobj, .name, .val v] = resToM (pyValidate C.E .int v) := by
  pyv_eval [m_BaseInt_validate]
  rw [callOut_ofExcept C _ _ _ _ _ hc, pyValidate]
  cases pyValidateInt v with
  | ok w => rfl
  | error e => simp only [ofExcept, specMatches_typeError]; cases e <;> rfl

theorem run_BaseFloat :
    runMethod C m_BaseFloat_validate [.self_, .hobj, .name, .val v] = resToM (pyValidate C.E .float v) := by
  pyv_eval [m_BaseFloat_validate]
  simp only [pyValidate]
  cases validateFloat v with
  | ok w => rfl
  | error e => simp only [ofExcept, specMatches_typeError]; cases e <;> rfl

theorem run_BaseComplex :
    runMethod C m_BaseComplex_validate [.self_, .hobj, .name, .val v] = resToM (pyValidate C.E .complex v) := by
  pyv_eval [m_BaseComplex_validate]
  simp only [pyValidate]
  cases validateComplexNumber v with
  | ok w => rfl
  | error e => simp only [ofExcept, specMatches_typeError]; cases e <;> rfl

theorem run_BaseStr :
    runMethod C m_BaseStr_validate [.self_, .hobj, .name, .val v] = resToM (pyValidate C.E .str v) := by
  pyv_eval [m_BaseStr_validate]
  rw [pyValidate, apply_ite resToM]; rfl

theorem run_BaseBytes :
    runMethod C m_BaseBytes_validate [.self_, .hobj, .name, .val v] = resToM (pyValidate C.E .bytes v) := by
  pyv_eval [m_BaseBytes_validate]
  rw [pyValidate, apply_ite resToM]; rfl

theorem run_BaseBool (hE : CastIdem C.E) :
    runMethod C m_BaseBool_validate [.self_, .hobj, .name, .val v] = resToM (pyValidate C.E .bool v) := by
  pyv_eval [m_BaseBool_validate]
  rcases v with a | _ | _
  · cases a with
    | bool b => rw [hE .bool _ rfl]; rfl
    | npBool b => rw [pyValidate]; generalize C.E.cast _ _ = r; cases r <;> rfl
    | _ => rfl
  · rfl
  · rfl

/-- `C*.validate` of CInt, CFloat, CComplex: `T(value)` under `except (ValueError, TypeError)`. -/
theorem run_castNumeric (f : String) (ty : Ty)
    (hf : ∀ (k : PV → MRes) ke, builtin C f [.val v] k ke = ofExcept (C.E.cast ty v) k ke) :
    runMethod C ⟨4, 4, .try_ (.ret (.call f [.loc 3]))
        (.cons (.names ["ValueError", "TypeError"]) (.expr (.selfCall "error" [.loc 1, .loc 2, .loc 3])) .nil)⟩
      [.self_, .hobj, .name, .val v] = resToM (pyCastNumeric C.E ty v) := by
  pyv_eval [hf]
  rw [pyCastNumeric]
  cases C.E.cast ty v with
  | ok w => rfl
  | error e => simp only [ofExcept, specMatches_valueTypeError]; cases e <;> rfl

/-- `C*.validate` of CStr, CBytes, CBool: `T(value)` under a bare `except`. -/
theorem run_castAny (f : String) (ty : Ty)
    (hf : ∀ (k : PV → MRes) ke, builtin C f [.val v] k ke = ofExcept (C.E.cast ty v) k ke) :
    runMethod C ⟨4, 4, .try_ (.ret (.call f [.loc 3]))
        (.cons .bare (.expr (.selfCall "error" [.loc 1, .loc 2, .loc 3])) .nil)⟩
      [.self_, .hobj, .name, .val v] = resToM (pyCastAny C.E ty v) := by
  pyv_eval [hf]
  rw [pyCastAny]
  cases C.E.cast ty v <;> rfl

theorem run_BaseCallable :
    runMethod C m_BaseCallable_validate [.self_, .hobj, .name, .val v] = resToM (pyValidate C.E (.callable true) v) := by
  pyv_eval [m_BaseCallable_validate]
  simp only [pyValidate]
  cases v.isNone <;> cases v.callable <;> rfl

theorem run_Callable (an : Bool) (hcfg : C.cfg = selfCfg (.callable an))
    (hc : C.callM "BaseCallable.validate" [.self_, .hobj, .name, .val v] = resToM (pyValidate C.E (.callable true) v)) :
    runMethod C m_Callable_validate [.self_, .hobj, .name, .val v] = resToM (pyValidate C.E (.callable an) v) := by
  pyv_eval [m_Callable_validate, hcfg, cfg_callable]
  rw [callOut_resToM C _ _ _ hc]
  simp only [pyValidate]
  cases an <;> cases v.isNone <;> cases v.callable <;> rfl

theorem run_This :
    runMethod C m_This_validate [.self_, .hobj, .name, .val v] = resToM (pyValidate C.E (.this false) v) := by
  pyv_eval [m_This_validate]
  simp only [pyValidate]
  cases Val.isInst (.user C.E.selfCls) v <;> rfl

theorem run_This_none :
    runMethod C m_This_validate_none [.self_, .hobj, .name, .val v] = resToM (pyValidate C.E (.this true) v) := by
  pyv_eval [m_This_validate_none]
  simp only [pyValidate]
  cases Val.isInst (.user C.E.selfCls) v <;> cases v.isNone <;> rfl

theorem run_NoneTrait :
    runMethod C m__NoneTrait_validate [.self_, .hobj, .name, .val v] = resToM (pyValidate C.E .noneTrait v) := by
  pyv_eval [m__NoneTrait_validate]
  rw [pyValidate, apply_ite resToM]; rfl

theorem run_BaseEnum (vals : List Val) (hcfg : C.cfg = selfCfg (.enum vals)) :
    runMethod C m_BaseEnum_validate [.self_, .hobj, .name, .val v] = resToM (pyValidate C.E (.enum vals) v) := by
  pyv_eval [m_BaseEnum_validate, hcfg, cfg_enum]
  simp only [pyValidate, pySafeEnumValidate]
  cases seqContains vals v <;> rfl

theorem run_Map (keys vals : List Val) (hcfg : C.cfg = selfCfg (.map keys vals)) :
    runMethod C m_Map_validate [.self_, .hobj, .name, .val v] = resToM (pyValidate C.E (.map keys vals) v) := by
  pyv_eval [m_Map_validate, hcfg, cfg_map]
  simp only [pyValidate, pyMapValidate]
  cases dictFind keys v with
  | ok o => cases o <;> rfl
  | error e => simp only [specMatches_typeError]; cases e <;> rfl

theorem run_Type (cls : Ty) (an : Bool) (hcfg : C.cfg = selfCfg (.type_ cls an)) :
    runMethod C m_Type_validate [.self_, .hobj, .name, .val v] = resToM (pyValidate C.E (.type_ cls an) v) := by
  pyv_eval [m_Type_validate, hcfg, cfg_ty_an, cfg_ty_klass]
  simp only [pyValidate]
  cases isSubclass v cls with
  | none => cases v.isNone <;> cases an <;> rfl
  | some b => cases b <;> rfl

theorem run_BaseInstance (cls : Ty) (an : Bool) (mode : Nat) (dflt : Val) (hcfg : C.cfg = selfCfg (.instance cls an mode dflt))
    (hA : ∀ r, C.E.adapt v cls = .ok (some r) → r ≠ Val.none) :
    runMethod C m_BaseInstance_validate [.self_, .hobj, .name, .val v] =
      resToM (pyValidate C.E (.instance cls an mode dflt) v) := by
  pyv_eval [m_BaseInstance_validate, hcfg, cfg_in_an, cfg_in_klass, cfg_in_adapt, cfg_in_dv, cfg_in_dvt]
  simp only [pyValidate, pyInstanceValidate]
  have h0 : ((mode : Int) = 0) ↔ mode = 0 := by omega
  have h1 : ((mode : Int) = 1) ↔ mode = 1 := by omega
  simp only [h0, h1, decide_eq_true_eq]
  cases v.isNone
  · by_cases hm0 : mode = 0
    · simp only [hm0, if_true]; cases Val.isInst cls v <;> rfl
    · simp only [hm0, if_false]
      cases ha : C.E.adapt v cls with
      | error e => rfl
      | ok o =>
        cases o with
        | some r =>
          have hr : r.isNone = false := Bool.eq_false_iff.mpr (mt (isNone_iff r).mpr (hA r ha))
          simp only [hr]; rfl
        | none => cases Val.isInst cls v <;> by_cases hm1 : mode = 1 <;> simp only [hm1, if_true, if_false] <;> rfl
  · cases an <;> rfl

theorem validateFloat_exact (v w : Val) (h : validateFloat v = .ok w) : ∃ f, w = .atom (.float false f) := by
  unfold validateFloat at h
  split at h
  · cases h; exact ⟨_, rfl⟩
  · cases hd : asDouble v <;> simp [hd] at h
    exact ⟨_, h.symm⟩

/-- `BaseRange.validate` hands over to the method `self._validate` names. -/
theorem run_BaseRange (s name : String) (r : Res) (hcfg : C.cfg "_validate" = .str s)
    (hname : "BaseRange" ++ "." ++ s = name) (hc : C.callM name [.self_, .hobj, .name, .val v] = resToM r) :
    runMethod C m_BaseRange_validate [.self_, .hobj, .name, .val v] = resToM r := by
  subst hname
  pyv_eval [m_BaseRange_validate, hcfg]
  exact callOut_resToM C _ _ _ hc

theorem run_float_validate (lo hi : Option F) (exLo exHi : Bool) (hcfg : C.cfg = selfCfg (.rangeF lo hi exLo exHi)) :
    runMethod C m_BaseRange_float_validate [.self_, .hobj, .name, .val v] =
      resToM (pyValidate C.E (.rangeF lo hi exLo exHi) v) := by
  pyv_eval [m_BaseRange_float_validate, ↓evalE_pure, hcfg, cfg_rf_low, cfg_rf_high, cfg_rf_el, cfg_rf_eh]
  simp only [pyValidate]
  cases hv : validateFloat v with
  | error e => simp only [ofExcept, specMatches_typeError]; cases e <;> rfl
  | ok w =>
    obtain ⟨f, rfl⟩ := validateFloat_exact v w hv
    simp only [ofExcept, apply_ite resToM, resToM_ok, resToM_te]
    cases lo <;> cases hi <;> rfl

theorem pyValidateInt_exact (v w : Val) (h : pyValidateInt v = .ok w) : ∃ n, w = .atom (.int false n) := by
  unfold pyValidateInt at h
  split at h
  · cases h; exact ⟨_, rfl⟩
  · cases hd : index v <;> simp [hd] at h
    exact ⟨_, h.symm⟩

theorem run_int_validate (lo hi : Option Int) (exLo exHi : Bool) (hcfg : C.cfg = selfCfg (.rangeI lo hi exLo exHi))
    (hc : C.callM "_validate_int" [.val v] = ofExcept (pyValidateInt v) MRes.ret MRes.exc) :
    runMethod C m_BaseRange_int_validate [.self_, .hobj, .name, .val v] =
      resToM (pyValidate C.E (.rangeI lo hi exLo exHi) v) := by
  pyv_eval [m_BaseRange_int_validate, ↓evalE_pure, hcfg, cfg_ri_low, cfg_ri_high, cfg_ri_el, cfg_ri_eh]
  rw [callOut_ofExcept C _ _ _ _ _ hc, pyValidate]
  cases hv : pyValidateInt v with
  | error e => simp only [ofExcept, specMatches_typeError]; cases e <;> rfl
  | ok w =>
    obtain ⟨n, rfl⟩ := pyValidateInt_exact v w hv
    simp only [ofExcept, apply_ite resToM, resToM_ok, resToM_te]
    cases lo <;> cases hi <;> rfl

/-! ## The handlers of trait_handlers.py -/

theorem run_TraitCastType (ty : Ty) (hcfg : C.cfg = selfCfg (.castH ty)) :
    runMethod C m_TraitCastType_validate [.self_, .hobj, .name, .val v] = resToM (pyValidate C.E (.castH ty) v) := by
  pyv_eval [m_TraitCastType_validate, hcfg, cfg_castH]
  simp only [pyValidate, pyCastAny]
  cases Val.exactTy ty v <;> cases C.E.cast ty v <;> rfl

theorem run_TraitInstance (cls : Ty) (an : Bool) (hcfg : C.cfg = selfCfg (.instanceH cls an)) :
    runMethod C m_TraitInstance_validate [.self_, .hobj, .name, .val v] =
      resToM (pyValidate C.E (.instanceH cls an) v) := by
  pyv_eval [m_TraitInstance_validate, hcfg, cfg_instanceH_an, cfg_instanceH_class]
  simp only [pyValidate]
  cases v.isNone <;> cases an <;> cases Val.isInst cls v <;> rfl

theorem run_TraitFunction (f : Nat) (hcfg : C.cfg = selfCfgE C.E (.functionH f)) :
    runMethod C m_TraitFunction_validate [.self_, .hobj, .name, .val v] = resToM (pyValidate C.E (.functionH f) v) := by
  pyv_eval [m_TraitFunction_validate, hcfg, cfgE_functionH, callFn_fnv]
  simp only [pyValidate]
  cases C.E.fn f v with
  | ok w => rfl
  | error e => cases e <;> simp only [specMatches_traitError] <;> rfl

theorem run_TraitEnum (vals : List Val) (hcfg : C.cfg = selfCfg (.enumH vals)) :
    runMethod C m_TraitEnum_validate [.self_, .hobj, .name, .val v] = resToM (pyValidate C.E (.enumH vals) v) := by
  pyv_eval [m_TraitEnum_validate, hcfg, cfg_enumH]
  simp only [pyValidate, pyEnumValidate]
  cases seqContains vals v <;> rfl

theorem run_TraitMap (keys vals : List Val) (hcfg : C.cfg = selfCfg (.mapH keys vals)) :
    runMethod C m_TraitMap_validate [.self_, .hobj, .name, .val v] = resToM (pyValidate C.E (.mapH keys vals) v) := by
  pyv_eval [m_TraitMap_validate, hcfg, cfg_mapH]
  simp only [pyValidate]
  cases dictFind keys v with
  | ok o => cases o <;> rfl
  | error e => rfl

end TraitsVerif.Model.PyVSrc
