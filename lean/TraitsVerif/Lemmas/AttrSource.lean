/-
The hand-written models of the `attr` cluster are the interpretation of the
translated C source (`Generated/AttrProg.lean`, language `Model/MiniC.lean`):
`has_notifiers`, `setattr_event`, `getattr_trait`, `default_value_for`, `has_traits_setattro`,
`has_traits_getattro`.  Each function is run once from its entry on a symbolic state (`simp` with the equations of
`Lemmas/AttrSourceMiniC.lean`); a case is split where the run stops, on the result it stops at.
-/
import TraitsVerif.Lemmas.AttrSourceMiniC
namespace TraitsVerif.Lemmas.AttrSource
open TraitsVerif TraitsVerif.Model.Attr TraitsVerif.Model.MiniC
open TraitsVerif.Generated

theorem has_notifiers_is_source (C : IC) (s : OSt) (dn idn : Bool) (tn on : Option (List Notifier)) (l1 l2 : Loc) :
    call C AttrProg.has_notifiers [nlv tn l1, nlv on l2] s dn idn
      = (.int (if hasNotifiers tn on then 1 else 0), s, none) := by
  rw [call_eq C _ _ s dn idn rfl]
  rcases tn with _ | _ | _ <;> rcases on with _ | _ | _ <;> simp [AttrProg.has_notifiers, nlv, hasNotifiers]

theorem setattr_event_is_source (C : IC) (value : Option Id) (s : OSt) (dn idn : Bool) :
    call C AttrProg.setattr_event [.trait, .trait, .self, .name, ofValue value] s dn idn
      = ofInt (setattrEvent C.E C.t value s) := by
  rw [call_eq C _ _ s dn idn rfl]
  unfold setattrEvent
  cases value with
  | none => simp [AttrProg.setattr_event]
  | some v =>
    cases hv : C.t.validate with
    | none =>
      simp [AttrProg.setattr_event, hv]
      by_cases hn : hasNotifiers s.tn s.on = true <;> simp [hn]
      rcases callNotifiers C.E C.t s.tn s.on undef v s with ⟨_ | e, s'⟩ <;> simp
    | some k =>
      simp [AttrProg.setattr_event, hv, runValidate]
      rcases C.E.validate k s.ctx.nval v with e | w <;> simp
      by_cases hn : hasNotifiers s.tn s.on = true <;> simp [hn]
      rcases callNotifiers C.E C.t s.tn s.on undef w _ with ⟨_ | e, s'⟩ <;> simp

theorem getattr_trait_is_source (C : IC) (s : OSt) (dn idn : Bool) :
    call C AttrProg.getattr_trait [.trait, .self, .name] s dn idn = ofPtr (getattrTrait C.E C.t s) := by
  rw [call_eq C _ _ s dn idn rfl]
  unfold getattrTrait
  -- with or without a `__dict__`, the same machine state is reached at the call of `default_value_for`: in the
  -- branch that skips `PyDict_New` the test `dict == NULL` has failed (`+contextual`), and the two states merge
  simp +contextual [AttrProg.getattr_trait]
  rcases s.defaultValueFor C.E C.t with ⟨e | v, s1⟩ <;> simp
  rcases postSetattr C.E C.t v _ with ⟨_ | e, s3⟩ <;> simp
  by_cases hn : hasNotifiers s3.tn s3.on = true <;> simp [hn]
  rcases callNotifiers C.E C.t s3.tn s3.on uninit v s3 with ⟨_ | e, s'⟩ <;> simp

theorem warn_error (E : Env) (e : Exc) :
    warnOnAttributeError E (.error e) = .error (if e = .attributeError ∧ E.warnError then .other else e) := by
  cases e <;> simp [warnOnAttributeError]
  split <;> simp_all

@[simp] theorem warn_ok (E : Env) (v : Id) : warnOnAttributeError E (.ok v) = .ok v := rfl

attribute [local simp] CONSTANT_DEFAULT_VALUE MISSING_DEFAULT_VALUE OBJECT_DEFAULT_VALUE LIST_COPY_DEFAULT_VALUE
  DICT_COPY_DEFAULT_VALUE TRAIT_LIST_OBJECT_DEFAULT_VALUE TRAIT_DICT_OBJECT_DEFAULT_VALUE CALLABLE_AND_ARGS_DEFAULT_VALUE
  CALLABLE_DEFAULT_VALUE TRAIT_SET_OBJECT_DEFAULT_VALUE DISALLOW_DEFAULT_VALUE in
theorem default_value_for_is_source (C : IC) (s : OSt) (dn idn : Bool)
    (hmax : C.t.dvt ≤ MAXIMUM_DEFAULT_VALUE_TYPE) :
    call C AttrProg.default_value_for [.trait, .self, .name] s dn idn = ofPtr (s.defaultValueFor C.E C.t) := by
  have h : C.t.dvt = 0 ∨ C.t.dvt = 1 ∨ C.t.dvt = 2 ∨ C.t.dvt = 3 ∨ C.t.dvt = 4 ∨ C.t.dvt = 5 ∨ C.t.dvt = 6
      ∨ C.t.dvt = 7 ∨ C.t.dvt = 8 ∨ C.t.dvt = 9 ∨ C.t.dvt = 10 := by
    simp only [MAXIMUM_DEFAULT_VALUE_TYPE] at hmax; omega
  rw [call_eq C _ _ s dn idn rfl]
  unfold OSt.defaultValueFor defaultValueFor
  -- every arm of the `switch` is run once, up to the call it stops at; then `h` selects
  simp [AttrProg.default_value_for]
  rcases h with h | h | h | h | h | h | h | h | h | h | h <;> simp [h]
  · cases C.t.dv <;> simp
  · cases C.t.dv <;> simp
  · rcases callFactory C.E (C.t.dv.getD noneId) s.self s.name noneId s.ctx with ⟨e | v, c1⟩ <;>
      simp [warn_error, apply_ite some]
  · rcases callFactory C.E (C.t.dv.getD noneId) s.self s.name s.self s.ctx with ⟨e | v, c1⟩
    · simp [warn_error, apply_ite some]
    · cases hv : C.t.validate with
      | none => simp [validateDefault, hv]
      | some k =>
        simp [validateDefault, hv, runValidate]
        rcases C.E.validate k c1.nval v with e | w <;>
          cases ho : testFlag C.t.flags TRAIT_SETATTR_ORIGINAL_VALUE <;> simp [ho, warn_error, apply_ite some]

theorem has_traits_setattro_is_source (C : IC) (value : Option Id) (s : OSt) (dn idn : Bool) :
    call C AttrProg.has_traits_setattro [.self, .name, ofValue value] s dn idn
      = ofInt (traitSetattr C.E C.t value s) := by
  rw [call_eq C _ _ s dn idn rfl]
  cases idn <;> cases hit : s.it <;> simp [AttrProg.has_traits_setattro, hit, -ofValue]

theorem has_traits_getattro_is_source (C : IC) (s : OSt) (dn idn : Bool) (hdn : dn = true → s.slot = none) :
    call C AttrProg.has_traits_getattro [.self, .name] s dn idn = ofPtr (getattro C.E C.t s) := by
  rw [call_eq C _ _ s dn idn rfl]
  unfold getattro
  cases hs : s.slot with
  | some v =>
    have hd : dn = false := by cases dn <;> simp_all
    subst hd
    simp [AttrProg.has_traits_getattro, hs, ptrv]
  | none =>
    cases dn <;> cases idn <;> cases hit : s.it <;> simp [AttrProg.has_traits_getattro, hs, ptrv, hit]

end TraitsVerif.Lemmas.AttrSource
