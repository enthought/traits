/-
C10: a default is computed at most once per (instance, attribute).  `Once` ties the factory-call log to "a value is
stored": a call is made only from an empty slot and leaves a value stored, so in a composition (`Once.trans`) a second
call cannot follow a first.  `OnceInv` is the count per (object, name) in the world that this gives.
-/
import TraitsVerif.Lemmas.AttrSep
namespace TraitsVerif.Model.Attr
open TraitsVerif

/-- The default computation of `t` does not fail (no raising factory, no
default rejected by its own trait, not a `disallow` trait). -/
def TotalDefault (E : Env) (t : TraitCore) : Prop :=
  ∀ obj name c, ∃ v, (defaultValueFor E t obj name c).1 = .ok v

/-- Effect of one statement on the factory-call log and on "a value is stored". -/
structure Once (s s' : OSt) : Prop where
  ex : ∃ l, s'.ctx.fcalls = s.ctx.fcalls ++ l ∧ (∀ f ∈ l, f.2 = (s.self, s.name)) ∧ l.length ≤ 1 ∧
    (s.slot.isSome = true → l = []) ∧ (l ≠ [] → s'.slot.isSome = true)
  keep : s.slot.isSome = true → s'.slot.isSome = true
  self : s'.self = s.self
  name : s'.name = s.name

theorem Once.refl (s : OSt) : Once s s :=
  ⟨⟨[], by simp, by simp, by simp, fun _ => rfl, fun h => absurd rfl h⟩, id, rfl, rfl⟩

theorem Once.trans {a b c : OSt} (h1 : Once a b) (h2 : Once b c) : Once a c := by
  obtain ⟨l1, e1, m1, n1, s1, k1⟩ := h1.ex
  obtain ⟨l2, e2, m2, n2, s2, k2⟩ := h2.ex
  refine ⟨⟨l1 ++ l2, by rw [e2, e1, List.append_assoc], ?_, ?_, ?_, ?_⟩, fun h => h2.keep (h1.keep h),
    h2.self.trans h1.self, h2.name.trans h1.name⟩
  · intro f hf
    rcases List.mem_append.mp hf with h | h
    · exact m1 f h
    · rw [m2 f h, h1.self, h1.name]
  · -- a call in the first part leaves a value stored, so the second part makes none
    cases l1 with
    | nil => simpa using n2
    | cons x xs => rw [s2 (k1 (List.cons_ne_nil x xs))]; simpa using n1
  · intro h
    rw [s1 h, s2 (h1.keep h)]; rfl
  · intro h
    cases l2 with
    | nil => exact h2.keep (k1 (by simpa using h))
    | cons x xs => exact k2 (List.cons_ne_nil x xs)

theorem Book.once {s s' : OSt} (h : Book s s') : Once s s' :=
  ⟨⟨[], by simp [h.fcalls], by simp, by simp, fun _ => rfl, fun h => absurd rfl h⟩,
   fun hs => by rw [h.slot]; exact hs, h.self, h.name⟩

theorem materialise_once {E : Env} {t : TraitCore} (tot : TotalDefault E t) (s : OSt) (hs : s.slot = none) :
    Once s (s.materialise E t).2 := by
  obtain ⟨v, hv⟩ := tot s.self s.name s.ctx
  obtain ⟨-, l, hl, hlen, hm⟩ := defaultValueFor_frame E t s.self s.name s.ctx
  rw [materialise_snd]
  unfold OSt.defaultValueFor
  cases hd : defaultValueFor E t s.self s.name s.ctx with
  | mk r c =>
    rw [hd] at hv hl
    simp only [] at hv hl ⊢
    subst hv
    have hno : s.slot.isSome = true → l = [] := fun h => by rw [hs] at h; cases h
    -- "compute the default, store it" from an empty slot; `post_setattr` is bookkeeping
    have ho : Once s { s with ctx := c, slot := some v } :=
      ⟨⟨l, hl, hm, hlen, hno, fun _ => rfl⟩, fun _ => rfl, rfl, rfl⟩
    exact ho.trans (postSetattr_book E t v _).once

theorem Eff.once {E : Env} {t : TraitCore} {W : Option Id → Prop} {s s' : OSt} (tot : TotalDefault E t)
    (hW : ¬ W none) (h : Eff E t W s s') : Once s s' := by
  induction h with
  | refl s => exact Once.refl s
  | trans _ _ h1 h2 => exact h1.trans h2
  | book h => exact h.once
  | write s x hx =>
    cases x with
    | none => exact absurd hx hW
    | some v => exact ⟨⟨[], by simp, by simp, by simp, fun _ => rfl, fun h => absurd rfl h⟩, fun _ => rfl, rfl, rfl⟩
  | mat hs => exact materialise_once tot _ hs

/-- Every operation except `del` (which empties the slot: the next read computes the default again). -/
theorem step_once {E : Env} {t : TraitCore} (tot : TotalDefault E t) (s : OSt) (op : Op) (hdel : op ≠ .del) :
    Once s (step E t s op).2 := by
  refine (step_eff E t s op).once tot (fun hx => ?_)
  cases op with
  | set v => obtain ⟨u, hu, -⟩ := hx; cases hu
  | setq v => obtain ⟨u, hu, -⟩ := hx; cases hu
  | del => exact hdel rfl
  | _ => exact hx

/-! ### The world -/

/-- Number of default-factory invocations made for object `oid`, attribute `n`. -/
def World.fcount (w : World) (oid : Id) (n : Name) : Nat :=
  (w.ctx.fcalls.filter (fun f => f.2.1 == oid && f.2.2 == n)).length

structure OnceInv (E : Env) (w : World) : Prop where
  lt : ∀ (i : Nat) (o : Inst), w.insts[i]? = some o → o.oid < w.ctx.alloc
  distinct : ∀ (a b : Nat) (oa ob : Inst), w.insts[a]? = some oa → w.insts[b]? = some ob → oa.oid = ob.oid → a = b
  once : ∀ (i : Nat) (o : Inst), w.insts[i]? = some o → ∀ n,
    w.fcount o.oid n ≤ 1 ∧ (w.fcount o.oid n = 1 → (assocGet o.dict n).isSome = true)
  foreign : ∀ f ∈ w.ctx.fcalls, ∃ (i : Nat) (o : Inst), w.insts[i]? = some o ∧ f.2.1 = o.oid
  total : ∀ t, w.Cores t → TotalDefault E t

theorem filter_none_of {α : Type} (p : α → Bool) (l : List α) (h : ∀ x ∈ l, p x = false) : l.filter p = [] :=
  List.filter_eq_nil_iff.mpr (fun x hx => by simp [h x hx])

theorem setInst_onceInv {E : Env} {w : World} (g : OnceInv E w) (i : Nat) (o o' : Inst) (c : Ctx) (n : Name)
    (l : List (Id × Id × Name)) (hi : w.insts[i]? = some o) (hoid : o'.oid = o.oid) (hle : w.ctx.alloc ≤ c.alloc)
    (hl : c.fcalls = w.ctx.fcalls ++ l) (hm : ∀ f ∈ l, f.2 = (o.oid, n)) (hlen : l.length ≤ 1)
    (hsome : (assocGet o.dict n).isSome = true → l = []) (hne : l ≠ [] → (assocGet o'.dict n).isSome = true)
    (hkeep : ∀ m, (assocGet o.dict m).isSome = true → (assocGet o'.dict m).isSome = true)
    (htot : ∀ p ∈ o'.itraits, TotalDefault E p.2.core) : OnceInv E (w.setInst i o' c) := by
  have hget := setInst_get w i o o' c hi
  have hcount : ∀ oid m, World.fcount (w.setInst i o' c) oid m =
      w.fcount oid m + (if oid = o.oid ∧ m = n then l.length else 0) := by
    intro oid m
    unfold World.fcount
    show (List.filter _ c.fcalls).length = _
    rw [hl, List.filter_append, List.length_append]
    congr 1
    by_cases hc : oid = o.oid ∧ m = n
    · obtain ⟨rfl, rfl⟩ := hc
      simp only [and_self, if_true]
      rw [List.filter_eq_self.mpr (fun x hx => by rw [hm x hx]; simp)]
    · simp only [hc, if_false]
      rw [filter_none_of _ l (fun x hx => by
        rw [hm x hx]
        simp only [Bool.and_eq_false_iff, beq_eq_false_iff_ne, ne_eq]
        by_cases h1 : o.oid = oid
        · right; intro h2; exact hc ⟨h1.symm, h2.symm⟩
        · left; exact h1)]
      rfl
  refine ⟨?_, ?_, ?_, ?_, ?_⟩
  · intro j oj hj
    rcases hget j oj hj with ⟨-, rfl⟩ | ⟨-, h⟩
    · rw [hoid]; exact Nat.lt_of_lt_of_le (g.lt i o hi) hle
    · exact Nat.lt_of_lt_of_le (g.lt j oj h) hle
  · intro a b oa ob ha hb hab
    rcases hget a oa ha with ⟨rfl, rfl⟩ | ⟨hai, ha'⟩
    · rcases hget b ob hb with ⟨rfl, rfl⟩ | ⟨hbi, hb'⟩
      · rfl
      · exact g.distinct a b o ob hi hb' (hoid ▸ hab)
    · rcases hget b ob hb with ⟨rfl, rfl⟩ | ⟨hbi, hb'⟩
      · exact g.distinct a b oa o ha' hi (hoid ▸ hab)
      · exact g.distinct a b oa ob ha' hb' hab
  · intro j oj hj m
    rw [hcount]
    rcases hget j oj hj with ⟨rfl, rfl⟩ | ⟨hji, hj'⟩
    · rw [hoid]
      have hold := g.once j o hi m
      by_cases hmn : m = n
      · subst hmn
        simp only [and_self, if_true]
        cases hs0 : (assocGet o.dict m).isSome with
        | true =>
          have : l = [] := hsome hs0
          subst this
          simp only [List.length_nil, Nat.add_zero]
          exact ⟨hold.1, fun _ => hkeep m hs0⟩
        | false =>
          have h0 : w.fcount o.oid m = 0 := by
            rcases Nat.lt_or_ge (w.fcount o.oid m) 1 with h | h
            · exact Nat.lt_one_iff.mp h
            · have := hold.2 (Nat.le_antisymm hold.1 h)
              rw [hs0] at this; cases this
          rw [h0, Nat.zero_add]
          refine ⟨hlen, fun h1 => hne ?_⟩
          intro hnil; rw [hnil] at h1; cases h1
      · simp only [hmn, and_false, if_false, Nat.add_zero]
        exact ⟨hold.1, fun h => hkeep m (hold.2 h)⟩
    · have hne' : ¬ (oj.oid = o.oid ∧ m = n) := fun h => hji (g.distinct j i oj o hj' hi h.1)
      simp only [hne', if_false, Nat.add_zero]
      exact g.once j oj hj' m
  · intro fc hfcm
    show ∃ (j : Nat) (oj : Inst), (w.setInst i o' c).insts[j]? = some oj ∧ fc.2.1 = oj.oid
    have hfcm' : fc ∈ w.ctx.fcalls ++ l := hl ▸ hfcm
    rcases List.mem_append.mp hfcm' with h | h
    · obtain ⟨j, oj, hj, he⟩ := g.foreign fc h
      by_cases hji : j = i
      · subst hji
        rw [hi] at hj; injection hj with hj; subst hj
        exact ⟨j, _, setInst_get_self w j o _ _ hi, he.trans hoid.symm⟩
      · exact ⟨j, oj, by rw [setInst_get_other w i j _ _ hji]; exact hj, he⟩
    · exact ⟨i, _, setInst_get_self w i o _ _ hi, by rw [hm fc h, hoid]⟩
  · intro t hc
    rcases hc with ⟨k, hk, p, hp, rfl⟩ | ⟨oj, hoj, p, hp, rfl⟩
    · exact g.total _ (Or.inl ⟨k, hk, p, hp, rfl⟩)
    · obtain ⟨j, hj⟩ := List.getElem?_of_mem hoj
      rcases hget j oj hj with ⟨rfl, rfl⟩ | ⟨-, hj'⟩
      · exact htot p hp
      · exact g.total _ (Or.inr ⟨oj, List.mem_of_getElem? hj', p, hp, rfl⟩)

theorem onAttr_once {E : Env} {w : World} (g : OnceInv E w) (i : Nat) (n : Name)
    (f : TraitCore → OSt → Res × OSt)
    (hf : ∀ t s, TotalDefault E t → Once s (f t s).2 ∧ SFrame s (f t s).2) :
    OnceInv E (w.onAttr i n f).2 := by
  rcases onAttr_cases w i n f with ⟨h, -⟩ | ⟨o, td, r, s, hi, ht, hr, h⟩ <;> rw [h]
  · exact g
  · have hcore := w.traitOf_cores i o n td hi ht
    obtain ⟨ho, hsf⟩ := hf td.core (w.focus o n) (g.total td.core hcore)
    rw [hr] at ho hsf
    obtain ⟨l, hl, hm, hlen, hsome, hne⟩ := ho.ex
    have hd := absorb_dict o n td.core s
    refine setInst_onceInv g i o _ s.ctx n l hi rfl hsf.le hl hm hlen hsome
      (fun h => by rw [hd, if_pos rfl]; exact hne h) (fun m hm' => ?_)
      (fun p hp => g.total _ (absorb_cores w i o n td s hi hcore p hp))
    rw [hd]
    split
    · rename_i hmn
      subst hmn
      exact ho.keep hm'
    · exact hm'

theorem setInst_once {E : Env} {w : World} (g : OnceInv E w) (i : Nat) (o o' : Inst) (hi : w.insts[i]? = some o)
    (h1 : o'.oid = o.oid) (h2 : o'.dict = o.dict) (h3 : ∀ p ∈ o'.itraits, TotalDefault E p.2.core) :
    OnceInv E (w.setInst i o' w.ctx) :=
  setInst_onceInv g i o o' w.ctx 0 [] hi h1 (Nat.le_refl _) (by simp) (by simp) (by simp) (fun _ => rfl)
    (fun h => absurd rfl h) (fun m h => h2 ▸ h) h3

theorem ctx_once {E : Env} {w : World} (g : OnceInv E w) (c : Ctx) (h1 : c.fcalls = w.ctx.fcalls)
    (h2 : c.alloc = w.ctx.alloc) : OnceInv E { w with ctx := c } :=
  ⟨fun i o h => by show o.oid < c.alloc; rw [h2]; exact g.lt i o h, g.distinct,
   fun i o h n => by
     have : World.fcount { w with ctx := c } o.oid n = w.fcount o.oid n := by unfold World.fcount; simp only [h1]
     rw [this]; exact g.once i o h n,
   fun f hf => g.foreign f (by rw [← h1]; exact hf), g.total⟩

/-- No factory call recorded so far is about the new instance (`foreign`, `lt`). -/
theorem new_onceInv {E : Env} {w : World} (g : OnceInv E w) (k : Nat) : OnceInv E (w.withNew k) := by
  have hget := withNew_get w k
  refine ⟨fun j o ho => ?_, withNew_distinct w k g.lt g.distinct, fun j o ho n => ?_, fun f hf => ?_,
    fun t hc => g.total t (withNew_cores w k t hc)⟩
  · show o.oid < w.ctx.alloc + 1
    rcases hget j o ho with h | ⟨-, rfl⟩
    · exact Nat.lt_succ_of_lt (g.lt j o h)
    · exact Nat.lt_succ_self _
  · rcases hget j o ho with h | ⟨-, rfl⟩
    · exact g.once j o h n
    · have hzero : (w.withNew k).fcount w.ctx.alloc n = 0 := by
        unfold World.fcount
        rw [filter_none_of]
        · rfl
        · intro f hf
          obtain ⟨j, oj, hj, he⟩ := g.foreign f hf
          simp only [Bool.and_eq_false_iff, beq_eq_false_iff_ne, ne_eq]
          exact Or.inl (he ▸ Nat.ne_of_lt (g.lt j oj hj))
      rw [hzero]
      exact ⟨Nat.zero_le _, fun h => by cases h⟩
  · obtain ⟨j, oj, hj, he⟩ := g.foreign f hf
    have hjl : j < w.insts.length := (List.getElem?_eq_some_iff.mp hj).1
    exact ⟨j, oj, by show (w.insts ++ _)[j]? = some oj; rw [List.getElem?_append_left hjl]; exact hj, he⟩

/-- Side condition: traits added at run time have a total default. -/
def OpTotal (E : Env) : WOp → Prop
  | .addTrait _ _ t => TotalDefault E t
  | .del _ _ => False        -- a reset legitimately makes the next read compute the default again
  | _ => True

theorem step_onceInv {E : Env} {w : World} (g : OnceInv E w) (op : WOp) (hop : OpTotal E op) :
    OnceInv E (World.step E w op).2 := by
  have hattr : ∀ i n (a : Op), a ≠ .del → OnceInv E (w.onAttr i n (fun t s => Attr.step E t s a)).2 :=
    fun i n a ha => onAttr_once g i n _ (fun t s tot => ⟨step_once tot s a ha, step_sframe E t s a⟩)
  have hget := fun i n => hattr i n .get nofun
  have hmut : ∀ i n x (op : WOp), op = .mutate i n x ∨ op = .mutateInner i n x → OnceInv E (World.step E w op).2 := by
    intro i n x op hop
    rcases step_mutate E w i n x op hop _ rfl with h | ⟨tgt, -, h⟩ <;> rw [h]
    · exact hget i n
    · exact ctx_once (hget i n) _ (mutate_frame _ tgt x).2.2.1 (mutate_frame _ tgt x).1
  cases op with
  | new k =>
    simp only [World.step]
    split
    · exact new_onceInv g k
    · exact g
  | get i n => exact hget i n
  | set i n v => exact hattr i n (.set v) nofun
  | regDyn i n k => exact hattr i n _ nofun
  | regObs i n k => exact hattr i n _ nofun
  | regAny i k =>
    simp only [World.step]
    cases hi : w.insts[i]? with
    | none => exact g
    | some o =>
      simp only []
      exact setInst_once g i o { o with on := (({ on := o.on } : OSt).regAny k false).on } hi rfl rfl
        (fun p hp => g.total _ (Or.inr ⟨o, List.mem_of_getElem? hi, p, hp, rfl⟩))
  | del i n => exact hop.elim
  | query i =>
    simp only [World.step]
    cases w.insts[i]? <;> exact g
  | addTrait i n t =>
    simp only [World.step, World.addTrait]
    cases hi : w.insts[i]? with
    | none => exact g
    | some o =>
      simp only []
      refine setInst_once g i o { o with itraits := assocSet o.itraits n { core := t, notifiers := match w.traitOf o n with
            | some td => td.notifiers.map (fun l => l)
            | none => none } } hi rfl rfl ?_
      intro p hp
      rcases mem_assocSet _ _ _ _ hp with h | h
      · exact g.total _ (Or.inr ⟨o, List.mem_of_getElem? hi, p, h, rfl⟩)
      · subst h; exact hop
  | mutate i n x => exact hmut i n x _ (Or.inl rfl)
  | mutateInner i n x => exact hmut i n x _ (Or.inr rfl)

theorem run_onceInv {E : Env} (h : List WOp) (w : World) (g : OnceInv E w) (H : ∀ op ∈ h, OpTotal E op) :
    OnceInv E (World.run E w h) :=
  World.run_induction E (OnceInv E) (OpTotal E) (fun _ op g hop => step_onceInv g op hop) h w g H

end TraitsVerif.Model.Attr
