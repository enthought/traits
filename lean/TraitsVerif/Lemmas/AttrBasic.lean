/-
C02, C10: flag arithmetic, and the closed form of `call_notifiers` under the
configuration property C02 quantifies over (`Quiet`): the loop neither stops early
nor changes a notifier list, so a round is a log extension (`fired`) and possibly
an `ensureItrait` (`touches`).
-/
import TraitsVerif.Model.SetAttr
namespace TraitsVerif.Model.Attr
open TraitsVerif

/-! ### Flags -/

theorem testFlag_none (m : CMode) (o p : Bool) :
    testFlag (mkFlags m o p) Generated.TRAIT_COMPARISON_MODE_NONE = (m == .none) := by
  cases m <;> cases o <;> cases p <;> decide

theorem testFlag_orig (m : CMode) (o p : Bool) :
    testFlag (mkFlags m o p) Generated.TRAIT_SETATTR_ORIGINAL_VALUE = o := by
  cases m <;> cases o <;> cases p <;> decide

theorem testFlag_postOrig (m : CMode) (o p : Bool) :
    testFlag (mkFlags m o p) Generated.TRAIT_POST_SETATTR_ORIGINAL_VALUE = p := by
  cases m <;> cases o <;> cases p <;> decide

theorem comparisonModeInt_mkFlags (m : CMode) (o p : Bool) :
    comparisonModeInt (mkFlags m o p) = m.toNat := by
  cases m <;> cases o <;> cases p <;> decide

theorem eqMode_mkFlags (k : Kind) (m : CMode) (o p : Bool) :
    eqMode k (mkFlags m o p) = (k == .trait && m == .equality) := by
  cases k <;> cases m <;> cases o <;> cases p <;> decide

/-! ### The configuration C02 quantifies over -/

/-- Default, non-re-raising exception handlers on both stacks, no vetoing
value, handlers that do not unregister themselves. -/
structure Quiet (E : Env) : Prop where
  noRemove : ∀ h n a, E.handler h n a ≠ .ok .removeSelf
  legacy : E.reraiseLegacy = false
  observe : E.reraiseObserve = false
  noVeto : ∀ v, E.veto v = false

def PostQuiet (E : Env) : Prop := ∀ p n v, E.post p n v = .ok ()

def Env.silence (E : Env) : Env := { E with handler := fun _ _ _ => .ok .stay }

theorem Quiet.silence {E : Env} (q : Quiet E) : Quiet E.silence :=
  ⟨fun _ _ _ h => by simp [Env.silence] at h, q.legacy, q.observe, q.noVeto⟩

/-! ### State after a round of notifications -/

def OSt.logged (s : OSt) (l : List Call) : OSt :=
  { s with ctx := { s.ctx with log := s.ctx.log ++ l } }

/-- `touch`: some legacy wrapper ran `object._trait(name, 2)`. -/
def OSt.notified (s : OSt) (touch : Bool) (l : List Call) : OSt :=
  (if touch then s.ensureItrait else s).logged l

@[simp] theorem ensureItrait_tn (s : OSt) : s.ensureItrait.tn = s.tn := by
  unfold OSt.ensureItrait OSt.tn
  cases h : s.it <;> simp [h]

@[simp] theorem tn_mk_same (s : OSt) (self : Id) (name : Name) (slot : Option Id) (on : Option (List Notifier))
    (nn : Bool) (ctx : Ctx) : (OSt.mk self name slot s.cn s.it on nn ctx).tn = s.tn := rfl

@[simp] theorem ensureItrait_idem (s : OSt) : s.ensureItrait.ensureItrait = s.ensureItrait := by
  unfold OSt.ensureItrait
  cases h : s.it <;> simp [h]

@[simp] theorem ensureItrait_slot (s : OSt) : s.ensureItrait.slot = s.slot := by
  unfold OSt.ensureItrait; cases s.it <;> rfl
@[simp] theorem ensureItrait_on (s : OSt) : s.ensureItrait.on = s.on := by
  unfold OSt.ensureItrait; cases s.it <;> rfl
@[simp] theorem ensureItrait_cn (s : OSt) : s.ensureItrait.cn = s.cn := by
  unfold OSt.ensureItrait; cases s.it <;> rfl
@[simp] theorem ensureItrait_ctx (s : OSt) : s.ensureItrait.ctx = s.ctx := by
  unfold OSt.ensureItrait; cases s.it <;> rfl
@[simp] theorem ensureItrait_self (s : OSt) : s.ensureItrait.self = s.self := by
  unfold OSt.ensureItrait; cases s.it <;> rfl
@[simp] theorem ensureItrait_noNotify (s : OSt) : s.ensureItrait.noNotify = s.noNotify := by
  unfold OSt.ensureItrait; cases s.it <;> rfl

theorem ensureItrait_logged (s : OSt) (l : List Call) :
    (s.logged l).ensureItrait = s.ensureItrait.logged l := by
  unfold OSt.ensureItrait OSt.logged
  cases h : s.it <;> simp [h]

@[simp] theorem logged_nil (s : OSt) : s.logged [] = s := by
  simp [OSt.logged]

@[simp] theorem logged_logged (s : OSt) (a b : List Call) : (s.logged a).logged b = s.logged (a ++ b) := by
  simp [OSt.logged, List.append_assoc]

@[simp] theorem notified_false_nil (s : OSt) : s.notified false [] = s := by
  simp [OSt.notified]

theorem notified_notified (s : OSt) (b1 b2 : Bool) (l1 l2 : List Call) :
    (s.notified b1 l1).notified b2 l2 = s.notified (b1 || b2) (l1 ++ l2) := by
  unfold OSt.notified
  cases b1 <;> cases b2 <;> simp [ensureItrait_logged]

@[simp] theorem notified_slot (s : OSt) (b : Bool) (l : List Call) : (s.notified b l).slot = s.slot := by
  unfold OSt.notified OSt.logged; cases b <;> simp
@[simp] theorem notified_tn (s : OSt) (b : Bool) (l : List Call) : (s.notified b l).tn = s.tn := by
  have h : ∀ u : OSt, (u.logged l).tn = u.tn := fun u => rfl
  unfold OSt.notified; cases b <;> simp [h]
@[simp] theorem notified_on (s : OSt) (b : Bool) (l : List Call) : (s.notified b l).on = s.on := by
  unfold OSt.notified OSt.logged; cases b <;> simp
@[simp] theorem notified_cn (s : OSt) (b : Bool) (l : List Call) : (s.notified b l).cn = s.cn := by
  unfold OSt.notified OSt.logged; cases b <;> simp
@[simp] theorem notified_self (s : OSt) (b : Bool) (l : List Call) : (s.notified b l).self = s.self := by
  unfold OSt.notified OSt.logged; cases b <;> simp
@[simp] theorem notified_noNotify (s : OSt) (b : Bool) (l : List Call) :
    (s.notified b l).noNotify = s.noNotify := by
  unfold OSt.notified OSt.logged; cases b <;> simp
@[simp] theorem notified_log (s : OSt) (b : Bool) (l : List Call) :
    (s.notified b l).ctx.log = s.ctx.log ++ l := by
  unfold OSt.notified OSt.logged; cases b <;> simp
@[simp] theorem notified_nval (s : OSt) (b : Bool) (l : List Call) :
    (s.notified b l).ctx.nval = s.ctx.nval := by
  unfold OSt.notified OSt.logged; cases b <;> simp
@[simp] theorem notified_postLog (s : OSt) (b : Bool) (l : List Call) :
    (s.notified b l).ctx.postLog = s.ctx.postLog := by
  unfold OSt.notified OSt.logged; cases b <;> simp
@[simp] theorem notified_heap (s : OSt) (b : Bool) (l : List Call) :
    (s.notified b l).ctx.heap = s.ctx.heap := by
  unfold OSt.notified OSt.logged; cases b <;> simp
@[simp] theorem notified_alloc (s : OSt) (b : Bool) (l : List Call) :
    (s.notified b l).ctx.alloc = s.ctx.alloc := by
  unfold OSt.notified OSt.logged; cases b <;> simp
@[simp] theorem notified_fcalls (s : OSt) (b : Bool) (l : List Call) :
    (s.notified b l).ctx.fcalls = s.ctx.fcalls := by
  unfold OSt.notified OSt.logged; cases b <;> simp

/-- The handler invocations one round of `call_notifiers` makes. -/
def fired (c : Cmp) (t : TraitCore) (self old new : Id) (ns : List (Notifier × Loc)) : List Call :=
  (ns.filter (fun p => wrapperFires c t.kind t.flags p.1.kind old new)).map
    (fun p => ⟨self, p.1.h, old, new⟩)

/-- Does some legacy wrapper get past its `Uninitialized` test? -/
def touches (old : Id) (ns : List (Notifier × Loc)) : Bool :=
  old != uninit && ns.any (fun p => p.1.kind != .observe)

theorem fired_single (c : Cmp) (t : TraitCore) (self old new : Id) (n : Notifier) (loc : Loc) :
    fired c t self old new [(n, loc)] =
      if wrapperFires c t.kind t.flags n.kind old new = true then [⟨self, n.h, old, new⟩] else [] := by
  unfold fired
  by_cases h : wrapperFires c t.kind t.flags n.kind old new = true <;> simp [List.filter, h]

theorem touches_single (old : Id) (n : Notifier) (loc : Loc) :
    touches old [(n, loc)] = (old != uninit && n.kind != .observe) := by
  simp [touches]

theorem callWrapper_quiet {E : Env} (q : Quiet E) (t : TraitCore) (n : Notifier) (loc : Loc) (old new : Id)
    (s : OSt) :
    callWrapper E t n loc old new s =
      (none, s.notified (touches old [(n, loc)]) (fired E.cmp t s.self old new [(n, loc)])) := by
  have hr := q.noRemove n.h
  rw [fired_single, touches_single]
  unfold callWrapper wrapperFires
  cases hk : n.kind
  case observe =>
    simp only []
    by_cases hp : preventEvent E.cmp t.kind t.flags old new = true
    · simp [hp, OSt.notified]
    · have hs := hr s.ctx.log.length (old, new)
      simp only [hp]
      cases hh : E.handler n.h s.ctx.log.length (old, new) with
      | error e => simp [q.observe, OSt.notified, OSt.logged]
      | ok a =>
        cases a with
        | stay => simp [OSt.notified, OSt.logged]
        | removeSelf => exact absurd hh hs
  all_goals
    simp only []
    by_cases ho : old = uninit
    · simp [ho, changeAccepted, OSt.notified]
    · by_cases hc : changeAcceptedCmp E.cmp t.kind t.flags old new = true
      · have hs := hr s.ensureItrait.ctx.log.length (old, new)
        simp only [ho, hc, changeAccepted]
        cases hh : E.handler n.h s.ensureItrait.ctx.log.length (old, new) with
        | error e => simp [q.legacy, OSt.notified, OSt.logged, ho]
        | ok a =>
          cases a with
          | stay => simp [OSt.notified, OSt.logged, ho]
          | removeSelf => exact absurd hh hs
      · simp [ho, hc, changeAccepted, OSt.notified]

theorem fired_cons (c : Cmp) (t : TraitCore) (self old new : Id) (p : Notifier × Loc)
    (ns : List (Notifier × Loc)) :
    fired c t self old new (p :: ns) = fired c t self old new [p] ++ fired c t self old new ns := by
  unfold fired
  by_cases h : wrapperFires c t.kind t.flags p.1.kind old new = true <;> simp [List.filter, h]

theorem touches_cons (old : Id) (p : Notifier × Loc) (ns : List (Notifier × Loc)) :
    touches old (p :: ns) = (touches old [p] || touches old ns) := by
  unfold touches
  cases (old != uninit) <;> simp

theorem notifyLoop_quiet {E : Env} (q : Quiet E) (t : TraitCore) (old new : Id) :
    ∀ (ns : List (Notifier × Loc)) (s : OSt),
      notifyLoop E t old new ns s = (none, s.notified (touches old ns) (fired E.cmp t s.self old new ns))
  | [], s => by simp [notifyLoop, fired, touches]
  | (n, loc) :: rest, s => by
    rw [notifyLoop, q.noVeto, callWrapper_quiet q]
    simp only [Bool.false_eq_true, if_false]
    rw [notifyLoop_quiet q t old new rest, notified_notified, notified_self, ← fired_cons, ← touches_cons]

theorem callNotifiers_quiet {E : Env} (q : Quiet E) (t : TraitCore) (tn on : Option (List Notifier))
    (old new : Id) (s : OSt) :
    callNotifiers E t tn on old new s =
      (none, if s.noNotify then s
             else s.notified (touches old (snapshot tn on)) (fired E.cmp t s.self old new (snapshot tn on))) := by
  unfold callNotifiers
  cases h : s.noNotify <;> simp [notifyLoop_quiet q]

end TraitsVerif.Model.Attr
