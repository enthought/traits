/-
The interpreter of Model/CSrc.lean as rewrite rules, and the helpers of ctraits.c.

* The C-API primitives (`prim_*`, `pyCall_*`) and the operations on C values, each on the
  arguments it is defined for; the equations of `exec` and `evalE`; `switch` as the selection of
  one arm (`Cases.arm`); one unrolling of a `for` loop (`iter_succ`).  Together they are the
  simp set with which `csrc_eval` runs a translated function from a known state.  A loop over
  the entries of a tuple is not run but reasoned about with the induction rule `iter_ind`.
* as_integer, validate_float, validate_complex_number, in_float_range,
  _validate_trait_callable, type_converter, call_validator: the interpretation of their
  translated source text is the model's function of the same name (`run_*`, and `helpers_*`
  for the call by name from a validator).
-/
import TraitsVerif.Model.CSrcRun
import TraitsVerif.Lemmas.ValFast
namespace TraitsVerif.Model.CSrc
open TraitsVerif TraitsVerif.Py.Value TraitsVerif.Model.Val TraitsVerif.Generated.CValidators

section prims
variable {R : Type} (C : Ctx) (err : Err) (k : CV → Err → R)

@[simp] theorem truthy_ofBool (b : Bool) : (ofBool b).truthy = b := by cases b <;> rfl
@[simp] theorem truthy_int0 : (CV.int 0).truthy = false := rfl
@[simp] theorem truthy_int1 : (CV.int 1).truthy = true := rfl

theorem prim_GET_SIZE (x : CV) : prim C .PyTuple_GET_SIZE [x] err k = k (getSize x) err := rfl
theorem prim_GET_ITEM (x : CV) (i : Int) : prim C .PyTuple_GET_ITEM [x, .int i] err k = k (getItem x i) err := rfl
theorem prim_TypeCheck (v : Val) (t : Ty) : prim C .PyObject_TypeCheck [.obj v, .ty t] err k = k (ofBool (Val.isInst t v)) err := rfl
theorem prim_IsInstance (v : Val) (t : Ty) : prim C .PyObject_IsInstance [.obj v, .ty t] err k = k (ofBool (Val.isInst t v)) err := rfl
theorem prim_TYPE (v : Val) : prim C .Py_TYPE [.obj v] err k = k (.tyOf v) err := rfl
theorem prim_TYPE_obj : prim C .Py_TYPE [.hobj] err k = k (.ty (.user C.E.selfCls)) err := rfl
theorem prim_LongExact (v : Val) : prim C .PyLong_CheckExact [.obj v] err k = k (ofBool (Val.exactTy .int v)) err := rfl
theorem prim_FloatExact (v : Val) : prim C .PyFloat_CheckExact [.obj v] err k = k (ofBool (Val.exactTy .float v)) err := rfl
theorem prim_ComplexExact (v : Val) : prim C .PyComplex_CheckExact [.obj v] err k = k (ofBool (Val.exactTy .complex v)) err := rfl
theorem prim_TupleCheck (v : Val) : prim C .PyTuple_Check [.obj v] err k = k (ofBool (Val.isInst .tuple v)) err := rfl
theorem prim_Callable (v : Val) : prim C .PyCallable_Check [.obj v] err k = k (ofBool v.callable) err := rfl
theorem prim_Index (v : Val) : prim C .PyNumber_Index [.obj v] err k =
    (match index v with | .ok n => k (.obj (Val.ofInt n)) err | .error e => k .null (some e)) := rfl
theorem prim_Long (s : Bool) (n : Int) : prim C .PyNumber_Long [.obj (.atom (.int s n))] err k = k (.obj (Val.ofInt n)) err := rfl
theorem prim_AsDouble (v : Val) : prim C .PyFloat_AsDouble [.obj v] err k =
    (match asDouble v with | .ok f => k (.dbl f) err | .error e => k (.dbl (.fin (-4))) (some e)) := rfl
theorem prim_FromDouble (f : F) : prim C .PyFloat_FromDouble [.dbl f] err k = k (.obj (Val.ofFloat f)) err := rfl
theorem prim_AS_DOUBLE (v : Val) : prim C .PyFloat_AS_DOUBLE [.obj v] err k = k (.dbl (floatOf v)) err := rfl
theorem prim_AsCComplex (v : Val) : prim C .PyComplex_AsCComplex [.obj v] err k =
    (match asComplex v with | .ok (re, im) => k (.cpx re im) err | .error e => k (.cpx (.fin (-4)) (.fin 0)) (some e)) := rfl
theorem prim_FromCComplex (re im : F) : prim C .PyComplex_FromCComplex [.cpx re im] err k = k (.obj (Val.ofComplex re im)) err := rfl
theorem prim_AsLong (s : Bool) (n : Int) : prim C .PyLong_AsLong [.obj (.atom (.int s n))] err k = k (.int n) err := rfl
theorem prim_IsTrue (b : Bool) : prim C .PyObject_IsTrue [.obj (.atom (.bool b))] err k = k (ofBool b) err := rfl
theorem prim_Contains (vals : List Val) (v : Val) : prim C .PySequence_Contains [.seq vals, .obj v] err k =
    (match seqContains vals v with | .yes => k (.int 1) err | .no => k (.int 0) err | .raises e => k (.int (-1)) (some e)) := rfl
theorem prim_DictGet (keys : List Val) (v : Val) : prim C .PyDict_GetItemWithError [.dict keys, .obj v] err k =
    (match dictFind keys v with | .ok (some _) => k .borrowed err | .ok none => k .null err | .error e => k .null (some e)) := rfl
theorem prim_ExcMatches (e : Exc) : prim C .PyErr_ExceptionMatches [.exc e] err k = k (ofBool (err == some e)) err := rfl
theorem prim_Occurred : prim C .PyErr_Occurred [] err k = k (ofBool err.isSome) err := rfl
theorem prim_Clear : prim C .PyErr_Clear [] err k = k .undef none := rfl
theorem prim_Pack (n : Int) (xs : List CV) : prim C .PyTuple_Pack (.int n :: xs) err k = k (.tup xs) err := rfl
theorem prim_Call (f : CV) (xs : List CV) : prim C .PyObject_Call [f, .tup xs, .null] err k = pyCall C f xs err k := rfl
theorem prim_CallMethod (h : Val → Res) (v : Val) :
    prim C .PyObject_CallMethod [.handler h, .str "slow_validate", .str "(OOO)", .hobj, .name, .obj v] err k =
      pyCall C (.handler h) [.hobj, .name, .obj v] err k := rfl
theorem prim_New (n : Int) : prim C .PyTuple_New [.int n] err k = k (.mtuple (List.replicate n.toNat .null)) err := rfl
theorem prim_INCREF (x : CV) : prim C .Py_INCREF [x] err k = k .undef err := rfl
theorem prim_DECREF (x : CV) : prim C .Py_DECREF [x] err k = k .undef err := rfl
theorem prim_XDECREF (x : CV) : prim C .Py_XDECREF [x] err k = k .undef err := rfl
theorem prim_raise (d : Desc) (v : Val) : prim C .raise_trait_error [.trait d, .hobj, .name, .obj v] err k = k .null (some .traitError) := rfl
theorem prim_default_adapt (cls : Ty) (m : Nat) (an : Bool) (dflt : Val) :
    prim C .default_value_for [.trait (.adapt cls m an dflt), .hobj, .name] err k = k (.obj dflt) err := rfl
theorem prim_default_complex (ds : List Desc) :
    prim C .default_value_for [.trait (.complex ds), .hobj, .name] err k = k (.obj C.cdflt) err := rfl
theorem prim_helper (name : String) (xs : List CV) :
    prim C (.helper name) xs err k = k (C.helper name xs err).1 (C.helper name xs err).2 := rfl

theorem pyCall_ty (t : Ty) (v : Val) : pyCall C (.ty t) [.obj v] err k =
    (match C.E.cast t v with | .ok w => k (.obj w) err | .error e => k .null (some e)) := rfl
theorem pyCall_fn (f : Nat) (v : Val) : pyCall C (.fn f) [.hobj, .name, .obj v] err k =
    (match C.E.fn f v with | .ok w => k (.obj w) err | .error e => k .null (some e)) := rfl
theorem pyCall_handler (h : Val → Res) (v : Val) : pyCall C (.handler h) [.hobj, .name, .obj v] err k =
    (match h v with | .ok w => k (.obj w) err | .traitError => k .null (some .traitError) | .raised e => k .null (some e)) := rfl
theorem pyCall_adapt (v : Val) (cls : Ty) : pyCall C .adaptFn [.obj v, .ty cls, .obj (.atom .none)] err k =
    (match C.E.adapt v cls with | .ok (some r) => k (.obj r) err | .ok none => k (.obj Val.none) err | .error e => k .null (some e)) := rfl
end prims

attribute [simp] prim_GET_SIZE prim_GET_ITEM prim_TypeCheck prim_IsInstance prim_TYPE prim_TYPE_obj prim_LongExact
  prim_FloatExact prim_ComplexExact prim_TupleCheck prim_Callable prim_Index prim_Long prim_AsDouble prim_FromDouble
  prim_AS_DOUBLE prim_AsCComplex prim_FromCComplex prim_AsLong prim_IsTrue prim_Contains prim_DictGet prim_ExcMatches
  prim_Occurred prim_Clear prim_Pack prim_Call prim_CallMethod prim_New prim_INCREF prim_DECREF prim_XDECREF prim_raise
  prim_default_adapt prim_default_complex prim_helper pyCall_ty pyCall_fn pyCall_handler pyCall_adapt

/-! ## C values

Stated for the constructors the validators meet, so that an operation whose operands are not
yet known stays folded. -/

@[simp] theorem cvEq_obj (a b : Val) : cvEq (.obj a) (.obj b) = decide (a = b) := rfl
@[simp] theorem cvEq_int (a b : Int) : cvEq (.int a) (.int b) = decide (a = b) := rfl
@[simp] theorem cvEq_dbl (a b : F) : cvEq (.dbl a) (.dbl b) = F.eq a b := rfl
@[simp] theorem cvEq_tyOf (v : Val) (t : Ty) : cvEq (.tyOf v) (.ty t) = Val.exactTy t v := rfl
@[simp] theorem cvEq_null : cvEq .null .null = true := rfl
@[simp] theorem cvEq_obj_null (a : Val) : cvEq (.obj a) .null = false := rfl
@[simp] theorem cvEq_tup_null (xs : List CV) : cvEq (.tup xs) .null = false := rfl
@[simp] theorem cvEq_mtuple_null (xs : List CV) : cvEq (.mtuple xs) .null = false := rfl
@[simp] theorem cvEq_borrowed_null : cvEq .borrowed .null = false := rfl
@[simp] theorem cvEq_fptr_null (d : Desc) : cvEq (.fptr d) .null = false := rfl
@[simp] theorem cvEq_ty_obj (t : Ty) (a : Val) : cvEq (.ty t) (.obj a) = false := rfl
@[simp] theorem cvLt_int (a b : Int) : cvLt (.int a) (.int b) = decide (a < b) := rfl
@[simp] theorem cvLt_dbl (a b : F) : cvLt (.dbl a) (.dbl b) = F.lt a b := rfl
@[simp] theorem cvLe_dbl (a b : F) : cvLe (.dbl a) (.dbl b) = F.le a b := rfl
@[simp] theorem cvNeg_int (a : Int) : cvNeg (.int a) = .int (-a) := rfl
@[simp] theorem cvNeg_dbl (q : Int) : cvNeg (.dbl (.fin q)) = .dbl (.fin (-q)) := rfl
@[simp] theorem cvBitAnd_int (m n : Int) : cvBitAnd (.int m) (.int n) = .int (Int.ofNat (m.toNat &&& n.toNat)) := rfl
@[simp] theorem cvSub_int (m n : Int) : cvSub (.int m) (.int n) = .int (m - n) := rfl

/-- A C-API truth value (`ofBool`) compared with a constant, the four ways the validators do. -/
@[simp] theorem cvEq_ofBool_neg (b : Bool) : cvEq (ofBool b) (.int (-1)) = false := by cases b <;> rfl
@[simp] theorem cvEq_ofBool_one (b : Bool) : cvEq (ofBool b) (.int 1) = b := by cases b <;> rfl
@[simp] theorem cvEq_ofBool_zero (b : Bool) : cvEq (ofBool b) (.int 0) = !b := by cases b <;> rfl
@[simp] theorem cvLt_zero_ofBool (b : Bool) : cvLt (.int 0) (ofBool b) = b := by cases b <;> rfl

@[simp] theorem truthy_obj (v : Val) : (CV.obj v).truthy = true := rfl
@[simp] theorem optF_none : optF none = .obj Val.none := rfl
@[simp] theorem optF_some (f : F) : optF (some f) = .obj (Val.ofFloat f) := rfl
@[simp] theorem getItem_info (d : Desc) (i : Int) : getItem (.info d) i = (layout d).getD i.toNat .undef := rfl
@[simp] theorem getItem_infos (ds : List Desc) (i : Int) :
    getItem (.infos ds) i = match ds[i.toNat]? with | some d => .info d | none => .undef := rfl
@[simp] theorem getItem_traits (items : List (Option Desc)) (i : Int) :
    getItem (.traits items) i = match items[i.toNat]? with | some d => .itrait d | none => .undef := rfl
@[simp] theorem getItem_tuple (sub : Bool) (vs : List Val) (i : Int) :
    getItem (.obj (.tuple sub vs)) i = match vs[i.toNat]? with | some v => .obj v | none => .undef := rfl

/-! ## Statements and expressions

The equations of `exec` are stated for a state in constructor form: `simp` then runs a
statement only once the state before it is known, and leaves the rest of the program, which
sits in the continuation under a binder, alone until control reaches it. -/

section exec
variable {R : Type} (C : Ctx) (fuel : Nat) (vs : List CV) (er : Err) (k : Out → St → R)

/-- The continuation a `switch` gives its arms: `break` leaves the switch. -/
def swK (k : Out → St → R) : Out → St → R := fun o s =>
  match o with
  | .brk => k .norm s
  | o => k o s

/-- The continuation a `for` loop gives its body, the remaining iterations being `rec`. -/
def bodyK (incr : St → (CV → St → R) → R) (k : Out → St → R) (rec : St → R) : Out → St → R := fun o s =>
  match o with
  | .norm => incr s fun _ s' => rec s'
  | .brk => k .norm s
  | o => k o s

@[simp] theorem exec_skip : exec C fuel .skip ⟨vs, er⟩ k = k .norm ⟨vs, er⟩ := by rw [exec]
@[simp] theorem exec_expr (e : Expr) : exec C fuel (.expr e) ⟨vs, er⟩ k = evalE C e ⟨vs, er⟩ fun _ s => k .norm s := by
  rw [exec]
@[simp] theorem exec_seq (a b : Stmt) : exec C fuel (.seq a b) ⟨vs, er⟩ k =
    exec C fuel a ⟨vs, er⟩ fun o s => match o with | .norm => exec C fuel b s k | o => k o s := by
  rw [exec]; rfl
@[simp] theorem exec_ite (c : Expr) (t e : Stmt) : exec C fuel (.ite c t e) ⟨vs, er⟩ k =
    evalE C c ⟨vs, er⟩ fun x s => if x.truthy then exec C fuel t s k else exec C fuel e s k := by rw [exec]
@[simp] theorem exec_forLoop (init : Stmt) (cond incr : Expr) (body : Stmt) :
    exec C fuel (.forLoop init cond incr body) ⟨vs, er⟩ k =
      exec C fuel init ⟨vs, er⟩ fun o s =>
        match o with
        | .norm => iter (fun s k' => evalE C cond s k') (fun s k' => evalE C incr s k')
                     (fun s k' => exec C fuel body s k') k fuel s
        | o => k o s := by
  rw [exec]; rfl
@[simp] theorem exec_switch (scrut : Expr) (cases : Cases) (dflt : Stmt) :
    exec C fuel (.switch scrut cases dflt) ⟨vs, er⟩ k =
      evalE C scrut ⟨vs, er⟩ fun x s =>
        match x with
        | .int n => execCases C fuel n cases s (fun s' => exec C fuel dflt s' (swK k)) (swK k)
        | _ => k .stuck s := by
  rw [exec]; rfl
@[simp] theorem exec_brk : exec C fuel .brk ⟨vs, er⟩ k = k .brk ⟨vs, er⟩ := by rw [exec]
@[simp] theorem exec_ret (e : Expr) : exec C fuel (.ret e) ⟨vs, er⟩ k = evalE C e ⟨vs, er⟩ fun x s => k (.ret x) s := by
  rw [exec]
@[simp] theorem exec_goto (l : String) : exec C fuel (.goto l) ⟨vs, er⟩ k = k (.goto l) ⟨vs, er⟩ := by rw [exec]

@[simp] theorem swK_brk (s : St) : swK k .brk s = k .norm s := rfl
@[simp] theorem swK_ret (x : CV) (s : St) : swK k (.ret x) s = k (.ret x) s := rfl
@[simp] theorem swK_goto (l : String) (s : St) : swK k (.goto l) s = k (.goto l) s := rfl

def Cases.arm (n : Int) : Cases → Option Stmt
  | .nil => none
  | .cons n' b rest => if n = n' then some b else rest.arm n

theorem execCases_arm (n : Int) (s : St) (kd : St → R) : ∀ cs : Cases,
    execCases C fuel n cs s kd k = match cs.arm n with | some b => exec C fuel b s k | none => kd s
  | .nil => by rw [execCases]; rfl
  | .cons n' b rest => by
    rw [execCases, Cases.arm]
    split
    · rfl
    · exact execCases_arm n s kd rest

variable (cond incr : St → (CV → St → R) → R) (body : St → (Out → St → R) → R)

theorem iter_succ (n : Nat) (s : St) : iter cond incr body k (n + 1) s =
    cond s fun c s' => if c.truthy then body s' (bodyK incr k (iter cond incr body k n)) else k .norm s' := rfl

@[simp] theorem bodyK_norm (rec : St → R) (s : St) : bodyK incr k rec .norm s = incr s fun _ s' => rec s' := rfl
@[simp] theorem bodyK_brk (rec : St → R) (s : St) : bodyK incr k rec .brk s = k .norm s := rfl
@[simp] theorem bodyK_ret (rec : St → R) (x : CV) (s : St) : bodyK incr k rec (.ret x) s = k (.ret x) s := rfl
@[simp] theorem bodyK_goto (rec : St → R) (l : String) (s : St) : bodyK incr k rec (.goto l) s = k (.goto l) s := rfl
theorem bodyK_other (rec : St → R) {o : Out} (h : o ≠ .norm ∧ o ≠ .brk) (s : St) : bodyK incr k rec o s = k o s := by
  cases o with
  | norm => exact absurd rfl h.1
  | brk => exact absurd rfl h.2
  | _ => rfl

end exec

section forRule
variable {R α : Type} (cond incr : St → (CV → St → R) → R) (body : St → (Out → St → R) → R) (k : Out → St → R)
  (S : Nat → α → St) (n : Nat)
  (hc : ∀ j a k', cond (S j a) k' = k' (ofBool (decide (j < n))) (S j a))
  (hi : ∀ j a (rec : St → R), incr (S j a) (fun _ s => rec s) = rec (S (j + 1) a))

include hc hi in
/-- `for (…; j < n; j++) body` on a family of states `S j a`: `j` is the counter, `a` whatever else the
loop changes.  A property `P j a` of the loop's answer from counter `j` on holds if it holds of `k .norm`
once `j ≥ n`, and of one round of the body whenever it holds, one position further, of the body's normal
completion.  The round runs under `bodyK incr k rec`, so a `break`, `return` or `goto` in it reaches `k`
and is dealt with without the induction hypothesis.  The loop may be entered past `n`, as
`for (i++; i < n; i++)` is after a first loop that ran to the end. -/
theorem iter_ind (P : Nat → α → R → Prop) (hend : ∀ j a, n ≤ j → P j a (k .norm (S j a)))
    (hstep : ∀ j a (rec : St → R), j < n → (∀ a', P (j + 1) a' (bodyK incr k rec .norm (S j a'))) →
      P j a (body (S j a) (bodyK incr k rec))) :
    ∀ (m j : Nat) (a : α), n - j < m → P j a (iter cond incr body k m (S j a))
  | 0, _, _, h => absurd h (Nat.not_lt_zero _)
  | m + 1, j, a, h => by
    rw [iter_succ, hc, truthy_ofBool]
    by_cases hj : j < n
    · rw [decide_eq_true hj, if_pos rfl]
      refine hstep j a _ hj fun a' => ?_
      rw [bodyK_norm, hi]
      exact iter_ind P hend hstep m (j + 1) a' (by omega)
    · rw [decide_eq_false hj, if_neg Bool.false_ne_true]
      exact hend j a (by omega)

end forRule

attribute [simp] evalE evalArgs St.get St.set runTails Tails.from

/-! ## Parts of a program

A proof that runs a long function in stages names the parts not yet reached by their position
(`show` folds them), so that `simp` does not look into them. -/

/-- The rest of a statement sequence after its first `n` statements. -/
def Stmt.drop : Nat → Stmt → Stmt
  | 0, b => b
  | n + 1, .seq _ r => Stmt.drop n r
  | _ + 1, _ => .skip

/-- The first statement of a sequence. -/
def Stmt.head : Stmt → Stmt
  | .seq a _ => a
  | s => s

/-- The then-branch of the (first) `if` of a statement. -/
def Stmt.thn : Stmt → Stmt
  | .seq a _ => a.thn
  | .ite _ t _ => t
  | _ => .skip

/-- The `for` loop a statement sequence ends with: initialisation, condition, increment, body. -/
def getLoop : Stmt → Stmt × Expr × Expr × Stmt
  | .seq _ b => getLoop b
  | .forLoop i c inc b => (i, c, inc, b)
  | _ => (.skip, .null, .null, .skip)

/-- The cases of the `switch` a statement sequence ends with. -/
def Stmt.cases : Stmt → Cases
  | .seq _ b => b.cases
  | .switch _ cs _ => cs
  | _ => .nil

/-- The continuation `runFn` gives the body of `f`. -/
def fnK (C : Ctx) (fuel : Nat) (f : Fn) : Out → St → Option (CV × Err) := fun o s =>
  match o with
  | .ret v => some (v, s.err)
  | .norm => runTails C fuel f.tails s
  | .goto l => runTails C fuel (f.tails.from l) s
  | _ => none

theorem runFn_eq (C : Ctx) (fuel : Nat) (f : Fn) (args : List CV) (err : Err) : runFn C fuel f args err =
    exec C fuel f.body ⟨args ++ List.replicate (f.nvars - f.nparams) .undef, err⟩ (fnK C fuel f) := rfl
@[simp] theorem fnK_ret (C : Ctx) (fuel : Nat) (f : Fn) (v : CV) (s : St) : fnK C fuel f (.ret v) s = some (v, s.err) :=
  rfl
@[simp] theorem fnK_goto (C : Ctx) (fuel : Nat) (f : Fn) (l : String) (s : St) :
    fnK C fuel f (.goto l) s = runTails C fuel (f.tails.from l) s := rfl
@[simp] theorem fnK_norm (C : Ctx) (fuel : Nat) (f : Fn) (s : St) : fnK C fuel f .norm s = runTails C fuel f.tails s :=
  rfl

/-- Run a translated function (statement, expression) from a known state: `simp` with the
equations above; a variable is read by walking the list of locals. -/
macro "csrc_eval" " [" ls:Lean.Parser.Tactic.simpLemma,* "]" : tactic => `(tactic|
  simp [-List.getD_eq_getElem?_getD, List.getD_cons_succ, List.getD_cons_zero, runFn_eq, getSize, evalField,
    pyValidateOf, kindItem, noneSlot, $ls,*])

/-! ## The helpers -/

variable (C : Ctx)

theorem exactInt_iff (v : Val) : Val.exactTy .int v = true ↔ ∃ n, v = .atom (.int false n) := by
  rcases v with a | ⟨s, vs⟩ | vs
  · cases a <;> simp [Val.exactTy]
    case int sub n => cases sub <;> simp
  · simp [Val.exactTy]
  · simp [Val.exactTy]

/- as_integer, validate_float, validate_complex_number: an object of the exact type is returned
as it is (the first equation of the model's function), any other is converted (the second). -/

theorem run_as_integer (fuel : Nat) (v : Val) :
    runFn C fuel fn_as_integer [.obj v] none = some (exceptToC (asInteger v)) := by
  simp only [fn_as_integer]
  csrc_eval []
  split
  · obtain ⟨n, rfl⟩ := (exactInt_iff v).1 ‹_›
    rfl
  · rw [asInteger.eq_2 v fun n hn => ‹¬ _› ((exactInt_iff v).2 ⟨n, hn⟩)]
    cases index v <;> rfl

theorem run_validate_float (fuel : Nat) (v : Val) :
    runFn C fuel fn_validate_float [.obj v] none = some (exceptToC (validateFloat v)) := by
  simp only [fn_validate_float]
  csrc_eval []
  split
  · obtain ⟨f, rfl⟩ := exactFloat v ‹_›
    rfl
  · rw [validateFloat.eq_2 v fun f hf => ‹¬ _› (by rw [hf]; rfl)]
    cases asDouble v <;> simp [exceptToC, F.eq, F.key]

theorem run_validate_complex_number (fuel : Nat) (v : Val) :
    runFn C fuel fn_validate_complex_number [.obj v] none = some (exceptToC (validateComplexNumber v)) := by
  simp only [fn_validate_complex_number]
  csrc_eval []
  split
  · obtain ⟨re, im, rfl⟩ := exactComplex v ‹_›
    rfl
  · rw [validateComplexNumber.eq_2 v fun re im h => ‹¬ _› (by rw [h]; rfl)]
    cases asComplex v <;> simp [exceptToC, F.eq, F.key]

@[simp] theorem floatOf_ofFloat (f : F) : floatOf (Val.ofFloat f) = f := rfl

private theorem some_ofBool (b : Bool) : (if b = false then some (CV.int 0, (none : Err)) else some (CV.int 1, none)) =
    some (ofBool b, none) := by cases b <;> rfl
private theorem some_ofBool_and (b c : Bool) (r : Option (CV × Err)) (h : r = some (ofBool c, none)) :
    (if b = false then some (CV.int 0, none) else r) = some (ofBool (b && c), none) := by
  subst h; cases b <;> cases c <;> rfl

private theorem and_two (m : Nat) : (m &&& 2 = 0) ↔ (m / 2 % 2 = 0) := by
  have h : (m &&& 2) / 2 = m / 2 % 2 := by rw [Nat.and_div_two, ← Nat.and_one_is_mod]
  have h2 : (m &&& 2) % 2 = 0 := by simpa using Nat.and_mod_two_pow (a := m) (b := 2) (n := 1)
  omega

/- in_float_range: the three items are fetched once; the two bound checks (each returns 0 or
falls through to the next statement) are then run for a present / an absent bound. -/
theorem run_in_float_range (fuel : Nat) (w : Val) (lo hi : Option F) (mask : Nat) :
    runFn C fuel fn_in_float_range [.obj w, .info (.floatRange lo hi mask)] none =
      some (ofBool (inFloatRange (floatOf w) lo hi mask), none) := by
  rw [runFn_eq]
  show exec _ _ (.seq _ (.seq _ (.seq _ (.seq _ (Stmt.drop 4 fn_in_float_range.body))))) ⟨[_, _, _, _, _], _⟩ _ = _
  have hm : (mask : Int) ≠ -1 := by omega   -- `if (exclude_mask == -1 && PyErr_Occurred()) return -1;`
  csrc_eval [hm, layout]
  show exec _ _ (.seq _ (.seq _ _)) _ _ = _
  have h1 : ((mask : Int) % 2 = 0) ↔ ¬ (mask % 2 = 1) := by omega
  cases lo <;> cases hi <;> csrc_eval [h1, and_two, inFloatRange, F.gt, F.ge]
  · rfl
  · split <;> exact some_ofBool _
  · split <;> exact some_ofBool _
  · split <;> exact some_ofBool_and _ _ _ (by split <;> exact some_ofBool _)

theorem run_validate_trait_callable (fuel : Nat) (v : Val) (an : Option Bool) :
    runFn C fuel fn__validate_trait_callable [.info (.callable an), .obj v] none =
      some (ofBool (validateCallable an v), none) := by
  simp only [fn__validate_trait_callable]
  rcases an with _ | b <;> csrc_eval [layout, validateCallable, isNone_iff] <;> split <;> simp_all [ofBool]

theorem run_type_converter (fuel : Nat) (t : Ty) (v : Val) :
    runFn C fuel fn_type_converter [.ty t, .obj v] none = some (exceptToC (C.E.cast t v)) := by
  simp only [fn_type_converter]
  csrc_eval []
  cases C.E.cast t v <;> rfl

theorem run_call_validator (fuel : Nat) (f : Nat) (v : Val) :
    runFn C fuel fn_call_validator [.fn f, .hobj, .name, .obj v] none = some (exceptToC (C.E.fn f v)) := by
  simp only [fn_call_validator]
  csrc_eval []
  cases C.E.fn f v <;> rfl

/-! ## The helpers called by name -/

variable (E : Env) (inner : Desc → Val → Res) (cdflt : Val) (fuel : Nat)

/-- What `helpers` does with the result of `runFn`. -/
def finK (err : Err) : Option (CV × Err) → CV × Err
  | some r => (finishT r.1, r.2)
  | none => (.undef, err)

theorem helpers_eq {name : String} {f : Fn} (hl : table.lookup name = some f) (xs : List CV) (err : Err) :
    helpers E inner cdflt fuel name xs err = finK err (runFn (C0 E inner cdflt) fuel f xs err) := by
  simp only [helpers, hl]
  cases runFn (C0 E inner cdflt) fuel f xs err <;> rfl

@[simp] theorem finishT_exceptToC (r : Except Exc Val) :
    (finishT (exceptToC r).1, (exceptToC r).2) = exceptToC r := by cases r <;> rfl
@[simp] theorem finishT_ofBool (b : Bool) : finishT (ofBool b) = ofBool b := by cases b <;> rfl

theorem helpers_as_integer (v : Val) :
    helpers E inner cdflt fuel "as_integer" [.obj v] none = exceptToC (asInteger v) := by
  rw [helpers_eq E inner cdflt fuel rfl, run_as_integer _ fuel v]; exact finishT_exceptToC _
theorem helpers_validate_float (v : Val) :
    helpers E inner cdflt fuel "validate_float" [.obj v] none = exceptToC (validateFloat v) := by
  rw [helpers_eq E inner cdflt fuel rfl, run_validate_float _ fuel v]; exact finishT_exceptToC _
theorem helpers_validate_complex_number (v : Val) :
    helpers E inner cdflt fuel "validate_complex_number" [.obj v] none = exceptToC (validateComplexNumber v) := by
  rw [helpers_eq E inner cdflt fuel rfl, run_validate_complex_number _ fuel v]; exact finishT_exceptToC _
theorem helpers_in_float_range (w : Val) (lo hi : Option F) (mask : Nat) :
    helpers E inner cdflt fuel "in_float_range" [.obj w, .info (.floatRange lo hi mask)] none =
      (ofBool (inFloatRange (floatOf w) lo hi mask), none) := by
  rw [helpers_eq E inner cdflt fuel rfl, run_in_float_range _ fuel w lo hi mask]; exact congrArg (·, none) (finishT_ofBool _)
theorem helpers_callable (v : Val) (an : Option Bool) :
    helpers E inner cdflt fuel "_validate_trait_callable" [.info (.callable an), .obj v] none =
      (ofBool (validateCallable an v), none) := by
  rw [helpers_eq E inner cdflt fuel rfl, run_validate_trait_callable _ fuel v an]; exact congrArg (·, none) (finishT_ofBool _)
theorem helpers_type_converter (t : Ty) (v : Val) :
    helpers E inner cdflt fuel "type_converter" [.ty t, .obj v] none = exceptToC (E.cast t v) := by
  rw [helpers_eq E inner cdflt fuel rfl, run_type_converter _ fuel t v]; exact finishT_exceptToC _
theorem helpers_call_validator (f : Nat) (v : Val) :
    helpers E inner cdflt fuel "call_validator" [.fn f, .hobj, .name, .obj v] none = exceptToC (E.fn f v) := by
  rw [helpers_eq E inner cdflt fuel rfl, run_call_validator _ fuel f v]; exact finishT_exceptToC _

end TraitsVerif.Model.CSrc
