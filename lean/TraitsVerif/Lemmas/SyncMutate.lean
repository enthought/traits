/-
Propagation of an in-place list mutation (`_sync_trait_items_modified`): the
operation the handler applies to a partner's list is C05's replay of the event
(`listStep_eventOp`), so a partner holding an equal list ends with an equal list
(`mutate_converges`) — provided no trait is reached twice by the propagation
(`visit … .Nodup`), which is where a cycle of links breaks the property.
-/
import TraitsVerif.Lemmas.SyncOps
import TraitsVerif.Lemmas.SeqRefine
import TraitsVerif.Lemmas.SeqLen
namespace TraitsVerif.Model.Sync
open TraitsVerif TraitsVerif.Py TraitsVerif.Model
variable {α : Type}

theorem listStep_ok {E : Model.Env α} {l : List α} {op : Op α} {o : Out α}
    (h : listStep E l op = .ok o) : TraitList.step E l op = .ok o := by
  unfold listStep at h
  split at h
  · cases h
  · exact h

/-- `slice(n, n + r).indices(len)` for `0 ≤ n`, `n + r ≤ len`. -/
theorem indices_contig (len : Nat) (n : Int) (r : Nat) (hn : 0 ≤ n) (hr : n + r ≤ len) :
    (Slice.mk (some n) (some (n + r)) none).indices len = some (n, n + r, 1) := by
  simp only [Slice.indices, Option.getD_none, adjustStart, adjustStop]
  have h1 : ¬ n < 0 := by omega
  have h2 : ¬ n + (r : Int) < 0 := by omega
  simp only [h1, h2, if_false]
  simp only [show ¬ ((1 : Int) = 0) by omega, if_false, show ¬ ((1 : Int) < 0) by omega]
  congr 2
  · split <;> omega
  · congr 1; split <;> omega

/-- **The handler's operation is the replay of the event.** On a list `l` on
which the event `e` is in normal form and replays to `l'`, and with an item
validator that stores the added items unchanged,
`partner[index] = event.added` / `del partner[index]` succeeds and leaves `l'`. -/
theorem listStep_eventOp (Ev : Model.Env α) (l l' : List α) (e : Event α)
    (hrep : replay l e = some l') (hnf : NormalForm l e)
    (hfix : valAll Ev.v 0 e.added = .ok e.added) :
    ∃ o', listStep Ev l (eventOp e) = .ok o' ∧ o'.items = l' := by
  -- the length guard lets the operation through, its items are stored as they are, and the
  -- builtin operation yields `l'`: so does `TraitList`'s
  suffices h : (∃ n, guardLen l (eventOp e) = .ok n) ∧ validateOp Ev (eventOp e) = .ok (eventOp e) ∧
      pyStep Ev l (eventOp e) = .ok (l', none) by
    obtain ⟨⟨n, hg⟩, hv, hp⟩ := h
    obtain ⟨o', ho', hi, -⟩ := step_refines_complete Ev l _ _ l' none hv hp
    exact ⟨o', by simp only [listStep, hg, ho'], hi⟩
  obtain ⟨ix, removed, added⟩ := e
  cases ix with
  | idx n =>
    obtain ⟨hn, hlen, -⟩ := hnf
    have hidx := indices_contig l.length n removed.length hn hlen
    have hset : Py.setSlice l ⟨some n, some (n + removed.length), none⟩ added = .ok l' := by
      simp only [replay] at hrep
      rw [if_neg (by omega)] at hrep
      cases hrep
      simp only [Py.setSlice, hidx, if_true, splice]
      rw [if_neg (by omega)]
      congr 3
      omega
    exact ⟨⟨_, by simp [eventOp, guardLen, Py.getSlice, hidx]; rfl⟩, by simp [eventOp, validateOp, hfix, Except.map],
      by simp [eventOp, pyStep, hset, Except.map]⟩
  | slc a b k =>
    obtain ⟨-, -, -, hk, hget, hlen⟩ := hnf
    by_cases hadd : added = []
    · subst hadd
      have hdel : Py.delSlice l ⟨some a, some b, some k⟩ = .ok l' := toOption_some hrep
      exact ⟨⟨_, by simp [eventOp, guardLen, hget]; rfl⟩, rfl, by simp [eventOp, pyStep, hdel, Except.map]⟩
    · have hne : added.isEmpty = false := by simpa using hadd
      have hset : Py.setSlice l ⟨some a, some b, some k⟩ added = .ok l' := by
        simp only [replay, hne] at hrep
        exact toOption_some hrep
      have hk1 : k ≠ 1 := by omega
      exact ⟨⟨_, by simp [eventOp, hne, guardLen, hk1, hget, hlen.resolve_left hadd]; rfl⟩,
        by simp [eventOp, hne, validateOp, hfix, Except.map], by simp [eventOp, hne, pyStep, hset, Except.map]⟩

theorem list_of_val {w w' : World α} {q : Pair} (h : w'.val q = w.val q) : w'.list q = w.list q := by
  simp [World.list, h]

/-- **Convergence of an in-place mutation, one command.** From a state with an
empty lock table, with the items handler registered on the mutated trait `p`,
a partner `q` whose list equals `p`'s and whose item validator stores the added
items unchanged: if the propagation reaches no trait twice, the mutation
succeeds exactly as on an unlinked list and both lists hold its result. -/
theorem mutate_converges (E : Env α) (w : World α) (p q : Pair) (op : Op α) (o : Out α) (e : Event α)
    (hL : w.locked = []) (he : (⟨p, q⟩ : Edge) ∈ w.edges)
    (hlp : E.isList p = true) (hlq : E.isList q = true) (hhook : p ∈ w.hooked)
    (hstep : listStep (E.tl p) (w.list p) op = .ok o) (hev : o.event = some e)
    (heq : w.list q = w.list p)
    (hfix : valAll (E.iv q) 0 e.added = .ok e.added)
    (hnr : (visit w.edges w.budget [] p).Nodup) :
    (w.mutate E p op).exc = none ∧ (w.mutate E p op).ret = o.ret ∧
      (w.mutate E p op).world.val p = .l o.items ∧ (w.mutate E p op).world.val q = .l o.items := by
  obtain ⟨d, hd⟩ := budget_of_edge he
  rw [hd, ← hL] at hnr
  obtain ⟨w1, happ, hw1p⟩ := applyMutate_val w hlp hstep
  simp only [hev, Option.bind_some, hhook, if_true] at happ
  unfold World.mutate
  rw [hd, cascade_of_apply happ]
  have h1 := (local_mutate E).sameTabs happ
  rw [← h1.1, ← h1.2.1] at hnr
  have hp' := ((handle_self (local_mutate E) (d := d + 1) hnr (some (eventOp e))).1).trans hw1p
  refine ⟨rfl, rfl, hp', ?_⟩
  by_cases hqp : q = p
  · rw [hqp]; exact hp'
  -- `q` gets the operation while it still holds the list `p` held, and keeps the result
  obtain ⟨acc, -, hacc, hfin⟩ := handle_partner (local_mutate E) hnr
    (mem_partners.mpr (h1.1 ▸ he)) (by rw [h1.2.1, hL]; simpa using hqp) (eventOp e)
  have hlist : acc.list q = w.list p :=
    (list_of_val (hacc.1.trans ((local_mutate E).val happ q hqp))).trans heq
  obtain ⟨hrep, hnf⟩ := step_event_ok (E.tl p) (w.list p) op o e (listStep_ok hstep) hev
  obtain ⟨o', ho', hitems⟩ := listStep_eventOp (E.tl q) (w.list p) o.items e hrep hnf hfix
  obtain ⟨wq, happq, hwq⟩ := applyMutate_val acc hlq (hlist ▸ ho')
  exact ((hfin wq _ _ happq).1.trans hwq).trans (congrArg AVal.l hitems)

end TraitsVerif.Model.Sync
