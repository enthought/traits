/-
The tie between Model/Resolve.lean and the *source text* of the resolution code
(cluster `resolve`, C13): function environments for the translated programs
(Generated/ResolveC.lean, Generated/ResolvePy.lean), result conversions, the
equations of the interpreter with the evaluation tactic built from them, and the
lemmas of the functions that call nothing: the error helpers and
`get_trait(obj, name, 0)`.  The other functions follow: the per-kind handlers in
Lemmas/ResolveSourcePolicy, `_trait` / `add_trait` / `remove_trait` in
Lemmas/ResolveSourceMethods, the lookup code in Lemmas/ResolveSource2-4.

Calls between translated functions are interpreted by running the callee's
generated program.  The call graph of the source is cyclic
(get_prefix_trait → get_trait(…, 0) → … and get_prefix_trait →
has_traits_setattro(obj, trait_added, name)); it is cut in two places:
  * `has_traits_setattro(obj, trait_added, name)` is the primitive
    `fireTraitAdded` (Model/ResL.lean `prim`);
  * the functions are stratified: `user4` interprets `get_trait` with
    `get_prefix_trait` not yet available (enough for `instance = 0`, which
    returns before that call), `user6` adds `get_prefix_trait`, `user7` the full
    `get_trait` and the entry points.

Each environment binds the functions of its row to their programs, run with the
environment of the row above, and passes every other function on to it:
  user0  invalid_attribute_error, unknown_attribute_error   (anything else: stuck)
  user1  set_readonly_error, delete_readonly_error, set_disallow_error
  user2  setattr_python, setattr_disallow, setattr_constant,
         getattr_event, getattr_disallow, getattr_constant
  user3  setattr_readonly
  user4  get_trait, `self._trait` (both the program of get_trait)
  user5  `__prefix_trait__`
  user6  get_prefix_trait
  user7  get_trait, `self._trait` (again, now with get_prefix_trait), has_traits_setattro,
         has_traits_getattro, add_trait, remove_trait
  user8  _has_traits_trait (the C function behind the Python method `_trait`)
-/
import TraitsVerif.Lemmas.ResolveStep
import TraitsVerif.Lemmas.SimpAttr
import TraitsVerif.Generated.ResolveC
import TraitsVerif.Generated.ResolvePy
namespace TraitsVerif.Model.ResL
open TraitsVerif TraitsVerif.Model.Resolve TraitsVerif.Generated

abbrev User := Fn → List V → St → St × V
def stuckUser : User := fun _ _ st => (st, .stuck)

def user0 (E : Env) : User
  | .invalid_attribute_error, a, st => runFun ⟨E, stuckUser⟩ ResolveC.invalid_attribute_error a st
  | .unknown_attribute_error, a, st => runFun ⟨E, stuckUser⟩ ResolveC.unknown_attribute_error a st
  | _, _, st => (st, .stuck)
def user1 (E : Env) : User
  | .set_readonly_error, a, st => runFun ⟨E, user0 E⟩ ResolveC.set_readonly_error a st
  | .delete_readonly_error, a, st => runFun ⟨E, user0 E⟩ ResolveC.delete_readonly_error a st
  | .set_disallow_error, a, st => runFun ⟨E, user0 E⟩ ResolveC.set_disallow_error a st
  | f, a, st => user0 E f a st
def user2 (E : Env) : User
  | .setattr_python, a, st => runFun ⟨E, user1 E⟩ ResolveC.setattr_python a st
  | .setattr_disallow, a, st => runFun ⟨E, user1 E⟩ ResolveC.setattr_disallow a st
  | .setattr_constant, a, st => runFun ⟨E, user1 E⟩ ResolveC.setattr_constant a st
  | .getattr_event, a, st => runFun ⟨E, user1 E⟩ ResolveC.getattr_event a st
  | .getattr_disallow, a, st => runFun ⟨E, user1 E⟩ ResolveC.getattr_disallow a st
  | .getattr_constant, a, st => runFun ⟨E, user1 E⟩ ResolveC.getattr_constant a st
  | f, a, st => user1 E f a st
def user3 (E : Env) : User
  | .setattr_readonly, a, st => runFun ⟨E, user2 E⟩ ResolveC.setattr_readonly a st
  | f, a, st => user2 E f a st
def user4 (E : Env) : User
  | .get_trait, a, st => runFun ⟨E, user3 E⟩ ResolveC.get_trait a st
  | .m_trait, a, st => runFun ⟨E, user3 E⟩ ResolveC.get_trait a st
  | f, a, st => user3 E f a st
def user5 (E : Env) : User
  | .m_prefix_trait, a, st => runFun ⟨E, user4 E⟩ ResolvePy.prefix_trait a st
  | f, a, st => user4 E f a st
def user6 (E : Env) : User
  | .get_prefix_trait, a, st => runFun ⟨E, user5 E⟩ ResolveC.get_prefix_trait a st
  | f, a, st => user5 E f a st
def user7 (E : Env) : User
  | .get_trait, a, st => runFun ⟨E, user6 E⟩ ResolveC.get_trait a st
  | .m_trait, a, st => runFun ⟨E, user6 E⟩ ResolveC.get_trait a st
  | .has_traits_setattro, a, st => runFun ⟨E, user6 E⟩ ResolveC.has_traits_setattro a st
  | .has_traits_getattro, a, st => runFun ⟨E, user6 E⟩ ResolveC.has_traits_getattro a st
  | .m_add_trait, a, st => runFun ⟨E, user6 E⟩ ResolvePy.add_trait a st
  | .m_remove_trait, a, st => runFun ⟨E, user6 E⟩ ResolvePy.remove_trait a st
  | f, a, st => user6 E f a st

def user8 (E : Env) : User
  | .has_traits_trait, a, st => runFun ⟨E, user7 E⟩ ResolveC.has_traits_trait a st
  | f, a, st => user7 E f a st

/-- The state a top-level call starts from.  `nI` / `nO`: the C pointers
`obj->itrait_dict` / `obj->obj_dict` are NULL (only possible while empty). -/
def St.init (w : World) (oi : Nat) (o : Obj) (c : Cls) (nI nO : Bool) : St :=
  { w := w, oi := oi, o := o, c := c, nullI := nI, nullO := nO }

def vOpt : Option Val → V
  | some v => .val v
  | none => .null

theorem vOpt_some (v : Val) : vOpt (some v) = .val v := rfl
theorem vOpt_none : vOpt none = .null := rfl

/-! ### Reading results back into the model's types (`none` = the interpreter was stuck) -/

/-- an `int`-returning setter, as a new `__dict__` -/
def asDict (r : St × V) : Option (Except Exc (Map Val)) :=
  match r.2 with
  | .int 0 => some (.ok r.1.o.dict)
  | .int (-1) => r.1.err.map .error
  | _ => none

/-- a getter (`trait->getattr`), as value and new `__dict__` -/
def asValDict (r : St × V) : Option (Except Exc (Val × Map Val)) :=
  match r.2 with
  | .val v => some (.ok (v, r.1.o.dict))
  | .none => some (.ok (.none, r.1.o.dict))
  | .null => r.1.err.map .error
  | _ => none

def asTrait (r : St × V) : Option (Except Exc Trait) :=
  match r.2 with
  | .trait t => some (.ok t)
  | .null => r.1.err.map .error
  | _ => none

def asWorldTrait (r : St × V) : Option (World × Except Exc Trait) :=
  match r.2 with
  | .trait t => some (r.1.w, .ok t)
  | .null => r.1.err.map (fun e => (r.1.w, .error e))
  | _ => none

/-- `has_traits_setattro` -/
def asSet (r : St × V) : Option (World × Except Exc Out) :=
  match r.2 with
  | .int 0 => some (r.1.w, .ok .done)
  | .int (-1) => r.1.err.map (fun e => (r.1.w, .error e))
  | _ => none

/-- `has_traits_getattro` -/
def asGet (r : St × V) : Option (World × Except Exc Out) :=
  match r.2 with
  | .val v => some (r.1.w, .ok (.val v))
  | .none => some (r.1.w, .ok (.val .none))
  | .null => r.1.err.map (fun e => (r.1.w, .error e))
  | _ => none

/-- `get_trait` / `_trait` / `trait` / `base_trait` -/
def asGetTrait (r : St × V) : Option (World × Except Exc Out) :=
  match r.2 with
  | .trait t => some (r.1.w, .ok (.trait (some t)))
  | .none => some (r.1.w, .ok (.trait none))
  | .null => r.1.err.map (fun e => (r.1.w, .error e))
  | _ => none

/-- a Python method returning None / a bool -/
def asPy (r : St × V) : Option (World × Except Exc Out) :=
  match r.2 with
  | .none => some (r.1.w, .ok .done)
  | .bool b => some (r.1.w, .ok (.bool b))
  | .null => r.1.err.map (fun e => (r.1.w, .error e))
  | _ => none

/-! ### Evaluation lemmas, restricted to *concrete* states

`simp` also rewrites under binders (the alternatives of a `match` whose
discriminant has not been reduced yet); with the plain equation lemmas of
`execs` / `exec` / `evalE` it would unfold the rest of a literal program on a
symbolic state there, and the terms explode.  The lemmas below are the same
equations, but their left-hand sides only match a state that is a constructor
application, i.e. one that has actually been computed.  In `exec_ite` the branches
are functions still to be applied to the state: evaluation runs up to a test it
cannot decide and stops there with both branches untouched, so a proof splits on
what that test reads and goes on from there (no statement is run twice). -/

section mk
variable (Γ : Ctx) (py : Bool) (w : World) (oi : Nat) (o : Obj) (c : Cls) (nI nO : Bool) (fr : Option DictId)
  (er : Option Exc) (env : List (Var × V))
local notation "S" => St.mk w oi o c nI nO fr er env

theorem evalE_lit (v : V) : evalE Γ (.lit v) S = (S, v) := by rw [evalE]
theorem evalE_var (x : Var) : evalE Γ (.var x) S = (S, St.get S x) := by rw [evalE]
theorem evalE_fld (e : Expr) (f : Fld) :
    evalE Γ (.fld e f) S = match evalE Γ e S with | (st', v) => (st', fldGet st' v f) := by rw [evalE]
theorem evalE_asg (x : Var) (e : Expr) :
    evalE Γ (.asg x e) S = match evalE Γ e S with | (st', v) => (st'.set x v, v) := by rw [evalE]
theorem evalE_asgf (e : Expr) (f : Fld) (rhs : Expr) :
    evalE Γ (.asgf e f rhs) S =
      match evalE Γ rhs S with
      | (st', r) => match evalE Γ e st' with | (st'', v) => fldSet st'' v f r := by rw [evalE]
theorem evalE_and (a b : Expr) :
    evalE Γ (.and a b) S = match evalE Γ a S with | (st', v) => if truthy v then evalE Γ b st' else (st', v) := by
  rw [evalE]
theorem evalE_or (a b : Expr) :
    evalE Γ (.or a b) S = match evalE Γ a S with | (st', v) => if truthy v then (st', v) else evalE Γ b st' := by
  rw [evalE]
theorem evalE_not (a : Expr) :
    evalE Γ (.not a) S = match evalE Γ a S with | (st', v) => (st', .bool (!truthy v)) := by rw [evalE]
theorem evalE_call (f : Fn) (args : List Expr) :
    evalE Γ (.call f args) S = match evalArgs Γ args S with | (st', vs) => prim Γ f vs st' := by rw [evalE]
theorem evalArgs_nil : evalArgs Γ [] S = (S, []) := by rw [evalArgs]
theorem evalArgs_cons (e : Expr) (es : List Expr) :
    evalArgs Γ (e :: es) S =
      match evalE Γ e S with
      | (st', v) => match evalArgs Γ es st' with | (st'', vs) => (st'', v :: vs) := by rw [evalArgs]

theorem exec_expr (e : Expr) :
    exec Γ py (.expr e) S =
      match evalE Γ e S with
      | (st', v) => if py && v == .null then (st', .ret .null) else (st', .next) := by rw [exec]
theorem exec_ite (cnd : Expr) (t e : List Stmt) :
    exec Γ py (.ite cnd t e) S =
      match evalE Γ cnd S with
      | (st', v) =>
        if py && v == .null then (st', .ret .null)
        else (if truthy v then execs Γ py t else execs Γ py e) st' := by
  rw [exec]; rcases evalE Γ cnd S with ⟨st', v⟩; dsimp only; cases truthy v <;> rfl
theorem exec_ret (e : Expr) : exec Γ py (.ret e) S = match evalE Γ e S with | (st', v) => (st', .ret v) := by
  rw [exec]
theorem exec_raise (x : Exc) : exec Γ py (.raise x) S = ({ S with err := some x }, .ret .null) := by rw [exec]
theorem exec_forIn (x : Var) (it : Expr) (body : List Stmt) :
    exec Γ py (.forIn x it body) S =
      match evalE Γ it S with
      | (st', .names l) => forLoop (fun s => execs Γ py body s) x l st'
      | (st', _) => (st', .ret .stuck) := by rw [exec]; rfl
theorem exec_ghost (n : Nat) : exec Γ py (.ghost n) S = (S, .next) := by rw [exec]
theorem exec_opaque (t : String) : exec Γ py (.opaque t) S = (S, .ret .stuck) := by rw [exec]
theorem execs_nil : execs Γ py [] S = (S, .next) := by rw [execs]
theorem execs_cons (s : Stmt) (ss : List Stmt) :
    execs Γ py (s :: ss) S =
      match exec Γ py s S with
      | (st', .next) => execs Γ py ss st'
      | r => r := by rw [execs]; rfl
def leave (env : List (Var × V)) (py : Bool) : St × Flow → St × V
  | (st, .ret v) => ({ st with env := env }, v)
  | (st, .next) => ({ st with env := env }, if py then .none else .ghost)

theorem leave_ret (env : List (Var × V)) (py : Bool) (st : St) (v : V) :
    leave env py (st, .ret v) = ({ st with env := env }, v) := rfl
theorem leave_next (env : List (Var × V)) (py : Bool) (st : St) :
    leave env py (st, .next) = ({ st with env := env }, if py then .none else .ghost) := rfl

theorem runFun_mk (fn : Fun) (args : List V) :
    runFun Γ fn args S = leave env fn.py (execs Γ fn.py fn.body { S with env := bind fn.params args }) := by
  unfold runFun leave
  rcases execs Γ fn.py fn.body _ with ⟨s, _ | v⟩ <;> rfl
end mk

/-- Statement `k` of a function (a no-op past the end): the lemmas about the entry points speak of
single statements, not of the generated text. -/
def Fun.stmt (f : Fun) (k : Nat) : Stmt := f.body.getD k (.ghost 0)

theorem leave_skip {Γ : Ctx} {py : Bool} {s : Stmt} {st st' : St} (h : exec Γ py s st = (st', .next))
    (e : List (Var × V)) (ss : List Stmt) :
    leave e py (execs Γ py (s :: ss) st) = leave e py (execs Γ py ss st') := by
  rw [execs, h]

-- the simp set `resl`: the equations above, the primitives, and the glue for the tests on `V` / `Bool` / `Int`
attribute [resl] execs_nil execs_cons exec_expr exec_ite exec_ret exec_raise exec_forIn exec_ghost exec_opaque
  evalE_lit evalE_var evalE_fld evalE_asg evalE_asgf evalE_and evalE_or evalE_not evalE_call
  evalArgs_nil evalArgs_cons leave_ret leave_next prim bind St.get St.set envGet
  truthy fail failInt fldGet fldSet dictGet dictSet dictDel St.resolveDict cmpInt vOpt_some vOpt_none
  St.putDict St.putObj St.putITraits St.putCTraits St.fire
  Bool.and_true Bool.true_and Bool.false_and Bool.and_false Bool.not_true Bool.not_false
  beq_self_eq_true bne_self_eq_false ite_true ite_false Bool.false_eq_true
  beq_iff_eq bne_iff_ne ne_eq not_true_eq_false not_false_eq_true decide_true decide_false
  V.int.injEq V.bool.injEq V.dict.injEq V.exc.injEq Option.some.injEq
  Map.get_set_same Map.get_erase_same List.set_set

/-- Symbolic evaluation of the statements of one function on a state `St.mk …` whose components may be
variables: `simp` with the set `resl` and what the caller adds.  A call of a translated function is not entered
(`runFun_mk` is passed by the proof that enters one): it is rewritten with the callee's own lemma. -/
macro "resl_eval" "[" ls:Lean.Parser.Tactic.simpLemma,* "]" : tactic => `(tactic| simp only [resl,
  reduceCtorEq, ↓reduceIte, Int.reduceNeg, Int.reduceLT, Int.reduceLE, Int.reduceGE, Int.reduceGT, Int.reduceEq,
  Int.reduceNe, $ls,*])

/-! ### The error helpers (they call nothing: any function environment).  They never look at the state: their
programs run as they stand. -/

theorem unknown_attribute_error_run (Γ : Ctx) (k : Name) (st : St) :
    runFun Γ ResolveC.unknown_attribute_error [.obj, .name k] st =
      ({ st with err := some .attributeError }, .ghost) := rfl

theorem set_readonly_error_run (Γ : Ctx) (k : Name) (st : St) :
    runFun Γ ResolveC.set_readonly_error [.obj, .name k] st = ({ st with err := some .traitError }, .int (-1)) := rfl

/-- `delete_readonly_error` and `set_disallow_error` have the body of `set_readonly_error`. -/
theorem delete_readonly_error_run (Γ : Ctx) (k : Name) (st : St) :
    runFun Γ ResolveC.delete_readonly_error [.obj, .name k] st = ({ st with err := some .traitError }, .int (-1)) :=
  set_readonly_error_run Γ k st

theorem set_disallow_error_run (Γ : Ctx) (k : Name) (st : St) :
    runFun Γ ResolveC.set_disallow_error [.obj, .name k] st = ({ st with err := some .traitError }, .int (-1)) :=
  set_readonly_error_run Γ k st

/-! ### `get_trait(obj, name, 0)` -/

/-- What `get_trait(obj, name, 0)` returns. -/
def trait0V (st : St) (k : Name) : V :=
  match trait0 st.c st.o k with
  | some t => .trait t
  | none => .none

/-- Never NULL: a Python caller's test for a pending exception passes without looking at the traits. -/
theorem trait0V_ne_null (st : St) (k : Name) : (trait0V st k = .null) = False := by
  unfold trait0V; cases trait0 st.c st.o k <;> simp

/-- With `instance = 0` the function returns before it calls anything: any function environment. -/
theorem get_trait0_run (Γ : Ctx) (st : St) (k : Name) (hI : st.nullI = true → st.o.itraits = []) :
    runFun Γ ResolveC.get_trait [.obj, .name k, .int 0] st = (st, trait0V st k) := by
  obtain ⟨w, oi, o, c, nI, nO, fr, er, env⟩ := st
  have hi : nI = true → o.itraits.get k = none := fun h => by rw [show o.itraits = [] from hI h]; rfl
  simp only [runFun_mk, trait0V, trait0]
  resl_eval [ResolveC.get_trait]
  cases nI with
  | true =>
    resl_eval [hi rfl]
    cases hc : c.ctraits.get k <;> resl_eval [hc]
  | false =>
    cases hg : o.itraits.get k with
    | some t => resl_eval [hg]
    | none =>
      resl_eval [hg]
      cases hc : c.ctraits.get k <;> resl_eval [hc]

theorem get_trait0_src (E : Env) (st : St) (k : Name) (hI : st.nullI = true → st.o.itraits = []) :
    user4 E .get_trait [.obj, .name k, .int 0] st = (st, trait0V st k) ∧
    user4 E .m_trait [.obj, .name k, .int 0] st = (st, trait0V st k) :=
  ⟨get_trait0_run ⟨E, user3 E⟩ st k hI, get_trait0_run ⟨E, user3 E⟩ st k hI⟩

end TraitsVerif.Model.ResL
