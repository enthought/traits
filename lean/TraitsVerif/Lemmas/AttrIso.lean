/-
C10, isolation (`SameView`).  In a good world, what can be observed on instance
`j` (its record, the contents of everything reachable from it, the class records
and the contents of their default templates, the handler calls and factory calls
about it) is unchanged by operations on another instance: `WFrame` says what an
operation on `i` may touch, `Good.sepI` / `sepC` that none of it is reachable from `j`.
The first read of a never-assigned attribute and the raising default factory stand here too.
-/
import TraitsVerif.Lemmas.AttrOnce
namespace TraitsVerif.Model.Attr
open TraitsVerif

/-- Everything observable on instance `j` and on the classes is the same in `w'` as in `w`. -/
structure SameView (j : Nat) (w w' : World) : Prop where
  inst : w'.insts[j]? = w.insts[j]?
  classes : w'.classes = w.classes
  deep : ∀ x, w.ReachIdx j x → heapGet w'.ctx.heap x = heapGet w.ctx.heap x
  templ : ∀ k ∈ w.classes, ∀ p ∈ k.traits, copyKind p.2.ctrait.core →
    heapGet w'.ctx.heap (p.2.ctrait.core.dv.getD noneId) = heapGet w.ctx.heap (p.2.ctrait.core.dv.getD noneId)
  calls : ∀ o, w.insts[j]? = some o →
    w'.ctx.log.filter (fun c => c.obj == o.oid) = w.ctx.log.filter (fun c => c.obj == o.oid)
  fcalls : ∀ o, w.insts[j]? = some o →
    w'.ctx.fcalls.filter (fun f => f.2.1 == o.oid) = w.ctx.fcalls.filter (fun f => f.2.1 == o.oid)

theorem SameView.refl (j : Nat) (w : World) : SameView j w w :=
  ⟨rfl, rfl, fun _ _ => rfl, fun _ _ _ _ _ => rfl, fun _ _ => rfl, fun _ _ => rfl⟩

theorem SameView.reach {j : Nat} {w w' : World} (h : SameView j w w') (x : Id) (hx : w.ReachIdx j x) :
    w'.ReachIdx j x := by
  obtain ⟨o, ho, n, v, hv, hxv⟩ := hx
  refine ⟨o, by rw [h.inst]; exact ho, n, v, hv, ?_⟩
  rcases hxv with rfl | hk
  · exact Or.inl rfl
  · right
    unfold World.kids at hk ⊢
    rw [h.deep v ⟨o, ho, n, v, hv, Or.inl rfl⟩]
    exact hk

theorem SameView.trans {j : Nat} {a b c : World} (h1 : SameView j a b) (h2 : SameView j b c) : SameView j a c := by
  refine ⟨h2.inst.trans h1.inst, h2.classes.trans h1.classes, fun x hx => ?_, fun k hk p hp hc => ?_,
    fun o ho => ?_, fun o ho => ?_⟩
  · exact (h2.deep x (h1.reach x hx)).trans (h1.deep x hx)
  · exact (h2.templ k (h1.classes ▸ hk) p hp hc).trans (h1.templ k hk p hp hc)
  · exact (h2.calls o (by rw [h1.inst]; exact ho)).trans (h1.calls o ho)
  · exact (h2.fcalls o (by rw [h1.inst]; exact ho)).trans (h1.fcalls o ho)

theorem step_sameView {E : Env} {P : Nat} {w : World} (g : Good E P w) (op : WOp) (hop : OpOk E P op)
    (i j : Nat) (ht : op.target = some i) (hj : j ≠ i) : SameView j w (World.step E w op).2 := by
  have f := step_frame E w op i ht
  have g' := step_good g op hop
  -- a pre-existing object keeps its contents unless it is a container reachable from `i` afterwards
  have unchanged : ∀ x, x < w.ctx.alloc →
      ((World.step E w op).2.ReachIdx i x → (heapGet (World.step E w op).2.ctx.heap x).isSome = true → False) →
      heapGet (World.step E w op).2.ctx.heap x = heapGet w.ctx.heap x := by
    intro x hx hno
    rcases f.heap x hx with h | h
    · exact h
    · cases hs : (heapGet (World.step E w op).2.ctx.heap x).isSome with
      | true => exact (hno h hs).elim
      | false =>
        have h0 := f.kept x hx
        rw [hs] at h0
        cases h1 : heapGet (World.step E w op).2.ctx.heap x with
        | some _ => rw [h1] at hs; cases hs
        | none =>
          cases h2 : heapGet w.ctx.heap x with
          | some _ => rw [h2] at h0; cases h0
          | none => rfl
  have key : ∀ x, x < w.ctx.alloc → (World.step E w op).2.ReachIdx j x →
      heapGet (World.step E w op).2.ctx.heap x = heapGet w.ctx.heap x :=
    fun x hx hr' => unchanged x hx fun h hs => g'.sepI i j x (Ne.symm hj) h hs hr'
  -- what concerns instance `i` does not concern instance `j`
  have other : ∀ o, w.insts[j]? = some o → ∀ x, (∃ oi, w.insts[i]? = some oi ∧ x = oi.oid) → (x == o.oid) = false := by
    rintro o ho x ⟨oi, hoi, rfl⟩
    simp only [beq_eq_false_iff_ne, ne_eq]
    exact fun h => hj (g.distinct j i o oi ho hoi h.symm)
  have hinst : (World.step E w op).2.insts[j]? = w.insts[j]? := f.others j hj
  refine ⟨hinst, f.classes, ?_, ?_, ?_, ?_⟩
  · intro x hx
    obtain ⟨o, ho, n, v, hv, hxv⟩ := hx
    have hv' : (World.step E w op).2.ReachIdx j v :=
      ⟨o, by rw [hinst]; exact ho, n, v, hv, Or.inl rfl⟩
    have hvl := g.vals j o ho n v hv
    have hroot := key v hvl hv'
    rcases hxv with rfl | hk
    · exact hroot
    · have hxl : x < w.ctx.alloc := reach_lt g j x ⟨o, ho, n, v, hv, Or.inr hk⟩
      refine key x hxl ⟨o, by rw [hinst]; exact ho, n, v, hv, Or.inr ?_⟩
      unfold World.kids at hk ⊢
      rw [hroot]; exact hk
  · intro k hk p hp hc
    have hcore : w.Cores p.2.ctrait.core := Or.inl ⟨k, hk, p, hp, rfl⟩
    exact unchanged _ (g.templ _ hcore hc) fun h hs =>
      g'.sepC i _ h hs p.2.ctrait.core (Or.inl ⟨k, f.classes ▸ hk, p, hp, rfl⟩) hc rfl
  · intro o ho
    obtain ⟨l, hl, hm⟩ := f.log
    rw [hl, List.filter_append, filter_none_of _ l (fun c hc => other o ho _ (hm c hc)), List.append_nil]
  · intro o ho
    obtain ⟨l, hl, hm⟩ := f.fcalls
    rw [hl, List.filter_append, filter_none_of _ l (fun c hc => other o ho _ (hm c hc)), List.append_nil]

theorem new_sameView (E : Env) (w : World) (k j : Nat) (hj : j < w.insts.length) :
    SameView j w (World.step E w (.new k)).2 := by
  simp only [World.step]
  split
  · refine ⟨?_, rfl, fun _ _ => rfl, fun _ _ _ _ _ => rfl, fun _ _ => rfl, fun _ _ => rfl⟩
    show (w.insts ++ _)[j]? = w.insts[j]?
    rw [List.getElem?_append_left hj]
  · exact SameView.refl j w

theorem run_sameView {E : Env} {P : Nat} (i j : Nat) (hji : j ≠ i) (h : List WOp) (w : World) (g : Good E P w)
    (H : ∀ op ∈ h, OpOk E P op ∧ (op.target = some i ∨ op.target = none)) (hj : j < w.insts.length) :
    SameView j w (World.run E w h) := by
  -- carried along: the world stays good and instance `j` stays there
  refine (World.run_induction E (fun w' => Good E P w' ∧ j < w'.insts.length ∧ SameView j w w') _ ?_ h w
    ⟨g, hj, SameView.refl j w⟩ H).2.2
  rintro w' op ⟨g', hj', sv⟩ ⟨hok, htgt⟩
  have hstep : SameView j w' (World.step E w' op).2 := by
    rcases htgt with ht | ht
    · exact step_sameView g' op hok i j ht hji
    · cases op with
      | new k => exact new_sameView E w' k j hj'
      | _ => cases ht
  refine ⟨step_good g' op hok, ?_, sv.trans hstep⟩
  have : w'.insts[j]? = some w'.insts[j] := List.getElem?_eq_getElem hj'
  exact (List.getElem?_eq_some_iff.mp (hstep.inst.trans this)).1

/-! ### First read -/

theorem ost_defaultValueFor_eq (E : Env) (t : TraitCore) (s : OSt) :
    s.defaultValueFor E t =
      ((Attr.defaultValueFor E t s.self s.name s.ctx).1, { s with ctx := (Attr.defaultValueFor E t s.self s.name s.ctx).2 }) := by
  unfold OSt.defaultValueFor
  cases Attr.defaultValueFor E t s.self s.name s.ctx
  rfl

theorem getattrTrait_nopost (E : Env) (t : TraitCore) (s : OSt) (hp : t.post = none) :
    getattrTrait E t s =
      match (Attr.defaultValueFor E t s.self s.name s.ctx).1 with
      | .error e => (.error e, { s with ctx := (Attr.defaultValueFor E t s.self s.name s.ctx).2 })
      | .ok v => (.ok v, { s with slot := some v, ctx := (Attr.defaultValueFor E t s.self s.name s.ctx).2 }) := by
  rw [getattrTrait_eq]
  unfold OSt.materialise
  rw [ost_defaultValueFor_eq]
  cases (Attr.defaultValueFor E t s.self s.name s.ctx).1 with
  | error e => rfl
  | ok v => simp only [postSetattr, hp]

theorem step_get_fresh (E : Env) (t : TraitCore) (s : OSt) (hk : t.kind = .trait) (hp : t.post = none)
    (hs : s.slot = none) (r : Except Exc Id) (c : Ctx) (hd : Attr.defaultValueFor E t s.self s.name s.ctx = (r, c)) :
    step E t s .get =
      match r with
      | .error e => ({ exc := some e }, { s with ctx := c })
      | .ok v => ({ val := some v }, { s with slot := some v, ctx := c }) := by
  unfold step getattro traitGetattr
  simp only [hs, hk, getattrTrait_nopost E t s hp, hd]
  cases r <;> rfl

theorem first_read (E : Env) (w : World) (i : Nat) (n : Name) (o : Inst) (td : TraitDef)
    (hi : w.insts[i]? = some o) (ht : w.traitOf o n = some td) (hk : td.core.kind = .trait)
    (hp : td.core.post = none) (hs : assocGet o.dict n = none) :
    (∀ v, (Attr.defaultValueFor E td.core o.oid n w.ctx).1 = .ok v →
      (World.step E w (.get i n)).1 = { val := some v }
      ∧ ∃ o', (World.step E w (.get i n)).2.insts[i]? = some o' ∧ assocGet o'.dict n = some v)
    ∧ (∀ e, (Attr.defaultValueFor E td.core o.oid n w.ctx).1 = .error e →
      (World.step E w (.get i n)).1 = { exc := some e }) := by
  rcases hd : Attr.defaultValueFor E td.core o.oid n w.ctx with ⟨r, c⟩
  have h := step_get_fresh E td.core (w.focus o n) hk hp hs r c hd
  constructor
  · rintro v ⟨⟩
    simp only [World.step, World.onAttr, hi, ht, h, true_and]
    exact ⟨_, setInst_get_self w i o _ _ hi, by rw [absorb_dict, if_pos rfl]⟩
  · rintro e ⟨⟩
    simp only [World.step, World.onAttr, hi, ht, h]

/-! ### A default factory that raises -/

/-- The default kinds that call user code: `factory(*args, **kw)` and `_name_default(self)`
(also `Tuple` / `Union` / … `_get_default_value`). -/
def callsUser (t : TraitCore) : Prop :=
  t.dvt = Generated.CALLABLE_AND_ARGS_DEFAULT_VALUE ∨ t.dvt = Generated.CALLABLE_DEFAULT_VALUE

/-- What the user callable is called with: nothing (`None` here) or the object. -/
def factoryArg (t : TraitCore) (self : Id) : Id :=
  if t.dvt = Generated.CALLABLE_AND_ARGS_DEFAULT_VALUE then noneId else self

/-- The exception the caller of the read sees when the default computation raised `e`:
`e` itself, except that an `AttributeError` is replaced by the `UserWarning` Traits issues
about it when warnings are errors (`_warn_on_attribute_error`). -/
def surfaced (E : Env) (e : Exc) : Exc :=
  if e = .attributeError ∧ E.warnError = true then .other else e

theorem warn_error (E : Env) (e : Exc) : warnOnAttributeError E (.error e) = .error (surfaced E e) := by
  unfold warnOnAttributeError surfaced
  cases e <;> simp
  cases E.warnError <;> simp

theorem defaultValueFor_raises (E : Env) (t : TraitCore) (obj : Id) (name : Name) (c : Ctx) (e : Exc)
    (hu : callsUser t)
    (hr : E.factory (t.dv.getD noneId) c.fcalls.length (factoryArg t obj) = .error e) :
    defaultValueFor E t obj name c =
      (.error (surfaced E e), { c with fcalls := c.fcalls ++ [(t.dv.getD noneId, obj, name)] }) := by
  unfold factoryArg at hr
  rcases hu with h | h
  · simp only [h, if_true] at hr
    unfold defaultValueFor callFactory
    simp (config := { decide := true }) only [h, hr, warn_error, if_true, if_false]
  · have hne : ¬ (Generated.CALLABLE_DEFAULT_VALUE = Generated.CALLABLE_AND_ARGS_DEFAULT_VALUE) := by decide
    simp only [h, hne, if_false] at hr
    unfold defaultValueFor callFactory
    simp (config := { decide := true }) only [h, hr, warn_error, if_true, if_false]

theorem defaultValueFor_user_fcalls (E : Env) (t : TraitCore) (obj : Id) (name : Name) (c : Ctx)
    (hu : callsUser t) :
    (defaultValueFor E t obj name c).2.fcalls = c.fcalls ++ [(t.dv.getD noneId, obj, name)] :=
  (defaultValueFor_alloc (A := fun _ => True) (E := E) t obj name c (fun _ => trivial) (fun _ _ _ => trivial)
    (fun _ _ r _ => r.all_true) (fun _ _ _ _ _ _ => Or.inr trivial)).2.1.trans (congrArg (c.fcalls ++ ·) (if_pos hu))

/-- A read whose default factory raises, and the retry. -/
theorem default_raises (E : Env) (t : TraitCore) (s : OSt) (e : Exc)
    (hk : t.kind = .trait) (hu : callsUser t) (hs : s.slot = none)
    (hr : E.factory (t.dv.getD noneId) s.ctx.fcalls.length (factoryArg t s.self) = .error e) :
    step E t s .get =
      ({ exc := some (surfaced E e) },
       { s with ctx := { s.ctx with fcalls := s.ctx.fcalls ++ [(t.dv.getD noneId, s.self, s.name)] } })
    ∧ (t.post = none →
        ∀ s1 : OSt, s1 = { s with ctx := { s.ctx with fcalls := s.ctx.fcalls ++ [(t.dv.getD noneId, s.self, s.name)] } } →
        (step E t s1 .get).2.ctx.fcalls =
          s.ctx.fcalls ++ [(t.dv.getD noneId, s.self, s.name), (t.dv.getD noneId, s.self, s.name)]
        ∧ (∀ v, (defaultValueFor E t s.self s.name s1.ctx).1 = .ok v →
            (step E t s1 .get).1 = { val := some v } ∧ (step E t s1 .get).2.slot = some v)
        ∧ (∀ e2, (defaultValueFor E t s.self s.name s1.ctx).1 = .error e2 →
            (step E t s1 .get).1 = { exc := some e2 } ∧ (step E t s1 .get).2.slot = none)) := by
  constructor
  · unfold step getattro traitGetattr getattrTrait
    simp only [hs, hk, ost_defaultValueFor_eq, defaultValueFor_raises E t s.self s.name s.ctx e hu hr]
  · intro hp s1 hs1
    have hslot : s1.slot = none := hs1 ▸ hs
    have hself : s1.self = s.self := by rw [hs1]
    have hname : s1.name = s.name := by rw [hs1]
    have hfc : s1.ctx.fcalls = s.ctx.fcalls ++ [(t.dv.getD noneId, s.self, s.name)] := by rw [hs1]
    have hfc2 := defaultValueFor_user_fcalls E t s.self s.name s1.ctx hu
    rcases hd : defaultValueFor E t s.self s.name s1.ctx with ⟨r, c⟩
    rw [hd, hfc, List.append_assoc] at hfc2
    rw [step_get_fresh E t s1 hk hp hslot r c (by rw [hself, hname]; exact hd)]
    refine ⟨?_, ?_, ?_⟩
    · cases r <;> exact hfc2
    · rintro v ⟨⟩; exact ⟨rfl, rfl⟩
    · rintro e2 ⟨⟩; exact ⟨rfl, hslot⟩

end TraitsVerif.Model.Attr
