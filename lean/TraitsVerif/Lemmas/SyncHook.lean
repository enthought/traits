/-
The items handler `_sync_trait_items_modified` is registered on every trait that
has a `List` partner: an invariant of all histories (`run_hookOk`, through `step_inv`),
with the registration rule of the repaired `sync_trait` (finding F61).
-/
import TraitsVerif.Lemmas.SyncOps
namespace TraitsVerif.Model.Sync
open TraitsVerif TraitsVerif.Py TraitsVerif.Model
variable {α : Type}

/-- Every `List` trait with a `List` partner has the items handler registered. -/
def HookOk (E : Env α) (w : World α) : Prop :=
  ∀ e ∈ w.edges, E.isList e.src = true → E.isList e.dst = true → e.src ∈ w.hooked

instance (E : Env α) (w : World α) : Decidable (HookOk E w) := by unfold HookOk; infer_instance

theorem HookOk.of_sameTabs {E : Env α} {w w' : World α} (h : HookOk E w) (ht : SameTabs w w') :
    HookOk E w' := by
  intro e he; rw [ht.1] at he; rw [ht.2.2]; exact h e he

theorem register_hooked_mono (E : Env α) (w : World α) (p q t : Pair) (h : t ∈ w.hooked) :
    t ∈ (w.register E p q).hooked := by
  unfold World.register; simp only; split
  · exact List.mem_cons_of_mem _ h
  · exact h

theorem register_hooked_mem (E : Env α) (w : World α) (p q : Pair)
    (hlp : E.isList p = true) (hlq : E.isList q = true) : p ∈ (w.register E p q).hooked := by
  unfold World.register
  by_cases hm : p ∈ w.hooked <;> simp [hlp, hlq, hm]

theorem register_hookOk {E : Env α} {w : World α} (h : HookOk E w) (p q : Pair) :
    HookOk E (w.register E p q) := by
  intro e he hs hd
  rcases List.mem_append.mp (he : e ∈ w.edges ++ [(⟨p, q⟩ : Edge)]) with he' | he'
  · exact register_hooked_mono E w p q _ (h e he' hs hd)
  · obtain rfl := List.mem_singleton.mp he'
    exact register_hooked_mem E w p q hs hd

/-- The items handler goes only when no `List` partner is left. -/
theorem unlinkOne_hookOk {E : Env α} {w : World α} (h : HookOk E w) (p q : Pair) :
    HookOk E (w.unlinkOne E p q) := by
  unfold World.unlinkOne
  split
  · intro e he hs hd
    have hin := h e (List.mem_filter.mp he).1 hs hd
    simp only at he ⊢
    split
    · rename_i hcond
      simp only [Bool.and_eq_true, Bool.not_eq_true', List.any_eq_false, decide_eq_true_eq] at hcond
      refine List.mem_filter.mpr ⟨hin, decide_eq_true fun hsrc => ?_⟩
      simpa [hsrc, hd] using hcond.2 e he
    · exact hin
  · exact h

theorem kill_hookOk {E : Env α} {w : World α} (h : HookOk E w) (o : Nat) : HookOk E (w.kill o) := by
  intro e he hs hd
  simp only [World.kill, List.mem_filter, decide_eq_true_eq] at he ⊢
  exact ⟨h e he.1 hs hd, by simpa using he.2.1⟩

/-- **The items handler is registered wherever it is needed**, after every history. -/
theorem run_hookOk [DecidableEq α] (E : Env α) (cs : List (Cmd α)) (w : World α) (h : HookOk E w)
    (hL : w.locked = []) : HookOk E (World.run E w cs) :=
  (run_inv cs (fun w c _ => step_inv (I := fun w => HookOk E w ∧ w.locked = []) (fun _ h => h.2)
    (fun _ _ h ht => ⟨h.1.of_sameTabs ht, ht.2.1.trans h.2⟩) (fun w p q h _ => ⟨register_hookOk h.1 p q, h.2⟩)
    (fun w p q h => ⟨unlinkOne_hookOk h.1 p q, (unlinkOne_locked E w p q).trans h.2⟩)
    (fun w o h => ⟨kill_hookOk h.1 o, by simp [World.kill, h.2]⟩) w c) w ⟨h, hL⟩).1

end TraitsVerif.Model.Sync
