/-
Preservation of the refinement invariant by every step, together with the
exact calls of the legacy handler and their agreement with the specification
(helper lemmas for C16).
-/
import TraitsVerif.Lemmas.LegacyStep
namespace TraitsVerif.Model.Legacy
open List

theorem reach_of_same_targets {h h' : Heap}
    (hsame : ∀ p a' c, c ∈ targets h' a' p ↔ c ∈ targets h a' p) {L : List Link} :
    ∀ m x, x ∈ reach h' L m ↔ x ∈ reach h L m :=
  fun _ x => descFrom_congr (fun _ p l _ _ _ c => hsame p l.attr c) x

variable {N : Name} {st : St}

section
variable (hinv : Inv N st)
include hinv

/-- The calls of the user's handler are what `Reports` says (an `_items` trait exists for
containers only). -/
theorem dispatch_calls (h' : Heap) (o : Nat) (t : Trait)
    (sc : List Act) (hit : ∀ a, t = .items a → isContainer a = true) :
    ((st.registered = true ∧ Reports N st.h o t) → (dispatch h' N o t sc st.s).2 = [(o, t)]) ∧
    (¬(st.registered = true ∧ Reports N st.h o t) → (dispatch h' N o t sc st.s).2 = []) := by
  -- `Reports` places the object on the name, at the last depth or at a link
  have hmem : Reports N st.h o t → ∃ k, o ∈ reach st.h N.links k ∧
      (k = N.links.length ∧ t = .final N.final ∨
        ∃ l, N.links[k]? = some l ∧ Notifies (typeOf N.htype k) l t) := by
    cases t with
    | final f => rintro ⟨rfl, h⟩; exact ⟨_, h, Or.inl ⟨rfl, rfl⟩⟩
    | link a => rintro ⟨k, l, h1, rfl, h3, h4⟩; exact ⟨k, h4, Or.inr ⟨l, h1, h3, Or.inl rfl⟩⟩
    | items a =>
      rintro ⟨k, l, h1, rfl, h3, h4, h5⟩
      exact ⟨k, h5, Or.inr ⟨l, h1, h3, Or.inr ⟨rfl, hit _ rfl, h4⟩⟩⟩
  rcases dispatch_pos hinv h' o t sc with ⟨hoff, hd⟩ | ⟨hr, k, hok, hpos⟩
  · rw [hd]
    refine ⟨fun ⟨h1, h2⟩ => ?_, fun _ => rfl⟩
    obtain ⟨k, hk, _⟩ := hmem h2
    exact hoff.elim (fun h => by rw [h] at h1; cases h1) (fun h => (h k hk).elim)
  · have huniq : ∀ k', o ∈ reach st.h N.links k' → k' = k := fun k' hk' => reach_unique_depth hinv.tree hk' hok
    rcases hpos with ⟨rfl, hd⟩ | ⟨l, hl, hd⟩
    · rw [hd]
      have : Reports N st.h o t ↔ t = .final N.final := by
        refine ⟨fun h => ?_, fun h => h ▸ ⟨rfl, hok⟩⟩
        obtain ⟨k', hk', h1 | ⟨l, hl, _⟩⟩ := hmem h
        · exact h1.2
        · rw [huniq k' hk', getElem?_eq_none (Nat.le_refl _)] at hl; cases hl
      exact ⟨fun h => if_pos (this.mp h.2), fun h => if_neg (fun e => h ⟨hr, this.mpr e⟩)⟩
    · rw [hd]
      have : Reports N st.h o t ↔ Notifies (typeOf N.htype k) l t := by
        constructor
        · intro h
          obtain ⟨k', hk', ⟨h1, _⟩ | ⟨l', hl', hn⟩⟩ := hmem h
          · rw [← huniq k' hk', h1, getElem?_eq_none (Nat.le_refl _)] at hl; cases hl
          · rw [huniq k' hk', hl] at hl'; cases hl'; rw [← huniq k' hk']; exact hn
        · rintro ⟨hn, rfl | ⟨rfl, _, hty⟩⟩
          · exact ⟨k, l, hl, rfl, hn, hok⟩
          · exact ⟨k, l, hl, rfl, hn, hty, hok⟩
      exact ⟨fun h => if_pos (this.mp h.2), fun h => if_neg (fun e => h ⟨hr, this.mpr e⟩)⟩

theorem dispatch_probe (o : Nat) (f : Final) :
    (dispatch st.h N o (.final f) [] st.s).1 = st.s := by
  rcases dispatch_pos hinv st.h o (.final f) [] with ⟨_, hd⟩ | ⟨_, k, _, ⟨_, hd⟩ | ⟨l, _, hd⟩⟩
  · rw [hd]
  · rw [hd]
  · rw [hd, if_neg (fun h => h.elim (fun h => nomatch h) (fun h => nomatch h.1))]

theorem dispatch_change {h' : Heap} {o : Nat} {a : Attr}
    {t : Trait} {sc : List Act}
    (htr : t = .link a ∨ (t = .items a ∧ isContainer a = true))
    (hc : Change st.h h' o a (scUnregs sc) (scRegs sc))
    (hshape : (∀ c ∈ scRegs sc, st.h.next ≤ c) ∨ sc = unregAll (scUnregs sc) ++ regAll (scRegs sc)) :
    Inv N { st with h := h', s := (dispatch h' N o t sc st.s).1 } := by
  have ht := hinv.tree
  have ht' : TreeShaped h' := hc.tree ht
  -- the state does not change and reachability neither
  have stay : (dispatch h' N o t sc st.s).1 = st.s →
      (∀ k l, o ∈ reach st.h N.links k → N.links[k]? = some l → l.attr ≠ a) →
      Inv N { st with h := h', s := (dispatch h' N o t sc st.s).1 } := by
    intro hs hoff
    refine ⟨ht', by rw [hs]; exact hinv.good, fun m x => ?_⟩
    show x ∈ (dispatch h' N o t sc st.s).1.active m ↔ _
    rw [hs, hinv.act]
    exact and_congr_right (fun _ => (hc.reach_off_path hoff m x).symm)
  rcases dispatch_pos hinv h' o t sc with ⟨hoff, hd⟩ | ⟨hr, k, hok, hpos⟩
  · -- nothing registered, or the object is not on the name
    rcases hoff with hr' | hno
    · refine ⟨ht', by rw [hd]; exact hinv.good, fun m x => ?_⟩
      show x ∈ (dispatch h' N o t sc st.s).1.active m ↔ _
      rw [hd, hinv.act]; simp [hr']
    · exact stay (by rw [hd]) (fun k l hk => (hno k hk).elim)
  have huniq : ∀ k', o ∈ reach st.h N.links k' → k' = k := fun k' hk' => reach_unique_depth ht hk' hok
  rcases hpos with ⟨rfl, hd⟩ | ⟨l, hl, hd⟩
  · -- at the final level
    refine stay (by rw [hd]) (fun k' l' hk' hl' => ?_)
    rw [huniq k' hk', getElem?_eq_none (Nat.le_refl _)] at hl'; cases hl'
  · -- at link `k`
    have hl_uniq : ∀ k' l', o ∈ reach st.h N.links k' → N.links[k']? = some l' → l' = l := by
      intro k' l' hk' hl'
      rw [huniq k' hk', hl] at hl'; cases hl'; rfl
    have hklt : k < N.links.length := (List.getElem?_eq_some_iff.mp hl).1
    by_cases hla : l.attr = a
    · -- the name follows this attribute here: the handler of item `k` runs
      have hH : Handles l t := by
        rcases htr with h1 | ⟨h1, h2⟩
        · exact Or.inl (by rw [h1, hla])
        · exact Or.inr ⟨by rw [h1, hla], by rw [hla]; exact h2⟩
      have hd1 : (dispatch h' N o t sc st.s).1 =
          runScript h' N.htype N.final (k + 1) (N.links.drop (k + 1)) sc st.s := by
        rw [hd]; simp [hH]
      have hcr : ∀ c ∈ scUnregs sc, c ∈ reach st.h N.links (k + 1) := fun c hcm =>
        mem_reach_succ.mpr ⟨l, o, hl, hok, by rw [hla]; exact hc.olds_sub c hcm⟩
      have hold : ∀ c ∈ scUnregs sc, ∀ m x,
          Below h' N.links (k + 1) c m x ↔ Below st.h N.links (k + 1) c m x :=
        fun c hcm m x => and_congr_right (fun _ => hc.descFrom_old ht (hc.olds_sub c hcm))
      have hUnd : ∀ c ∈ scUnregs sc, ∀ m x, Below h' N.links (k + 1) c m x → x ∈ st.s.active m :=
        fun c hcm m x hx => (hinv.act _ _).mpr ⟨hr, ((hold c hcm m x).mp hx).reach (hcr c hcm)⟩
      have hnotact : ∀ c, st.h.next ≤ c → ∀ m, c ∉ st.s.active m := by
        intro c hcf m hm
        have := reach_lt_next ht ((hinv.act _ _).mp hm).2
        omega
      -- the effect of the handler's script on the `active` tables
      have hscript : Good N (runScript h' N.htype N.final (k + 1) (N.links.drop (k + 1)) sc st.s) ∧
          ∀ m x, x ∈ (runScript h' N.htype N.final (k + 1) (N.links.drop (k + 1)) sc st.s).active m ↔
            (x ∈ st.s.active m ∧ ¬ ∃ c ∈ scUnregs sc, Below h' N.links (k + 1) c m x) ∨
            ∃ c ∈ scRegs sc, Below h' N.links (k + 1) c m x := by
        have hspec := fun sc s => runScript_of_exact ht' (a := a) (o := o)
          (register_spec ht' N (k := k + 1) rfl (by omega)) (unregister_spec ht' N rfl (by omega)) sc s
        rcases hshape with hfresh | hphase
        · -- only fresh objects are registered: leaves that were never seen
          refine hspec sc st.s hinv.good hUnd (fun c hcm => ⟨(hc.mem c).mpr (Or.inr hcm), fun m x hx => ?_⟩)
            hc.olds_nodup hc.news_nodup
          rw [((below_leaf (fun l' _ => hc.fresh_leaf ht (hfresh c hcm) l'.attr)).mp hx).2]
          exact hnotact c (hfresh c hcm)
        · -- everything removed is unregistered first, then everything added is registered
          rw [hphase, runScript_append]
          obtain ⟨hg1, hact1⟩ := hspec (unregAll (scUnregs sc)) st.s hinv.good (by simpa using hUnd) (by simp)
            (by simpa using hc.olds_nodup) (by simp)
          obtain ⟨hg2, hact2⟩ := hspec (regAll (scRegs sc)) _ hg1 (by simp) (by
              simp only [scRegs_regAll]
              refine fun c hcm => ⟨(hc.mem c).mpr (Or.inr hcm), fun m x hx m' hm' => ?_⟩
              obtain ⟨h1, h2⟩ := (hact1 m' x).mp hm' |>.resolve_right (by simp)
              rw [scUnregs_unregAll] at h2
              rcases hc.news_ok c hcm with hf | hcar
              · rw [((below_leaf (fun l' _ => hc.fresh_leaf ht hf.1 l'.attr)).mp hx).2] at h1
                exact hnotact c hf.1 m' h1
              · have hxr := ((hold c hcar m x).mp hx).reach (hcr c hcar)
                rw [reach_unique_depth ht ((hinv.act _ _).mp h1).2 hxr] at h2
                exact h2 ⟨c, hcar, hx⟩)
            (by simp) (by simpa using hc.news_nodup)
          exact ⟨hg2, fun m x => by rw [hact2, hact1]; simp⟩
      obtain ⟨hg', hact'⟩ := hscript
      refine ⟨ht', by rw [hd1]; exact hg', fun m x => ?_⟩
      show x ∈ (dispatch h' N o t sc st.s).1.active m ↔ _
      rw [hd1, hact', hc.reach_on_path ht hok hl hla m x, hinv.act,
        exists_congr (fun c => and_congr_right (fun hcm => hold c hcm m x))]
      simp only [hr, true_and]
    · -- the name follows another attribute here
      have hH : ¬ Handles l t := by
        rintro (h1 | ⟨h1, _⟩) <;> rcases htr with h2 | ⟨h2, _⟩ <;> rw [h2] at h1 <;> cases h1 <;> exact hla rfl
      exact stay (by rw [hd]; simp [hH]) (fun k' l' hk' hl' => hl_uniq k' l' hk' hl' ▸ hla)

/-- One step of a history: the invariant is preserved and the legacy handler is
called exactly when `Reports` says so. -/
theorem step_mutate {op : Op} {m : Mut}
    (hm : mutate st.h op = some m) :
    Inv N (step N st op).1 ∧
    ((m.fires = true ∧ st.registered = true ∧ Reports N st.h m.o m.trait) →
        (step N st op).2.2 = [(m.o, m.trait)]) ∧
    (¬(m.fires = true ∧ st.registered = true ∧ Reports N st.h m.o m.trait) →
        (step N st op).2.2 = []) := by
  rw [step_of_mutate hm]
  rcases mutate_spec hinv.tree hm with ⟨f, ho, hh, htr, hs, hf⟩ | ⟨a, htr, hc, hquiet, hshape⟩
  · obtain ⟨p2, p3⟩ := dispatch_calls hinv st.h m.o (.final f) [] (fun _ h => nomatch h)
    rw [if_pos hf, hh, htr, hs]
    refine ⟨?_, fun ⟨_, h2⟩ => p2 h2, fun hn => p3 (fun h2 => hn ⟨hf, h2⟩)⟩
    show Inv N { st with h := st.h, s := (dispatch st.h N m.o (.final f) [] st.s).1 }
    rw [dispatch_probe hinv m.o f]
    exact hinv
  · by_cases hf : m.fires = true
    · obtain ⟨c2, c3⟩ := dispatch_calls hinv m.h' m.o m.trait m.script (fun a' e => by
        rcases htr with h1 | ⟨h1, h2⟩ <;> rw [h1] at e <;> cases e; exact h2)
      rw [if_pos hf]
      exact ⟨dispatch_change hinv htr hc hshape, fun ⟨_, h2⟩ => c2 h2, fun hn => c3 (fun h2 => hn ⟨hf, h2⟩)⟩
    · have hf' : m.fires = false := by simpa using hf
      rw [if_neg hf]
      refine ⟨⟨hc.tree hinv.tree, hinv.good, ?_⟩, fun ⟨h1, _⟩ => (hf h1).elim, fun _ => rfl⟩
      intro k x
      show x ∈ st.s.active k ↔ _
      rw [hinv.act]
      exact and_congr_right (fun _ => (reach_of_same_targets (hc.same_targets (hquiet hf')) k x).symm)

theorem step_reg :
    Inv N (step N st .reg).1 ∧ (step N st .reg).2.2 = [] := by
  by_cases hr : st.registered = true
  · simp [step, hr, hinv]
  · have hr' : st.registered = false := by simpa using hr
    simp only [step, hr', Bool.false_eq_true, if_false, and_true]
    have hempty : ∀ m x, x ∉ st.s.active m := by
      intro m x hx; have := (hinv.act m x).mp hx; rw [hr'] at this; cases this.1
    obtain ⟨hg, hact⟩ := register_spec hinv.tree N (ls := N.links) (k := 0) rfl (Nat.zero_le _) root st.s hinv.good
      (fun _ x _ m => hempty m x)
    refine ⟨hinv.tree, hg, fun m x => ?_⟩
    show x ∈ (register st.h N.htype N.final 0 N.links root st.s).active m ↔ _
    rw [hact, below_root]
    simp [hempty]

theorem step_unreg :
    Inv N (step N st .unreg).1 ∧ (step N st .unreg).2.2 = [] := by
  by_cases hr : st.registered = true
  · simp only [step, hr, if_true, and_true]
    obtain ⟨hg, hact⟩ := unregister_spec hinv.tree N (ls := N.links) (k := 0) rfl (Nat.zero_le _) root st.s hinv.good
      (fun m x hx => (hinv.act m x).mpr ⟨hr, below_root.mp hx⟩)
    refine ⟨hinv.tree, hg, fun m x => ?_⟩
    show x ∈ (unregister st.h N.htype N.final 0 N.links root st.s).active m ↔ _
    rw [hact, hinv.act, below_root]
    simp
  · have hr' : st.registered = false := by simpa using hr
    simp [step, hr', hinv]

theorem step_inv (op : Op) : Inv N (step N st op).1 := by
  by_cases h1 : op = .reg
  · subst h1; exact (step_reg hinv).1
  by_cases h2 : op = .unreg
  · subst h2; exact (step_unreg hinv).1
  cases hm : mutate st.h op with
  | none => rw [step_eq N st h1 h2, hm]; exact hinv
  | some m => exact (step_mutate hinv hm).1

theorem run_inv (ops : List Op) : Inv N (run N st ops) := by
  induction ops generalizing st with
  | nil => exact hinv
  | cons op ops ih => exact ih (step_inv hinv op)

end

theorem run_append (N : Name) (st : St) (a b : List Op) :
    run N st (a ++ b) = run N (run N st a) b := by
  induction a generalizing st with
  | nil => rfl
  | cons x a ih => simp [run, ih]

/-! ### glue for the property file: start states, Boolean spec ↔ `Reports`, witness data -/

abbrev start (h₀ : Heap) : St := { h := h₀, s := LState.empty, registered := false }

theorem inv_start {N : Name} {h₀ : Heap} (ht : TreeShaped h₀) : Inv N (start h₀) :=
  ⟨ht, Good.empty N, by simp [LState.empty]⟩

theorem inv_run {N : Name} {h₀ : Heap} (ht : TreeShaped h₀) (ops : List Op) :
    Inv N (run N (start h₀) ops) := run_inv (inv_start ht) ops


theorem reportsAt_iff (N : Name) (h : Heap) (o : Nat) (a : Attr) :
    reportsAt N h o a = true ↔
      ∃ k l, N.links[k]? = some l ∧ l.attr = a ∧ l.notify = true ∧ o ∈ reach h N.links k := by
  simp only [reportsAt, List.any_eq_true, List.mem_range]
  constructor
  · rintro ⟨k, _, hk⟩
    cases hl : N.links[k]? with
    | none => simp [hl] at hk
    | some l =>
      simp only [hl, Bool.and_eq_true, decide_eq_true_eq] at hk
      exact ⟨k, l, hl, hk.1.1, hk.1.2, hk.2⟩
  · rintro ⟨k, l, hl, h1, h2, h3⟩
    obtain ⟨hlt, _⟩ := List.getElem?_eq_some_iff.mp hl
    exact ⟨k, hlt, by simp [hl, h1, h2, h3]⟩


/-- The calls of the legacy handler for an operation are those the specification of `observe`
demands, provided that for an `_items` trait the item the object is active in has type
`ANY_LISTENER` (which the parser gives to every item but the first). -/
theorem step_eq_spec (hinv : Inv N st) {op : Op} {m : Mut}
    (hm : mutate st.h op = some m)
    (hany : ∀ a, m.trait = .items a → ∀ k, m.o ∈ reach st.h N.links k → typeOf N.htype k = .any) :
    (step N st op).2.2 = specStep N st op := by
  obtain ⟨_, hyes, hno⟩ := step_mutate hinv hm
  -- the Boolean specification is `Reports`
  have hB : (match m.trait with
      | .final f => decide (f = N.final) && decide (m.o ∈ reach st.h N.links N.links.length)
      | .link a => reportsAt N st.h m.o a
      | .items a => reportsAt N st.h m.o a) = true ↔ Reports N st.h m.o m.trait := by
    cases htr : m.trait with
    | final f => simp only [Bool.and_eq_true, decide_eq_true_eq, Reports]
    | link a => simp only [reportsAt_iff, Reports]
    | items a =>
      simp only [reportsAt_iff, Reports]
      exact ⟨fun ⟨k, l, h1, h2, h3, h4⟩ => ⟨k, l, h1, h2, h3, hany a htr k h4, h4⟩,
        fun ⟨k, l, h1, h2, h3, _, h4⟩ => ⟨k, l, h1, h2, h3, h4⟩⟩
  simp only [specStep, hm, specCalls]
  by_cases hc : m.fires = true ∧ st.registered = true ∧ Reports N st.h m.o m.trait
  · rw [hyes hc, if_pos hc.1, if_pos (by rw [Bool.and_eq_true]; exact ⟨hc.2.1, hB.mpr hc.2.2⟩)]
  · rw [hno hc]
    split
    · rw [if_neg (fun h => by
        rw [Bool.and_eq_true] at h; exact hc ⟨‹_›, h.1, hB.mp h.2⟩)]
    · rfl


/-- The witness: name `kids.value`, 4-argument handler, `root.kids.append(N())`. -/
def witnessName : Name := ⟨[⟨.kids, true⟩], .value, .src, false⟩
def witnessOps : List Op := [.reg]
def witnessOp : Op := .splice 0 0 0 1


theorem not_registered_calls (hinv : Inv N st) (hr : st.registered = false) (op : Op) (hop : op ≠ .reg) :
    (step N st op).1.registered = false ∧ (step N st op).2.2 = [] := by
  by_cases h2 : op = .unreg
  · subst h2; simp [step, hr]
  cases hm : mutate st.h op with
  | none => rw [step_eq N st hop h2, hm]; exact ⟨hr, rfl⟩
  | some m =>
    refine ⟨?_, (step_mutate hinv hm).2.2 (fun ⟨_, h, _⟩ => by rw [hr] at h; cases h)⟩
    rw [step_of_mutate hm]
    split <;> exact hr


theorem Op.ne_reg {op : Op} (h : op.isReg = false) : op ≠ .reg := fun e => by rw [e] at h; cases h

theorem run_not_registered : ∀ (ops : List Op) {st : St}, Inv N st → st.registered = false →
    (∀ op ∈ ops, op.isReg = false) → (run N st ops).registered = false
  | [], _, _, hr, _ => hr
  | op :: ops, _, hinv, hr, hops =>
    run_not_registered ops (step_inv hinv op)
      (not_registered_calls hinv hr op (Op.ne_reg (hops op (by simp)))).1 (fun op' h => hops op' (by simp [h]))

theorem unreg_not_registered (N : Name) (st : St) : (step N st .unreg).1.registered = false := by
  simp only [step]
  split
  · rfl
  · exact Bool.not_eq_true _ ▸ ‹¬ _›


/-- `child.kids.value`, 4-argument handler; build root → 1 → {2,3}, register. -/
def exName : Name := ⟨[⟨.child, true⟩, ⟨.kids, true⟩], .value, .src, false⟩
def exOps : List Op := [.setChild 0 true, .setKids 1 2, .reg]


/-- A deferred registration made when the container already holds an object:
`kids:value`, `deferred=True`, `root.kids = [N()]` first (finding F87 before /repo 0c9dae1). -/
def lateName : Name := ⟨[⟨.kids, false⟩], .value, .src, true⟩
def lateOps : List Op := [.setKids 0 1, .reg]

/-- The decorator shape: deferred, registered first, then the list is filled, emptied, … -/
def decoOps : List Op := [.reg, .splice 0 0 0 1, .splice 0 1 1 1, .unreg]

end TraitsVerif.Model.Legacy
