/-
C10: reset (`del obj.name`) with somebody listening: the delete block of `setattr_trait` re-reads the attribute, which
computes the default, and reports what it read as `new`.
-/
import TraitsVerif.Lemmas.AttrIso
import TraitsVerif.Lemmas.AttrMore
namespace TraitsVerif.Model.Attr
open TraitsVerif

/-- `del obj.name` of an assigned attribute while a notifier list exists (non-re-raising
exception handlers, no `post_setattr`): the default is computed ONCE, stored, and that very
object is what every handler is told as `new` (with the deleted value as `old`). -/
theorem reset_default {E : Env} (q : Quiet E) (t : TraitCore) (s : OSt) (old v : Id) (c : Ctx)
    (hk : t.kind = .trait) (hp : t.post = none) (hs : s.slot = some old) (hn : s.noNotify = false)
    (hex : (s.tn.isSome || s.on.isSome) = true)
    (hd : Attr.defaultValueFor E t s.self s.name s.ctx = (.ok v, c)) :
    (step E t s .del).1 = {}
    ∧ (step E t s .del).2.slot = some v
    ∧ (step E t s .del).2.ctx.fcalls = c.fcalls
    ∧ ∀ x ∈ (step E t s .del).2.ctx.log.drop s.ctx.log.length, x.old = old ∧ x.new = v := by
  obtain ⟨self, name, slot, cn, it, on, nn, ctx⟩ := s
  simp only [] at hs hn hd hex
  subst hs
  subst hn
  have hg : traitGetattr E t ⟨self, name, none, cn, it, on, false, ctx⟩ =
      (.ok v, ⟨self, name, some v, cn, it, on, false, c⟩) := by
    unfold traitGetattr
    simp only [hk]
    rw [getattrTrait_nopost E t _ hp]
    simp only [hd]
  have hlog : c.log = ctx.log := by
    have := (defaultValueFor_frame E t self name ctx).1.log
    rw [hd] at this; exact this
  have htn : ∀ (a : Option Id) (x : Ctx), (OSt.mk self name a cn it on false x).tn =
      (OSt.mk self name (some old) cn it on false ctx).tn := fun _ _ => rfl
  unfold step traitSetattr setattrTrait setattrTraitDel
  simp only [hk, htn none ctx, hex, hg, Bool.false_eq_true, if_false, if_true]
  by_cases hc : (testFlag t.flags Generated.TRAIT_COMPARISON_MODE_NONE || old != v) = true
  · simp only [hc, if_true, postSetattr, hp]
    cases hh : hasNotifiers (OSt.mk self name (some old) cn it on false ctx).tn on
    · simp [hlog]
    · simp only [if_true, callNotifiers_quiet q, Bool.false_eq_true, if_false]
      refine ⟨by first | rfl | trivial, by simp, by simp, ?_⟩
      intro x hx
      simp only [notified_log, hlog, List.drop_left] at hx
      exact mem_fired hx
  · simp [hc, hlog]

end TraitsVerif.Model.Attr
