/-
Cluster `obs`: the refinement invariant is preserved by mutations of an observed
SET container (`add` / `discard` / `clear`), fragments `SetCoreF` and `SetCore` (the same
with no `filtered` node in the registrations).  ("Set" in `ObsInvSet.lean` means
set-FIELD; this file is about `TraitSet` objects.)
-/
import TraitsVerif.Lemmas.ObsCont
namespace TraitsVerif.Model.Obs
open TraitsVerif

/-! ### the site of a set -/

def isSetItems : Observer → Bool
  | .setItems .. => true
  | _ => false

def setSite (c : Id) : Gen.Site := ⟨fun ob x => isSetItems ob && x == some c, .cont c, .set⟩

/-! ### the fragment -/

/-- `SetCoreF` with the premise that no registration contains a `filtered` node (which the proof
does not use: `SetCore.toF`). -/
structure SetCore (E : Env) (st : St) (regs : List Reg) (c : Id) (items items' : List Id) (ev : CEvent) : Prop where
  hc : st.h.get c = .set items
  /-- no `filtered` (`*`, `+metadata`) node in any active registration -/
  noFiltered : ∀ r ∈ regs, r.g.noFiltered = true
  alive : ∀ k, E.dead k = false
  /-- the walks the maintainers perform meet no failing `iter_*` -/
  okRem : ∀ mk g k, Notifier.maint mk g k ∈ st.H.get (.cont c) → ∀ y ∈ ev.removed,
    walkOk (st.h.upd c (.set items')) true g (some y) = true
  okAdd : ∀ mk g k, Notifier.maint mk g k ∈ st.H.get (.cont c) → ∀ y ∈ ev.added,
    walkOk (st.h.upd c (.set items')) true g (some y) = true
  /-- NoSelfReach: below the current items, and below the removed / added ones, the
  maintained sub-graphs never come back to the set itself -/
  nsrItems : ∀ r ∈ regs, ∀ g ∈ Gen.visits (setSite c) actTrue st.h r.g (some r.x), ∀ y ∈ items,
    ∀ it ∈ hookList st.h r.k true g (some y), it.1 ≠ .cont c
  nsrLive : ∀ mk g k, Notifier.maint mk g k ∈ st.H.get (.cont c) → ∀ y ∈ ev.removed ++ ev.added,
    ∀ it ∈ hookList (st.h.upd c (.set items')) k true g (some y), it.1 ≠ .cont c
  /-- graph equality is structural on the sub-graphs involved -/
  eqStruct : ∀ mk g k, Notifier.maint mk g k ∈ st.H.get (.cont c) → ∀ r ∈ regs,
    ∀ g' ∈ Gen.visits (setSite c) actTrue st.h r.g (some r.x),
    (NKey.maint mk g k).equals (.maint .set g' r.k) = true → g = g' ∧ k = r.k

/-- Hypotheses under which a mutation of the set container `c` (contents
`items` ↦ `items'`, reported as `ev`) preserves the invariant; `filtered` nodes are allowed.  With `hc`,
these are the fields of `ContCore` at the site `setSite c`. -/
structure SetCoreF (E : Env) (st : St) (regs : List Reg) (c : Id) (items items' : List Id) (ev : CEvent) : Prop where
  hc : st.h.get c = .set items
  alive : ∀ k, E.dead k = false
  /-- the walks the maintainers perform meet no failing `iter_*` -/
  okRem : ∀ mk g k, Notifier.maint mk g k ∈ st.H.get (.cont c) → ∀ y ∈ ev.removed,
    walkOk (st.h.upd c (.set items')) true g (some y) = true
  okAdd : ∀ mk g k, Notifier.maint mk g k ∈ st.H.get (.cont c) → ∀ y ∈ ev.added,
    walkOk (st.h.upd c (.set items')) true g (some y) = true
  /-- NoSelfReach: below the current items, and below the removed / added ones, the
  maintained sub-graphs never come back to the set itself -/
  nsrItems : ∀ r ∈ regs, ∀ g ∈ Gen.visits (setSite c) actTrue st.h r.g (some r.x), ∀ y ∈ items,
    ∀ it ∈ hookList st.h r.k true g (some y), it.1 ≠ .cont c
  nsrLive : ∀ mk g k, Notifier.maint mk g k ∈ st.H.get (.cont c) → ∀ y ∈ ev.removed ++ ev.added,
    ∀ it ∈ hookList (st.h.upd c (.set items')) k true g (some y), it.1 ≠ .cont c
  /-- graph equality is structural on the sub-graphs involved -/
  eqStruct : ∀ mk g k, Notifier.maint mk g k ∈ st.H.get (.cont c) → ∀ r ∈ regs,
    ∀ g' ∈ Gen.visits (setSite c) actTrue st.h r.g (some r.x),
    (NKey.maint mk g k).equals (.maint .set g' r.k) = true → g = g' ∧ k = r.k

section
variable {E : Env} {st : St} {regs : List Reg} {c : Id} {items items' : List Id} {ev : CEvent}

theorem setSite_visits (h : Heap) (c : Id) (g : Graph) (x : W) :
    Gen.visits (setSite c) actTrue h g x = (contCell .set c).visits h g x :=
  Gen.visits_contCell _ (fun ob x => by cases ob <;> rfl) g x

theorem SetCore.toF (core : SetCore E st regs c items items' ev) : SetCoreF E st regs c items items' ev :=
  ⟨core.hc, core.alive, core.okRem, core.okAdd, core.nsrItems, core.nsrLive, core.eqStruct⟩

theorem SetCoreF.toCont (core : SetCoreF E st regs c items items' ev) :
    ContCore E st regs (Gen.visits (setSite c) actTrue st.h) .set c (.set items') (items) ev :=
  ⟨core.alive, core.okRem, core.okAdd, core.nsrItems, core.nsrLive, core.eqStruct⟩

theorem SetCoreF.ofCont (hc : st.h.get c = .set items)
    (core : ContCore E st regs (Gen.visits (setSite c) actTrue st.h) .set c (.set items') (items) ev) : SetCoreF E st regs c items items' ev :=
  ⟨hc, core.alive, core.okRem, core.okAdd, core.nsrItems, core.nsrLive, core.eqStruct⟩

theorem SetCore.ofCont (hc : st.h.get c = .set items) (hnf : ∀ r ∈ regs, r.g.noFiltered = true)
    (core : ContCore E st regs (Gen.visits (setSite c) actTrue st.h) .set c (.set items') (items) ev) : SetCore E st regs c items items' ev :=
  ⟨hc, hnf, core.alive, core.okRem, core.okAdd, core.nsrItems, core.nsrLive, core.eqStruct⟩

end

/-- `hitems`, `hitems'`: the event is a faithful delta, old = removed ++ rest, new = rest ++ added up to order. -/
theorem setMut_preservesF (E : Env) (st : St) (regs : List Reg) (c : Id) (items items' rest : List Id) (ev : CEvent)
    (hinv : HooksEqReach st.h st.H regs) (core : SetCoreF E st regs c items items' ev)
    (hitems : items.Perm (ev.removed ++ rest)) (hitems' : items'.Perm (rest ++ ev.added)) :
    HooksEqReach (st.h.upd c (.set items')) (runCont E st (st.h.upd c (.set items')) c (some ev)).st.H regs ∧
    (runCont E st (st.h.upd c (.set items')) c (some ev)).err = none :=
  contMut_preserves E st regs _ .set c (.set items') items items' rest ev (by rw [core.hc]; rfl) rfl (setSite_visits st.h c) hinv core.toCont
    hitems hitems'

/-! ### the set operations -/

theorem perm_insertSorted (x : Id) : ∀ l : List Id, (insertSorted x l).Perm (x :: l)
  | [] => .refl _
  | y :: ys => by
    simp only [insertSorted]
    split
    · exact .refl _
    · exact ((perm_insertSorted x ys).cons y).trans (.swap ..)

theorem mem_insertSorted (x y : Id) : ∀ l : List Id, y ∈ insertSorted x l ↔ y = x ∨ y ∈ l :=
  fun l => (perm_insertSorted x l).mem_iff.trans List.mem_cons

/-- `s.add(x)`, `x` not yet in the set -/
theorem setAdd_preservesF (E : Env) (st : St) (regs : List Reg) (c : Id) (x : Id) (items : List Id)
    (hx : x ∉ items) (hinv : HooksEqReach st.h st.H regs)
    (core : SetCoreF E st regs c items (insertSorted x items) (.set [] [x])) :
    HooksEqReach (mutate E st (.setAdd c x)).st.h (mutate E st (.setAdd c x)).st.H regs ∧
    (mutate E st (.setAdd c x)).err = none := by
  have hcn : items.contains x = false := by simpa using hx
  simp only [mutate, core.hc, hcn, Bool.false_eq_true, if_false]
  exact setMut_preservesF E st regs c items _ items _ hinv core (.refl _)
    ((perm_insertSorted x items).trans (List.perm_append_singleton x items).symm)

/-- `s.add(x)`, `x` already in the set: nothing happens, nothing is delivered -/
theorem setAdd_present (E : Env) (st : St) (c : Id) (x : Id) (items : List Id)
    (hc : st.h.get c = .set items) (hx : x ∈ items) :
    (mutate E st (.setAdd c x)).st = st ∧ (mutate E st (.setAdd c x)).delivered = [] ∧
    (mutate E st (.setAdd c x)).err = none := by
  simp [mutate, hc, hx]

/-- `s.discard(x)` / `s.remove(x)`, `x` in the (duplicate-free) set -/
theorem setDiscard_preservesF (E : Env) (st : St) (regs : List Reg) (c : Id) (x : Id) (items : List Id)
    (hx : x ∈ items) (hnd : items.Nodup) (hinv : HooksEqReach st.h st.H regs)
    (core : SetCoreF E st regs c items (items.filter (· != x)) (.set [x] [])) :
    HooksEqReach (mutate E st (.setDiscard c x)).st.h (mutate E st (.setDiscard c x)).st.H regs ∧
    (mutate E st (.setDiscard c x)).err = none := by
  have hcn : items.contains x = true := by simpa using hx
  simp only [mutate, core.hc, hcn, if_true]
  exact setMut_preservesF E st regs c items _ (items.filter (· != x)) _ hinv core
    (hnd.erase_eq_filter x ▸ List.perm_cons_erase hx) (List.append_nil _ ▸ .refl _)

/-- `s.discard(x)`, `x` not in the set: nothing happens, nothing is delivered -/
theorem setDiscard_absent (E : Env) (st : St) (c : Id) (x : Id) (items : List Id)
    (hc : st.h.get c = .set items) (hx : x ∉ items) :
    (mutate E st (.setDiscard c x)).st = st ∧ (mutate E st (.setDiscard c x)).delivered = [] ∧
    (mutate E st (.setDiscard c x)).err = none := by
  simp [mutate, hc, hx]

/-- `s.clear()` on a non-empty set -/
theorem setClear_preservesF (E : Env) (st : St) (regs : List Reg) (c : Id) (items : List Id)
    (hne : items.isEmpty = false) (hinv : HooksEqReach st.h st.H regs)
    (core : SetCoreF E st regs c items [] (.set items [])) :
    HooksEqReach (mutate E st (.setClear c)).st.h (mutate E st (.setClear c)).st.H regs ∧
    (mutate E st (.setClear c)).err = none := by
  simp only [mutate, core.hc, hne, Bool.false_eq_true, if_false]
  exact setMut_preservesF E st regs c items _ [] _ hinv core (List.append_nil _ ▸ .refl _) (.refl _)

/-! The model keeps set items distinct: `add` / `discard` / `clear` preserve `Nodup`
(so the `Nodup` hypothesis of `setDiscard_preservesF` is an invariant of the cell). -/

theorem nodup_insertSorted (x : Id) : ∀ l : List Id, x ∉ l → l.Nodup → (insertSorted x l).Nodup :=
  fun l hx hnd => (perm_insertSorted x l).nodup_iff.2 (List.nodup_cons.2 ⟨hx, hnd⟩)

theorem nodup_filter_ne (x : Id) (l : List Id) (hnd : l.Nodup) : (l.filter (· != x)).Nodup :=
  hnd.sublist List.filter_sublist

/-! ### non-vacuity witness

`a.group = {b, c}` (set cell 100), `b`, `c` instances with a `value` trait;
`a.observe(handler, "group.items.value")`. -/
namespace SetWitness

def fld (n : Name) (v : Val) : Field := ⟨n, false, .val (if n == nValue then .int 0 else .none), v, .equality⟩

def sKey : HKey := ⟨0, 0⟩

def sHeap : Heap :=
  [(0, .inst [fld nGroup (.ref 100), fld nTraitAdded .unset]),
   (1, .inst [fld nValue (.int 3), fld nTraitAdded .unset]),
   (2, .inst [fld nValue (.int 5), fld nTraitAdded .unset]),
   (3, .inst [fld nValue (.int 7), fld nTraitAdded .unset]),
   (100, .set [1, 2])]
def sGraph : Graph := .node (.named nGroup true false) [.node (.setItems true false) [.node (.named nValue true false) []]]
def sSt : St := ⟨sHeap, (addRemove sHeap sKey false true sGraph (some 0) Hooks.empty).H⟩
def sRegs : List Reg := [⟨sKey, sGraph, 0⟩]

theorem sInv : HooksEqReach sSt.h sSt.H sRegs := .of_observe sHeap sKey sGraph 0 (by decide)

theorem sHooks : sSt.H.get (.cont 100) =
    [.user sKey 1, .maint .set (.node (.named nValue true false) []) sKey] := rfl
theorem sVisits : Gen.visits (setSite 100) actTrue sSt.h sGraph (some 0) = [.node (.named nValue true false) []] := rfl

theorem sMaint (mk : MKind) (g : Graph) (k : HKey) (hm : Notifier.maint mk g k ∈ sSt.H.get (.cont 100)) :
    g = .node (.named nValue true false) [] ∧ k = sKey := by
  rw [sHooks] at hm; simp at hm; exact ⟨hm.2.1, hm.2.2⟩

theorem sNoFiltered : ∀ r ∈ sRegs, r.g.noFiltered = true := by
  intro r hr; simp [sRegs] at hr; subst hr; decide

/-- The hypotheses of `setDiscard_preservesF` hold for `a.group.discard(b)`. -/
theorem sCoreDiscard : SetCore {} sSt sRegs 100 [1, 2] ([1, 2].filter (· != 1)) (.set [1] []) :=
  .ofCont rfl sNoFiltered
    (.of_single (fun _ => rfl) sMaint rfl sVisits (by decide) (by decide) (by decide))

/-- The hypotheses of `setAdd_preservesF` hold for `a.group.add(d)` (`d` = object 3). -/
theorem sCoreAdd : SetCore {} sSt sRegs 100 [1, 2] (insertSorted 3 [1, 2]) (.set [] [3]) :=
  .ofCont rfl sNoFiltered
    (.of_single (fun _ => rfl) sMaint rfl sVisits (by decide) (by decide) (by decide))

/-- The hypotheses of `setClear_preservesF` hold for `a.group.clear()`. -/
theorem sCoreClear : SetCore {} sSt sRegs 100 [1, 2] [] (.set [1, 2] []) :=
  .ofCont rfl sNoFiltered
    (.of_single (fun _ => rfl) sMaint rfl sVisits (by decide) (by decide) (by decide))

/-- … the theorem applies to `a.group.clear()`: both `value` traits are released -/
example : HooksEqReach (mutate {} sSt (.setClear 100)).st.h (mutate {} sSt (.setClear 100)).st.H sRegs :=
  (setClear_preservesF {} sSt sRegs 100 [1, 2] (by decide) sInv sCoreClear.toF).1

example : cnt (mutate {} sSt (.setClear 100)).st.H (.trait 1 nValue) (.user sKey) = 0 ∧
    cnt (mutate {} sSt (.setClear 100)).st.H (.trait 2 nValue) (.user sKey) = 0 ∧
    (mutate {} sSt (.setClear 100)).delivered = [.set sKey 100 [1, 2] []] := by decide

/-- … the theorem applies to `a.group.discard(b)`: `b.value` is released, `c.value` stays hooked -/
example : HooksEqReach (mutate {} sSt (.setDiscard 100 1)).st.h (mutate {} sSt (.setDiscard 100 1)).st.H sRegs :=
  (setDiscard_preservesF {} sSt sRegs 100 1 [1, 2] (by decide) (by decide) sInv sCoreDiscard.toF).1

example : cnt sSt.H (.trait 1 nValue) (.user sKey) = 1 ∧
    cnt (mutate {} sSt (.setDiscard 100 1)).st.H (.trait 1 nValue) (.user sKey) = 0 ∧
    cnt (mutate {} sSt (.setDiscard 100 1)).st.H (.trait 2 nValue) (.user sKey) = 1 := by decide

/-- … and to `a.group.add(d)`: `d.value` gets hooked -/
example : HooksEqReach (mutate {} sSt (.setAdd 100 3)).st.h (mutate {} sSt (.setAdd 100 3)).st.H sRegs :=
  (setAdd_preservesF {} sSt sRegs 100 3 [1, 2] (by decide) sInv sCoreAdd.toF).1

example : cnt sSt.H (.trait 3 nValue) (.user sKey) = 0 ∧
    cnt (mutate {} sSt (.setAdd 100 3)).st.H (.trait 3 nValue) (.user sKey) = 1 ∧
    (mutate {} (mutate {} sSt (.setAdd 100 3)).st (.setField 3 nValue (.int 8) 0)).delivered =
      [.trait sKey 3 nValue (.int 7) (.int 8)] := by decide

end SetWitness

/-! `a.group = {b, c}` observed through a quiet `*` node on `a`; `a.group.discard(b)`. -/
namespace FilteredSetWitness

def fld (n : Name) (v : Val) : Field := ⟨n, false, .val (if n == nValue then .int 0 else .none), v, .equality⟩
def wKey : HKey := ⟨0, 0⟩
def wHeap : Heap :=
  [(0, .inst [fld nGroup (.ref 100), fld nTraitAdded .unset]),
   (1, .inst [fld nValue (.int 3), fld nTraitAdded .unset]),
   (2, .inst [fld nValue (.int 5), fld nTraitAdded .unset]),
   (100, .set [1, 2])]
/-- quiet `*` on `a` → optional items → `value` -/
def wGraph : Graph :=
  .node (.filtered .anyTrait false) [.node (.setItems true true) [.node (.named nValue true false) []]]
def wSt : St := ⟨wHeap, (addRemove wHeap wKey false true wGraph (some 0) Hooks.empty).H⟩
def wRegs : List Reg := [⟨wKey, wGraph, 0⟩]

theorem wInv : HooksEqReach wSt.h wSt.H wRegs := .of_observe wHeap wKey wGraph 0 (by decide)

theorem wHooks : wSt.H.get (.cont 100) =
    [.user wKey 1, .maint .set (.node (.named nValue true false) []) wKey] := rfl
theorem wVisits : Gen.visits (setSite 100) actTrue wSt.h wGraph (some 0) = [.node (.named nValue true false) []] := rfl

theorem wCore : SetCoreF {} wSt wRegs 100 [1, 2] ([1, 2].filter (· != 1)) (.set [1] []) :=
  .ofCont rfl (.of_single (fun _ => rfl)
    (by intro mk g k hm; rw [wHooks] at hm; simp at hm; exact ⟨hm.2.1, hm.2.2⟩)
    rfl wVisits (by decide) (by decide) (by decide))

example : HooksEqReach (mutate {} wSt (.setDiscard 100 1)).st.h (mutate {} wSt (.setDiscard 100 1)).st.H wRegs :=
  (setDiscard_preservesF {} wSt wRegs 100 1 [1, 2] (by decide) (by decide) wInv wCore).1

example : cnt wSt.H (.trait 1 nValue) (.user wKey) = 1 ∧
    cnt (mutate {} wSt (.setDiscard 100 1)).st.H (.trait 1 nValue) (.user wKey) = 0 ∧
    cnt (mutate {} wSt (.setDiscard 100 1)).st.H (.trait 2 nValue) (.user wKey) = 1 := by decide

end FilteredSetWitness

end TraitsVerif.Model.Obs
