/-
Liveness lemmas for the `persist` cluster: a `Live` value rejects invalid items
at every declared container, at every depth, and stays `Live` under the
mutations it accepts (so the copy is a reachable state of the live container
model, C04).
-/
import TraitsVerif.Lemmas.PersistValue
namespace TraitsVerif.Lemmas.Persist
open TraitsVerif TraitsVerif.Model.Persist

/-- The declared shape at a position (child indices) below a trait of shape `sh`. -/
def shapeAt : Shape → List Nat → Shape
  | sh, [] => sh
  | .cont _ _ iT _ _, _ :: ps => shapeAt iT ps
  | _, _ :: _ => .any

/-- What the container at a declared position demands of a new item. -/
def Accepts (E : Env) (o n : Nat) (sh : Shape) (key : Leaf) (item : CVal) : Prop :=
  match sh with
  | .cont .lst _ iT _ _ => ∃ r, validate E o iT n item = .ok r
  | .cont .dct kT iT _ _ => (∃ k', E.lv kT key = .ok k') ∧ ∃ r, validate E o iT n item = .ok r
  | .cont .st kT _ _ _ => ∃ k', E.lv kT key = .ok k'
  | _ => True

theorem putKV_forall {P : Leaf → Prop} {Q : CVal → Prop} {key : Leaf} {item : CVal} (hk : P key) (hi : Q item) :
    ∀ (keys : List Leaf) (kids : List CVal), (∀ k ∈ keys, P k) → (∀ v ∈ kids, Q v) →
      (∀ k ∈ (putKV keys kids key item).1, P k) ∧ (∀ v ∈ (putKV keys kids key item).2, Q v)
  | [], kids, h1, h2 => by
    simp only [putKV, List.forall_mem_append, List.forall_mem_singleton]
    exact ⟨⟨h1, hk⟩, h2, hi⟩
  | k :: ks, [], h1, h2 => by
    simp only [putKV, List.forall_mem_append, List.forall_mem_singleton]
    exact ⟨⟨h1, hk⟩, h2, hi⟩
  | k :: ks, v :: vs, h1, h2 => by
    rw [List.forall_mem_cons] at h1 h2
    simp only [putKV]
    split
    · exact ⟨List.forall_mem_cons.mpr h1, List.forall_mem_cons.mpr ⟨hi, h2.2⟩⟩
    · have ih := putKV_forall hk hi ks vs h1.2 h2.2
      exact ⟨List.forall_mem_cons.mpr ⟨h1.1, ih.1⟩, List.forall_mem_cons.mpr ⟨h2.1, ih.2⟩⟩

theorem nodeAdd_live {E : Env} (hI : Idem E) {o : Nat} {k : Kind} {kT : LeafTy} {iT : Shape} {lo hi i : Nat}
    {keys : List Leaf} {kids : List CVal} {n : Nat} {key : Leaf} {item : CVal} {v' : CVal} {n' : Nat}
    (hlen : k = .lst → lo ≤ kids.length ∧ kids.length ≤ hi)
    (hkeys : ∀ key ∈ keys, E.lv kT key = .ok key)
    (hkids : ∀ kid ∈ kids, Live E o iT kid)
    (h : nodeAdd E n k i (.bound o (.cont k kT iT lo hi)) keys kids key item = .ok (v', n')) :
    Live E o (.cont k kT iT lo hi) v' ∧ Accepts E o n (.cont k kT iT lo hi) key item := by
  unfold nodeAdd at h
  split at h
  · cases h
  · rename_i hlen'
    simp only [Binding.rule] at h
    cases k with
    | st =>
      simp only at h
      split at h
      · cases h
      · rename_i key' hk
        cases h
        refine ⟨?_, ⟨key', hk⟩⟩
        simp only [rawAdd]
        refine .node (fun hc => by cases hc) ?_ hkids
        unfold addKey
        split
        · exact hkeys
        · exact List.forall_mem_append.mpr ⟨hkeys, by simpa using hI _ _ _ hk⟩
    | lst =>
      simp only at h
      split at h
      · cases h
      · rename_i item' n2 hv
        cases h
        refine ⟨?_, ⟨_, hv⟩⟩
        simp only [rawAdd]
        have hl := validate_live hI o _ _ _ _ _ hv
        refine .node ?_ hkeys ?_
        · intro _
          have := hlen rfl
          have h3 : kids.length + 1 ≤ hi := by simpa [lengthOk] using hlen'
          simp; omega
        · exact List.forall_mem_append.mpr ⟨hkids, by simpa using hl⟩
    | dct =>
      simp only at h
      split at h
      · cases h
      · rename_i key' hk
        split at h
        · cases h
        · rename_i item' n2 hv
          cases h
          refine ⟨?_, ⟨⟨key', hk⟩, ⟨_, hv⟩⟩⟩
          simp only [rawAdd]
          have hl := validate_live hI o _ _ _ _ _ hv
          have := putKV_forall (P := fun a => E.lv kT a = .ok a) (Q := fun a => Live E o iT a)
            (hI _ _ _ hk) hl keys kids hkeys hkids
          exact .node (fun hc => by cases hc) this.1 this.2

theorem accepts_any {E : Env} (o n : Nat) (path : List Nat) (key : Leaf) (item : CVal) :
    Accepts E o n (shapeAt .any path) key item := by
  cases path <;> simp [shapeAt, Accepts]

mutual
theorem addAt_live {E : Env} (hI : Idem E) (o : Nat) :
    ∀ (v : CVal) (path : List Nat) (sh : Shape) (n : Nat) (key : Leaf) (item : CVal) (v' : CVal) (n' : Nat),
      Live E o sh v → addAt E n key item path v = .ok (v', n') →
      Live E o sh v' ∧ Accepts E o n (shapeAt sh path) key item
  | .leaf a, path, sh, n, key, item, v', n', _, h => by
    cases path <;> simp [addAt] at h
  | .node k i b keys kids, [], sh, n, key, item, v', n', hl, h => by
    simp only [addAt] at h
    cases hl with
    | any _ => exact ⟨.any _, by simp [shapeAt, Accepts]⟩
    | node h1 h2 h3 => exact nodeAdd_live hI h1 h2 h3 h
  | .node k i b keys kids, p :: ps, sh, n, key, item, v', n', hl, h => by
    simp only [addAt] at h
    split at h
    · cases h
    · rename_i kids' n2 hk
      cases h
      cases hl with
      | any _ => exact ⟨.any _, accepts_any o n _ key item⟩
      | node h1 h2 h3 =>
        have ih := addAtL_live hI o kids p ps _ n key item kids' _ h3 hk
        refine ⟨.node ?_ h2 ih.1, ?_⟩
        · intro hc; rw [ih.2.1]; exact h1 hc
        · simpa [shapeAt] using ih.2.2
theorem addAtL_live {E : Env} (hI : Idem E) (o : Nat) :
    ∀ (l : List CVal) (p : Nat) (ps : List Nat) (sh : Shape) (n : Nat) (key : Leaf) (item : CVal)
      (l' : List CVal) (n' : Nat),
      (∀ kid ∈ l, Live E o sh kid) → addAtL E n key item p ps l = .ok (l', n') →
      (∀ kid ∈ l', Live E o sh kid) ∧ l'.length = l.length ∧ Accepts E o n (shapeAt sh ps) key item
  | [], p, ps, sh, n, key, item, l', n', _, h => by
    cases p <;> simp [addAtL] at h
  | v :: vs, 0, ps, sh, n, key, item, l', n', hl, h => by
    simp only [addAtL] at h
    split at h
    · cases h
    · rename_i v' n2 hv
      cases h
      rw [List.forall_mem_cons] at hl
      have ih := addAt_live hI o v ps sh n key item v' _ hl.1 hv
      exact ⟨List.forall_mem_cons.mpr ⟨ih.1, hl.2⟩, by simp, ih.2⟩
  | v :: vs, p + 1, ps, sh, n, key, item, l', n', hl, h => by
    simp only [addAtL] at h
    split at h
    · cases h
    · rename_i vs' n2 hv
      cases h
      rw [List.forall_mem_cons] at hl
      have ih := addAtL_live hI o vs p ps sh n key item vs' _ hl.2 hv
      exact ⟨List.forall_mem_cons.mpr ⟨hl.1, ih.1⟩, by simp [ih.2.1], ih.2.2⟩
end

theorem live_notifies {E : Env} {o : Nat} {k : Kind} {kT : LeafTy} {iT : Shape} {lo hi : Nat} {v : CVal}
    (h : Live E o (.cont k kT iT lo hi) v) : notifiesAt [] v = some o := by
  cases h with
  | node _ _ _ => simp [notifiesAt]

end TraitsVerif.Lemmas.Persist
