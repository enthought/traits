/-
Facts about the `Py.List` model: integer subscripts, arithmetic progressions of
positions, positional get / set / delete (length, membership, contiguous blocks,
reversal), `insert`, `imul`.
-/
import TraitsVerif.Py.List
namespace TraitsVerif.Py
variable {α : Type}

/-! ### positions -/

@[simp] theorem positions_length (a k : Int) (m : Nat) : (positions a k m).length = m := by
  induction m generalizing a with
  | zero => rfl
  | succ m ih => simp [positions, ih]

/-- One more step of a progression (`omega` takes the product `↑m * k` as an atom). -/
theorem add_step_mul (a k : Int) (m : Nat) : a + k + (m : Int) * k = a + ((m + 1 : Nat) : Int) * k := by
  push_cast
  rw [Int.add_mul]
  omega

theorem positions_snoc (a k : Int) (m : Nat) :
    positions a k (m + 1) = positions a k m ++ [a + m * k] := by
  induction m generalizing a with
  | zero => simp [positions]
  | succ m ih =>
    rw [positions, ih (a + k)]
    simp only [positions, List.cons_append]
    congr 3
    exact add_step_mul a k m

theorem mem_positions {a k : Int} {m : Nat} {p : Int} :
    p ∈ positions a k m ↔ ∃ j : Nat, j < m ∧ p = a + j * k := by
  induction m generalizing a with
  | zero => simp [positions]
  | succ m ih =>
    simp only [positions, List.mem_cons, ih]
    constructor
    · rintro (h | ⟨j, hj, h⟩)
      · exact ⟨0, by omega, by simp [h]⟩
      · exact ⟨j + 1, by omega, by rw [h, add_step_mul]⟩
    · rintro ⟨j, hj, h⟩
      cases j with
      | zero => left; simpa using h
      | succ j => right; exact ⟨j, by omega, by rw [h, add_step_mul]⟩

theorem positions_reverse (a k : Int) (m : Nat) :
    (positions a k (m + 1)).reverse = positions (a + m * k) (-k) (m + 1) := by
  induction m generalizing a with
  | zero => simp [positions]
  | succ m ih =>
    rw [positions, List.reverse_cons, ih (a + k), positions_snoc _ _ (m + 1)]
    have e : a + ((m + 1 : Nat) : Int) * k + ((m + 1 : Nat) : Int) * (-k) = a := by rw [Int.mul_neg]; omega
    rw [add_step_mul, e]

theorem positions_nodup {a k : Int} (hk : k ≠ 0) (m : Nat) : (positions a k m).Nodup := by
  induction m generalizing a with
  | zero => simp [positions]
  | succ m ih =>
    simp only [positions, List.nodup_cons]
    refine ⟨?_, ih⟩
    rw [mem_positions]
    rintro ⟨j, _, h⟩
    have : ((j : Int) + 1) * k = 0 := by rw [Int.add_mul]; omega
    rcases Int.mul_eq_zero.mp this with h1 | h1
    · omega
    · exact hk h1

theorem positions_in_range_pos {n : Nat} {a k : Int} {q : Nat} (ha : 0 ≤ a) (hk : 0 < k)
    (h : a + q * k < n) : ∀ p ∈ positions a k (q + 1), 0 ≤ p ∧ p < n := by
  intro p hp
  obtain ⟨j, hj, rfl⟩ := mem_positions.mp hp
  have h0 : 0 ≤ (j : Int) * k := Int.mul_nonneg (by omega) (by omega)
  have h1 : (j : Int) * k ≤ q * k := Int.mul_le_mul_of_nonneg_right (by omega) (by omega)
  omega

/-! ### getPositions -/

theorem getPositions_length {l : List α} {ps : List Int}
    (h : ∀ p ∈ ps, 0 ≤ p ∧ p < l.length) : (getPositions l ps).length = ps.length := by
  induction ps with
  | nil => rfl
  | cons p ps ih =>
    have hp := h p (by simp)
    have ih' := ih (fun q hq => h q (by simp [hq]))
    have hlt : p.toNat < l.length := by omega
    simp only [getPositions, List.filterMap_cons] at ih' ⊢
    rw [if_neg (by omega), List.getElem?_eq_getElem hlt]
    simp [ih']

theorem getPositions_reverse (l : List α) (ps : List Int) :
    getPositions l ps.reverse = (getPositions l ps).reverse := by
  simp [getPositions, List.filterMap_reverse]

theorem getPositions_contig (l : List α) (a : Int) (m : Nat) (ha : 0 ≤ a)
    (hm : a + m ≤ l.length) :
    getPositions l (positions a 1 m) = (l.drop a.toNat).take m := by
  induction m generalizing a with
  | zero => simp [positions, getPositions]
  | succ m ih =>
    have hlt : a.toNat < l.length := by omega
    have := ih (a + 1) (by omega) (by push_cast at hm ⊢; omega)
    simp only [getPositions, positions, List.filterMap_cons] at this ⊢
    rw [if_neg (by omega), List.getElem?_eq_getElem hlt]
    simp only
    rw [this, List.drop_eq_getElem_cons hlt, List.take_succ_cons]
    congr 3
    omega

theorem getPositions_single (l : List α) (a : Int) (ha : 0 ≤ a) :
    getPositions l [a] = (l[a.toNat]?).toList := by
  simp only [getPositions, List.filterMap_cons, List.filterMap_nil]
  rw [if_neg (by omega)]
  cases l[a.toNat]? <;> rfl

/-! ### setPositions -/

theorem setPositions_length (l : List α) (ps : List Int) (vs : List α) :
    (setPositions l ps vs).length = l.length := by
  induction ps generalizing l vs with
  | nil => simp [setPositions]
  | cons p ps ih =>
    cases vs with
    | nil => simp [setPositions]
    | cons v vs => simp [setPositions, ih]

theorem setPositions_snoc (l : List α) (ps : List Int) (vs : List α) (p : Int) (v : α)
    (h : ps.length = vs.length) :
    setPositions l (ps ++ [p]) (vs ++ [v]) = (setPositions l ps vs).set p.toNat v := by
  induction ps generalizing l vs with
  | nil =>
    cases vs with
    | nil => simp [setPositions]
    | cons _ _ => simp at h
  | cons q ps ih =>
    cases vs with
    | nil => simp at h
    | cons w vs =>
      simp only [List.cons_append, setPositions]
      exact ih _ _ (by simpa using h)

theorem setPositions_set_comm (l : List α) (ps : List Int) (vs : List α) (p : Nat) (v : α)
    (h : ∀ q ∈ ps, q.toNat ≠ p) :
    setPositions (l.set p v) ps vs = (setPositions l ps vs).set p v := by
  induction ps generalizing l vs with
  | nil => simp [setPositions]
  | cons q ps ih =>
    cases vs with
    | nil => simp [setPositions]
    | cons w vs =>
      simp only [setPositions]
      have hq : q.toNat ≠ p := h q (by simp)
      rw [List.set_comm _ _ (Ne.symm hq), ih _ _ (fun r hr => h r (by simp [hr]))]

theorem setPositions_reverse (l : List α) (ps : List Int) (vs : List α)
    (hlen : ps.length = vs.length) (hnn : ∀ p ∈ ps, 0 ≤ p) (hnd : ps.Nodup) :
    setPositions l ps.reverse vs.reverse = setPositions l ps vs := by
  induction ps generalizing l vs with
  | nil => simp [setPositions]
  | cons p ps ih =>
    cases vs with
    | nil => simp at hlen
    | cons v vs =>
      have hlen' : ps.length = vs.length := by simpa using hlen
      rw [List.reverse_cons, List.reverse_cons,
        setPositions_snoc _ _ _ _ _ (by simpa using hlen'),
        ih _ _ hlen' (fun q hq => hnn q (by simp [hq])) (List.nodup_cons.mp hnd).2]
      simp only [setPositions]
      rw [setPositions_set_comm]
      intro q hq hEq
      have h1 := hnn q (by simp [hq])
      have h2 := hnn p (by simp)
      have : q = p := by omega
      exact (List.nodup_cons.mp hnd).1 (this ▸ hq)

theorem setPositions_contig (l : List α) (a : Int) (vs : List α) (ha : 0 ≤ a)
    (hm : a + vs.length ≤ l.length) :
    setPositions l (positions a 1 vs.length) vs
      = l.take a.toNat ++ vs ++ l.drop (a.toNat + vs.length) := by
  induction vs generalizing l a with
  | nil => simp [positions, setPositions]
  | cons v vs ih =>
    rw [List.length_cons] at hm
    push_cast at hm
    have hlt : a.toNat < l.length := by omega
    simp only [List.length_cons, positions, setPositions]
    rw [ih (l.set a.toNat v) (a + 1) (by omega) (by simp; omega)]
    have e : (a + 1).toNat = a.toNat + 1 := by omega
    rw [e, List.take_set, List.drop_set, if_pos (by omega)]
    rw [List.take_succ_eq_append_getElem (by simpa using hlt)]
    have e2 : a.toNat + 1 + vs.length = a.toNat + (vs.length + 1) := by omega
    rw [e2, List.set_append_right _ _ (by simp [Nat.min_eq_left (Nat.le_of_lt hlt)])]
    simp [Nat.min_eq_left (Nat.le_of_lt hlt)]

theorem setPositions_mem (l : List α) (ps : List Int) (vs : List α) (x : α)
    (h : x ∈ setPositions l ps vs) : x ∈ l ∨ x ∈ vs := by
  induction ps generalizing l vs with
  | nil => left; simpa [setPositions] using h
  | cons p ps ih =>
    cases vs with
    | nil => left; simpa [setPositions] using h
    | cons v vs =>
      simp only [setPositions] at h
      rcases ih _ _ h with h | h
      · rcases List.mem_or_eq_of_mem_set h with h | h
        · left; exact h
        · right; simp [h]
      · right; exact List.mem_cons_of_mem _ h

/-! ### delPositions -/

/-- `delPositionsAux` keeps, of the items numbered from `i`, those whose number is not listed. -/
theorem delPositionsAux_eq (ps : List Int) (i : Nat) (l : List α) :
    delPositionsAux ps i l = ((l.zipIdx i).filter fun p => !ps.contains (p.2 : Int)).map Prod.fst := by
  induction l generalizing i with
  | nil => rfl
  | cons x xs ih =>
    simp only [delPositionsAux, List.zipIdx_cons, List.filter_cons, ih]
    cases ps.contains (i : Int) <;> rfl

theorem delPositions_nil (l : List α) : delPositions l [] = l := by
  rw [delPositions, delPositionsAux_eq, List.filter_eq_self.mpr (by simp), List.zipIdx_map_fst]

theorem delPositions_reverse (l : List α) (ps : List Int) :
    delPositions l ps.reverse = delPositions l ps := by
  simp only [delPositions, delPositionsAux_eq, List.contains_reverse]

theorem delPositionsAux_mem (ps : List Int) (i : Nat) (l : List α) (x : α)
    (h : x ∈ delPositionsAux ps i l) : x ∈ l := by
  rw [delPositionsAux_eq] at h
  obtain ⟨p, hp, rfl⟩ := List.mem_map.mp h
  exact List.fst_mem_of_mem_zipIdx (List.mem_filter.mp hp).1

theorem delPositions_block (l : List α) (ps : List Int) (lo m : Nat) (hm : lo + m ≤ l.length)
    (h : ∀ j : Nat, ps.contains (j : Int) = decide (lo ≤ j ∧ j < lo + m)) :
    delPositions l ps = l.take lo ++ l.drop (lo + m) := by
  have e : l = l.take lo ++ ((l.drop lo).take m ++ l.drop (lo + m)) := by
    rw [← List.drop_drop, List.take_append_drop, List.take_append_drop]
  conv => lhs; rw [e]
  simp only [delPositions, delPositionsAux_eq, List.zipIdx_append, List.filter_append, List.map_append, h]
  -- before the block everything stays, inside it nothing, after it everything
  rw [List.filter_eq_self.mpr, List.filter_eq_nil_iff.mpr, List.filter_eq_self.mpr]
  · simp [List.zipIdx_map_fst]
  all_goals
    rintro ⟨x, j⟩ hj
    have := List.mem_zipIdx hj
    simp only [List.length_take, List.length_drop] at this
    simp
    omega

theorem contains_positions_one (lo : Int) (hlo : 0 ≤ lo) (m j : Nat) :
    (positions lo 1 m).contains (j : Int) = decide (lo.toNat ≤ j ∧ j < lo.toNat + m) := by
  rw [Bool.eq_iff_iff]
  simp only [List.contains_iff_mem, decide_eq_true_eq, mem_positions]
  constructor
  · rintro ⟨i, hi, h⟩; omega
  · intro h; exact ⟨j - lo.toNat, by omega, by omega⟩

theorem delPositions_contig (l : List α) (lo : Int) (hlo : 0 ≤ lo) (m : Nat)
    (hm : lo + m ≤ l.length) :
    delPositions l (positions lo 1 m) = l.take lo.toNat ++ l.drop (lo.toNat + m) :=
  delPositions_block l _ lo.toNat m (by omega) (contains_positions_one lo hlo m)

theorem delPositionsAux_cons_length (ps : List Int) (p : Nat) (hp : (p : Int) ∉ ps)
    (i : Nat) (l : List α) (h1 : i ≤ p) (h2 : p < i + l.length) :
    (delPositionsAux ((p : Int) :: ps) i l).length + 1 = (delPositionsAux ps i l).length := by
  induction l generalizing i with
  | nil => simp at h2; omega
  | cons x xs ih =>
    simp only [delPositionsAux]
    by_cases hip : i = p
    · subst hip
      -- `x` is the item numbered `p`; behind it the longer list of positions deletes what the shorter does
      have e : delPositionsAux ((i : Int) :: ps) (i + 1) xs = delPositionsAux ps (i + 1) xs := by
        simp only [delPositionsAux_eq]
        congr 1
        refine List.filter_congr fun q hq => ?_
        have : (q.2 : Int) ≠ (i : Int) := by have := List.mem_zipIdx (x := q.1) (i := q.2) hq; omega
        simp [this]
      simp [hp, e]
    · have hc : (((p : Int) :: ps).contains (i : Int)) = ps.contains (i : Int) := by
        have : (i : Int) ≠ (p : Int) := by omega
        simp [this]
      rw [hc]
      have := ih (i + 1) (by omega) (by simp at h2; omega)
      split <;> simp [this]

theorem delPositions_length (l : List α) (ps : List Int) (hnd : ps.Nodup)
    (hr : ∀ p ∈ ps, 0 ≤ p ∧ p < l.length) :
    (delPositions l ps).length + ps.length = l.length := by
  induction ps with
  | nil => rw [delPositions_nil]; rfl
  | cons p ps ih =>
    have hp := hr p (by simp)
    obtain ⟨hpn, hnd'⟩ := List.nodup_cons.mp hnd
    have ih' := ih hnd' (fun q hq => hr q (by simp [hq]))
    have hcast : ((p.toNat : Nat) : Int) = p := Int.toNat_of_nonneg hp.1
    have := delPositionsAux_cons_length ps p.toNat (by rwa [hcast]) 0 l (by omega) (by omega)
    rw [hcast] at this
    simp only [delPositions, List.length_cons] at ih' ⊢
    omega

/-! ### splice, integer subscripts, `insert`, `imul` -/

theorem splice_mem (l : List α) (a b : Int) (vs : List α) (x : α) (h : x ∈ splice l a b vs) :
    x ∈ l ∨ x ∈ vs := by
  simp only [splice, List.mem_append] at h
  rcases h with (h | h) | h
  · left; exact List.mem_of_mem_take h
  · right; exact h
  · left; exact List.mem_of_mem_drop h

theorem normIdx_some {len : Nat} {i : Int} {j : Nat} (h : normIdx len i = some j) :
    0 ≤ (if i < 0 then i + len else i) ∧ (if i < 0 then i + len else i) < len
      ∧ j = (if i < 0 then i + len else i).toNat := by
  unfold normIdx at h
  by_cases hc : 0 ≤ (if i < 0 then i + (len : Int) else i) ∧ (if i < 0 then i + (len : Int) else i) < len
  · simp only [hc, and_self, if_true, Option.some.injEq] at h
    exact ⟨hc.1, hc.2, h.symm⟩
  · simp only [hc, if_false] at h
    cases h

theorem normIdx_some_lt {n : Nat} {i : Int} {j : Nat} (h : normIdx n i = some j) : j < n := by
  have := normIdx_some h
  omega

theorem normIdx_natCast {n j : Nat} (h : j < n) : normIdx n (j : Int) = some j := by
  unfold normIdx
  have h0 : ¬ ((j : Int) < 0) := by omega
  simp only [h0, if_false]
  rw [if_pos (by omega)]
  simp

theorem insertPos_eq (len : Nat) (i : Int) :
    let n : Int := if i < 0 then max (i + len) 0 else min i len
    0 ≤ n ∧ n ≤ len ∧ insertPos len i = n.toNat := by
  simp only [insertPos]
  split <;> split <;> omega

theorem findIdx?_lt {p : α → Bool} {l : List α} {j : Nat} (h : l.findIdx? p = some j) :
    j < l.length := by
  have := List.findIdx?_eq_some_iff_getElem.mp h
  exact this.1

theorem imul_eq_append {l : List α} {n : Int} (hn : ¬ n < 1) : Py.imul l n = l ++ (Py.imul l n).drop l.length := by
  simp only [Py.imul, hn, if_false]
  obtain ⟨m, hm⟩ : ∃ m : Nat, n.toNat = m + 1 := ⟨n.toNat - 1, by omega⟩
  rw [hm, List.replicate_succ, List.flatten_cons]
  simp

end TraitsVerif.Py
