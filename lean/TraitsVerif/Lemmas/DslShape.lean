/-
C15 — `shape` as rules.  `Derives c k` is the graph of `shape` written as an
inductive relation, one rule per way a tree gets its kind; every proof about
derivation trees is an induction over it instead of a walk through the nested
matches of `shape`.  Also: where `*` can stand in a derivation tree.
Core Lean only.
-/
import TraitsVerif.Model.DslSyntax
namespace TraitsVerif.Model.Dsl

theorem toks_group_append (p : Cst) (rest : List Tok) :
    toks (.group p) ++ rest = .lb :: (toks p ++ .rb :: rest) := by
  simp only [toks, List.cons_append, List.append_assoc, List.nil_append]
theorem toks_ser_append (l : Cst) (cn : Conn) (r : Cst) (rest : List Tok) :
    toks (.ser l cn r) ++ rest = toks l ++ .conn cn :: (toks r ++ rest) := by
  simp only [toks, List.cons_append, List.append_assoc]
theorem toks_par_append (l r : Cst) (rest : List Tok) :
    toks (.par l r) ++ rest = toks l ++ .comma :: (toks r ++ rest) := by
  simp only [toks, List.cons_append, List.append_assoc]

theorem leSer_leSerT {k : Kind} (h : k.leSer = true) : k.leSerT = true := by
  cases k <;> first | rfl | cases h
theorem leSer_lePar {k : Kind} (h : k.leSer = true) : k.lePar = true := by
  cases k <;> first | rfl | cases h

inductive Derives : Cst → Kind → Prop
  | trait (n) : Derives (.trait n) .elem
  | items : Derives .items .elem
  | metadata (n) : Derives (.metadata n) .elem
  | any : Derives .any .anyK
  | group {p k} : Derives p k → k.lePar = true → Derives (.group p) .elem
  | serElem {l r kl} (cn) : Derives l kl → kl.leSer = true → Derives r .elem →
      Derives (.ser l cn r) .ser
  | serAny {l kl} (cn) : Derives l kl → kl.leSer = true → Derives (.ser l cn .any) .serT
  | par {l r kl kr} : Derives l kl → Derives r kr → kl.lePar = true → kr.leSer = true →
      Derives (.par l r) .par
  | parT {l r kl kr} : Derives l kl → Derives r kr → (kl.lePar && kr.leSer) = false →
      kr.leSerT = true → Derives (.par l r) .parT

theorem Derives.shape_eq {c : Cst} {k : Kind} (h : Derives c k) : shape c = some k := by
  induction h with
  | trait | items | metadata | any => rfl
  | group _ hle ih => simp only [shape, ih, hle, if_true]
  | serElem _ _ hle _ ihl ihr => simp only [shape, ihl, ihr, hle, if_true, beq_self_eq_true]
  | serAny _ _ hle ihl => simp only [shape, ihl, hle, if_true]; rfl
  | par _ _ hl hr ihl ihr => simp only [shape, ihl, ihr, hl, hr, Bool.and_self, if_true]
  | parT _ _ hn hT ihl ihr => simp only [shape, ihl, ihr, hn, hT, if_true, Bool.false_eq_true, if_false]

/-- One case per arm of `shape` (`shape.induct`), its guards as hypotheses; the arms that
return `none` contradict `h`. -/
theorem Derives.of_shape : ∀ (c : Cst) {k : Kind}, shape c = some k → Derives c k := by
  intro c
  fun_induction shape c <;> intro k h
  -- the four leaves; brackets
  case case1 n => cases h; exact .trait n
  case case2 => cases h; exact .items
  case case3 n => cases h; exact .metadata n
  case case4 => cases h; exact .any
  case case5 p kp hp hle ih => cases h; exact .group (ih hp) hle
  -- a connector: the right operand is an element, or `*`
  case case8 l cn r kl kr hr hl hle he ihl ihr =>
    cases h; cases eq_of_beq he
    exact .serElem cn (ihl hl) hle (ihr hr)
  case case9 l cn r kl kr hr hl hle _ he ihl ihr =>
    -- … which having the kind of `*` is `*` itself
    cases h; cases eq_of_beq he; cases ihr hr
    exact .serAny cn (ihl hl) hle
  -- a comma: `parallel` if the operands allow, else `parallel_terminal`
  case case13 l r kl kr hr hl hpp ihl ihr =>
    cases h
    rw [Bool.and_eq_true] at hpp
    exact .par (ihl hl) (ihr hr) hpp.1 hpp.2
  case case14 l r kl kr hr hl hpp hT ihl ihr =>
    cases h; exact .parT (ihl hl) (ihr hr) ((Bool.not_eq_true _).mp hpp) hT
  all_goals cases h

theorem shape_iff {c : Cst} {k : Kind} : shape c = some k ↔ Derives c k :=
  ⟨Derives.of_shape c, Derives.shape_eq⟩

theorem isSome_shape {c : Cst} : (shape c).isSome = true ↔ ∃ k, Derives c k :=
  Option.isSome_iff_exists.trans (exists_congr fun _ => shape_iff)

/-! ### where `*` can be -/

def noAny : Cst → Bool
  | .any => false
  | .group p => noAny p
  | .ser l _ r => noAny l && noAny r
  | .par l r => noAny l && noAny r
  | _ => true

/-- `*` occurs only in a terminal position: never in the left operand of a
connector (= followed, directly or indirectly, by `.` or `:`), and — the
grammar file's `"[" parallel "]"` — never inside brackets. -/
def starOk : Cst → Bool
  | .group p => noAny p
  | .ser l _ r => noAny l && starOk r
  | .par l r => starOk l && starOk r
  | _ => true

theorem noAny_starOk (c : Cst) (h : noAny c = true) : starOk c = true := by
  induction c with
  | group p _ => exact h
  | ser l c r _ ihr =>
    rw [noAny, Bool.and_eq_true] at h
    rw [starOk, h.1, ihr h.2]; rfl
  | par l r ihl ihr =>
    rw [noAny, Bool.and_eq_true] at h
    rw [starOk, ihl h.1, ihr h.2]; rfl
  | _ => rfl

theorem Derives.star {c : Cst} {k : Kind} (h : Derives c k) :
    (k.lePar = true → noAny c = true) ∧ starOk c = true := by
  induction h with
  | trait | items | metadata => exact ⟨fun _ => rfl, rfl⟩
  | any => exact ⟨nofun, rfl⟩
  | group _ hle ih => exact ⟨fun _ => ih.1 hle, ih.1 hle⟩
  | serElem _ _ hle _ ihl ihr =>
    have hl := ihl.1 (leSer_lePar hle)
    have hr := ihr.1 rfl
    exact ⟨fun _ => by rw [noAny, hl, hr]; rfl, by rw [starOk, hl, noAny_starOk _ hr]; rfl⟩
  | serAny _ _ hle ihl =>
    exact ⟨nofun, by rw [starOk, ihl.1 (leSer_lePar hle)]; rfl⟩
  | par _ _ hl hr ihl ihr =>
    have hl := ihl.1 hl
    have hr := ihr.1 (leSer_lePar hr)
    exact ⟨fun _ => by rw [noAny, hl, hr]; rfl,
      by rw [starOk, noAny_starOk _ hl, noAny_starOk _ hr]; rfl⟩
  | parT _ _ _ _ ihl ihr => exact ⟨nofun, by rw [starOk, ihl.2, ihr.2]; rfl⟩

end TraitsVerif.Model.Dsl
