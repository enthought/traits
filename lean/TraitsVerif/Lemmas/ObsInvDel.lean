/-
Cluster `obs`: `del obj.trait` (`Mutation.delField`, the delete branch of `setattr_trait`,
ctraits.c:2441-2489) and the refinement invariant `HooksEqReach`.

The branch reads the attribute back through `traito->getattr` (`getattr_trait`), which stores the
default AND announces `Uninitialized -> default` (:2009-2030), and then announces `old -> default`
itself (:2470-2484).  Both announcements run the maintainers on the new value:

* NEGATION WITNESS (`DelWitness`, finding F99): with a default that is an object, the default is
  hooked twice; the invariant fails after the `del`, and after a later reassignment the detached
  default still calls the handler.
* POSITIVE FRAGMENT: the invariant is preserved when nothing is in `__dict__` (`return 0`, :2451-2454),
  when the trait carries no notifier, and when the default holds no object (None / Undefined):
  the first announcement then hooks nothing and the second one is an ordinary assignment of the default.
-/
import TraitsVerif.Lemmas.ObsInvSet
namespace TraitsVerif.Model.Obs
open TraitsVerif

/-! ### storing twice -/

theorem setFieldVal_twice (fs : List Field) (n : Name) (a b : Val) :
    setFieldVal (setFieldVal fs n a) n b = setFieldVal fs n b := by
  unfold setFieldVal
  rw [List.map_map]
  apply List.map_congr_left
  intro f _
  simp only [Function.comp]
  by_cases e : (f.name == n) = true
  · simp [e]
  · simp [e]

theorem Heap.upd_upd (h : Heap) (i : Id) (x y : Obj) : (h.upd i x).upd i y = h.upd i y := by
  simp [Heap.upd, List.filter_filter]

theorem storeField_twice {h : Heap} {o : Id} {n : Name} {fs : List Field} (a b : Val) (ho : h.get o = .inst fs) :
    storeField (storeField h o n a) o n b = storeField h o n b := by
  have h1 : (storeField h o n a).get o = .inst (setFieldVal fs n a) := by
    rw [store_get a ho]; simp
  rw [storeField_eq b h1, storeField_eq a ho, storeField_eq b ho, Heap.upd_upd, setFieldVal_twice]

/-! ### an announcement between two values that hold no object touches no hook -/

theorem callTrait_inert (E : Env) (h : Heap) (o : Id) (n : Name) (old new : Val)
    (hold : valObjects old = []) (hnew : valObjects new = []) (ns : List Notifier) (H : Hooks) (ds : List Delivered)
    (hk : ∀ mk g k, Notifier.maint mk g k ∈ ns → mk = .trait ∨ mk = .added) :
    (callTrait E h o n old new ns H ds).1 = H ∧ (callTrait E h o n old new ns H ds).2.2 = none := by
  have hrun := callTrait_run E h o n old new ns H ds
  rw [runMaints_inert] at hrun
  · exact hrun
  · intro mk g k hm
    rcases hk mk g k hm with rfl | rfl
    · simp [maintTrait, removeOld, addNew, hold, hnew]
    · cases new <;> simp [maintTrait, addedMatches, valObjects] at hnew ⊢

theorem fire_inert (E : Env) (H : Hooks) (h' : Heap) (o : Id) (n : Name) (old new : Val)
    (hold : valObjects old = []) (hnew : valObjects new = [])
    (hk : ∀ mk g k, Notifier.maint mk g k ∈ H.get (.trait o n) → mk = .trait ∨ mk = .added) :
    (fire E H h' o n old new).st = ⟨h', H⟩ ∧ (fire E H h' o n old new).err = none := by
  obtain ⟨a, b⟩ := callTrait_inert E h' o n old new hold hnew _ H [] hk
  simp only [fire]
  exact ⟨by rw [a], b⟩

theorem kinds_of_inv {h : Heap} {H : Hooks} {regs : List Reg} (hinv : HooksEqReach h H regs) (o : Id) (n : Name) :
    ∀ mk g k, Notifier.maint mk g k ∈ H.get (.trait o n) → mk = .trait ∨ mk = .added :=
  fun _ _ _ hm => (kind_of_inv hinv hm).imp id (·.1)

/-! ### the positive fragment -/

/-- `del o.n` while `n` is not in `__dict__` (ctraits.c:2451-2454, `return 0`): nothing happens. -/
theorem delField_unset_noop (E : Env) (st : St) (o : Id) (n : Name) (fresh : Id) (fs : List Field) (f : Field)
    (ho : st.h.get o = .inst fs) (hf : findField fs n = some f) (hunset : f.val = .unset) :
    mutate E st (.delField o n fresh) = ⟨st, [], none⟩ := by
  have hu : (f.val == Val.unset) = true := by rw [hunset]; rfl
  simp only [mutate, ho, hf, hu, if_true]

/-- `del o.n` on a trait whose default `d` holds no object (None, Undefined): the announcement
`Uninitialized -> d` of `getattr_trait` hooks nothing, and `old -> d` is the ordinary assignment of
`d`, so the invariant is preserved and nothing is raised — under the hypotheses of the assignment
fragment for the value `d`. -/
theorem delField_preserves_scalar_default (E : Env) (st : St) (regs : List Reg) (o : Id) (n : Name) (d : Val)
    (fresh : Id) (fs : List Field) (f : Field) (hinv : HooksEqReach st.h st.H regs)
    (fr : SetFrag E st regs o n d fs f) (hdflt : f.dflt = .val d) (hnone : valObjects d = []) :
    HooksEqReach (mutate E st (.delField o n fresh)).st.h (mutate E st (.delField o n fresh)).st.H regs ∧
    (mutate E st (.delField o n fresh)).err = none := by
  by_cases hu : (f.val == Val.unset) = true
  · have hv : f.val = .unset := by simpa using hu
    rw [delField_unset_noop E st o n fresh fs f fr.ho fr.hf hv]
    exact ⟨hinv, rfl⟩
  · obtain ⟨hfire, hsame, _⟩ := fire_preserves E st regs o n d fs f hinv fr
    have hkinds := kinds_of_inv hinv o n
    simp only [mutate, fr.ho, fr.hf, hu, Bool.false_eq_true, if_false, materialise, hdflt]
    rw [storeField_twice .unset d fr.ho]
    obtain ⟨e1, e2⟩ := fire_inert E st.H (storeField st.h o n d) o n .unset d rfl hnone hkinds
    have eH : (fire E st.H (storeField st.h o n d) o n .unset d).st.H = st.H := by rw [e1]
    have eh : (fire E st.H (storeField st.h o n d) o n .unset d).st.h = storeField st.h o n d := by rw [e1]
    simp only [refire, e2]
    by_cases hc : (f.cmp == Cmp.none || f.val != d) = true
    · simp only [hc, if_true, eH, eh]
      exact hfire
    · simp only [hc, Bool.false_eq_true, if_false, eH, eh]
      have hv : f.val = d := by
        simp only [Bool.or_eq_true, not_or, Bool.not_eq_true] at hc
        simpa using hc.2
      exact ⟨hsame hv, e2⟩

/-- `del o.n` on a trait that carries no notifier (the list exists and is empty): the attribute
falls back to its default `d`, silently; the invariant is preserved. -/
theorem delField_preserves_unhooked (E : Env) (st : St) (regs : List Reg) (o : Id) (n : Name) (d : Val)
    (fresh : Id) (fs : List Field) (f : Field) (hinv : HooksEqReach st.h st.H regs)
    (fr : SetFrag E st regs o n d fs f) (hdflt : f.dflt = .val d) (hempty : st.H.get (.trait o n) = []) :
    HooksEqReach (mutate E st (.delField o n fresh)).st.h (mutate E st (.delField o n fresh)).st.H regs ∧
    (mutate E st (.delField o n fresh)).err = none ∧ (mutate E st (.delField o n fresh)).delivered = [] := by
  by_cases hu : (f.val == Val.unset) = true
  · have hv : f.val = .unset := by simpa using hu
    rw [delField_unset_noop E st o n fresh fs f fr.ho fr.hf hv]
    exact ⟨hinv, rfl, rfl⟩
  · obtain ⟨_, _, hnil⟩ := fire_preserves E st regs o n d fs f hinv fr
    have hf0 : ∀ old : Val, fire E st.H (storeField st.h o n d) o n old d = ⟨⟨storeField st.h o n d, st.H⟩, [], none⟩ := by
      intro old; simp [fire, hempty, callTrait]
    simp only [mutate, fr.ho, fr.hf, hu, Bool.false_eq_true, if_false, materialise, hdflt]
    rw [storeField_twice .unset d fr.ho]
    simp only [refire, hf0]
    split
    · exact ⟨hnil hempty, rfl, rfl⟩
    · exact ⟨hnil hempty, rfl, rfl⟩

/-! ### the negation witness (finding F99)

`class A: child = Instance(Leaf)` with `_child_default` returning the existing object `d` (1);
`a.child` has been read (`d` is in `__dict__`), `a.observe(handler, "child.value")`. -/
namespace DelWitness

def ta : Field := ⟨nTraitAdded, false, .val .undef, .unset, .equality⟩
def val (v : Int) : Field := ⟨nValue, false, .val (.int 0), .int v, .equality⟩
def childF : Field := ⟨nChild, false, .val (.ref 1), .ref 1, .equality⟩

def wKey : HKey := ⟨0, 0⟩
def wHeap : Heap := [(0, .inst [childF, ta]), (1, .inst [val 3, ta]), (2, .inst [val 5, ta])]
def wGraph : Graph := .node (.named nChild true false) [.node (.named nValue true false) []]
def wSt : St := ⟨wHeap, (addRemove wHeap wKey false true wGraph (some 0) Hooks.empty).H⟩
def wRegs : List Reg := [⟨wKey, wGraph, 0⟩]

/-- the state after `del a.child` -/
def wDel : St := (mutate {} wSt (.delField 0 nChild 100)).st

theorem wInv : HooksEqReach wSt.h wSt.H wRegs := .of_observe wHeap wKey wGraph 0 (by decide)

/-- `del a.child`: the value is the default `d` again (unchanged), nothing is delivered, nothing
raised — but `d.value` now carries the user notifier with reference count 2 where one path reaches it. -/
theorem wDel_facts :
    fieldVal wDel.h (some 0) nChild = .ref 1 ∧
    (mutate {} wSt (.delField 0 nChild 100)).delivered = [] ∧
    (mutate {} wSt (.delField 0 nChild 100)).err = none ∧
    cnt wSt.H (.trait 1 nValue) (.user wKey) = 1 ∧
    cnt wDel.H (.trait 1 nValue) (.user wKey) = 2 ∧
    specCnt wDel.h wRegs (.trait 1 nValue) (.user wKey) = 1 := by
  decide

/-- The invariant holds before `del a.child` and FAILS after it. -/
theorem del_breaks_invariant : HooksEqReach wSt.h wSt.H wRegs ∧ ¬ HooksEqReach wDel.h wDel.H wRegs := by
  refine ⟨wInv, ?_⟩
  intro ⟨_, h⟩
  have h1 := h (.trait 1 nValue) (.user wKey)
  rw [wDel_facts.2.2.2.2.1, wDel_facts.2.2.2.2.2] at h1
  omega

/-- The user-visible consequence: after `a.child = other` (object 2) the default `d` is detached
(no path reaches `d.value`), yet `d.value = 4` still calls the handler. -/
theorem detached_default_still_notifies :
    let s1 := (mutate {} wDel (.setField 0 nChild (.ref 2) 0)).st
    specCnt s1.h wRegs (.trait 1 nValue) (.user wKey) = 0 ∧
    (mutate {} s1 (.setField 1 nValue (.int 4) 0)).delivered = [.trait wKey 1 nValue (.int 3) (.int 4)] := by
  decide

/-- Without the `del` the same reassignment detaches `d` properly. -/
example :
    let s1 := (mutate {} wSt (.setField 0 nChild (.ref 2) 0)).st
    (mutate {} s1 (.setField 1 nValue (.int 4) 0)).delivered = [] := by
  decide

/-- the positive fragment is not vacuous: `del` of a trait whose default is None -/
def noneF : Field := ⟨nMate, false, .val .none, .ref 1, .equality⟩
def pHeap : Heap := [(0, .inst [noneF, ta]), (1, .inst [val 3, ta])]
def pGraph : Graph := .node (.named nMate true false) [.node (.named nValue true false) []]
def pSt : St := ⟨pHeap, (addRemove pHeap wKey false true pGraph (some 0) Hooks.empty).H⟩
def pRegs : List Reg := [⟨wKey, pGraph, 0⟩]

example :
    cnt pSt.H (.trait 1 nValue) (.user wKey) = 1 ∧
    cnt (mutate {} pSt (.delField 0 nMate 100)).st.H (.trait 1 nValue) (.user wKey) = 0 ∧
    specCnt (mutate {} pSt (.delField 0 nMate 100)).st.h pRegs (.trait 1 nValue) (.user wKey) = 0 ∧
    (mutate {} pSt (.delField 0 nMate 100)).delivered = [.trait wKey 0 nMate (.ref 1) .none] := by
  decide

end DelWitness

end TraitsVerif.Model.Obs
