/-
`Model.Adapt` is the interpretation of the translated source
(`Generated/AdaptProg.lean`), part 3: the entry points around `_adapt` —
`adapt` (identity shortcut, `default=`, `AdaptationError`), `supports_protocol`,
`register_offer`.
-/
import TraitsVerif.Lemmas.AdaptSource2
namespace TraitsVerif.Lemmas.AdaptSource
open TraitsVerif TraitsVerif.Model.Adapt TraitsVerif.Model.PyA TraitsVerif.Generated.AdaptProg

variable {α : Type}

theorem Calls.congr {C C' : Ctx α} (H : Calls C) (hcfg : C'.cfg = C.cfg) (hcall : C'.call = C.call) : Calls C' :=
  ⟨fun a b => by rw [hcfg, hcall]; exact H.prov a b, fun c p => by rw [hcfg, hcall]; exact H.app c p,
    fun a b => by rw [hcfg, hcall]; exact H.cmp a b⟩

/-- The call `self._adapt(adaptee, to_protocol)` made by `adapt`: depth 1, since `runAdaptCall` runs `adapt` at
depth 2 and `runSupportsCall` runs `supports_protocol` at 3. -/
theorem callEff_inner (cfg : Cfg) (hne : NonEmptyGroups cfg) (f : Factory α) (s fuel : Nat) (adaptee : α)
    (target : Nat) :
    callEffAt adaptProg cfg f s fuel 1 "_adapt" [.obj adaptee, .ty target] [] =
      ((adaptLoop cfg f adaptee target fuel (initSt s)).2, flowRet (adaptLoop cfg f adaptee target fuel (initSt s)).1) := by
  obtain ⟨st', he, ht⟩ := adapt_fn fuel ((calls_ctx cfg hne f s).congr (C' := ⟨cfg, f, s, callAt adaptProg cfg f s 3,
    callEffAt adaptProg cfg f s fuel 0⟩) rfl rfl) (adaptee := adaptee) (target := target)
    ⟨initFrame [.obj adaptee, .ty target], 0, [], []⟩ rfl rfl rfl
  simp only at he ht
  rw [callEffAt_eq fuel lookup_adapt rfl, he, Prod.map, ht, id]

/-- How an outcome of the model's `adapt` shows to the caller; `dflt` names the singleton passed as `default`. -/
def flowOut (dflt : String) (adaptee : α) : Out α → Flow α
  | .self => .returned (.obj adaptee)
  | .adapted _ a => .returned (.obj a)
  | .default => .returned (.glob dflt)
  | .error e => .raised e

/-- The body of `adapt`, run where its two calls are the translated `provides_protocol` and `_adapt` (the latter
with the model's own fuel, so that it does not run dry: `fuel_suffices`), is the model's `adapt`; a default is
"supplied" when the singleton passed is not `AdaptationError` itself. -/
theorem adaptEntry_fn (C : Ctx α) (fuel : Nat) (adaptee : α) (target : Nat) (dflt : String)
    (hprov : C.call "provides_protocol" [.ty C.srcType, .ty target] = .ok (.bool (C.cfg.provides C.srcType target)))
    (hin : C.callEff "_adapt" [.obj adaptee, .ty target] [] =
      ((adaptInner C.cfg C.f C.srcType adaptee target).2, flowRet (adaptInner C.cfg C.f C.srcType adaptee target).1))
    (st : St α) (h0 : getVar st.vars 0 = .ok (.obj adaptee)) (h1 : getVar st.vars 1 = .ok (.ty target))
    (h2 : getVar st.vars 2 = .ok (.glob dflt)) (htr : st.trace = []) :
    Prod.map (·.trace) id (exec C fuel adaptEntryBody st) =
      ((adapt C.cfg C.f C.srcType adaptee target (dflt != "AdaptationError")).2,
        flowOut dflt adaptee (adapt C.cfg C.f C.srcType adaptee target (dflt != "AdaptationError")).1) := by
  have hfuel := Adapt.fuel_suffices C.cfg C.f C.srcType adaptee target
  simp [adaptEntryBody, h0, h1, hprov, adapt]
  cases C.cfg.provides C.srcType target with
  | true => simp [flowOut, htr]
  | false =>
    simp [h0, h1, htr, hin]
    revert hfuel
    rcases adaptInner C.cfg C.f C.srcType adaptee target with ⟨res, tr⟩
    cases res with
    | outOfFuel => exact fun hfuel => absurd rfl hfuel
    | notFound =>
      simp [flowRet, isSame, h2]
      by_cases hn : dflt = "AdaptationError"
      · simp [hn, flowOut, noneResult]
      · simp [hn, beq_false_of_ne hn, flowOut, noneResult]
    | _ => simp [flowRet, isSame, flowOut]

theorem callEff_adapt (cfg : Cfg) (hne : NonEmptyGroups cfg) (f : Factory α) (s : Nat) (adaptee : α)
    (target : Nat) (name : String) :
    callEffAt adaptProg cfg f s (fuelFor cfg) 2 "adapt" [.obj adaptee, .ty target, .glob name] [] =
      ((adapt cfg f s adaptee target (name != "AdaptationError")).2,
        flowOut name adaptee (adapt cfg f s adaptee target (name != "AdaptationError")).1) :=
  (callEffAt_eq _ (fn := ⟨3, 5, adaptEntryBody⟩) (by simp [adaptProg]) rfl).trans <|
    adaptEntry_fn ⟨cfg, f, s, _, _⟩ _ adaptee target name (callAt_of_ctxAt (call_provides cfg f s 2 s target))
      (callEff_inner cfg hne f s _ adaptee target) ⟨initFrame [.obj adaptee, .ty target, .glob name], 0, [], []⟩
      rfl rfl rfl rfl

theorem callEff_supports (cfg : Cfg) (hne : NonEmptyGroups cfg) (f : Factory α) (s : Nat) (adaptee : α)
    (target : Nat) :
    callEffAt adaptProg cfg f s (fuelFor cfg) 3 "supports_protocol" [.obj adaptee, .ty target] [] =
      ((supportsProtocol cfg f s adaptee target).2,
        match (supportsProtocol cfg f s adaptee target).1 with
        | .ok b => .returned (.bool b)
        | .error e => .raised e) := by
  have h0 : getVar (α := α) (initFrame [.obj adaptee, .ty target]) 0 = .ok (.obj adaptee) := rfl
  have h1 : getVar (α := α) (initFrame [.obj adaptee, .ty target]) 1 = .ok (.ty target) := rfl
  rw [callEffAt_eq _ (fn := ⟨2, 3, supportsProtocolBody⟩) (by simp [adaptProg]) rfl]
  simp [supportsProtocolBody, h0, h1, -getVar_initFrame, callEff_adapt cfg hne, supportsProtocol]
  rcases adapt cfg f s adaptee target true with ⟨out, tr⟩
  cases out <;> simp [flowOut, isSame]

/-! ## `register_offer` -/

theorem map_bucket_other (k : Nat) (o : Offer) (reg : List (Nat × List Offer))
    (h : reg.any (fun kv => kv.1 == k) = false) :
    reg.map (fun kv => if kv.1 = k then (kv.1, kv.2 ++ [o]) else kv) = reg :=
  (List.map_congr_left fun kv hkv => if_neg fun e => List.any_eq_false.mp h kv hkv (beq_iff_eq.mpr e)).trans
    (List.map_id' reg)

theorem register_eq (reg : List (Nat × List Offer)) (o : Offer) :
    runRegisterOffer adaptProg reg o = some (registerOffer reg o) := by
  have h0 : getVar (α := Unit) (initFrame [.offer o]) 0 = .ok (.offer o) := rfl
  have hl : lookupFn "register_offer" adaptProg = some ⟨1, 2, registerOfferBody⟩ := by simp [adaptProg]
  simp only [runRegisterOffer, hl, runFnIn_eq, List.length_cons, List.length_nil, ne_eq, not_true_eq_false,
    if_false]
  cases h : reg.any (fun kv => kv.1 == o.key) with
  | true => simp [registerOfferBody, h0, -getVar_initFrame, registerOffer, h]
  | false => simp [registerOfferBody, h0, -getVar_initFrame, registerOffer, h, map_bucket_other o.key o reg h]

end TraitsVerif.Lemmas.AdaptSource
