/-
Lemmas about the compiled validators (Model/FastValidate.lean): the two C copies
of every case agree, the compound loop is "first alternative that does not say
TraitError", the tuple check is element-wise.  Also the result convention the
numeric validators share with their Python twins (`Res.ofNumeric`).
-/
import TraitsVerif.Model.PyValidate
namespace TraitsVerif.Model.Val
open TraitsVerif TraitsVerif.Py.Value

/-! ## Values -/

theorem isNone_iff (v : Val) : v = Val.none ↔ v.isNone = true := by
  refine ⟨fun h => h ▸ rfl, fun h => ?_⟩
  rcases v with a | _ | _
  · cases a <;> first | rfl | cases h
  · cases h
  · cases h

theorem exactFloat (v : Val) (h : Val.exactTy .float v = true) : ∃ f, v = .atom (.float false f) := by
  rcases v with a | ⟨sub, _⟩ | _
  · cases a <;> try cases h
    case float sub f => cases sub <;> first | exact ⟨f, rfl⟩ | cases h
  · cases sub <;> cases h
  · cases h

theorem exactComplex (v : Val) (h : Val.exactTy .complex v = true) :
    ∃ re im, v = .atom (.complex false re im) := by
  rcases v with a | ⟨sub, _⟩ | _
  · cases a <;> try cases h
    case complex sub re im => cases sub <;> first | exact ⟨re, im, rfl⟩ | cases h
  · cases sub <;> cases h
  · cases h

theorem exactStr (v : Val) (h : Val.exactTy .str v = true) : ∃ s, v = .atom (.str false s) := by
  rcases v with a | ⟨sub, _⟩ | _
  · cases a <;> try cases h
    case str sub s => cases sub <;> first | exact ⟨s, rfl⟩ | cases h
  · cases sub <;> cases h
  · cases h

theorem isInst_tuple_atom (a : Atom) : Val.isInst .tuple (.atom a) = false := by cases a <;> rfl
theorem isInst_tuple_tuple (sub : Bool) (vs : List Val) : Val.isInst .tuple (.tuple sub vs) = true := rfl
theorem isInst_list_tuple (sub : Bool) (vs : List Val) : Val.isInst .list (.tuple sub vs) = false := rfl
theorem isInst_list_list (vs : List Val) : Val.isInst .list (.list vs) = true := rfl
theorem isInst_list_atom (a : Atom) : Val.isInst .list (.atom a) = false := by cases a <;> rfl

/-- A stand-alone result seen from inside the compound loop. -/
def Res.lift : Res → Step
  | .ok w => .accept w
  | .traitError => .next
  | .raised e => .fail e

theorem Res.lift_ite (c : Prop) [Decidable c] (a b : Res) :
    (if c then a else b).lift = if c then a.lift else b.lift := apply_ite ..

/-- Descriptors that can be an alternative of a compound: `_trait_set_validate`
accepts them on their own and `validate_trait_complex` has a `case` for them. -/
def Desc.isAlt : Desc → Bool
  | .complex _ | .python _ | .slow _ => false
  | _ => true

theorem Desc.isAlt_kind (d : Desc) (h : d.isAlt = true) :
    d.kind ∈ complexCaseLabels ∧ d.kind ∈ setValidateLabels := by
  cases d
  case complex | python | slow => cases h
  all_goals (simp only [Desc.kind]; decide)

/-! ## The numeric validators -/

/-- The result convention shared by the validators that convert through the
numeric protocol (Int, Float, Complex, Range; compiled and Python alike): a
TypeError of the conversion means "not my type", any other exception passes,
and a converted value may still have to pass a test. -/
def Res.ofNumeric (x : Except Exc Val) (c : Val → Bool := fun _ => true) : Res :=
  match x with
  | .ok w => if c w then .ok w else .traitError
  | .error .typeError => .traitError
  | .error e => .raised e

theorem Res.ofNumeric_ok {x : Except Exc Val} {c : Val → Bool} {w : Val} (h : Res.ofNumeric x c = .ok w) :
    x = .ok w ∧ c w = true := by
  unfold Res.ofNumeric at h
  cases x with
  | ok y => dsimp only at h; split at h <;> cases h; exact ⟨rfl, ‹_›⟩
  | error e => cases e <;> cases h

theorem Res.ofNumeric_raised {x : Except Exc Val} {c : Val → Bool} {e : Exc} (h : Res.ofNumeric x c = .raised e) :
    x = .error e := by
  unfold Res.ofNumeric at h
  cases x with
  | ok y => dsimp only at h; split at h <;> cases h
  | error e' => cases e' <;> cases h <;> rfl

/-- … and the same convention as the `case` arms of `validate_trait_complex` write it. -/
theorem Res.lift_ofNumeric (x : Except Exc Val) (c : Val → Bool) :
    (match x with
      | .error .typeError => Step.next
      | .error e => .fail e
      | .ok w => if c w then .accept w else .next) = (Res.ofNumeric x c).lift := by
  cases x with
  | ok w => unfold Res.ofNumeric; simp only [Res.lift_ite]; rfl
  | error e => cases e <;> rfl

variable (E : Env)

/-! `fastAlone` and `pyValidate` of Int / Float / Complex are `ofNumeric` of the
conversion by definition (`rfl`); the Range validators list the arms in another
order and need the equation. -/

theorem fastAlone_floatRange (lo hi : Option F) (m : Nat) (v : Val) :
    fastAlone E (.floatRange lo hi m) v =
      .ofNumeric (validateFloat v) fun w => inFloatRange (floatOf w) lo hi m := by
  unfold fastAlone
  cases validateFloat v with
  | ok w => rfl
  | error e => cases e <;> rfl

theorem pyValidate_rangeF (lo hi : Option F) (exLo exHi : Bool) (v : Val) :
    pyValidate E (.rangeF lo hi exLo exHi) v =
      .ofNumeric (validateFloat v) fun w => pyInRangeF lo hi exLo exHi (floatOf w) := by
  unfold pyValidate
  cases validateFloat v with
  | ok w => rfl
  | error e => cases e <;> rfl

theorem pyValidate_rangeI (lo hi : Option Int) (exLo exHi : Bool) (v : Val) :
    pyValidate E (.rangeI lo hi exLo exHi) v =
      .ofNumeric (pyValidateInt v) fun w => pyInRangeI lo hi exLo exHi (intOf w) := by
  unfold pyValidate
  cases pyValidateInt v with
  | ok w => rfl
  | error e => cases e <;> rfl

/-! ## The two copies -/

/-- Arm by arm.  The numeric arms are `lift_ofNumeric`; elsewhere the scrutinee of
an arm's `match` is split once for both copies, and what is left are the same
nested conditionals with `lift` outside, which commutes with `if`. -/
theorem complexCase_eq_lift (d : Desc) (v : Val) (h : d.isAlt = true) :
    complexCase E d v = (fastAlone E d v).lift := by
  cases d
  case complex | python | slow => cases h
  case typeChk | instChk | selfType | callable =>
    unfold complexCase fastAlone; simp only [Res.lift_ite]; rfl
  case int => exact Res.lift_ofNumeric (asInteger v) fun _ => true
  case float => exact Res.lift_ofNumeric (validateFloat v) fun _ => true
  case complexNumber => exact Res.lift_ofNumeric (validateComplexNumber v) fun _ => true
  case floatRange => rw [fastAlone_floatRange]; exact Res.lift_ofNumeric _ _
  case enum vals => unfold complexCase fastAlone; cases seqContains vals v <;> rfl
  case map | tuple => unfold complexCase fastAlone; split <;> rfl
  case function f => unfold complexCase fastAlone; cases E.fn f v <;> rfl
  case cast ty =>
    unfold complexCase fastAlone; simp only [Res.lift_ite]
    cases E.cast ty v <;> rfl
  case coerce ty rest =>
    unfold complexCase fastAlone; simp only [Res.lift_ite]
    rcases coerceScan v rest with ⟨_ | _, after⟩ <;> cases E.cast ty v <;>
      simp only [Res.lift_ite] <;> rfl
  case adapt cls mode an dflt =>
    unfold complexCase fastAlone; simp only [Res.lift_ite]
    rcases E.adapt v cls with e | _ | r <;> simp only [Res.lift_ite] <;> rfl

theorem fastInCompound_eq (d : Desc) (v : Val) (h : d.isAlt = true) :
    fastInCompound E d v = fastAlone E d v := by
  unfold fastInCompound
  simp only [fastComplex, complexCase_eq_lift E d v h]
  cases fastAlone E d v <;> rfl

/-! ## The compound loop -/

/-- First result that is not a TraitError; TraitError if there is none. -/
def firstAccept : List Res → Res
  | [] => .traitError
  | .traitError :: rs => firstAccept rs
  | r :: _ => r

theorem firstAccept_cons (r : Res) (rs : List Res) :
    firstAccept (r :: rs) = match r with
      | .traitError => firstAccept rs
      | r => r := by
  cases r <;> rfl

theorem firstAccept_append (as bs : List Res) :
    firstAccept (as ++ bs) = match firstAccept as with
      | .traitError => firstAccept bs
      | r => r := by
  induction as with
  | nil => rfl
  | cons a as ih => cases a <;> simp only [List.cons_append, firstAccept, ih]

theorem firstAccept_of_forall {P : Res → Prop} (rs : List Res) (hte : P .traitError)
    (h : ∀ r ∈ rs, P r) : P (firstAccept rs) := by
  induction rs with
  | nil => exact hte
  | cons r rs ih =>
    rw [firstAccept_cons]
    have hr := h r (List.mem_cons_self ..)
    cases r
    case traitError => exact ih fun x hx => h x (List.mem_cons_of_mem _ hx)
    all_goals exact hr

theorem firstAccept_ok_iff (rs : List Res) (w : Val) :
    firstAccept rs = .ok w ↔ ∃ pre post, rs = pre ++ .ok w :: post ∧ ∀ r ∈ pre, r = .traitError := by
  constructor
  · intro h
    induction rs with
    | nil => cases h
    | cons r rs ih =>
      cases r with
      | traitError =>
        obtain ⟨pre, post, rfl, hp⟩ := ih h
        exact ⟨.traitError :: pre, post, rfl, by simpa using hp⟩
      | ok u => cases h; exact ⟨[], rs, rfl, by simp⟩
      | raised e => cases h
  · rintro ⟨pre, post, rfl, hp⟩
    induction pre with
    | nil => rfl
    | cons p pre ih =>
      cases hp p (List.mem_cons_self ..)
      exact ih fun r hr => hp r (List.mem_cons_of_mem _ hr)

/-- An entry of a compound descriptor on its own: the stand-alone validator, or,
for the `(slow, compound)` entry, `compound.slow_validate`. -/
def altAlone (d : Desc) (v : Val) : Res :=
  match d with
  | .slow h => h v
  | d => fastAlone E d v

/-- Entries `set_validate` can put into a compound descriptor. -/
def Desc.isEntry : Desc → Bool
  | .complex _ | .python _ => false
  | _ => true

theorem Desc.isEntry_of_isAlt (d : Desc) (h : d.isAlt = true) : d.isEntry = true := by
  cases d <;> first | rfl | cases h

theorem altAlone_of_isAlt (d : Desc) (v : Val) (h : d.isAlt = true) : altAlone E d v = fastAlone E d v := by
  cases d <;> first | rfl | cases h

theorem complexCase_eq_lift_entry (d : Desc) (v : Val) (h : d.isEntry = true) :
    complexCase E d v = (altAlone E d v).lift := by
  cases d
  case complex | python => cases h
  case slow f =>
    show complexCase E (.slow f) v = (f v).lift
    unfold complexCase; cases f v <;> rfl
  all_goals exact complexCase_eq_lift E _ v rfl

theorem fastAlone_complex (ds : List Desc) (v : Val) : fastAlone E (.complex ds) v = fastComplex E ds v := by
  rw [fastAlone]

theorem fastComplex_first (ds : List Desc) (v : Val) (h : ∀ d ∈ ds, d.isEntry = true) :
    fastComplex E ds v = firstAccept (ds.map (altAlone E · v)) := by
  induction ds with
  | nil => rfl
  | cons d ds ih =>
    rw [fastComplex, List.map_cons, firstAccept_cons, complexCase_eq_lift_entry E d v (h d (List.mem_cons_self ..)),
      ih fun d' hd' => h d' (List.mem_cons_of_mem _ hd')]
    cases altAlone E d v <;> rfl

/-! ## The tuple check is element-wise -/

/-- Element results combined left to right: the first element that is not
accepted decides (TraitError → `none`, another exception → `some e`). -/
def elementwise : List Res → Except (Option Exc) (List Val)
  | [] => .ok []
  | .traitError :: _ => .error none
  | .raised e :: _ => .error (some e)
  | .ok a :: rs =>
    match elementwise rs with
    | .error x => .error x
    | .ok as => .ok (a :: as)

theorem tupleItems_elementwise (items : List (Option Desc)) (vs : List Val) :
    tupleItems E items vs = elementwise (List.zipWith (optValidate E) items vs) := by
  induction items generalizing vs with
  | nil => rfl
  | cons d ds ih =>
    cases vs with
    | nil => rfl
    | cons b bs =>
      rw [tupleItems, List.zipWith_cons_cons, ih]
      cases optValidate E d b <;> rfl

theorem elementwise_ok_iff (rs : List Res) (ws : List Val) :
    elementwise rs = .ok ws ↔ rs = ws.map Res.ok := by
  induction rs generalizing ws with
  | nil => cases ws <;> simp [elementwise]
  | cons r rs ih =>
    cases r with
    | traitError => cases ws <;> simp [elementwise]
    | raised e => cases ws <;> simp [elementwise]
    | ok a =>
      simp only [elementwise]
      cases ws with
      | nil => cases elementwise rs <;> simp
      | cons w ws =>
        rw [List.map_cons, List.cons.injEq, ← ih, Res.ok.injEq]
        cases elementwise rs <;> simp

theorem elementwise_ok_length (rs : List Res) (ws : List Val) (h : elementwise rs = .ok ws) :
    ws.length = rs.length := by
  rw [(elementwise_ok_iff rs ws).mp h, List.length_map]

end TraitsVerif.Model.Val
