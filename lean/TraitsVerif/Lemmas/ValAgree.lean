/-
Agreement of the compiled validators with the Python validators
(`C03_agree_partial`, `C03_agree_compound_partial`): per trait type, then through compounds.
-/
import TraitsVerif.Lemmas.ValOrder
namespace TraitsVerif.Model.Val
open TraitsVerif TraitsVerif.Py.Value

/-- The statement's relation between the fast result and the Python result:
accepted values coincide (same exact type, same payload), a Python TraitError is
a fast TraitError, and where Python raises something else the fast path does
not accept. -/
def Agree (fast py : Res) : Prop :=
  match py with
  | .ok b => fast = .ok b
  | .traitError => fast = .traitError
  | .raised _ => ∀ w, fast ≠ .ok w

/-- `T(v)` of an exact instance of `T` is `v` (int(5) is 5, str('a') is 'a', …). -/
def CastIdem (E : Env) : Prop := ∀ t v, Val.exactTy t v = true → E.cast t v = .ok v

/-- Everything that is not a compound (proved directly; compounds by induction). -/
def TraitType.isLeaf : TraitType → Bool
  | .either .. | .compoundH .. => false
  | _ => true

/-- A trait type without members (`subs = none`) is a leaf; so are the tuples,
Union and the Base* classes, whose members both paths validate alike. -/
theorem TraitType.isLeaf_of_subs {t : TraitType} (hs : t.subs = none) : t.isLeaf = true := by
  cases t <;> first | rfl | cases hs

/-- Leaves on which the two paths are NOT known to differ (see findings):
TraitCoerceType.validate compares exact types / always converts (F41, F42). -/
def TraitType.leafClean : TraitType → Bool
  | .coerceH _ => false
  | _ => true

/-- Not an instance of a tuple subclass (F11). -/
def _root_.TraitsVerif.Py.Value.Val.notTupleSub : Val → Bool
  | .tuple true _ => false
  | _ => true

theorem Agree.refl (r : Res) : Agree r r := by
  cases r <;> first | rfl | exact fun _ h => nomatch h

/-- Where the Python result is not a foreign exception, agreement is equality. -/
def QuietEq (fast py : Res) : Prop := (∀ e, py ≠ .raised e) → fast = py

theorem Agree.quietEq {fast py : Res} (h : Agree fast py) : QuietEq fast py := by
  intro hr
  cases py with
  | ok b => exact h
  | traitError => exact h
  | raised e => exact absurd rfl (hr e)

variable (E : Env)

theorem inFloatRange_eq_py (lo hi : Option F) (exLo exHi : Bool) (x : F) :
    inFloatRange x lo hi ((if exLo then 1 else 0) + (if exHi then 2 else 0)) = pyInRangeF lo hi exLo exHi x := by
  cases exLo <;> cases exHi <;> cases lo <;> cases hi <;>
    simp [inFloatRange, pyInRangeF, F.gt, F.ge]

theorem isInst_typeType_none (cls : Ty) (h : cls.isTypeType = true) : Val.isInst cls Val.none = false := by
  cases cls <;> first | rfl | cases h

theorem fastAlone_coerce_nil (ty : Ty) (v : Val) :
    fastAlone E (.coerce ty []) v = if Val.isInst ty v then .ok v else .traitError := by
  unfold fastAlone; rfl

/-- `Instance(cls)` without adaptation and `TraitInstance(cls)`: the type check
(kind 0, for the classes in `TypeTypes`) and the instance check (kind 1) both
do what `TraitInstance.validate` does. -/
theorem ctraitValidate_check (t : TraitType) (cls : Ty) (an : Bool) (v : Val)
    (hd : descOf E t = if cls.isTypeType then some (.typeChk an cls) else some (.instChk an cls)) :
    ctraitValidate E t v = pyValidate E (.instanceH cls an) v := by
  have hinst : fastAlone E (.instChk an cls) v = pyValidate E (.instanceH cls an) v := by
    unfold fastAlone pyValidate
    cases v.isNone <;> cases an <;> cases Val.isInst cls v <;> rfl
  unfold ctraitValidate ctraitValidateWith
  rw [hd]
  by_cases ht : cls.isTypeType = true
  · rw [if_pos ht, ← hinst]
    show fastAlone E (.typeChk an cls) v = fastAlone E (.instChk an cls) v
    unfold fastAlone
    by_cases hn : v.isNone = true
    · cases (isNone_iff v).2 hn
      rw [isInst_typeType_none cls ht]; rfl
    · rw [Bool.not_eq_true] at hn
      rw [hn]; rfl
  · rw [if_neg ht]; exact hinst

/-- Instance(cls, adapt=…): what assignment runs — the type or instance check without
adaptation, `validate_trait_adapt` with — is `BaseInstance.validate`. -/
theorem ctraitValidate_instance (cls : Ty) (an : Bool) (mode : Nat) (dflt v : Val) :
    ctraitValidate E (.instance cls an mode dflt) v = pyInstanceValidate E cls an mode dflt v := by
  by_cases hm : mode = 0
  · subst hm
    rw [ctraitValidate_check E _ cls an v rfl]
    unfold pyValidate pyInstanceValidate
    rfl
  · rw [ctraitValidate_of_some E v (d := .adapt cls mode an dflt) (by unfold descOf; rw [if_neg hm])]
    unfold fastAlone pyInstanceValidate
    rfl

/-- The `C*` cast validators: an exact instance is kept; otherwise the compiled
validator turns every exception of `T(v)` into TraitError, the Python one only
ValueError / TypeError or all of them. -/
theorem agree_cast (hE : CastIdem E) (ty : Ty) (v : Val) :
    Agree (fastAlone E (.cast ty) v) (pyCastNumeric E ty v) ∧
    Agree (fastAlone E (.cast ty) v) (pyCastAny E ty v) := by
  unfold fastAlone pyCastNumeric pyCastAny
  by_cases hx : Val.exactTy ty v = true
  · rw [if_pos hx, hE _ _ hx]; exact ⟨rfl, rfl⟩
  · rw [if_neg hx]
    cases E.cast ty v with
    | ok w => exact ⟨rfl, rfl⟩
    | error e => refine ⟨?_, rfl⟩; cases e <;> first | rfl | exact fun _ h => nomatch h

/-- Per trait type that is not a compound.  The hypotheses leave the 24
constructors that have both a descriptor and a `validate` method, and fix the
descriptor. -/
theorem agree_leaf (hE : CastIdem E) (t : TraitType) (d : Desc) (v : Val)
    (hl : t.isLeaf = true) (hc : t.leafClean = true) (hd : descOf E t = some d)
    (hp : hasPy t = true) (hv : (∃ items, t = .tuple items) → v.notTupleSub = true) :
    Agree (fastAlone E d v) (pyValidate E t v) := by
  cases t <;> cases hl <;> cases hc <;> (try cases hd) <;> try cases hp
  case int | float | complex | enum | mapH | castH => exact Agree.refl _
  case str | bytes => rw [fastAlone_coerce_nil]; exact Agree.refl _
  case bool =>
    rcases v with a | _ | _
    · cases a <;> exact Agree.refl _
    · exact Agree.refl _
    · exact Agree.refl _
  case cint | cfloat | ccomplex => exact (agree_cast E hE _ v).1
  case cstr | cbytes | cbool => exact (agree_cast E hE _ v).2
  case rangeF lo hi exLo exHi =>
    rw [fastAlone_floatRange, pyValidate_rangeF]
    simp only [inFloatRange_eq_py]
    exact Agree.refl _
  case map keys vals =>
    unfold fastAlone pyValidate pyMapValidate
    cases dictFind keys v with
    | ok o => cases o <;> rfl
    | error e => cases e <;> first | rfl | exact fun _ h => nomatch h
  case tuple items =>
    refine tuple_rel (R := Agree) rfl (fun _ _ _ _ h => nomatch h) ?_
    rintro sub vs sub' ws rfl hsub - -
    cases sub
    · rw [hsub rfl]; rfl
    · cases hv ⟨items, rfl⟩
  case «instance» => rw [← ctraitValidate_of_some E v hd, ctraitValidate_instance]; exact Agree.refl _
  case instanceH cls an =>
    rw [← ctraitValidate_of_some E v hd, ctraitValidate_check E _ cls an v rfl]
    exact Agree.refl _
  case this an =>
    simp only [fastAlone, pyValidate, Bool.or_comm]
    exact Agree.refl _
  case callable an =>
    unfold fastAlone pyValidate validateCallable
    cases v.isNone <;> cases an <;> cases v.callable <;> rfl
  case functionH f =>
    unfold fastAlone pyValidate
    cases E.fn f v with
    | ok w => rfl
    | error e => cases e <;> first | rfl | exact fun _ h => nomatch h
  case enumH vals =>
    unfold fastAlone pyValidate pyEnumValidate
    cases seqContains vals v <;> first | rfl | exact fun _ h => nomatch h

/-! ## Through compounds -/

mutual
/-- No alternative, at any depth of Either / TraitCompound nesting, is one of the
leaves on which the paths are known to differ.  (Members of Tuple and Union do
not matter: both paths validate them with the same CTrait.)  `pyClean`
(ValSound) is the same condition looked at from the Python method alone: it
differs in one arm, looking through a Base* class (`noFast t`) at `t`, whose
method it runs, where `clean` has nothing to compare. -/
def TraitType.clean : TraitType → Bool
  | .either alts _ => cleanL alts
  | .compoundH hs => cleanL hs
  | t => t.leafClean
def cleanL : List TraitType → Bool
  | [] => true
  | t :: ts => t.clean && cleanL ts
end

theorem cleanL_mem {ts : List TraitType} : cleanL ts = true → ∀ t ∈ ts, t.clean = true :=
  forall_mem_of_and fun _ _ => rfl

theorem hasPy_false_raises : ∀ (t : TraitType) (v : Val), hasPy t = false → pyValidate E t v = .raised .typeError :=
  TraitType.induct
    (fun t hs hn v hp => by cases t <;> cases hs <;> cases hn <;> cases hp <;> rfl)
    (fun t ih v hp => ih v hp)
    (fun t ts hs _ v hp => by cases t <;> cases hs <;> cases hp)

/-- The loop keeps `QuietEq`: a foreign exception of the Python side further down
the list is never reached when an earlier alternative decides. -/
theorem firstAccept_append_quietEq {a a' b b' : List Res} (h1 : QuietEq (firstAccept a) (firstAccept a'))
    (h2 : QuietEq (firstAccept b) (firstAccept b')) : QuietEq (firstAccept (a ++ b)) (firstAccept (a' ++ b')) := by
  rw [firstAccept_append, firstAccept_append]
  intro hq
  cases ha : firstAccept a' with
  | traitError =>
    rw [ha] at hq h1
    rw [h1 fun e h => nomatch h]
    exact h2 hq
  | ok w => rw [ha] at h1; rw [h1 fun e h => nomatch h]
  | raised e => rw [ha] at hq; exact absurd rfl (hq e)

theorem firstAccept_map_quietEq {α : Type} (f g : α → Res) (l : List α) (h : ∀ x ∈ l, QuietEq (f x) (g x)) :
    QuietEq (firstAccept (l.map f)) (firstAccept (l.map g)) := by
  induction l with
  | nil => exact fun _ => rfl
  | cons x xs ih =>
    have hx : QuietEq (firstAccept [f x]) (firstAccept [g x]) := by
      have := h x (List.mem_cons_self ..)
      cases hf : f x <;> cases hg : g x <;> simpa only [firstAccept, hf, hg] using this
    exact firstAccept_append_quietEq (a := [f x]) (a' := [g x]) hx
      (ih fun y hy => h y (List.mem_cons_of_mem _ hy))

/-- Without a descriptor assignment runs the Python method itself — or nothing, where calling the
missing method is what raises. -/
theorem quietEq_of_none {t : TraitType} (v : Val) (hd : descOf E t = none) :
    QuietEq (ctraitValidate E t v) (pyValidate E t v) := by
  rw [ctraitValidate_of_none E v hd]
  split
  · exact fun _ => rfl
  · exact fun hr => absurd (hasPy_false_raises E t v (Bool.eq_false_iff.mpr ‹_›)) (hr _)

/-- Every trait type, compounds of any nesting included: wherever the Python path
does not let a foreign exception out, what assignment runs and the Python
`validate` give the same result. -/
theorem quietEq_all (hE : CastIdem E) (v : Val) (hv : v.notTupleSub = true) :
    ∀ t, t.clean = true → QuietEq (ctraitValidate E t v) (pyValidate E t v) := by
  have either : ∀ alts wn, (∀ t ∈ alts, t.clean = true → QuietEq (ctraitValidate E t v) (pyValidate E t v)) →
      cleanL alts = true → QuietEq (ctraitValidate E (.either alts wn) v) (pyValidate E (.either alts wn) v) := by
    intro alts wn ih hc
    rw [ctraitValidate_either, pyValidate_either]
    refine firstAccept_append_quietEq (firstAccept_map_quietEq _ _ _ fun t ht => ?_)
      (firstAccept_append_quietEq ?_ fun _ => rfl)
    · have ht := (List.mem_filter.mp ht).1
      exact ih t ht (cleanL_mem hc t ht)
    · cases wn
      · exact fun _ => rfl
      · simp only [if_true, fastAlone, pyEnumValidate]
        cases seqContains [Val.none] v <;> first | exact fun _ => rfl | exact fun h => absurd rfl (h _)
  refine TraitType.induct (fun t hs _ hc => ?_) (fun t _ _ => quietEq_of_none E v rfl) fun t ts hs ih hc => ?_
  all_goals
    cases hd : descOf E t with
    | none => exact quietEq_of_none E v hd
    | some d => ?_
  · rw [ctraitValidate_of_some E v hd]
    by_cases hp : hasPy t = true
    · have hlc : t.leafClean = t.clean := by cases t <;> first | rfl | cases hs
      exact (agree_leaf E hE t d v (TraitType.isLeaf_of_subs hs) (hlc ▸ hc) hd hp fun _ => hv).quietEq
    · exact fun hr => absurd (hasPy_false_raises E t v (by simpa using hp)) (hr _)
  · cases t <;> cases hs <;> try cases hd
    · rw [ctraitValidate_of_some E v (t := .tuple ts) rfl]
      exact (agree_leaf E hE _ _ v rfl rfl rfl rfl fun _ => hv).quietEq
    · exact either ts _ ih hc
    · rw [ctraitValidate_compoundH, pyValidate_compoundH]
      exact either ts false ih hc

end TraitsVerif.Model.Val
