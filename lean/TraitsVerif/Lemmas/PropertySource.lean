/-
C12 source tie: the model's step functions equal the interpretation
(`Model/PropL.lean`) of the terms translated from the working tree
(`Generated/PropertyProg.lean`, by `harness/translate/propsrc.py`).
-/
import TraitsVerif.Model.PropL
import TraitsVerif.Generated.PropertyProg
import TraitsVerif.Lemmas.PropertyInv
namespace TraitsVerif.Model.PropL
open TraitsVerif TraitsVerif.Model.Property TraitsVerif.Generated.PropertyProg

variable {Val : Type}

-- the interpreters of `Model/PropL`, by their defining equations
attribute [local simp] exec evalS lookupS Atom.len cacheKey evalV evalC isUndef lookupV dictSet execL evalVL oldKey condL
  execC evalCE setLoc CVal.isNull CVal.nonEmpty CVal.truthy retInt

/-- `getattr(obj, 'p')` of the model = `getattr_property1` calling the getter,
which is `cached_property.decorator` as written in has_traits.py when the
user's function is wrapped. -/
theorem readProp_is_source (P : Env Val) (s : St Val) :
    readProp P s = readSrc decoratorProg P s := by
  unfold readSrc readProp
  cases hc : P.cached
  · cases hG : P.G s.calls s.heap <;> simp [compute, callG, hc, hG]
  · cases hcache : s.cache with
    | none => cases hG : P.G s.calls s.heap <;> simp [decoratorProg, compute, callG, outcome, hc, hcache, hG]
    | some v =>
      cases hu : P.isUndef v <;> cases hG : P.G s.calls s.heap <;>
        simp [decoratorProg, compute, callG, outcome, hc, hcache, hG, hu]

theorem readSrc_eq (P : Env Val) : readSrc decoratorProg P = readProp P :=
  funext (fun s => (readProp_is_source P s).symm)

/-- The C body of `trait_property_changed`, run with any getter wrapper behind
`has_traits_getattro`: nothing happens unless somebody listens; then the value is
read, `(old, new)` is delivered to the listeners present after the read, and the
return code is `-1` exactly when the read raised.  Case split before running: the
body is straight-line code once `has_notifiers` and the outcome of the read are known. -/
theorem tpcBody_run (decorator : Stmt) (P : Env Val) (s : St Val) (old : Old Val) :
    tpcSrc tpcBody decorator P s old =
      (if listening P s then
        match readSrc decorator P s with
        | (.ok v, s') => { s' with notes := s'.notes ++ [mkNote P s' old v] }
        | (.error _, s') => s'
       else s) ∧
    tpcRcSrc tpcBody decorator P s old =
      (if listening P s then (match (readSrc decorator P s).1 with | .error _ => -1 | .ok _ => 0) else 0) := by
  unfold tpcSrc tpcRcSrc
  generalize readSrc decorator P = readI
  have hL : (P.staticL || s.dyn || P.staticAny || s.dynObj) = listening P s := by
    simp only [listening, Bool.or_assoc]
  cases hl : listening P s
  · simp [tpcBody, hL, hl]
  · rcases hr : readI s with ⟨_ | v, s'⟩ <;> simp [tpcBody, hL, hl, hr]

/-- `trait_property_changed(name, old)` of the model = the body of the C function. -/
theorem tpc_is_source (P : Env Val) (s : St Val) (old : Old Val) :
    tpc P s old = tpcSrc tpcBody decoratorProg P s old := by
  rw [(tpcBody_run decoratorProg P s old).1, readSrc_eq, tpc]
  split
  · rcases hr : readProp P s with ⟨_ | v, s'⟩
    · rfl
    · -- the read attaches / detaches nobody, so the listeners after it are those before it
      have hd : s'.dyn = s.dyn := by simpa only [hr] using (readProp_frame P s).2.1
      have ho : s'.dynObj = s.dynObj := by simpa only [hr] using (readProp_frame P s).2.2.1
      simp only [mkNote, hd, ho]
  · rfl

/-- The return code of the C body: `-1` exactly when somebody listens and the
read raised (the getter's exception propagates), `0` otherwise. -/
theorem tpcRc_is_source (P : Env Val) (s : St Val) (old : Old Val) :
    tpcRcSrc tpcBody decoratorProg P s old =
      (if listening P s then (match (readProp P s).1 with | .error _ => -1 | .ok _ => 0) else 0) := by
  rw [(tpcBody_run decoratorProg P s old).2, readSrc_eq]

theorem tpcSrc_eq (P : Env Val) : tpcSrc tpcBody decoratorProg P = tpc P :=
  funext (fun s => funext (fun o => (tpc_is_source P s o).symm))

/-- The invalidation handler of the model = `_create_property_observe_state.handler`
as written in has_traits.py (for a property declared with `observe=`). -/
theorem handlerObserve_is_source (P : Env Val) (hl : P.legacy = false) (s : St Val) :
    handlerObserve P s = handlerSrc handlerProg tpcBody decoratorProg P s := by
  unfold handlerSrc handlerObserve
  rw [tpcSrc_eq]
  by_cases hc : P.cached = true
  · obtain ⟨heap, cache, calls, dyn, dynObj, notes, nested⟩ := s
    cases cache <;> simp [handlerProg, popCache, popOld, hc, hl]
  · simp only [Bool.not_eq_true] at hc
    simp [handlerProg, popCache, popOld, hc, hl]

/-- `setattr_property_handlers[n]` for a setter of arity `n ≤ 3`: guards a deletion,
calls `traitd->delegate_prefix`, fails when that fails, and passes the value (last)
exactly when the setter takes a parameter. -/
theorem handlers_set (n : Nat) (hn : n ≤ 3) :
    ∃ args, viaTable handlers.install.setTable handlers.set n = some ⟨true, ⟨.traitd, .delegate_prefix, args⟩, true⟩
      ∧ (args.getLast? = some .value ↔ n ≠ 0) :=
  match n, hn with
  | 0, _ => ⟨[], rfl, by decide⟩
  | 1, _ => ⟨[.value], rfl, by decide⟩
  | 2, _ => ⟨[.obj, .value], rfl, by decide⟩
  | 3, _ => ⟨[.obj, .name, .value], rfl, by decide⟩

/-- Such a handler, given a value, is the model's call of the setter. -/
theorem runSetH_setter (P : Env Val) (s : St Val) (g : Bool) (args : List HArg) (x : Int)
    (ha : args.getLast? = some .value ↔ P.setN ≠ 0) :
    runSetH P s ⟨g, ⟨.traitd, .delegate_prefix, args⟩, true⟩ (some x) = callSetter P s x := by
  have hv : (if args.getLast? = some .value then some x else none) = (if P.setN = 0 then none else some x) := by
    by_cases h0 : P.setN = 0
    · rw [if_pos h0, if_neg (fun h' => ha.1 h' h0)]
    · rw [if_neg h0, if_pos (ha.2 h0)]
  simp only [runSetH, callSetter, hv, and_self, if_true]
  cases P.fset with
  | none => rfl
  | some f => cases f s.heap (if P.setN = 0 then none else some x) <;> rfl

/-- `obj.p = x` / `del obj.p` of the model = what the C handlers installed by
`_trait_set_property` do (`setattr_propertyN` selected by the setter's arity
without a validator; `setattr_validate_property` → `traitd->validate` → the
same `setattr_propertyN` as `post_setattr`, with the validated value, with one). -/
theorem setProp_is_source (P : Env Val) (hn : P.setN ≤ 3) (s : St Val) (a : SetArg) :
    setProp P s a = setSrc handlers P s a := by
  obtain ⟨args, hh, ha⟩ := handlers_set P.setN hn
  have hv : handlers.vset = ⟨true, ⟨.traitd, .validate, [.traitd, .obj, .name, .value]⟩, true,
      ⟨.traitd, .post_setattr, [.traito, .traitd, .obj, .name, .validated]⟩, true⟩ := rfl
  cases a with
  | delete => cases hfv : P.fvalidate <;> simp only [setSrc, setProp, hfv, hh, hv, runSetH, if_true]
  | value x =>
    cases hfv : P.fvalidate with
    | none =>
      simp only [setSrc, setProp, hfv, hh]
      exact (runSetH_setter P s _ args x ha).symm
    | some fv =>
      simp only [setSrc, setProp, hfv, hh, hv, and_self, if_true]
      cases fv x with
      | error e => rfl
      | ok y => exact (runSetH_setter P s _ args y ha).symm

/-! ## The legacy `depends_on` listener -/

/-- `pre_notify` (registered with `priority=True`) on a state whose `:old` slot is
empty: drops the cache entry and parks it (`None` when there was none) in the slot. -/
theorem legacyPre_is_source (P : Env Val) (hl : P.legacy = true) (hc : P.cached = true) (s0 : St Val) :
    (execL P (tpc P) legacyPreNotifyProg { st := s0 }).st = popCache P s0
    ∧ (execL P (tpc P) legacyPreNotifyProg { st := s0 }).oldSlot = some (popOld P s0) := by
  obtain ⟨heap, cache, calls, dyn, dynObj, notes, nested⟩ := s0
  cases cache <;> simp [legacyPreNotifyProg, popCache, popOld, hl, hc]

/-- `notify` with a parked entry `o`: takes it out of the slot and, unless it is
`Undefined`, calls `trait_property_changed(name, o)`. -/
theorem legacyNotify_is_source (P : Env Val) (t : St Val) (o : Old Val) (ho : o ≠ .undefined) :
    (execL P (tpc P) legacyNotifyProg { st := t, oldSlot := some o }).st = Property.legacyNotify P t o
    ∧ (execL P (tpc P) legacyNotifyProg { st := t, oldSlot := some o }).oldSlot = none := by
  cases o with
  | undefined => exact absurd rfl ho
  | none => simp [legacyNotifyProg, Property.legacyNotify]
  | val v => cases hu : P.isUndef v <;> simp [legacyNotifyProg, Property.legacyNotify, hu]

/-- `notify` of an uncached `depends_on` property: `trait_property_changed(name, None)`. -/
theorem legacyNotifyUncached_is_source (P : Env Val) (t : St Val) :
    (execL P (tpc P) legacyNotifyUncachedProg { st := t }).st = Property.legacyNotify P t .none := by
  simp [legacyNotifyUncachedProg, Property.legacyNotify]

theorem popOld_legacy_ne_undefined (P : Env Val) (hl : P.legacy = true) (s : St Val) : popOld P s ≠ .undefined := by
  unfold popOld
  cases P.cached <;> cases s.cache <;> simp [hl]

end TraitsVerif.Model.PropL
