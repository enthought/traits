/-
The pool of the `deleg` model: what the primitive updates leave alone, the chain walk of
`setattr_delegate`, class well-formedness, and what `hook`, `relink` and `rehook` come to, given that
registering a delegate listener cannot fail (fix bead785 in /repo).
-/
import TraitsVerif.Model.Delegate
namespace TraitsVerif.Model.Deleg

deriving instance DecidableEq for Except

/-! ### primitive updates -/

@[simp] theorem setDict_size (p : Pool) (o n v) : (p.setDict o n v).size = p.size := rfl
@[simp] theorem setFwd_size (p : Pool) (o n h) : (p.setFwd o n h).size = p.size := rfl
@[simp] theorem setDeleg_size (p : Pool) (o t) : (p.setDeleg o t).size = p.size := rfl
@[simp] theorem unlink_size (p : Pool) (o n) : (unlink p o n).size = p.size := rfl

@[simp] theorem unlink_eq (p : Pool) (o n) : unlink p o n = p.setFwd o n none := rfl

theorem upd_proj {α : Type} (g : Obj → α) {f : Obj → Obj} (h : ∀ ob, g (f ob) = g ob) (p : Pool) (o j : ObjId) :
    g ((p.upd o f).obj j) = g (p.obj j) := by
  unfold Pool.upd
  dsimp only
  split
  · exact h _
  · rfl

section
variable (p : Pool) (o j : ObjId) (n m : Name)

@[simp] theorem setDict_cls (v) : ((p.setDict o n v).obj j).cls = (p.obj j).cls := by
  apply upd_proj (·.cls); exact fun _ => rfl
@[simp] theorem setFwd_cls (h) : ((p.setFwd o n h).obj j).cls = (p.obj j).cls := by
  apply upd_proj (·.cls); exact fun _ => rfl
@[simp] theorem setDeleg_cls (t) : ((p.setDeleg o t).obj j).cls = (p.obj j).cls := by
  apply upd_proj (·.cls); exact fun _ => rfl
@[simp] theorem setDict_deleg (v) : ((p.setDict o n v).obj j).deleg = (p.obj j).deleg := by
  apply upd_proj (·.deleg); exact fun _ => rfl
@[simp] theorem setFwd_deleg (h) : ((p.setFwd o n h).obj j).deleg = (p.obj j).deleg := by
  apply upd_proj (·.deleg); exact fun _ => rfl
@[simp] theorem setDict_fwd (v) : ((p.setDict o n v).obj j).fwd = (p.obj j).fwd := by
  apply upd_proj (·.fwd); exact fun _ => rfl
@[simp] theorem setDeleg_fwd (t) : ((p.setDeleg o t).obj j).fwd = (p.obj j).fwd := by
  apply upd_proj (·.fwd); exact fun _ => rfl
@[simp] theorem setFwd_dict (h) : ((p.setFwd o n h).obj j).dict = (p.obj j).dict := by
  apply upd_proj (·.dict); exact fun _ => rfl
@[simp] theorem setDeleg_dict (t) : ((p.setDeleg o t).obj j).dict = (p.obj j).dict := by
  apply upd_proj (·.dict); exact fun _ => rfl

theorem setDeleg_deleg (t) : ((p.setDeleg o t).obj j).deleg = if j = o then t else (p.obj j).deleg := by
  simp only [Pool.setDeleg, Pool.upd]; split <;> rfl
theorem setFwd_fwd (h) : ((p.setFwd o n h).obj j).fwd m = if j = o ∧ m = n then h else (p.obj j).fwd m := by
  by_cases hj : j = o <;> simp only [Pool.setFwd, Pool.upd, hj, if_true, if_false, true_and, false_and]
theorem setDict_dict (v) : ((p.setDict o n v).obj j).dict m = if j = o ∧ m = n then v else (p.obj j).dict m := by
  by_cases hj : j = o <;> simp only [Pool.setDict, Pool.upd, hj, if_true, if_false, true_and, false_and]

end

/-! ### classes -/

/-- Declared attribute names of a class are distinct (a class body is a dict). -/
def ClsWF (c : Cls) : Prop := (c.traits.map (·.1)).Nodup

instance (c : Cls) : Decidable (ClsWF c) := inferInstanceAs (Decidable (c.traits.map (·.1)).Nodup)

def PoolWF (p : Pool) : Prop := ∀ o, ClsWF (p.obj o).cls

theorem trait_mem {c : Cls} {n : Name} {d : DelegInfo} (h : c.trait n = .defer d) : (n, TraitDef.defer d) ∈ c.traits := by
  unfold Cls.trait at h
  cases hl : c.traits.lookup n with
  | none => rw [hl] at h; cases h
  | some td =>
    rw [hl] at h; cases h
    obtain ⟨l₁, l₂, heq, _⟩ := List.lookup_eq_some_iff.mp hl
    rw [heq]; simp

theorem deferNames_mem (c : Cls) (n : Name) (d : DelegInfo) (h : c.trait n = .defer d) : (n, d) ∈ c.deferNames :=
  List.mem_filterMap.mpr ⟨_, trait_mem h, rfl⟩

theorem deferNames_nodup (c : Cls) (h : ClsWF c) : (c.deferNames.map (·.1)).Nodup := by
  unfold ClsWF at h
  rw [List.Nodup, List.pairwise_map] at h ⊢
  have key : ∀ (a : Name × TraitDef) (b : Name × DelegInfo),
      (match a with | (n, td) => match td with | .defer d => some (n, d) | _ => none) = some b → b.1 = a.1 := by
    rintro ⟨n, td⟩ b hb
    cases td <;> simp at hb
    rw [← hb]
  exact h.filterMap _ fun a a' hne b hb b' hb' => by rw [key a b hb, key a' b' hb']; exact hne

/-! ### the walks -/

def NonDefer (td : TraitDef) : Prop := ∀ d, td ≠ .defer d

theorem walk_ok {p : Pool} {q : Option Name} {f : Nat} {cur : ObjId} {d : DelegInfo} {da : Name} {x : ObjId}
    {t : Name} {td : TraitDef} (h : walk p q f cur d da = .ok (x, t, td)) :
    td = (p.obj x).cls.trait t ∧ NonDefer td := by
  fun_induction walk p q f cur d da
  -- out of fuel; no delegate
  case case1 | case2 => cases h
  -- a deferring trait on the delegate: the walk goes on
  case case3 ih => exact ih h
  -- any other trait: the walk ends there
  case case4 hnd =>
    obtain ⟨rfl, rfl, rfl⟩ : _ ∧ _ ∧ _ := by simpa using h
    exact ⟨rfl, hnd⟩

theorem walk_end {p : Pool} {q : Option Name} {f : Nat} {cur : ObjId} {d : DelegInfo} {da : Name} {x : ObjId}
    (hy : (p.obj cur).deleg = some x) (hnd : NonDefer ((p.obj x).cls.trait (attrName d q da))) :
    walk p q (f + 1) cur d da = .ok (x, attrName d q da, (p.obj x).cls.trait (attrName d q da)) := by
  rw [walk]
  simp only [hy]
  cases htd : (p.obj x).cls.trait (attrName d q da) with
  | defer d' => exact absurd htd (hnd d')
  | plain a b c => rfl
  | python => rfl

theorem walk_defer {p : Pool} {q : Option Name} {f : Nat} {cur : ObjId} {d : DelegInfo} {da : Name} {x : ObjId}
    {d' : DelegInfo} (hy : (p.obj cur).deleg = some x) (htd : (p.obj x).cls.trait (attrName d q da) = .defer d') :
    walk p q (f + 1) cur d da = walk p q f x d' (attrName d q da) := by
  rw [walk]
  simp only [hy, htd]

theorem walk_mono {p : Pool} {q : Option Name} {f : Nat} {cur : ObjId} {d : DelegInfo} {da : Name}
    {r : ObjId × Name × TraitDef} (h : walk p q f cur d da = .ok r) : walk p q (f + 1) cur d da = .ok r := by
  fun_induction walk p q f cur d da
  -- out of fuel; no delegate
  case case1 | case2 => cases h
  -- a deferring trait on the delegate: the walk goes on
  case case3 hy _ _ htd ih => rw [walk_defer hy htd]; exact ih h
  -- any other trait: the walk ends there, whatever fuel is left
  case case4 hy _ hnd => rw [walk_end hy hnd]; exact h

/-! ### hooks -/

theorem baseOk_congr {p p' : Pool} (h : ∀ j, (p'.obj j).cls = (p.obj j).cls ∧ (p'.obj j).deleg = (p.obj j).deleg)
    (q : Option Name) : ∀ (f : Nat) (cur : ObjId) (td : TraitDef) (da : Name),
      baseOk p' q f cur td da = baseOk p q f cur td da := by
  intro f cur td da
  fun_induction baseOk p q f cur td da
  -- a typed or undeclared trait; out of fuel
  case case1 | case2 | case3 => simp [baseOk]
  -- no delegate
  case case4 hy => simp [baseOk, (h _).2, hy]
  -- on to the trait of that name on the delegate
  case case5 x hy _ ih => simp only [baseOk, (h _).2, hy, (h x).1]; exact ih

theorem hook_eq (p : Pool) (o : ObjId) (n : Name) (d : DelegInfo) : hook p o n d = ((p.obj o).deleg, false) := by
  unfold hook; cases (p.obj o).deleg <;> rfl

theorem relink_eq (p : Pool) (o : ObjId) (n : Name) (d : DelegInfo) (evs : List Event) :
    relink p o n d evs =
      { pool := match (p.obj o).fwd n with
          | some _ => p
          | none => p.setFwd o n (some (p.obj o).deleg),
        res := .ok none, events := evs } := by
  unfold relink
  rw [hook_eq]
  cases (p.obj o).fwd n <;> rfl

/-- No exception is ever swallowed while re-hooking. -/
theorem rehook_snd (o : ObjId) (l : List (Name × DelegInfo)) (p : Pool) : (rehook p o l).2 = 0 := by
  fun_induction rehook p o l
  -- nothing listed; no forwarder for the first name
  case case1 => rfl
  case case2 ih => exact ih
  -- the forwarder is hooked again: that registration does not raise (`hook_eq`), nor does a later one
  case case3 ih => simp_all [hook_eq]

theorem rehook_size (o : ObjId) (l : List (Name × DelegInfo)) (p : Pool) : (rehook p o l).1.size = p.size := by
  fun_induction rehook p o l
  case case1 => rfl
  case case2 ih => exact ih
  case case3 ih => simp_all

theorem rehook_obj (o : ObjId) : ∀ (l : List (Name × DelegInfo)) (p : Pool) (j : ObjId),
    ((rehook p o l).1.obj j).cls = (p.obj j).cls ∧ ((rehook p o l).1.obj j).deleg = (p.obj j).deleg ∧
    ((rehook p o l).1.obj j).dict = (p.obj j).dict ∧
    ∀ m, ((rehook p o l).1.obj j).fwd m =
      if j = o ∧ m ∈ l.map (·.1) ∧ (p.obj j).fwd m ≠ none then some (p.obj j).deleg else (p.obj j).fwd m
  | [], p, j => ⟨rfl, rfl, rfl, fun m => (if_neg fun h => nomatch h.2.1).symm⟩
  | (n, d) :: rest, p, j => by
    unfold rehook
    cases hf : (p.obj o).fwd n with
    | none =>
      -- no forwarder for `n`: listing `n` makes no difference
      obtain ⟨h1, h2, h3, h4⟩ := rehook_obj o rest p j
      refine ⟨h1, h2, h3, fun m => (h4 m).trans (ite_congr (propext ?_) (fun _ => rfl) (fun _ => rfl))⟩
      simp only [List.map_cons, List.mem_cons]
      refine ⟨fun ⟨hj, hm, hne⟩ => ⟨hj, .inr hm, hne⟩, fun ⟨hj, hm, hne⟩ => ⟨hj, hm.resolve_left ?_, hne⟩⟩
      rintro rfl
      rw [hj, hf] at hne
      exact hne rfl
    | some r =>
      obtain ⟨h1, h2, h3, h4⟩ := rehook_obj o rest (p.setFwd o n (some (hook p o n d).1)) j
      simp only [hook_eq, setFwd_cls, setFwd_deleg, setFwd_dict, setFwd_fwd] at h1 h2 h3 h4 ⊢
      refine ⟨h1, h2, h3, fun m => (h4 m).trans ?_⟩
      simp only [List.map_cons, List.mem_cons]
      by_cases hc : j = o ∧ m = n
      · obtain ⟨rfl, rfl⟩ := hc
        rw [if_pos (show j = j ∧ m = m from ⟨rfl, rfl⟩), ite_self, if_pos ⟨rfl, .inl rfl, by rw [hf]; nofun⟩]
      · rw [if_neg hc]
        refine ite_congr (propext ⟨fun ⟨hj, hm, hne⟩ => ⟨hj, .inr hm, hne⟩,
          fun ⟨hj, hm, hne⟩ => ⟨hj, hm.resolve_left fun hm => hc ⟨hj, hm⟩, hne⟩⟩) (fun _ => rfl) (fun _ => rfl)

end TraitsVerif.Model.Deleg
