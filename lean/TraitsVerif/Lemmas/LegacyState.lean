/-
Listener-state algebra (helper lemmas for C16): the notifier lists and `active` tables under the
elementary updates, and the consistency `Good` of a listener state, kept by hooking or unhooking one object.
-/
import TraitsVerif.Lemmas.LegacyReach
namespace TraitsVerif.Model.Legacy
open List

theorem addHooks_nil (s : LState) (o : Nat) : s.addHooks o [] = s := rfl
theorem addHooks_cons (s : LState) (o : Nat) (p) (ps) :
    s.addHooks o (p :: ps) = (s.addHook o p).addHooks o ps := rfl
theorem delHooks_nil (s : LState) (o : Nat) : s.delHooks o [] = s := rfl
theorem delHooks_cons (s : LState) (o : Nat) (p) (ps) :
    s.delHooks o (p :: ps) = (s.delHook o p).delHooks o ps := rfl

theorem addHooks_active (s : LState) (o : Nat) (ps) : (s.addHooks o ps).active = s.active := by
  induction ps generalizing s with
  | nil => rfl
  | cons p ps ih => rw [addHooks_cons, ih]; rfl

theorem delHooks_active (s : LState) (o : Nat) (ps) : (s.delHooks o ps).active = s.active := by
  induction ps generalizing s with
  | nil => rfl
  | cons p ps ih => rw [delHooks_cons, ih]; rfl

theorem addHooks_hooks_ne (s : LState) (o : Nat) (ps) {i : Nat} (hi : i ≠ o) :
    (s.addHooks o ps).hooks i = s.hooks i := by
  induction ps generalizing s with
  | nil => rfl
  | cons p ps ih => rw [addHooks_cons, ih]; simp [LState.addHook, hi]

theorem delHooks_hooks_ne (s : LState) (o : Nat) (ps) {i : Nat} (hi : i ≠ o) :
    (s.delHooks o ps).hooks i = s.hooks i := by
  induction ps generalizing s with
  | nil => rfl
  | cons p ps ih => rw [delHooks_cons, ih]; simp [LState.delHook, hi]

theorem addHooks_hooks_self_aux (s : LState) (o : Nat) (ps pre : List (Trait × HRef))
    (hpre : s.hooks o = pre) (hnd : (pre ++ ps).Nodup) :
    (s.addHooks o ps).hooks o = pre ++ ps := by
  induction ps generalizing s pre with
  | nil => simpa [addHooks_nil] using hpre
  | cons p ps ih =>
    rw [addHooks_cons]
    have hp : p ∉ pre := by
      intro hmem
      have := (List.nodup_append.mp hnd).2.2 p hmem p (by simp)
      exact this rfl
    have h1 : (s.addHook o p).hooks o = pre ++ [p] := by simp [LState.addHook, hpre, hp]
    have := ih (s.addHook o p) (pre ++ [p]) h1 (by simpa [List.append_assoc] using hnd)
    simpa [List.append_assoc] using this

theorem addHooks_hooks_self (s : LState) (o : Nat) (ps : List (Trait × HRef))
    (hnil : s.hooks o = []) (hnd : ps.Nodup) : (s.addHooks o ps).hooks o = ps := by
  simpa using addHooks_hooks_self_aux s o ps [] hnil (by simpa using hnd)

theorem delHooks_hooks_self_aux (s : LState) (o : Nat) (ps post : List (Trait × HRef))
    (hs : s.hooks o = ps ++ post) : (s.delHooks o ps).hooks o = post := by
  induction ps generalizing s with
  | nil => simpa [delHooks_nil] using hs
  | cons p ps ih =>
    rw [delHooks_cons]
    apply ih
    simp [LState.delHook, hs]

theorem delHooks_hooks_self (s : LState) (o : Nat) (ps : List (Trait × HRef))
    (hs : s.hooks o = ps) : (s.delHooks o ps).hooks o = [] :=
  delHooks_hooks_self_aux s o ps [] (by simpa using hs)

theorem mem_addActive {s : LState} {k o m x : Nat} :
    x ∈ (s.addActive k o).active m ↔ x ∈ s.active m ∨ (m = k ∧ x = o) := by
  unfold LState.addActive
  by_cases hm : m = k
  · subst hm
    by_cases ho : o ∈ s.active m
    · simp only [if_true, if_pos ho]
      constructor
      · exact Or.inl
      · rintro (h | ⟨_, rfl⟩); exact h; exact ho
    · simp [if_neg ho]
  · simp [hm]

theorem mem_popActive {s : LState} {k o m x : Nat} :
    x ∈ (s.popActive k o).active m ↔ x ∈ s.active m ∧ ¬(m = k ∧ x = o) := by
  unfold LState.popActive
  by_cases hm : m = k
  · subst hm; simp
  · simp [hm]

/-! ### Per-object notifier lists -/

theorem linkHooks_nodup (ty : LType) (k : Nat) (l : Link) : (linkHooks ty k l).Nodup := by
  obtain ⟨a, n⟩ := l
  cases n <;> cases a <;> cases ty <;> simp [linkHooks, isContainer]

theorem itemHooks_nodup (N : Name) (k : Nat) : (itemHooks N k).Nodup := by
  unfold itemHooks
  split
  · exact linkHooks_nodup _ _ _
  · split <;> simp [finalHooks]

theorem drop_cons_getElem? {α} {L : List α} {k : Nat} {l : α} {rest : List α}
    (hd : L.drop k = l :: rest) : L[k]? = some l ∧ L.drop (k + 1) = rest ∧ k < L.length := by
  have h1 : (L.drop k)[0]? = L[k]? := by rw [getElem?_drop]; rfl
  have h2 : (L.drop k).drop 1 = L.drop (k + 1) := by rw [drop_drop]
  have h3 : k < L.length := Nat.lt_of_not_le (fun hle => by rw [drop_eq_nil_of_le hle] at hd; cases hd)
  rw [hd] at h1 h2
  exact ⟨h1.symm, h2.symm, h3⟩

theorem itemHooks_of_drop_cons {N : Name} {k : Nat} {l : Link} {rest : List Link}
    (hd : N.links.drop k = l :: rest) : itemHooks N k = linkHooks (typeOf N.htype k) k l := by
  simp [itemHooks, (drop_cons_getElem? hd).1]

theorem itemHooks_of_drop_nil {N : Name} {k : Nat}
    (hd : N.links.drop k = []) (hk : k ≤ N.links.length) : itemHooks N k = finalHooks N.final := by
  have hlen : N.links.length ≤ k := by simpa using hd
  have : k = N.links.length := by omega
  subst this
  simp [itemHooks]

/-- Consistency of the listener state on a tree: an object's notifiers are
exactly those of the one item it is active in. -/
structure Good (N : Name) (s : LState) : Prop where
  exact : ∀ o k, o ∈ s.active k → s.hooks o = itemHooks N k
  none : ∀ o, (∀ k, o ∉ s.active k) → s.hooks o = []
  ld : ∀ o k k', o ∈ s.active k → o ∈ s.active k' → k = k'

theorem Good.empty (N : Name) : Good N LState.empty :=
  ⟨by simp [LState.empty], by simp [LState.empty], by simp [LState.empty]⟩

/-- Consistency is a condition on each object by itself (the items it is active in, its own notifiers):
an update that leaves the other objects as they are has to be checked at the one object only. -/
theorem Good.update {N : Name} {s s' : LState} (hg : Good N s) (o : Nat)
    (hhooks : ∀ o', o' ≠ o → s'.hooks o' = s.hooks o')
    (hact : ∀ o', o' ≠ o → ∀ m, o' ∈ s'.active m ↔ o' ∈ s.active m)
    (hexact : ∀ k, o ∈ s'.active k → s'.hooks o = itemHooks N k)
    (hnone : (∀ k, o ∉ s'.active k) → s'.hooks o = [])
    (hld : ∀ k k', o ∈ s'.active k → o ∈ s'.active k' → k = k') : Good N s' := by
  refine ⟨fun o' k h => ?_, fun o' h => ?_, fun o' k k' h h' => ?_⟩
  · by_cases e : o' = o
    · exact e ▸ hexact k (e ▸ h)
    · rw [hhooks o' e]; exact hg.exact o' k ((hact o' e k).mp h)
  · by_cases e : o' = o
    · exact e ▸ hnone (e ▸ h)
    · rw [hhooks o' e]; exact hg.none o' (fun k hk => h k ((hact o' e k).mpr hk))
  · by_cases e : o' = o
    · exact hld k k' (e ▸ h) (e ▸ h')
    · exact hg.ld o' k k' ((hact o' e k).mp h) ((hact o' e k').mp h')

theorem Good.regObj {N : Name} {s : LState} {k o : Nat} (hg : Good N s)
    (hfresh : ∀ m, o ∉ s.active m) : Good N ((s.addActive k o).addHooks o (itemHooks N k)) := by
  have hm : ∀ m, o ∈ ((s.addActive k o).addHooks o (itemHooks N k)).active m ↔ m = k := fun m => by
    rw [addHooks_active, mem_addActive]; simp [hfresh m]
  exact hg.update o (fun _ e => addHooks_hooks_ne _ _ _ e)
    (fun o' e m => by rw [addHooks_active, mem_addActive]; simp [e])
    (fun m h => by rw [(hm m).mp h]; exact addHooks_hooks_self _ _ _ (hg.none o hfresh) (itemHooks_nodup N k))
    (fun hn => absurd ((hm k).mpr rfl) (hn k))
    (fun m m' h h' => ((hm m).mp h).trans ((hm m').mp h').symm)

theorem Good.unregObj {N : Name} {s : LState} {k o : Nat} (hg : Good N s)
    (ho : o ∈ s.active k) : Good N ((s.popActive k o).delHooks o (itemHooks N k)) := by
  have hm : ∀ m, o ∉ ((s.popActive k o).delHooks o (itemHooks N k)).active m := fun m h => by
    rw [delHooks_active, mem_popActive] at h
    exact h.2 ⟨hg.ld _ _ _ h.1 ho, rfl⟩
  exact hg.update o (fun _ e => delHooks_hooks_ne _ _ _ e)
    (fun o' e m => by rw [delHooks_active, mem_popActive]; simp [e])
    (fun m h => absurd h (hm m))
    (fun _ => delHooks_hooks_self _ _ _ (hg.exact o k ho))
    (fun m _ h => absurd h (hm m))

end TraitsVerif.Model.Legacy
