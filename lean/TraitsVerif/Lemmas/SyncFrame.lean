/-
Generic facts about `Model.Sync.cascade` (the nested propagation of
`sync_trait`), for any per-trait action `apply` that works on its own trait
only (`Local`).  One level of `cascade` is `apply` followed by the handler
(`handle`: lock, loop over the partners, unlock), so each fact is an induction on
the depth budget whose step is a fact about the loop, a left fold of
`visitPartner`:
* a propagation never touches the link tables and returns with the lock table
  it found (`cascade_frame`);
* its result does not depend on the budget once that exceeds the number of
  unlocked table entries (`cascade_fuel`);
* it only touches the traits `visit` enumerates (`cascade_footprint`); when
  `visit` lists no trait twice, a trait keeps what its own round of the loop made
  of it (`handle_self`, `handle_partner`).
-/
import TraitsVerif.Model.Sync
namespace TraitsVerif.Model.Sync
open TraitsVerif TraitsVerif.Py TraitsVerif.Model
variable {α π : Type}

/-! ### Tables -/

/-- What `apply` may and may not do: it works on the trait `p` alone. -/
structure Local (apply : World α → Pair → π → Except Exc (World α × Option α × Option π)) : Prop where
  edges : ∀ {w p x w1 r y}, apply w p x = .ok (w1, r, y) → w1.edges = w.edges
  locked : ∀ {w p x w1 r y}, apply w p x = .ok (w1, r, y) → w1.locked = w.locked
  hooked : ∀ {w p x w1 r y}, apply w p x = .ok (w1, r, y) → w1.hooked = w.hooked
  val : ∀ {w p x w1 r y}, apply w p x = .ok (w1, r, y) → ∀ q, q ≠ p → w1.val q = w.val q
  nChg : ∀ {w p x w1 r y}, apply w p x = .ok (w1, r, y) → ∀ q, q ≠ p → w1.nChg q = w.nChg q
  nItems : ∀ {w p x w1 r y}, apply w p x = .ok (w1, r, y) → ∀ q, q ≠ p → w1.nItems q = w.nItems q

/-- Same tables (links, locks, registered handlers). -/
def SameTabs (w w' : World α) : Prop :=
  w'.edges = w.edges ∧ w'.locked = w.locked ∧ w'.hooked = w.hooked

theorem SameTabs.refl (w : World α) : SameTabs w w := ⟨rfl, rfl, rfl⟩

theorem SameTabs.trans {a b c : World α} (h1 : SameTabs a b) (h2 : SameTabs b c) : SameTabs a c :=
  ⟨h2.1.trans h1.1, h2.2.1.trans h1.2.1, h2.2.2.trans h1.2.2⟩

theorem partners_congr {w w' : World α} (h : w'.edges = w.edges) (p : Pair) :
    w'.partners p = w.partners p := by
  simp [World.partners, h]

theorem mem_partners {w : World α} {p q : Pair} : q ∈ w.partners p ↔ (⟨p, q⟩ : Edge) ∈ w.edges := by
  simp only [World.partners, List.mem_map, List.mem_filter, decide_eq_true_eq]
  constructor
  · rintro ⟨⟨s, t⟩, ⟨he, rfl⟩, rfl⟩; exact he
  · exact fun he => ⟨⟨p, q⟩, ⟨he, rfl⟩, rfl⟩

theorem partners_nodup {w : World α} (h : w.edges.Nodup) (p : Pair) : (w.partners p).Nodup := by
  refine List.Pairwise.map _ (R := fun a b => a.src = p ∧ b.src = p ∧ a ≠ b) (fun a b ⟨ha, hb, hab⟩ hd => hab ?_)
    (List.Pairwise.imp_of_mem (fun ha hb hab => ⟨?_, ?_, hab⟩) (h.sublist List.filter_sublist))
  · cases a; cases b; simp_all
  · simpa using (List.mem_filter.mp ha).2
  · simpa using (List.mem_filter.mp hb).2

theorem unlock_lock_locked {w : World α} {p : Pair} (h : p ∉ w.locked) :
    (p :: w.locked).filter (· ≠ p) = w.locked := by
  rw [List.filter_cons_of_neg (by simp)]
  exact List.filter_eq_self.mpr fun _ ha => decide_eq_true fun e => h (e ▸ ha)

variable {apply : World α → Pair → π → Except Exc (World α × Option α × Option π)}

theorem Local.sameTabs (hl : Local apply) {w w1 : World α} {p : Pair} {x : π} {r : Option α} {y : Option π}
    (h : apply w p x = .ok (w1, r, y)) : SameTabs w w1 :=
  ⟨hl.edges h, hl.locked h, hl.hooked h⟩

/-! ### One level of `cascade` -/

/-- What the notification `y` of a change of `p` sets off: nothing if there is
none, else the handler — it returns at once when `p` has no table, else locks
`p`, visits the partners (`rec` being the nested `setattr` / list call) and
releases the lock. -/
def handle (rec : World α → Pair → π → Except Exc (World α × Option α)) (w : World α) (p : Pair) :
    Option π → World α
  | none => w
  | some y =>
    if (w.partners p).isEmpty then w
    else ((w.partners p).foldl (visitPartner rec y) (w.lock p)).unlock p

section
variable (rec : World α → Pair → π → Except Exc (World α × Option α))

theorem handle_some (w : World α) (p : Pair) (y : π) :
    handle rec w p (some y) =
      if (w.partners p).isEmpty then w
      else ((w.partners p).foldl (visitPartner rec y) (w.lock p)).unlock p := rfl

theorem cascade_succ (apply : World α → Pair → π → Except Exc (World α × Option α × Option π))
    (d : Nat) (w : World α) (p : Pair) (x : π) :
    cascade apply (d + 1) w p x =
      match apply w p x with
      | .error e => .error e
      | .ok (w1, r, y) => .ok (handle (cascade apply d) w1 p y, r) := by
  rw [cascade]
  cases apply w p x with
  | error e => rfl
  | ok res =>
    obtain ⟨w1, r, _ | y⟩ := res
    · rfl
    · simp only [handle_some]; split <;> rfl

theorem cascade_of_apply {d : Nat} {w w1 : World α} {p : Pair} {x : π} {r : Option α} {y : Option π}
    (h : apply w p x = .ok (w1, r, y)) :
    cascade apply (d + 1) w p x = .ok (handle (cascade apply d) w1 p y, r) := by
  rw [cascade_succ, h]

theorem cascade_succ_ok {d : Nat} {w w' : World α} {p : Pair} {x : π} {ret : Option α}
    (h : cascade apply (d + 1) w p x = .ok (w', ret)) :
    ∃ w1 y, apply w p x = .ok (w1, ret, y) ∧ w' = handle (cascade apply d) w1 p y := by
  rw [cascade_succ] at h
  cases happ : apply w p x with
  | error e => rw [happ] at h; cases h
  | ok res =>
    obtain ⟨w1, r, y⟩ := res
    rw [happ] at h
    cases h
    exact ⟨w1, y, rfl, rfl⟩

theorem cascade_succ_error {d : Nat} {w : World α} {p : Pair} {x : π} {e : Exc} :
    cascade apply (d + 1) w p x = .error e ↔ apply w p x = .error e := by
  rw [cascade_succ]
  cases apply w p x <;> simp

theorem handle_no_partners {w : World α} {p : Pair} (hp : w.partners p = []) (y : Option π) :
    handle rec w p y = w := by
  cases y with
  | none => rfl
  | some y => rw [handle_some, hp]; rfl

/-- One round of the handler's loop: nothing (the partner is locked, or its
`setattr` raised), or what the nested call left. -/
theorem visitPartner_cases (y : π) (acc : World α) (q : Pair) :
    visitPartner rec y acc q = acc ∨
      q ∉ acc.locked ∧ ∃ r, rec acc q y = .ok (visitPartner rec y acc q, r) := by
  unfold visitPartner
  by_cases hq : q ∈ acc.locked
  · exact Or.inl (if_pos hq)
  · rw [if_neg hq]
    cases hr : rec acc q y with
    | error e => exact Or.inl rfl
    | ok res => exact Or.inr ⟨hq, res.2, rfl⟩

variable {rec} {y : π} {acc acc' : World α} {q : Pair}

theorem visitPartner_locked (h : q ∈ acc.locked) : visitPartner rec y acc q = acc := if_pos h

theorem visitPartner_ok {r : Option α} (h : q ∉ acc.locked) (hc : rec acc q y = .ok (acc', r)) :
    visitPartner rec y acc q = acc' := by
  unfold visitPartner; rw [if_neg h, hc]

end

/-- A loop over partners, with an invariant `Inv` of its state: it is related to
its start by any reflexive, transitive relation that every successful nested call
respects. -/
theorem foldl_rel_inv {rec : World α → Pair → π → Except Exc (World α × Option α)} {y : π}
    (Inv : World α → Prop) (Rel : World α → World α → Prop)
    (hrefl : ∀ a, Rel a a) (htrans : ∀ a b c, Rel a b → Rel b c → Rel a c) (ps : List Pair)
    (hrec : ∀ acc q acc' r, Inv acc → q ∈ ps → q ∉ acc.locked → rec acc q y = .ok (acc', r) →
      Rel acc acc' ∧ Inv acc') :
    ∀ acc, Inv acc → Rel acc (ps.foldl (visitPartner rec y) acc) ∧ Inv (ps.foldl (visitPartner rec y) acc) := by
  intro acc hacc
  refine List.foldlRecOn ps _ (motive := fun s => Rel acc s ∧ Inv s) ⟨hrefl acc, hacc⟩ fun s ⟨hr, hs⟩ q hq => ?_
  rcases visitPartner_cases rec y s q with h | ⟨hl, r, h⟩
  · rw [h]; exact ⟨hr, hs⟩
  · obtain ⟨h1, h2⟩ := hrec s q _ r hs hq hl h
    exact ⟨htrans _ _ _ hr h1, h2⟩

/-- The same without an invariant. -/
theorem foldl_rel {rec : World α → Pair → π → Except Exc (World α × Option α)} {y : π}
    (Rel : World α → World α → Prop) (hrefl : ∀ a, Rel a a) (htrans : ∀ a b c, Rel a b → Rel b c → Rel a c)
    (hrec : ∀ acc q acc' r, q ∉ acc.locked → rec acc q y = .ok (acc', r) → Rel acc acc')
    (ps : List Pair) (acc : World α) :
    Rel acc (ps.foldl (visitPartner rec y) acc) :=
  (foldl_rel_inv (fun _ => True) Rel hrefl htrans ps
    (fun acc q acc' r _ _ hq h => ⟨hrec acc q acc' r hq h, trivial⟩) acc trivial).1

/-! ### Frame -/

/-- **Frame.** A propagation started on an unlocked trait returns with the same
link tables, the same handlers and the same lock table. -/
theorem cascade_frame (hl : Local apply) (d : Nat) :
    ∀ (w : World α) (p : Pair) (x : π) (w' : World α) (r : Option α),
      p ∉ w.locked → cascade apply d w p x = .ok (w', r) → SameTabs w w' := by
  induction d with
  | zero => intro w p x w' r _ h; simp [cascade] at h
  | succ d ih =>
    intro w p x w' r hp h
    obtain ⟨w1, y, happ, rfl⟩ := cascade_succ_ok h
    have h1 := hl.sameTabs happ
    refine h1.trans ?_
    cases y with
    | none => exact SameTabs.refl _
    | some y =>
      rw [handle_some]
      split
      · exact SameTabs.refl _
      · obtain ⟨e1, e2, e3⟩ := foldl_rel (rec := cascade apply d) (y := y) SameTabs SameTabs.refl
          (fun _ _ _ => SameTabs.trans) (fun acc q acc' r => ih acc q y acc' r) (w1.partners p) (w1.lock p)
        exact ⟨e1, (congrArg (List.filter (· ≠ p)) e2).trans (unlock_lock_locked (h1.2.1 ▸ hp)), e3⟩

theorem visitPartner_sameTabs (hl : Local apply) (d : Nat) (y : π) {w0 s : World α} (hs : SameTabs w0 s)
    (q : Pair) : SameTabs w0 (visitPartner (cascade apply d) y s q) := by
  rcases visitPartner_cases (cascade apply d) y s q with h | ⟨hl', r, h⟩
  · rw [h]; exact hs
  · exact hs.trans (cascade_frame hl d s q y _ r hl' h)

/-- The loop of a handler, from any state `acc` it can be in (`w0`, the state the loop
starts in, is `w.lock p` at the call sites): every successful nested
propagation respects `R`, so the loop does. -/
theorem loop_rel (hl : Local apply) (d : Nat) (R : World α → World α → Prop) (hrefl : ∀ a, R a a)
    (htrans : ∀ a b c, R a b → R b c → R a c) (w0 : World α) (y : π) (ps : List Pair)
    (hrec : ∀ acc q acc' r, SameTabs w0 acc → q ∈ ps → q ∉ w0.locked →
      cascade apply d acc q y = .ok (acc', r) → R acc acc') :
    ∀ acc, SameTabs w0 acc →
      R acc (ps.foldl (visitPartner (cascade apply d) y) acc) ∧
      SameTabs w0 (ps.foldl (visitPartner (cascade apply d) y) acc) :=
  foldl_rel_inv (SameTabs w0) R hrefl htrans ps fun s q s' r hs hq hl' h =>
    ⟨hrec s q s' r hs hq (hs.2.1 ▸ hl') h, hs.trans (cascade_frame hl d s q y s' r hl' h)⟩

/-- The handler respects every reflexive, transitive relation that ignores the
lock table and that the nested propagations respect. -/
theorem handle_rel (hl : Local apply) (d : Nat) (R : World α → World α → Prop) (hrefl : ∀ a, R a a)
    (htrans : ∀ a b c, R a b → R b c → R a c) {w : World α} {p : Pair}
    (hlock : ∀ w', R (w.lock p) w' → R w (w'.unlock p)) {y : π}
    (hrec : ∀ acc q acc' r, SameTabs (w.lock p) acc → q ∈ w.partners p → q ∉ p :: w.locked →
      cascade apply d acc q y = .ok (acc', r) → R acc acc') :
    R w (handle (cascade apply d) w p (some y)) := by
  rw [handle_some]
  split
  · exact hrefl w
  · exact hlock _ (loop_rel hl d R hrefl htrans (w.lock p) y _ hrec _ (SameTabs.refl _)).1

/-- Two budgets give the same handler run if they give the same nested propagations. -/
theorem handle_congr (hl : Local apply) {d d' : Nat} {w : World α} {p : Pair}
    (hrec : ∀ acc q y, SameTabs (w.lock p) acc → q ∈ w.partners p → q ∉ p :: w.locked →
      cascade apply d acc q y = cascade apply d' acc q y) (y : Option π) :
    handle (cascade apply d) w p y = handle (cascade apply d') w p y := by
  cases y with
  | none => rfl
  | some y =>
    rw [handle_some, handle_some]
    split
    · rfl
    · refine congrArg (World.unlock · p) (List.foldl_rel (r := fun s t => s = t ∧ SameTabs (w.lock p) s)
        ⟨rfl, SameTabs.refl _⟩ fun q hq s t hst => ?_).1
      obtain ⟨rfl, hs⟩ := hst
      have hstep : visitPartner (cascade apply d') y s q = visitPartner (cascade apply d) y s q := by
        unfold visitPartner
        split
        · rfl
        · rename_i hl'; rw [hrec s q y hs hq (fun h => hl' (hs.2.1.symm ▸ h))]
      exact ⟨hstep.symm, visitPartner_sameTabs hl d y hs q⟩

/-! ### The depth budget is never exhausted -/

/-- Number of table entries whose owner trait is not locked: every nested
handler locks one more owner, so this bounds the nesting depth. -/
def World.free (w : World α) : Nat := (w.edges.filter (fun e => decide (e.src ∉ w.locked))).length

theorem free_le_edges (w : World α) : w.free ≤ w.edges.length := List.length_filter_le _ _

theorem free_congr {w w' : World α} (h : SameTabs w w') : w'.free = w.free := by
  simp [World.free, h.1, h.2.1]

theorem free_lock_lt (w : World α) {p q : Pair} (hp : p ∉ w.locked) (hq : q ∈ w.partners p) :
    (w.lock p).free < w.free := by
  -- the entries that stay free are the free entries not owned by `p`; `⟨p, q⟩` is one that goes
  have hsplit : (w.lock p).free = ((w.edges.filter (fun e => decide (e.src ∉ w.locked))).filter
      (fun e => decide (e.src ≠ p))).length := by
    simp only [World.free, World.lock, List.filter_filter, List.mem_cons, not_or]
    congr 2; funext e; simp
  have hmem : (⟨p, q⟩ : Edge) ∈ w.edges.filter (fun e => decide (e.src ∉ w.locked)) :=
    List.mem_filter.mpr ⟨mem_partners.mp hq, by simpa using hp⟩
  rw [hsplit]
  exact List.length_filter_lt_length_iff_exists.mpr ⟨_, hmem, by simp⟩

/-- **Termination.** With more budget than unlocked table entries the result
is the same for every budget: the recursion limit is never reached. -/
theorem cascade_fuel (hl : Local apply) (d : Nat) :
    ∀ (d' : Nat) (w : World α) (p : Pair) (x : π), p ∉ w.locked → w.free < d → w.free < d' →
      cascade apply d w p x = cascade apply d' w p x := by
  induction d with
  | zero => intro d' w p x _ h; omega
  | succ d ih =>
    intro d' w p x hp hd hd'
    obtain ⟨d', rfl⟩ : ∃ e, d' = e + 1 := ⟨d' - 1, by omega⟩
    rw [cascade_succ, cascade_succ]
    cases happ : apply w p x with
    | error e => rfl
    | ok res =>
      obtain ⟨w1, r, y⟩ := res
      have h1 := hl.sameTabs happ
      simp only
      rw [handle_congr hl (fun acc q y hacc hq hql => ?_) y]
      have := free_lock_lt w1 (h1.2.1 ▸ hp) hq
      rw [free_congr h1, ← free_congr hacc] at this
      exact ih d' acc q y (hacc.2.1 ▸ hql) (by omega) (by omega)

/-! ### Footprint -/

/-- Equality of everything observable about one trait. -/
def SameAt (r : Pair) (w w' : World α) : Prop :=
  w'.val r = w.val r ∧ w'.nChg r = w.nChg r ∧ w'.nItems r = w.nItems r

theorem SameAt.refl (r : Pair) (w : World α) : SameAt r w w := ⟨rfl, rfl, rfl⟩

theorem SameAt.trans {r : Pair} {a b c : World α} (h1 : SameAt r a b) (h2 : SameAt r b c) : SameAt r a c :=
  ⟨h2.1.trans h1.1, h2.2.1.trans h1.2.1, h2.2.2.trans h1.2.2⟩

theorem Local.sameAt (hl : Local apply) {w w1 : World α} {p r : Pair} {x : π} {ret : Option α} {y : Option π}
    (h : apply w p x = .ok (w1, ret, y)) (hr : r ≠ p) : SameAt r w w1 :=
  ⟨hl.val h r hr, hl.nChg h r hr, hl.nItems h r hr⟩

/-- What the loop of a handler running on `p` (with `L` locked before) reaches. -/
def visitLoop (es : List Edge) (d : Nat) (L : List Pair) (p : Pair) : List Pair :=
  ((es.filter (fun e => e.src = p)).map (·.dst)).flatMap
    (fun q => if q ∈ p :: L then [] else visit es d (p :: L) q)

theorem visit_succ (es : List Edge) (d : Nat) (L : List Pair) (p : Pair) :
    visit es (d + 1) L p = p :: visitLoop es d L p := rfl

theorem visit_mem_visitLoop {w : World α} {d : Nat} {p q r : Pair} (hq : q ∈ w.partners p)
    (hql : q ∉ p :: w.locked) (hr : r ∈ visit w.edges d (p :: w.locked) q) :
    r ∈ visitLoop w.edges d w.locked p :=
  List.mem_flatMap.mpr ⟨q, hq, by rw [if_neg hql]; exact hr⟩

/-- **Footprint.** A propagation started on `p` changes nothing about a trait
that `visit` (a function of the link tables alone) does not list. -/
theorem cascade_footprint (hl : Local apply) (r : Pair) (d : Nat) :
    ∀ (w : World α) (p : Pair) (x : π) (w' : World α) (ret : Option α),
      p ∉ w.locked → r ∉ visit w.edges d w.locked p →
      cascade apply d w p x = .ok (w', ret) → SameAt r w w' := by
  induction d with
  | zero => intro w p x w' ret _ _ h; simp [cascade] at h
  | succ d ih =>
    intro w p x w' ret hp hr h
    rw [visit_succ, List.mem_cons, not_or] at hr
    obtain ⟨w1, y, happ, rfl⟩ := cascade_succ_ok h
    have h1 := hl.sameTabs happ
    refine (hl.sameAt happ hr.1).trans ?_
    cases y with
    | none => exact SameAt.refl _ _
    | some y =>
      refine handle_rel hl d (SameAt r) (SameAt.refl r) (fun _ _ _ => SameAt.trans) (fun _ h => h)
        fun acc q acc' r' hacc hq hql hc => ?_
      have he : acc.edges = w.edges := hacc.1.trans h1.1
      have hL : acc.locked = p :: w.locked := hacc.2.1.trans (congrArg (p :: ·) h1.2.1)
      rw [h1.2.1] at hql
      refine ih acc q y acc' r' (hL ▸ hql) (fun hm => hr.2 ?_) hc
      rw [he, hL] at hm
      exact visit_mem_visitLoop (partners_congr h1.1 p ▸ hq) hql hm

/-- The loop of a handler running on `p` in `w` leaves alone what none of the
nested propagations (on the partners `ps`) reaches. -/
theorem loop_footprint (hl : Local apply) (r : Pair) (d : Nat) (w : World α) (p : Pair) (y : π) (ps : List Pair)
    (hr : ∀ q ∈ ps, q ∉ p :: w.locked → r ∉ visit w.edges d (p :: w.locked) q) :
    ∀ acc, SameTabs (w.lock p) acc →
      SameAt r acc (ps.foldl (visitPartner (cascade apply d) y) acc) ∧
      SameTabs (w.lock p) (ps.foldl (visitPartner (cascade apply d) y) acc) :=
  loop_rel hl d (SameAt r) (SameAt.refl r) (fun _ _ _ => SameAt.trans) (w.lock p) y ps
    fun acc q acc' r' hacc hq hql hc =>
      cascade_footprint hl r d acc q y acc' r' (hacc.2.1 ▸ hql) (by rw [hacc.1, hacc.2.1]; exact hr q hq hql) hc

/-- When no trait is visited twice, the trait a propagation starts on ends with
what `apply` made of it. -/
theorem handle_self (hl : Local apply) {d : Nat} {w : World α} {p : Pair}
    (hnd : (visit w.edges (d + 1) w.locked p).Nodup) (y : Option π) :
    SameAt p w (handle (cascade apply d) w p y) := by
  cases y with
  | none => exact SameAt.refl _ _
  | some y =>
    rw [visit_succ, List.nodup_cons] at hnd
    rw [handle_some]
    split
    · exact SameAt.refl _ _
    · exact (loop_footprint hl p d w p y _ (fun q hq hql hm => hnd.1 (visit_mem_visitLoop hq hql hm)) _
        (SameTabs.refl _)).1

/-- When no trait is visited twice, a partner `q` of `p` has its round of the
handler's loop in a state `acc` in which it still is as the handler found it, and
ends with what `apply` makes of it in that round. -/
theorem handle_partner (hl : Local apply) {d : Nat} {w : World α} {p q : Pair}
    (hnd : (visit w.edges (d + 2) w.locked p).Nodup) (hq : q ∈ w.partners p) (hql : q ∉ p :: w.locked) (y : π) :
    ∃ acc, SameTabs (w.lock p) acc ∧ SameAt q w acc ∧ ∀ wq r pay, apply acc q y = .ok (wq, r, pay) →
      SameAt q wq (handle (cascade apply (d + 1)) w p (some y)) := by
  obtain ⟨s, t, hst⟩ := List.append_of_mem hq
  -- what `Nodup` says about the rounds before `q`, the round of `q`, the rounds after `q`
  have hloop : (visitLoop w.edges (d + 1) w.locked p).Nodup := (List.nodup_cons.mp hnd).2
  rw [visitLoop, show (w.edges.filter (fun e => e.src = p)).map (·.dst) = s ++ q :: t from hst,
    List.flatMap_append, List.flatMap_cons, if_neg hql, List.nodup_append, List.nodup_append] at hloop
  obtain ⟨-, ⟨hndq, -, hdt⟩, hds⟩ := hloop
  have hqin : q ∈ visit w.edges (d + 1) (p :: w.locked) q := List.mem_cons_self ..
  obtain ⟨hA, hAt⟩ := loop_footprint hl q (d + 1) w p y s (fun t' ht' hl' hm =>
    hds q (List.mem_flatMap.mpr ⟨t', ht', by rw [if_neg hl']; exact hm⟩) q (List.mem_append_left _ hqin) rfl)
    _ (SameTabs.refl _)
  refine ⟨_, hAt, hA, fun wq r pay happ => ?_⟩
  have hwq := hAt.trans (hl.sameTabs happ)
  have hself := handle_self hl (d := d) (w := wq) (p := q) (by rw [hwq.1, hwq.2.1]; exact hndq) pay
  obtain ⟨hB, -⟩ := loop_footprint hl q (d + 1) w p y t (fun t' ht' hl' hm =>
    hdt q hqin q (List.mem_flatMap.mpr ⟨t', ht', by rw [if_neg hl']; exact hm⟩) rfl)
    _ (hAt.trans (cascade_frame hl (d + 1) _ q y _ r (hAt.2.1 ▸ hql) (cascade_of_apply happ)))
  rw [handle_some, if_neg fun h => List.ne_nil_of_mem hq (List.isEmpty_iff.mp h), hst, List.foldl_append,
    List.foldl_cons, visitPartner_ok (hAt.2.1 ▸ hql) (cascade_of_apply happ)]
  exact hself.trans hB

end TraitsVerif.Model.Sync
