/-
Cluster `obs`: the refinement invariant is preserved by a mutation of an observed
container — list, set or dict alike (`contMut_preserves`).

Operational half: a walk touches only the observables its from-scratch items sit on
(`addRemove_frame`), so the container's iteration over its LIVE notifier list is the run
of the maintainers found at the start when no maintainer's walk comes back to the mutated
container (`notifyCont_run`); every item maintainer removes below the removed items and
adds below the added ones (`maintCont_does`).
Specification half: the cell is the container `c`; the hitting nodes are the items
observers of its kind standing on it; its content is the list of objects below it
(`contVals`: the elements, for a dict the values).  `filtered` nodes need no care: they
neither read nor yield a container.
-/
import TraitsVerif.Lemmas.ObsInvLoop
namespace TraitsVerif.Model.Obs
open TraitsVerif

/-! ### frame -/

theorem addItem_get_ne (it : Item) (H : Hooks) (o : Observable) (hne : it.1 ≠ o) :
    (addItem it H).get o = H.get o := by
  unfold addItem
  rw [Hooks.get_upd]
  have : ¬ o = it.1 := fun e => hne e.symm
  simp [this]

theorem removeItem_get_ne (it : Item) (H H' : Hooks) (o : Observable) (hne : it.1 ≠ o)
    (h : removeItem it H = .ok H') : H'.get o = H.get o := by
  obtain ⟨l, _, rfl⟩ := removeItem_ok_iff.1 h
  rw [Hooks.get_upd, if_neg fun e => hne e.symm]

theorem addRemove_frame (h : Heap) (k : HKey) (o : Observable) (g : Graph) (rm extra : Bool) (x : W) (H : Hooks)
    (hno : ∀ it ∈ hookList h k extra g x, it.1 ≠ o) : (addRemove h k rm extra g x H).H.get o = H.get o :=
  addRemove_touch (fun H' => H'.get o = H.get o) (fun it => it.1 ≠ o)
    (fun it H' hi hP => by rw [addItem_get_ne it H' o hi]; exact hP)
    (fun it H' H'' hi hP hr => by rw [removeItem_get_ne it H' H'' o hi hr]; exact hP)
    h k g rm extra x H hno rfl

theorem maintCont_frame (h : Heap) (g : Graph) (k : HKey) (ev : CEvent) (o : Observable) (H : Hooks)
    (hno : ∀ y ∈ ev.removed ++ ev.added, ∀ it ∈ hookList h k true g (some y), it.1 ≠ o) :
    (maintCont h g k ev H).H.get o = H.get o := by
  -- each of the two loops keeps "the notifiers of `o` are those of `H`"
  have loop : ∀ (rm : Bool) (ys : List Id), (∀ y ∈ ys, y ∈ ev.removed ++ ev.added) → ∀ H' : Hooks, H'.get o = H.get o →
      (walkAll h k rm g ys H').H.get o = H.get o := fun rm ys hys =>
    foldRes_pres (fun H' => H'.get o = H.get o) _ _ fun w hw H' hP => by
      obtain ⟨y, hy, rfl⟩ := List.mem_map.1 hw
      exact (addRemove_frame h k o g rm true (some y) H' (hno y (hys y hy))).trans hP
  have r1 := loop true ev.removed (fun _ => List.mem_append_left _) H rfl
  unfold maintCont
  simp only []
  split
  · exact r1
  · exact loop false ev.added (fun _ => List.mem_append_right _) _ r1

/-! ### the loop over the live notifier list -/

/-- What `notifyCont` does to the hooks is the run of the maintainers found at the start,
when none of them touches the notifier list of the container. -/
theorem notifyCont_run (E : Env) (h : Heap) (c : Id) (ev : CEvent) (ns0 : List Notifier)
    (hfr : ∀ mk g k, Notifier.maint mk g k ∈ ns0 → ∀ H', (maintCont h g k ev H').H.get (.cont c) = H'.get (.cont c)) :
    ∀ (fuel i : Nat) (H : Hooks) (ds : List Delivered), H.get (.cont c) = ns0 → ns0.length - i < fuel →
      (notifyCont E h c ev fuel i H ds).1 = (runMaints E.dead (fun _ g k => maintCont h g k ev) (ns0.drop i) H).H ∧
      (notifyCont E h c ev fuel i H ds).2.2 = (runMaints E.dead (fun _ g k => maintCont h g k ev) (ns0.drop i) H).err := by
  intro fuel
  induction fuel with
  | zero => intro i H ds _ hlt; omega
  | succ fuel ih =>
    intro i H ds hH hlt
    simp only [notifyCont, hH]
    cases hg : ns0[i]? with
    | none =>
      have : ns0.length ≤ i := by
        rcases Nat.lt_or_ge i ns0.length with h1 | h1
        · rw [List.getElem?_eq_getElem h1] at hg; cases hg
        · exact h1
      rw [List.drop_eq_nil_of_le this]
      exact ⟨rfl, rfl⟩
    | some nt =>
      have hi : i < ns0.length := by
        rcases Nat.lt_or_ge i ns0.length with h1 | h1
        · exact h1
        · rw [List.getElem?_eq_none h1] at hg; cases hg
      have hdrop : ns0.drop i = nt :: ns0.drop (i + 1) := by
        rw [List.drop_eq_getElem_cons hi]
        congr 1
        rw [List.getElem?_eq_getElem hi] at hg
        exact Option.some.inj hg
      have hm : nt ∈ ns0 := List.mem_of_getElem? hg
      rw [hdrop]
      cases nt with
      | user k rc =>
        simp only [runMaints]
        split
        · exact ih (i + 1) H ds hH (by omega)
        · exact ih (i + 1) H _ hH (by omega)
      | maint mk g k =>
        simp only [runMaints]
        split
        · exact ih (i + 1) H ds hH (by omega)
        · cases he : (maintCont h g k ev H).err with
          | some e => exact ⟨rfl, rfl⟩
          | none => exact ih (i + 1) _ ds (by rw [hfr mk g k hm H, hH]) (by omega)

/-! ### what an item maintainer does -/

/-- `blockW` below a list of identities, as a container event reports them -/
def blockOf (h' : Heap) (ys : List Id) (o' : Observable) (q : NKey) (g : Graph) (k : HKey) : Nat :=
  cntItems ((ys.map some).flatMap (fun w => hookList h' k true g w)) o' q

theorem walkAll_does (h' : Heap) (g : Graph) (k : HKey) (ys : List Id) (hok : ∀ y ∈ ys, walkOk h' true g (some y) = true) :
    Does (walkAll h' k true g ys) (fun o q => blockOf h' ys o q g k) (fun _ _ => 0) ∧
    Does (walkAll h' k false g ys) (fun _ _ => 0) (fun o q => blockOf h' ys o q g k) := by
  have hok' : ∀ w ∈ ys.map some, walkOk h' true g w = true := by
    intro w hw; obtain ⟨y, hy, rfl⟩ := List.mem_map.1 hw; exact hok y hy
  have hz : ∀ (_ : Observable) (_ : NKey), 0 = ((ys.map some).map (fun _ => 0)).sum :=
    fun _ _ => (sum_map_zero _ _ (fun _ _ => rfl)).symm
  exact ⟨(Does.foldRes _ (fun w hw => addRemove_does_rm h' k g true w (hok' w hw))).congr
      (fun o q => cntItems_flatMap ..) hz,
    (Does.foldRes _ (fun w hw => addRemove_does_add h' k g true w (hok' w hw))).congr hz
      (fun o q => cntItems_flatMap ..)⟩

theorem maintCont_does (h' : Heap) (g : Graph) (k : HKey) (ev : CEvent)
    (hokR : ∀ y ∈ ev.removed, walkOk h' true g (some y) = true)
    (hokA : ∀ y ∈ ev.added, walkOk h' true g (some y) = true) :
    Does (maintCont h' g k ev) (fun o q => blockOf h' ev.removed o q g k) (fun o q => blockOf h' ev.added o q g k) :=
  ((walkAll_does h' g k _ hokR).1.andThen (walkAll_does h' g k _ hokA).2).congr (fun _ _ => rfl)
    (fun _ _ => (Nat.zero_add _).symm)

/-! ### container cells -/

/-- the objects below a container of kind `mk` -/
def contVals : MKind → Obj → Option (List Id)
  | .list, .list l => some l
  | .set, .set l => some l
  | .dict, .dict d => some (d.map (·.2))
  | _, _ => none

theorem iter_at_cont {h : Heap} {c : Id} {mk : MKind} {ys : List Id} (hv : contVals mk (h.get c) = some ys)
    (ob : Observer) (hk : ob.mkind = mk) :
    observables h ob (some c) = .ok [.cont c] ∧ objects h ob (some c) = .ok (ys.map some) := by
  subst hk
  cases ob <;> cases hg : h.get c <;> simp [contVals, hg, Observer.mkind] at hv <;>
    simp [observables, objects, Heap.at, hg, ← hv, List.map_map, Function.comp_def]

theorem iter_cont_congr {h h' : Heap} {c : Id} {mk : MKind} {ys ys' : List Id}
    (hv : contVals mk (h.get c) = some ys) (hv' : contVals mk (h'.get c) = some ys') (ob : Observer) :
    observables h' ob (some c) = observables h ob (some c) ∧
    extraObservables h' ob (some c) = extraObservables h ob (some c) ∧
    (ob.mkind ≠ mk → objects h' ob (some c) = objects h ob (some c)) := by
  cases mk <;> cases hg : h.get c <;> simp [contVals, hg] at hv <;>
    cases hg' : h'.get c <;> simp [contVals, hg'] at hv' <;>
    cases ob <;> simp [observables, objects, extraObservables, Heap.at, hg, hg', hasTrait, Observer.mkind]

theorem maintKind_cont {h : Heap} {c : Id} {mk : MKind} {ys : List Id} (hv : contVals mk (h.get c) = some ys) :
    maintKind h (.cont c) = mk := by
  cases mk <;> cases hg : h.get c <;> simp [contVals, hg] at hv <;> simp [maintKind, hg]

def actTrue : Observer → W → Bool := fun _ _ => true

def contCell (mk : MKind) (c : Id) : Cell :=
  ⟨fun ob x => ob.mkind == mk && x == some c, fun _ _ => [], .cont c, mk⟩

section cell
variable {h : Heap} {c : Id} {mk : MKind} {ys : List Id}

theorem contCell_hits (ob : Observer) (x : W) : (contCell mk c).hits ob x = true ↔ ob.mkind = mk ∧ x = some c := by
  simp [contCell]

theorem contCell_ok (hv : contVals mk (h.get c) = some ys) : (contCell mk c).OK (fun _ => True) h where
  kind := fun ob x _ hh => ((contCell_hits ob x).1 hh).1
  count := by
    intro ob x _
    by_cases hh : (contCell mk c).hits ob x = true
    · obtain ⟨hk, rfl⟩ := (contCell_hits ob x).1 hh
      rw [hh, (iter_at_cont hv ob hk).1]
      simp [okOr, contCell]
    · rw [if_neg hh, List.count_eq_zero]
      intro hm
      have hk : x = some c ∧ ob.mkind = maintKind h (.cont c) := observables_on h ob x _ hm
      rw [maintKind_cont hv] at hk
      exact hh ((contCell_hits ob x).2 ⟨hk.2, hk.1⟩)

theorem contCell_rel (hv : contVals mk (h.get c) = some ys) {cell' : Obj} {ys' : List Id}
    (hv' : contVals mk cell' = some ys') :
    (contCell mk c).Rel (fun _ => True) h (h.upd c cell') (ys'.map some) := by
  have hg' : contVals mk ((h.upd c cell').get c) = some ys' := by simpa [Heap.get_upd] using hv'
  have hcg := fun ob => iter_cont_congr hv hg' ob
  have hne := fun ob (x : W) (hx : x ≠ some c) => iter_congr_at (h := h) ob x (Heap.at_upd_ne h c cell' x hx)
  refine ⟨?_, ?_, ?_, ?_⟩
  · intro ob x _
    by_cases hx : x = some c
    · subst hx; exact (hcg ob).1
    · exact (hne ob x hx).1
  · intro ob x _
    by_cases hx : x = some c
    · subst hx; exact (hcg ob).2.1
    · exact (hne ob x hx).2.2
  · intro ob x _ hh
    by_cases hx : x = some c
    · subst hx
      exact (hcg ob).2.2 (fun hk => by simp [contCell, hk] at hh)
    · exact (hne ob x hx).2.1
  · intro ob x _ hh
    obtain ⟨hk, rfl⟩ := (contCell_hits ob x).1 hh
    rw [(iter_at_cont hg' ob hk).2]
    exact .refl _

theorem contCell_rel_self (hv : contVals mk (h.get c) = some ys) :
    (contCell mk c).Rel (fun _ => True) h h (ys.map some) where
  obs := fun _ _ _ => rfl
  ext := fun _ _ _ => rfl
  objs := fun _ _ _ _ => rfl
  objsR := by
    intro ob x _ hh
    obtain ⟨hk, rfl⟩ := (contCell_hits ob x).1 hh
    rw [(iter_at_cont hv ob hk).2]
    exact .refl _

theorem Gen.visits_contCell (S : Gen.Site) (hS : ∀ ob x, S.rd ob x = (ob.mkind == mk && x == some c)) :
    ∀ g x, Gen.visits S actTrue h g x = (contCell mk c).visits h g x := by
  apply Cell.visits_unique h (Gen.visits S actTrue h) (Gen.visitsCs S actTrue h)
  · intro ob cs x; simp [Gen.visits, actTrue, hS, contCell]
  · intro ob x; rfl
  · intro ob x c' cs
    by_cases hb : (ob.mkind == mk && x == some c) = true <;> simp [Gen.visitsCs, Cell.below, hS, contCell, hb]

end cell

/-- Hypotheses under which a mutation of the container `c` (objects below it `ys`, new content
`cell'`, reported as `ev`) preserves the invariant; `kind` is the kind of the container, `V` the visits of its
cell, in the form the caller has them. -/
structure ContCore (E : Env) (st : St) (regs : List Reg) (V : Graph → W → List Graph) (kind : MKind) (c : Id)
    (cell' : Obj) (ys : List Id) (ev : CEvent) : Prop where
  alive : ∀ k, E.dead k = false
  /-- the walks the maintainers perform meet no failing `iter_*` -/
  okRem : ∀ mk g k, Notifier.maint mk g k ∈ st.H.get (.cont c) → ∀ y ∈ ev.removed,
    walkOk (st.h.upd c cell') true g (some y) = true
  okAdd : ∀ mk g k, Notifier.maint mk g k ∈ st.H.get (.cont c) → ∀ y ∈ ev.added,
    walkOk (st.h.upd c cell') true g (some y) = true
  /-- NoSelfReach: below the current items, and below the removed / added ones, the
  maintained sub-graphs never come back to the container itself -/
  nsrItems : ∀ r ∈ regs, ∀ g ∈ V r.g (some r.x), ∀ y ∈ ys,
    ∀ it ∈ hookList st.h r.k true g (some y), it.1 ≠ .cont c
  nsrLive : ∀ mk g k, Notifier.maint mk g k ∈ st.H.get (.cont c) → ∀ y ∈ ev.removed ++ ev.added,
    ∀ it ∈ hookList (st.h.upd c cell') k true g (some y), it.1 ≠ .cont c
  /-- graph equality is structural on the sub-graphs involved -/
  eqStruct : ∀ mk g k, Notifier.maint mk g k ∈ st.H.get (.cont c) → ∀ r ∈ regs,
    ∀ g' ∈ V r.g (some r.x),
    (NKey.maint mk g k).equals (.maint kind g' r.k) = true → g = g' ∧ k = r.k

/-- The event is a faithful delta — old = removed ++ rest, new = rest ++ added up to order —:
the invariant is preserved and nothing raises.  The same object may occur several times
(present twice and removed once keeps one registration's worth of hooks). -/
theorem contMut_preserves (E : Env) (st : St) (regs : List Reg) (V : Graph → W → List Graph) (kind : MKind) (c : Id)
    (cell' : Obj) (ys ys' rest : List Id) (ev : CEvent)
    (hv : contVals kind (st.h.get c) = some ys) (hv' : contVals kind cell' = some ys')
    (hV : ∀ g x, V g x = (contCell kind c).visits st.h g x)
    (hinv : HooksEqReach st.h st.H regs) (core : ContCore E st regs V kind c cell' ys ev)
    (hitems : ys.Perm (ev.removed ++ rest)) (hitems' : ys'.Perm (rest ++ ev.added)) :
    HooksEqReach (st.h.upd c cell') (runCont E st (st.h.upd c cell') c (some ev)).st.H regs ∧
    (runCont E st (st.h.upd c cell') c (some ev)).err = none := by
  -- live iteration = run of the maintainers found at the start
  have hfr : ∀ mk g k, Notifier.maint mk g k ∈ st.H.get (.cont c) → ∀ H',
      (maintCont (st.h.upd c cell') g k ev H').H.get (.cont c) = H'.get (.cont c) :=
    fun mk g k hm H' => maintCont_frame _ g k ev (.cont c) H' (core.nsrLive mk g k hm)
  have hrun := notifyCont_run E (st.h.upd c cell') c ev (st.H.get (.cont c)) hfr
    ((st.H.get (.cont c)).length + 4096) 0 st.H [] rfl (by omega)
  rw [List.drop_zero] at hrun
  have key := Cell.run_preserves (C := contCell kind c) (nsr := ?_) (contCell_ok hv) (hk := ?_) (contCell_rel_self hv)
    (contCell_rel hv hv') (fun r _ => Graph.All.of_forall (fun _ => trivial) r.g) hinv
    (List.map_append ▸ hitems.map some) (List.map_append ▸ hitems'.map some)
    (eqs := ?_) E.dead (fun _ g k => maintCont (st.h.upd c cell') g k ev) (hm := ?_)
  · simp only [runCont, hrun.1, hrun.2]
    exact key
  · intro r hr g hg w hw
    obtain ⟨y, hy, rfl⟩ := List.mem_map.1 hw
    exact core.nsrItems r hr g (hV _ _ ▸ hg) y hy
  · intro e
    simp only [contCell] at e
    rw [e] at hv
    cases hg : st.h.get c <;> simp [contVals] at hv
  · intro g k hm r hr g' hg' he
    exact core.eqStruct kind g k hm r hr g' (hV _ _ ▸ hg') he
  · intro mk g k hm
    refine ⟨core.alive k, ?_⟩
    have hmk : mk = kind := by
      rcases kind_of_inv hinv hm with h1 | ⟨_, i, h2⟩
      · rw [h1]; exact maintKind_cont hv
      · cases h2
    subst hmk
    exact (maintCont_does (st.h.upd c cell') g k ev (core.okRem _ g k hm) (core.okAdd _ g k hm)).congr
      (fun _ _ => if_pos rfl) (fun _ _ => if_pos rfl)

/-- The hypotheses in the simplest situation: one registration, whose walk visits the container once,
and every maintainer found on the container carries that visit's sub-graph. -/
theorem ContCore.of_single {E : Env} {st : St} {regs : List Reg} {V : Graph → W → List Graph} {kind : MKind} {c : Id}
    {cell' : Obj} {ys : List Id} {ev : CEvent} {k0 : HKey} {G g0 : Graph} {x0 : Id} (halive : ∀ k, E.dead k = false)
    (hns : ∀ mk g k, Notifier.maint mk g k ∈ st.H.get (.cont c) → g = g0 ∧ k = k0)
    (hregs : regs = [⟨k0, G, x0⟩]) (hvis : V G (some x0) = [g0])
    (hok : ∀ y ∈ ev.removed ++ ev.added, walkOk (st.h.upd c cell') true g0 (some y) = true)
    (hI : ∀ y ∈ ys, ∀ it ∈ hookList st.h k0 true g0 (some y), it.1 ≠ .cont c)
    (hL : ∀ y ∈ ev.removed ++ ev.added, ∀ it ∈ hookList (st.h.upd c cell') k0 true g0 (some y), it.1 ≠ .cont c) :
    ContCore E st regs V kind c cell' ys ev := by
  subst hregs
  have hv : ∀ r ∈ [(⟨k0, G, x0⟩ : Reg)], ∀ g ∈ V r.g (some r.x), g = g0 ∧ r.k = k0 := by
    intro r hr g hg
    obtain rfl := List.mem_singleton.1 hr
    rw [hvis] at hg
    exact ⟨List.mem_singleton.1 hg, rfl⟩
  refine ⟨halive, ?_, ?_, ?_, ?_, ?_⟩
  · intro mk g k hm y hy
    obtain ⟨rfl, _⟩ := hns mk g k hm
    exact hok y (List.mem_append.2 (Or.inl hy))
  · intro mk g k hm y hy
    obtain ⟨rfl, _⟩ := hns mk g k hm
    exact hok y (List.mem_append.2 (Or.inr hy))
  · intro r hr g hg y hy
    obtain ⟨rfl, hk⟩ := hv r hr g hg
    rw [hk]; exact hI y hy
  · intro mk g k hm y hy
    obtain ⟨rfl, rfl⟩ := hns mk g k hm
    exact hL y hy
  · intro mk g k hm r hr g' hg' _
    obtain ⟨rfl, rfl⟩ := hns mk g k hm
    obtain ⟨rfl, hk⟩ := hv r hr g' hg'
    exact ⟨rfl, hk.symm⟩

end TraitsVerif.Model.Obs
