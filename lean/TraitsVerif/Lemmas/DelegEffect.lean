/-
`Effect`: what one operation of the `deleg` model does, told cell by cell.  A cell is an attribute `m` of an
object `j`: its local value, its forwarder, and the delegate of `j`.  `CellStep` lists the few transitions a
cell can make; `step_effect` is the one place where `step` is taken apart branch by branch, and the
invariants of histories (`DelegInv`) are properties of cells preserved by every transition.
-/
import TraitsVerif.Lemmas.DelegPool
namespace TraitsVerif.Model.Deleg

/-- Does the operation assign or delete attribute `n` of object `o`? -/
def Op.touches (o : ObjId) (n : Name) : Op → Bool
  | .set o' n' _ => o' = o ∧ n' = n
  | .del o' n' => o' = o ∧ n' = n
  | _ => false

/-- One operation `op` (which raised after changing the object iff `br`) at the cell of attribute `n` of
object `o`, whose trait is `td`: local value, forwarder and delegate before (`dv fw dl`) and after. -/
inductive CellStep (op : Op) (br : Bool) (o : ObjId) (n : Name) (td : TraitDef) (dv : Option Val)
    (fw : Option (Option ObjId)) (dl : Option ObjId) (dv' : Option Val) (fw' : Option (Option ObjId))
    (dl' : Option ObjId) : Prop
  /-- nothing changed -/
  | same : dv' = dv → fw' = fw → dl' = dl → CellStep op br o n td dv fw dl dv' fw' dl'
  /-- a value stored into / deleted from a typed or undeclared attribute (never a deferring one) -/
  | store : NonDefer td → fw' = fw → dl' = dl → CellStep op br o n td dv fw dl dv' fw' dl'
  /-- local assignment of a prototyped attribute: value stored on the object, forwarder removed -/
  | localSet (d : DelegInfo) : td = .defer d → d.modify = false → op.touches o n = true → dv' ≠ none → fw' = none →
      dl' = dl → CellStep op br o n td dv fw dl dv' fw' dl'
  /-- local value of a prototyped attribute deleted, forwarder table untouched: the operation raised
  afterwards, or a forwarder was (unexpectedly) still there -/
  | localDel : op.touches o n = true → dv ≠ none → (br = true ∨ fw ≠ none) → dv' = none → fw' = fw → dl' = dl →
      CellStep op br o n td dv fw dl dv' fw' dl'
  /-- local value (if any) deleted and the forwarder re-installed, hooked on the delegate -/
  | relink (d : DelegInfo) : td = .defer d → op.touches o n = true → dv' = none → fw' = some dl → dl' = dl →
      CellStep op br o n td dv fw dl dv' fw' dl'
  /-- the delegate of `o` re-pointed: every forwarder of a deferring attribute is hooked on the new one -/
  | swap : dv' = dv → (fw' = fw ∨ (fw ≠ none ∧ fw' = some dl')) → (∀ d, td = .defer d → fw ≠ none → fw' = some dl') →
      CellStep op br o n td dv fw dl dv' fw' dl'

/-- The pool `p'` after `op` on `p`: same size and classes, every cell makes a `CellStep`. -/
structure Cells (p : Pool) (op : Op) (br : Bool) (p' : Pool) : Prop where
  size : p'.size = p.size
  cls : ∀ j, (p'.obj j).cls = (p.obj j).cls
  cell : ∀ j m, CellStep op br j m ((p.obj j).cls.trait m) ((p.obj j).dict m) ((p.obj j).fwd m) (p.obj j).deleg
    ((p'.obj j).dict m) ((p'.obj j).fwd m) (p'.obj j).deleg

/-- The output of one operation: its pool; no exception of a listener hook is ever swallowed (fix
bead785); the only way to raise after having changed the object is the `del` of a prototyped value
whose read-back through the link fails; and an operation that raises in any other way has done nothing. -/
structure Effect (p : Pool) (op : Op) (s : StepOut) : Prop where
  cells : Cells p op s.broken s.pool
  hookExc : s.hookExc = 0
  broken : s.broken = true → ∃ o n d, op = .del o n ∧ (p.obj o).cls.trait n = .defer d ∧ d.modify = false ∧
    (p.obj o).dict n ≠ none ∧ ∃ e, read (p.setDict o n none) (p.setDict o n none).fuel o n = .error e
  atomic : ∀ e, s.res = .error e → s.broken = false → s = fail p e

/-! ### the shapes of the pool after an operation -/

theorem Cells.refl (p : Pool) (op : Op) (br : Bool) : Cells p op br p :=
  ⟨rfl, fun _ => rfl, fun _ _ => .same rfl rfl rfl⟩

/-- The cell `(o, n)` of `p` goes to the local value `dv'` and the forwarder `fw'`, the delegate stays. -/
abbrev CellTo (p : Pool) (op : Op) (br : Bool) (o : ObjId) (n : Name) (dv' : Option Val) (fw' : Option (Option ObjId)) :
    Prop :=
  CellStep op br o n ((p.obj o).cls.trait n) ((p.obj o).dict n) ((p.obj o).fwd n) (p.obj o).deleg dv' fw' (p.obj o).deleg

theorem Cells.of_cell {p p' : Pool} {op : Op} {br : Bool} (o : ObjId) (n : Name) (hsize : p'.size = p.size)
    (hobj : ∀ j, (p'.obj j).cls = (p.obj j).cls ∧ (p'.obj j).deleg = (p.obj j).deleg)
    (hother : ∀ j m, ¬(j = o ∧ m = n) → (p'.obj j).dict m = (p.obj j).dict m ∧ (p'.obj j).fwd m = (p.obj j).fwd m)
    (h : CellTo p op br o n ((p'.obj o).dict n) ((p'.obj o).fwd n)) : Cells p op br p' := by
  refine ⟨hsize, fun j => (hobj j).1, fun j m => ?_⟩
  by_cases hc : j = o ∧ m = n
  · obtain ⟨rfl, rfl⟩ := hc
    rw [(hobj j).2]; exact h
  · exact .same (hother j m hc).1 (hother j m hc).2 (hobj j).2

variable {p : Pool} {op : Op} {br : Bool} (o : ObjId) (n : Name)

theorem Cells.of_setDict (dv' : Option Val) (h : CellTo p op br o n dv' ((p.obj o).fwd n)) :
    Cells p op br (p.setDict o n dv') :=
  .of_cell o n rfl (fun j => ⟨by simp, by simp⟩) (fun j m hc => ⟨by simp [setDict_dict, hc], by simp⟩)
    (by simpa [setDict_dict] using h)

theorem Cells.of_setFwd (fw' : Option (Option ObjId)) (h : CellTo p op br o n ((p.obj o).dict n) fw') :
    Cells p op br (p.setFwd o n fw') :=
  .of_cell o n rfl (fun j => ⟨by simp, by simp⟩) (fun j m hc => ⟨by simp, by simp [setFwd_fwd, hc]⟩)
    (by simpa [setFwd_fwd] using h)

theorem Cells.of_setBoth (dv' : Option Val) (fw' : Option (Option ObjId)) (h : CellTo p op br o n dv' fw') :
    Cells p op br ((p.setDict o n dv').setFwd o n fw') :=
  .of_cell o n rfl (fun j => ⟨by simp, by simp⟩)
    (fun j m hc => ⟨by simp [setDict_dict, hc], by simp [setFwd_fwd, hc]⟩) (by simpa [setDict_dict, setFwd_fwd] using h)

omit op in
theorem Cells.of_swap (p : Pool) (o : ObjId) (t : Option ObjId) (br : Bool) :
    Cells p (.swap o t) br (rehook (p.setDeleg o t) o (p.obj o).cls.deferNames).1 := by
  refine ⟨by rw [rehook_size]; rfl, fun j => by rw [(rehook_obj ..).1]; simp, fun j m => ?_⟩
  obtain ⟨_, h2, h3, h4⟩ := rehook_obj o (p.obj o).cls.deferNames (p.setDeleg o t) j
  rw [h2, h3, h4 m]
  simp only [setDeleg_dict, setDeleg_fwd, setDeleg_deleg]
  by_cases hj : j = o
  · subst hj
    simp only [true_and, if_true]
    refine CellStep.swap rfl ?_ fun d htd hf => ?_
    · split
      · rename_i hc; exact .inr ⟨hc.2, rfl⟩
      · exact .inl rfl
    · rw [if_pos ⟨List.mem_map_of_mem (f := (·.1)) (deferNames_mem _ _ _ htd), hf⟩]
  · simp only [hj, false_and, if_false]
    exact .same rfl rfl rfl

theorem Effect.fail (p : Pool) (op : Op) (e : Exc) : Effect p op (fail p e) :=
  ⟨Cells.refl .., rfl, nofun, fun _ h _ => by cases h; rfl⟩

theorem Effect.ok {p p' : Pool} {op : Op} (h : Cells p op false p') (r : Option Val) (evs : List Event) :
    Effect p op { pool := p', res := .ok r, events := evs } :=
  ⟨h, rfl, nofun, nofun⟩

/-! ### every operation -/

section
variable (E : Env) (k : Nat) (p : Pool) (op : Op) (x : ObjId) (t : Name)
  (hnd : NonDefer ((p.obj x).cls.trait t))
include hnd

theorem setPlain_effect (vid : Nat) (dflt : Val) (cmp : Cmp) (v : Val) :
    Effect p op (setPlain E k p x t vid dflt cmp v) := by
  unfold setPlain
  cases E.validate vid k v with
  | error e => exact .fail ..
  | ok w => exact .ok (Cells.of_setDict x t _ (.store hnd rfl rfl)) _ _

theorem delPlain_effect (dflt : Val) (cmp : Cmp) : Effect p op (delPlain E p x t dflt cmp) :=
  .ok (Cells.of_setDict x t _ (.store hnd rfl rfl)) _ _

theorem setPython_effect (v : Val) : Effect p op (setPython p x t v) :=
  .ok (Cells.of_setDict x t _ (.store hnd rfl rfl)) _ _

theorem delPython_effect : Effect p op (delPython p x t) := by
  unfold delPython
  cases (p.obj x).dict t with
  | none => exact .fail ..
  | some old => exact .ok (Cells.of_setDict x t _ (.store hnd rfl rfl)) _ _

end

/-- `_remove_trait_delegate_listener(n, False)` at the end of `del o.n`, run in the pool `p1` in which the
local value is gone: `p1` is `p` when there was none, and `p` with the value deleted otherwise (two
terms, equal only extensionally, hence the disjunction).  The forwarder is re-installed (`relink`), or
was still there — then nothing more happens, which `CellStep.localDel` records when a value was deleted. -/
theorem relink_effect {p p1 : Pool} {o : ObjId} {n : Name} {d : DelegInfo} (evs : List Event)
    (htd : (p.obj o).cls.trait n = .defer d)
    (hp1 : p1 = p ∨ (p1 = p.setDict o n none ∧ (p.obj o).dict n ≠ none)) (hdict : (p1.obj o).dict n = none) :
    Effect p (.del o n) (relink p1 o n d evs) := by
  have ht : (Op.del o n).touches o n = true := by simp [Op.touches]
  rw [relink_eq]
  rcases hp1 with rfl | ⟨rfl, hne⟩
  · cases hf : (p1.obj o).fwd n with
    | some r => exact .ok (Cells.refl ..) _ _
    | none => exact .ok (Cells.of_setFwd o n _ (CellStep.relink d htd ht hdict rfl rfl)) _ _
  · simp only [setDict_fwd, setDict_deleg]
    cases hf : (p.obj o).fwd n with
    | some r => exact .ok (Cells.of_setDict o n _ (.localDel ht hne (.inr (by simp [hf])) rfl rfl rfl)) _ _
    | none => exact .ok (Cells.of_setBoth o n _ _ (CellStep.relink d htd ht rfl rfl rfl)) _ _

theorem setDefer_effect (E : Env) (k : Nat) (p : Pool) (o : ObjId) (n : Name) (d : DelegInfo)
    (htd : (p.obj o).cls.trait n = .defer d) (v : Option Val) :
    Effect p (match v with | some v => .set o n v | none => .del o n) (setDefer E k p o n d v) := by
  have nd : ∀ {x t td}, walk p (p.obj o).cls.pfx 100 o d n = .ok (x, t, td) → NonDefer ((p.obj x).cls.trait t) :=
    fun hw => (walk_ok hw).1 ▸ (walk_ok hw).2
  have hset : ¬d.modify = true → ∀ v w, Cells p (.set o n v) false (unlink (p.setDict o n (some w)) o n) :=
    fun hm v w => Cells.of_setBoth o n _ _
      (.localSet d htd (eq_false_of_ne_true hm) (by simp [Op.touches]) nofun rfl rfl)
  have hne : ∀ {old}, (p.obj o).dict n = some old → (p.obj o).dict n ≠ none := fun h => by simp [h]
  have hgone : ((p.setDict o n none).obj o).dict n = none := by simp [setDict_dict]
  fun_cases setDefer E k p o n d v
  -- the walk along the chain fails
  · exact .fail ..
  -- DelegatesTo: the operation on the attribute at the end of the chain
  · exact setPlain_effect E k p _ _ _ (nd ‹_›) ..
  · exact delPlain_effect E p _ _ _ (nd ‹_›) ..
  · exact setPython_effect p _ _ _ (nd ‹_›) _
  · exact delPython_effect p _ _ _ (nd ‹_›)
  -- PrototypedFrom, typed target, `o.n = v`: validation fails; the old value cannot be read; stored locally
  · exact .fail ..
  · exact .fail ..
  · exact .ok (hset ‹_› _ _) _ _
  -- PrototypedFrom, typed target, `del o.n`: no local value; reading back through the link fails; relinked
  · exact relink_effect [] htd (.inl rfl) ‹_›
  · next hm _ _ _ _ hdict _ e hr _ =>
    exact ⟨Cells.of_setDict o n _ (.localDel (by simp [Op.touches]) (hne hdict) (.inl rfl) rfl rfl rfl), rfl,
      fun _ => ⟨o, n, d, rfl, htd, eq_false_of_ne_true hm, hne hdict, e, hr⟩, fun _ _ => nofun⟩
  · exact relink_effect _ htd (.inr ⟨rfl, hne ‹_›⟩) hgone
  -- PrototypedFrom, Python-level target: stored as it is; no local value to delete; relinked
  · exact .ok (hset ‹_› _ _) _ _
  · exact .fail ..
  · exact relink_effect _ htd (.inr ⟨rfl, hne ‹_›⟩) hgone

theorem step_effect (E : Env) (k : Nat) (p : Pool) (op : Op) : Effect p op (step E k p op) := by
  cases op with
  | set o n v =>
    simp only [step]
    cases htd : (p.obj o).cls.trait n with
    | plain vid dflt cmp => exact setPlain_effect E k p _ o n (by rw [htd]; nofun) vid dflt cmp v
    | python => exact setPython_effect p _ o n (by rw [htd]; nofun) v
    | defer d => exact setDefer_effect E k p o n d htd (some v)
  | del o n =>
    simp only [step]
    cases htd : (p.obj o).cls.trait n with
    | plain vid dflt cmp => exact delPlain_effect E p _ o n (by rw [htd]; nofun) dflt cmp
    | python => exact delPython_effect p _ o n (by rw [htd]; nofun)
    | defer d => exact setDefer_effect E k p o n d htd none
  | swap o t =>
    simp only [step, swap]
    split
    · exact .ok (Cells.refl ..) _ _
    · exact ⟨Cells.of_swap p o t _, rehook_snd .., nofun, nofun⟩
  | read o n =>
    simp only [step]
    cases read p p.fuel o n with
    | error e => exact .fail ..
    | ok v => exact .ok (Cells.refl ..) _ _

end TraitsVerif.Model.Deleg
