/-
The hand-written `sync_trait` of `Model/SyncLive.lean` (`linkOneS`, `linkS`,
`unlinkOneS`, `unlinkS`, `isListTrait`) is the interpretation of the programs
generated from the source text (`Generated/SyncLink.lean`), and on quiet states
it is `Model.Sync`'s `link` / `unlink`; the weak-reference callback is the
interpretation of its source text, and it is `World.kill`.
-/
import TraitsVerif.Generated.SyncLink
import TraitsVerif.Lemmas.SyncLive
namespace TraitsVerif.Model.SyncLive
open TraitsVerif TraitsVerif.Py TraitsVerif.Model TraitsVerif.Model.Sync TraitsVerif.Model.PyLSync
  TraitsVerif.Model.PyLLink

variable {α : Type}

def sigL : KWorld α × Option Exc → KWorld α × LSig
  | (k, none) => (k, .norm)
  | (k, some e) => (k, .exc e)

theorem interpL_seq (c : LCtx α) (a b : LStmt) (k : KWorld α) :
    interpL c (.seq a b) k = (match interpL c a k with | (k1, .norm) => interpL c b k1 | r => r) := rfl

theorem interpL_ite (c : LCtx α) (x : LCond) (t e : LStmt) (k : KWorld α) :
    interpL c (.ite x t e) k = if evalL c k x then interpL c t k else interpL c e k := rfl

theorem interpL_skip (c : LCtx α) (k : KWorld α) : interpL c .skip k = (k, .norm) := rfl

theorem interpL_act (c : LCtx α) (a : LAct) (k : KWorld α) : interpL c (.act a) k = doL c k a := rfl

theorem ite_norm {σ : Type} (c : Prop) [Decidable c] (a b : σ) :
    (if c then (a, LSig.norm) else (b, LSig.norm)) = (if c then a else b, LSig.norm) :=
  (apply_ite (·, LSig.norm) c a b).symm

theorem interpL_seq_norm {c : LCtx α} {a : LStmt} {k k1 : KWorld α} (h : interpL c a k = (k1, .norm))
    (b : LStmt) : interpL c (.seq a b) k = interpL c b k1 := by
  rw [interpL_seq, h]

/-- The registration half of the add path, up to and including the `setattr`. -/
theorem interpL_register [DecidableEq α] (E : Sync.Env α) (c : LCtx α) (hI : c.isList = E.isList)
    (hc : c.call = recB E) (k : KWorld α) :
    interpL c (.seq (.ite .tableEmpty (.act .hookModified) .skip)
      (.seq (.ite .isList (.act .hookItems) .skip) (.seq (.act .setKey) (.act .assignPartner)))) k =
      match recB E (regS E k c.p c.q) c.q (.assign ((regS E k c.p c.q).w.val c.p)) with
      | .ok (k4, _) => (k4, .norm)
      | .error e => (regS E k c.p c.q, .exc e) := by
  have h1 : interpL c (.ite .tableEmpty (.act .hookModified) .skip) k =
      (if (k.w.partners c.p).isEmpty then hookM k c.p else k, .norm) := by
    rw [interpL_ite]; exact ite_norm ..
  have h2 : ∀ k1, interpL c (.ite .isList (.act .hookItems) .skip) k1 =
      (if E.isList c.p && E.isList c.q then hookI k1 c.p else k1, .norm) := by
    intro k1; rw [interpL_ite]; simp only [evalL, hI]; exact ite_norm ..
  rw [interpL_seq_norm h1, interpL_seq_norm (h2 _),
    interpL_seq_norm (rfl : interpL c (.act .setKey) _ = (_, .norm)), interpL_act]
  simp only [doL, hc]
  rfl

/-- The add path, one level. -/
theorem add_path [DecidableEq α] (E : Sync.Env α) (c : LCtx α) (hI : c.isList = E.isList) (hc : c.call = recB E)
    (hr : c.remove = false) (k : KWorld α) :
    interpL c Generated.SyncLink.syncTrait k =
      match linkOneS E k c.p c.q with
      | (k1, some e) => (k1, .exc e)
      | (k1, none) => if c.both then sigL (c.rev false k1) else (k1, .norm) := by
  have h0 : ∀ s, interpL c (.ite .removeFlag s .skip) k = (k, .norm) := by
    intro s; rw [interpL_ite]; simp only [evalL, hr]; rfl
  have hlast : ∀ k1, interpL c (.ite .mutualFlag (.act (.reverse false)) .skip) k1 =
      if c.both then sigL (c.rev false k1) else (k1, .norm) := by
    intro k1
    rw [interpL_ite]
    simp only [evalL, interpL_act, interpL_skip, doL, sigL]
    cases c.rev false k1 with | mk k' ex => cases ex <;> rfl
  unfold Generated.SyncLink.syncTrait
  rw [interpL_seq_norm (h0 _), interpL_seq, interpL_ite, linkOneS_eq]
  by_cases he : (⟨c.p, c.q⟩ : Edge) ∈ k.w.edges
  · simp only [evalL, he, decide_true, Bool.not_true, Bool.false_eq_true, if_false, if_true, interpL_skip]
    exact hlast k
  · simp only [evalL, he, decide_false, Bool.not_false, if_true, if_false]
    rw [interpL_register E c hI hc]
    cases recB E (regS E k c.p c.q) c.q (.assign ((regS E k c.p c.q).w.val c.p)) with
    | error e => rfl
    | ok x => exact hlast x.1

theorem inner_add [DecidableEq α] (E : Sync.Env α) (p q : Pair) (k : KWorld α) :
    finL (interpL (innerCtx E.isList (recB E) p q false) Generated.SyncLink.syncTrait k) = linkOneS E k q p := by
  rw [add_path E (innerCtx E.isList (recB E) p q false) rfl rfl rfl k]
  simp only [innerCtx]
  cases linkOneS E k q p with
  | mk k1 ex => cases ex <;> rfl

/-- The table part of the remove path. -/
theorem rem_table (E : Sync.Env α) (c : LCtx α) (hI : c.isList = E.isList) (k : KWorld α) :
    interpL c (.ite .tableExists (.ite .keyInTable (.seq (.act .delKey)
      (.seq (.ite .tableEmpty (.seq (.act .delTable) (.act .unhookModified)) .skip)
        (.ite (.and .isList (.not .anyListPartner)) (.act .unhookItems) .skip))) .skip) .skip) k =
      (unlinkOneS E k c.p c.q, .norm) := by
  unfold unlinkOneS
  rw [interpL_ite]
  by_cases hemp : (k.w.partners c.p).isEmpty = true
  · simp only [evalL, hemp, Bool.not_true, Bool.false_eq_true, if_false, if_true, interpL_skip]
  · simp only [evalL, hemp, Bool.not_false, if_true]
    rw [interpL_ite]
    by_cases he : (⟨c.p, c.q⟩ : Edge) ∈ k.w.edges
    · simp only [evalL, he, decide_true, if_true]
      have hdel : interpL c (.act .delKey) k =
          (setEdges k (k.w.edges.filter (fun e => e ≠ (⟨c.p, c.q⟩ : Edge))), .norm) := by
        rw [interpL_act]; simp only [doL, he, if_true]
      have hgo : ∀ k1, interpL c (.ite .tableEmpty (.seq (.act .delTable) (.act .unhookModified)) .skip) k1 =
          (if (k1.w.partners c.p).isEmpty then
            { setEdges k1 (k1.w.edges.filter (fun e => e.src ≠ c.p)) with hookedM := k1.hookedM.filter (· ≠ c.p) }
           else k1, .norm) := by
        intro k1; rw [interpL_ite]; exact ite_norm ..
      rw [interpL_seq_norm hdel, interpL_seq_norm (hgo _), interpL_ite]
      simp only [evalL, hI, listPartnerLeft]
      exact ite_norm ..
    · simp only [evalL, he, decide_false, Bool.false_eq_true, if_false, interpL_skip]

/-- The remove path, one level. -/
theorem rem_path (E : Sync.Env α) (c : LCtx α) (hI : c.isList = E.isList) (hr : c.remove = true) (k : KWorld α) :
    interpL c Generated.SyncLink.syncTrait k =
      if c.both then
        (match c.rev true (unlinkOneS E k c.p c.q) with
         | (k2, none) => (k2, .ret)
         | (k2, some e) => (k2, .exc e))
      else (unlinkOneS E k c.p c.q, .ret) := by
  unfold Generated.SyncLink.syncTrait
  rw [interpL_seq, interpL_ite]
  simp only [evalL, hr, if_true]
  rw [interpL_seq_norm (rem_table E c hI k), interpL_seq, interpL_ite]
  by_cases hb : c.both = true
  · simp only [evalL, hb, if_true, interpL_act, doL]
    cases c.rev true (unlinkOneS E k c.p c.q) with
    | mk k2 ex => cases ex <;> rfl
  · simp only [evalL, hb, interpL_skip]
    rfl

theorem inner_rem (E : Sync.Env α) (call : Rec α) (p q : Pair) (k : KWorld α) :
    finL (interpL (innerCtx E.isList call p q true) Generated.SyncLink.syncTrait k) = (unlinkOneS E k q p, none) := by
  rw [rem_path E (innerCtx E.isList call p q true) rfl rfl k]
  rfl

/-! ### The source-shaped functions are `Model.Sync`'s on quiet states -/

theorem finishK_lift (k : KWorld α) (c : Except Exc (World α × Option α)) :
    (finishK k (lift k c)).world = { k with w := (finish k.w c).world } ∧
    (finishK k (lift k c)).exc = (finish k.w c).exc ∧ (finishK k (lift k c)).ret = (finish k.w c).ret := by
  cases c <;> exact ⟨rfl, rfl, rfl⟩

theorem assignK_w [DecidableEq α] (E : Sync.Env α) (k : KWorld α) (p : Pair) (v : AVal α) (hq : Quiet k) :
    (assignK E k p v).world = { k with w := (k.w.assign E p v).world } ∧
    (assignK E k p v).exc = (k.w.assign E p v).exc ∧ (assignK E k p v).ret = (k.w.assign E p v).ret := by
  unfold assignK
  rw [cascadeK_assign E _ k p v hq]
  exact finishK_lift k _

theorem mutateK_w [DecidableEq α] (E : Sync.Env α) (k : KWorld α) (p : Pair) (op : Op α) (hq : Quiet k) :
    (mutateK E k p op).world = { k with w := (k.w.mutate E p op).world } ∧
    (mutateK E k p op).exc = (k.w.mutate E p op).exc ∧ (mutateK E k p op).ret = (k.w.mutate E p op).ret := by
  unfold mutateK
  rw [cascadeK_mutate E _ k p op hq]
  exact finishK_lift k _

/-- One direction of the registration: `linkOneS` is `World.linkOne`. -/
theorem linkOneS_w [DecidableEq α] (E : Sync.Env α) (k : KWorld α) (p q : Pair) (hq : Quiet k) (hL : k.w.locked = [])
    (hd : q.1 ∉ k.dead) :
    (linkOneS E k p q).1.w = (k.w.linkOne E p q).world ∧ (linkOneS E k p q).2 = (k.w.linkOne E p q).exc ∧
    Quiet (linkOneS E k p q).1 ∧ (linkOneS E k p q).1.dead = k.dead := by
  rw [linkOneS_assignK, World.linkOne]
  by_cases he : (⟨p, q⟩ : Edge) ∈ k.w.edges
  · rw [if_pos he, if_pos he]; exact ⟨rfl, rfl, hq, rfl⟩
  · rw [if_neg he, if_neg he]
    have hreg := regS_eq E k p q
    generalize regS E k p q = k3 at hreg
    have hw : k3.w = k.w.register E p q := by rw [hreg]
    have hdead : k3.dead = k.dead := by rw [hreg]
    have hq3 : Quiet k3 := by
      refine ⟨by rw [hreg]; exact hq.1, fun e hm => ?_, ?_⟩
      · rw [hw] at hm
        rw [hdead]
        rcases List.mem_append.mp hm with hm | hm
        · exact hq.2.1 e hm
        · rw [List.mem_singleton.mp hm]; exact hd
      · rw [hw]
        exact List.nodup_append.mpr ⟨hq.2.2, by simp, fun a ha b hb => by
          rw [List.mem_singleton.mp hb]; exact fun h => he (h ▸ ha)⟩
    obtain ⟨a1, a2, -⟩ := assignK_w E k3 q (k3.w.val p) hq3
    rw [a1, a2, hw]
    exact ⟨rfl, rfl, hq3.of_edges _ ((assign_sameTabs E _ q _ (by simp [World.register, hL])).1.trans (congrArg World.edges hw.symm)), hdead⟩

theorem linkS_w [DecidableEq α] (E : Sync.Env α) (k : KWorld α) (p q : Pair) (b : Bool) (hq : Quiet k)
    (hL : k.w.locked = []) (hdp : p.1 ∉ k.dead) (hdq : q.1 ∉ k.dead) :
    (linkS E k p q b).1.w = (k.w.link E p q b).world ∧ (linkS E k p q b).2 = (k.w.link E p q b).exc ∧
    Quiet (linkS E k p q b).1 := by
  obtain ⟨h1, h2, h3, h4⟩ := linkOneS_w E k p q hq hL hdq
  have hL1 := (linkOneS_rest (n := k.swallowed) E k p q ⟨hL, rfl⟩).1
  unfold linkS World.link
  cases hl : linkOneS E k p q with
  | mk k1 ex =>
    rw [hl] at h1 h2 h3 h4 hL1
    simp only at h1 h2 h3 h4 hL1 ⊢
    rw [← h2]
    cases ex with
    | some e => exact ⟨h1, h2, h3⟩
    | none =>
      cases b
      · exact ⟨h1, h2, h3⟩
      · obtain ⟨g1, g2, g3, _⟩ := linkOneS_w E k1 q p h3 hL1 (by rw [h4]; exact hdp)
        rw [← h1]
        exact ⟨g1, g2, g3⟩

/-- When no table lists a collected object every partner left is alive. -/
theorem listPartnerLeft_tidy (E : Sync.Env α) (k : KWorld α) (p : Pair) (ht : Tidy k) :
    listPartnerLeft E k p = k.w.edges.any (fun e => decide (e.src = p) && E.isList e.dst) := by
  rw [listPartnerLeft, List.any_eq, List.any_eq]
  exact decide_eq_decide.mpr (exists_congr fun e => and_congr_right fun hm => by
    rw [decide_eq_true (ht e hm), Bool.and_true])

theorem partners_empty_filter {w : World α} {p : Pair} (h : (w.partners p).isEmpty = true) :
    w.edges.filter (fun e => e.src ≠ p) = w.edges :=
  List.filter_eq_self.mpr fun e he => decide_eq_true fun hs =>
    List.ne_nil_of_mem (mem_partners.mpr (show (⟨p, e.dst⟩ : Edge) ∈ w.edges from hs ▸ he)) (List.isEmpty_iff.mp h)

/-- One direction of the removal: `unlinkOneS` is `World.unlinkOne` when no table
lists a collected object. -/
theorem unlinkOneS_w (E : Sync.Env α) (k : KWorld α) (p q : Pair) (ht : Tidy k) :
    (unlinkOneS E k p q).w = k.w.unlinkOne E p q := by
  unfold unlinkOneS World.unlinkOne
  by_cases he : (⟨p, q⟩ : Edge) ∈ k.w.edges
  · rw [if_neg fun h => List.ne_nil_of_mem (mem_partners.mpr he) (List.isEmpty_iff.mp h), if_pos he, if_pos he]
    -- `k1`: the entry deleted; `k2`: the emptied table dropped too; `es`: the edges `unlinkOne` leaves
    extract_lets k1 k1' k2 es
    -- dropping the emptied table changes nothing in the edge list
    have hw : k2.w = { k.w with edges := es } := by
      unfold k2
      split
      · rename_i h; exact congrArg (fun es => ({ k.w with edges := es } : World α)) (partners_empty_filter h)
      · rfl
    have hdead : k2.dead = k.dead := by unfold k2; split <;> rfl
    -- the items handler goes under the same condition: every partner left is alive
    rw [listPartnerLeft_tidy E k2 p fun e hm => by
      rw [hdead]; rw [hw] at hm; exact ht e (List.mem_filter.mp hm).1, show k2.w.edges = es by rw [hw]]
    split
    · simp only [setHooked, hw]
    · exact hw
  · rw [if_neg he, if_neg he]
    split <;> rfl

theorem unlinkOne_sublist (E : Sync.Env α) (w : World α) (p q : Pair) :
    (w.unlinkOne E p q).edges.Sublist w.edges := by
  unfold World.unlinkOne
  split
  · exact List.filter_sublist
  · exact List.Sublist.refl _

theorem unlinkOneS_quiet (E : Sync.Env α) (k : KWorld α) (p q : Pair) (hq : Quiet k) :
    (unlinkOneS E k p q).w = k.w.unlinkOne E p q ∧ Quiet (unlinkOneS E k p q) := by
  have h1 := unlinkOneS_w E k p q hq.2.1
  obtain ⟨-, -, h2, h3⟩ := unlinkOneS_keeps E k p q
  refine ⟨h1, h2.trans hq.1, fun e he => ?_, ?_⟩
  · rw [h1] at he
    rw [h3]
    exact hq.2.1 e ((unlinkOne_sublist E k.w p q).subset he)
  · rw [h1]
    exact List.Nodup.sublist (unlinkOne_sublist E k.w p q) hq.2.2

theorem unlinkS_quiet (E : Sync.Env α) (k : KWorld α) (p q : Pair) (b : Bool) (hq : Quiet k) :
    (unlinkS E k p q b).w = k.w.unlink E p q b ∧ Quiet (unlinkS E k p q b) := by
  unfold unlinkS World.unlink
  obtain ⟨h1, h2⟩ := unlinkOneS_quiet E k p q hq
  cases b
  · exact ⟨h1, h2⟩
  · exact h1 ▸ unlinkOneS_quiet E (unlinkOneS E k p q) q p h2

theorem killK_quiet (k : KWorld α) (o : Nat) (hq : Quiet k) (hL : k.w.locked = []) :
    (killK k o).w = k.w.kill o ∧ Quiet (killK k o) := by
  refine ⟨rfl, hq.1, ?_, ?_⟩
  · exact (killK_shrink k o (by simp [hL])).tidy hq.2.1
  · show (k.w.kill o).edges.Nodup
    exact List.Nodup.sublist List.filter_sublist hq.2.2

/-! ### The weak-reference callback -/

theorem icb_ite (dead : Nat) (l : Bool) (c : CbCond) (x y : CbStmt) (cur : Option Pair) (t : CbTable) :
    interpCbT dead l (.ite c x y) cur t =
      (match evalCb dead l cur t c with
       | .error e => .error e
       | .ok true => interpCbT dead l x cur t
       | .ok false => interpCbT dead l y cur t) := rfl

theorem icb_seq (dead : Nat) (l : Bool) (a b : CbStmt) (cur : Option Pair) (t : CbTable) :
    interpCbT dead l (.seq a b) cur t =
      (match interpCbT dead l a cur t with
       | .ok t1 => interpCbT dead l b cur t1
       | .error e => .error e) := rfl

theorem icb_forEntries (dead : Nat) (l : Bool) (body : CbStmt) (cur : Option Pair) (t : CbTable) :
    interpCbT dead l (.forEntries body) cur t =
      t.entries.foldl (fun acc e =>
        match acc with
        | .ok t1 => interpCbT dead l body (some e) t1
        | .error x => .error x) (.ok t) := rfl

/-- The entry loop: the entries of the collected partner go. -/
theorem cb_entries (dead : Nat) : ∀ (rest S : List Pair) (d : Bool),
    rest.foldl (fun (acc : Except Exc CbTable) e =>
      match acc with
      | Except.ok t1 => interpCbT dead false (.ite .refIsEntry .delEntry .skip) (some e) t1
      | Except.error x => Except.error x) (Except.ok { entries := S, deleted := d }) =
    Except.ok { entries := S.filter (fun x => !(decide (x ∈ rest) && decide (x.1 = dead))), deleted := d } := by
  intro rest
  induction rest with
  | nil => intro S d; simp [List.filter_eq_self.mpr]
  | cons e es ih =>
    intro S d
    simp only [List.foldl_cons]
    by_cases hd : e.1 = dead
    · have : interpCbT dead false (.ite .refIsEntry .delEntry .skip) (some e) { entries := S, deleted := d } =
          Except.ok { entries := S.filter (· ≠ e), deleted := d } := by
        simp [interpCbT, evalCb, hd]
      rw [this, ih, List.filter_filter]
      congr 2
      apply List.filter_congr
      intro x _
      by_cases hx : x = e
      · subst hx; simp [hd]
      · simp [hx]
    · have : interpCbT dead false (.ite .refIsEntry .delEntry .skip) (some e) { entries := S, deleted := d } =
          Except.ok { entries := S, deleted := d } := by
        simp [interpCbT, evalCb, hd]
      rw [this, ih]
      congr 2
      apply List.filter_congr
      intro x _
      by_cases hx : x = e
      · subst hx; simp [hd]
      · simp [hx]

/-- One partner table. -/
theorem cb_table (dead : Nat) (es : List Pair) :
    interpCbT dead false (.ite .keyNotLockTable (.seq (.forEntries (.ite .refIsEntry .delEntry .skip))
      (.ite .tableEmpty .delTable .skip)) .skip) none { entries := es } =
    Except.ok { entries := es.filter (fun e => e.1 ≠ dead), deleted := (es.filter (fun e => e.1 ≠ dead)).isEmpty } := by
  have hf : es.filter (fun x => !(decide (x ∈ es) && decide (x.1 = dead))) = es.filter (fun e => e.1 ≠ dead) := by
    apply List.filter_congr
    intro x hx
    simp [hx]
  rw [icb_ite]
  simp only [evalCb, Bool.not_false]
  rw [icb_seq, icb_forEntries, cb_entries dead es es false, hf]
  simp only []
  rw [icb_ite]
  simp only [evalCb]
  cases h : (es.filter (fun e => e.1 ≠ dead)).isEmpty <;> simp [interpCbT]

theorem cb_tabs (dead : Nat) : ∀ tabs : List (Name × List Pair),
    runTabs dead (.ite .keyNotLockTable (.seq (.forEntries (.ite .refIsEntry .delEntry .skip))
      (.ite .tableEmpty .delTable .skip)) .skip) tabs =
    Except.ok ((tabs.map (fun t => (t.1, t.2.filter (fun e => e.1 ≠ dead)))).filter (fun t => !t.2.isEmpty)) := by
  intro tabs
  induction tabs with
  | nil => rfl
  | cons t ts ih =>
    obtain ⟨n, es⟩ := t
    unfold runTabs
    rw [cb_table, ih]
    simp only [List.map_cons, List.filter_cons]
    cases h : (es.filter (fun e => e.1 ≠ dead)).isEmpty <;> simp

/-- The callback (hand-written) is the interpretation of its source text: for
every `__sync_trait__` and every collected partner it raises nothing and leaves
`cbModel`. -/
theorem cbModel_is_source (dead : Nat) (i : Info) :
    interpCb dead Generated.SyncLink.listenerDeleted i = .ok (cbModel dead i) := by
  unfold Generated.SyncLink.listenerDeleted interpCb cbModel
  simp only []
  rw [cb_tabs]
  cases hl : i.lock with
  | none => rfl
  | some ns =>
    simp only [interpCbT, evalCb, Bool.not_true]
    simp [List.map_map, Function.comp_def]

/-! ### The callback on every survivor is `World.kill` -/

theorem partners_kill (w : World α) (o s : Nat) (n : Name) (hs : s ≠ o) :
    (w.kill o).partners (s, n) = (w.partners (s, n)).filter (fun e => e.1 ≠ o) := by
  unfold World.partners World.kill
  simp only [List.filter_map, List.filter_filter]
  congr 1
  apply List.filter_congr
  intro e _
  by_cases h : e.src = (s, n)
  · simp [h, hs]
  · simp [h]

theorem partners_kill_own (w : World α) (o : Nat) (n : Name) : (w.kill o).partners (o, n) = [] := by
  unfold World.partners World.kill
  simp only [List.filter_filter, List.map_eq_nil_iff, List.filter_eq_nil_iff]
  intro e _
  by_cases h : e.src = (o, n)
  · have : e.src.1 = o := by rw [h]
    simp [this]
  · simp [h]

theorem tabs_map_filter (f : List Pair → List Pair) (hf : f [] = []) (g : Name → List Pair) (ns : List Name) :
    (ns.map (fun n => (n, f (g n)))).filter (fun t => !t.2.isEmpty) =
      (((ns.map (fun n => (n, g n))).filter (fun t => !t.2.isEmpty)).map (fun t => (t.1, f t.2))).filter
        (fun t => !t.2.isEmpty) := by
  induction ns with
  | nil => rfl
  | cons n ns ih =>
    simp only [List.map_cons, List.filter_cons]
    cases hg : g n with
    | nil => simp [hf, ih]
    | cons a as =>
      simp only [List.isEmpty_cons, Bool.not_false, if_true, List.map_cons, List.filter_cons]
      rw [← hg, ih]

/-- **Per survivor**: running the callback on survivor `s`'s `__sync_trait__` gives
exactly `s`'s `__sync_trait__` after `World.kill`. -/
theorem callback_is_kill (names : List Name) (w : World α) (o s : Nat) (hs : s ≠ o) :
    infoOf names (w.kill o) s = cbModel o (infoOf names w s) := by
  unfold infoOf cbModel
  have hlock : (w.kill o).locked.filter (fun l => l.1 = s) = w.locked.filter (fun l => l.1 = s) := by
    show (w.locked.filter (fun p => p.1 ≠ o)).filter (fun l => l.1 = s) = _
    rw [List.filter_filter]
    apply List.filter_congr
    intro l _
    by_cases h : l.1 = s
    · simp [h, hs]
    · simp [h]
  simp only [hlock, partners_kill w o s _ hs]
  congr 1
  exact tabs_map_filter (fun l => l.filter (fun e => e.1 ≠ o)) rfl (fun n => w.partners (s, n)) names

theorem own_tables_dropped (names : List Name) (w : World α) (o : Nat) :
    (infoOf names (w.kill o) o).tabs = [] := by
  unfold infoOf
  simp [partners_kill_own]

end TraitsVerif.Model.SyncLive
