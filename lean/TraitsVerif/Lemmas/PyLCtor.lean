/-
The hand-written constructor models of `Model/PyLCtor.lean` are the
interpretation of the translated `__init__` bodies (`Generated/CtorProg.lean`).
The interpreter is run by the defining equations of `exec` and `eval` (a local
simp set).  `TraitList.__init__` and `TraitSet.__init__` differ in one
expression and are run once, on an arbitrary object (`exec_baseInit`); so are
the attribute assignments that open both `Trait*Object.__init__`
(`exec_objectPrelude`).
-/
import TraitsVerif.Generated.CtorProg
namespace TraitsVerif.Lemmas.PyLCtor
open TraitsVerif TraitsVerif.Model.PyLC
variable {α : Type}

theorem getVar_zero {v : Val α} {vs : Frame α} : getVar (some v :: vs) 0 = .ok v := rfl
theorem getVar_succ {a : Option (Val α)} {vs : Frame α} {i : Nat} : getVar (a :: vs) (i + 1) = getVar vs i := rfl

attribute [local simp] exec eval truthy setAttrObj getVar_zero getVar_succ

/-! ### `TraitList.__init__`, `TraitSet.__init__` -/

/-- Both base constructors, with `N` what is stored as `self.notifiers`:
`if item_validator is not None: self.item_validator = item_validator;
super().__init__(self.item_validator(item) for item in iterable);
if notifiers is not None: self.notifiers = N`. -/
def baseInit (N : Expr) : Stmt :=
  .seq (.ifS (.isNotNone (.var 1)) (.setAttr "item_validator" (.var 1)) .skip)
  (.seq (.superInitGen (.var 0))
  (.ifS (.isNotNone (.var 2)) (.setAttr "notifiers" N) .skip))

/-- The items go through the validator the object has after the first statement; `copy` is what `N`
makes of the caller's list. -/
theorem exec_baseInit {N : Expr} {copy : NSrc → NSrc} {fr : Frame α} (C : Ctx α) (xs : List α)
    (iv : Option VSrc) (ns : Option NSrc) (o : Obj α)
    (hfr : fr = [some (.iter xs), some (optVal .vfn iv), some (optVal .nlist ns)])
    (hN : ∀ (o : Obj α) a b n, eval o [a, b, some (.nlist n)] N = .ok (.nlist (copy n))) :
    exec C none (baseInit N) (fr, o) =
      match valAll (C.vOf (iv.getD o.itemValidator)) 0 xs with
      | .error e => ((fr, { o with itemValidator := iv.getD o.itemValidator }), .raised e)
      | .ok ys => ((fr, { o with
          itemValidator := iv.getD o.itemValidator, items := ys, notifiers := (ns.map copy).getD o.notifiers }), .next) := by
  have h1 : exec C none (.ifS (.isNotNone (.var 1)) (.setAttr "item_validator" (.var 1)) .skip) (fr, o) =
      ((fr, { o with itemValidator := iv.getD o.itemValidator }), .next) := by
    subst hfr
    cases iv <;> rfl
  rw [baseInit]
  cases hv : valAll (C.vOf (iv.getD o.itemValidator)) 0 xs with
  | error e => simp [↓h1, hv, hfr]
  | ok ys =>
    cases ns with
    | none => simp [↓h1, hv, hfr, optVal, Option.map_none, Option.getD_none]
    | some n => simp [↓h1, hv, hfr, optVal, hN, Option.map_some, Option.getD_some]

/-- `list(notifiers)` -/
def copyOf : NSrc → NSrc
  | .argAlias | .newEmpty => .argCopy
  | .ownAlias => .ownCopy
  | n => n

theorem finish_baseInit {N : Expr} {copy : NSrc → NSrc} (C : Ctx α) (xs : List α) (iv : Option VSrc)
    (ns : Option NSrc) (hN : ∀ (o : Obj α) a b n, eval o [a, b, some (.nlist n)] N = .ok (.nlist (copy n))) :
    runListInit ⟨3, 3, baseInit N⟩ C xs iv ns =
      match valAll (C.vOf (iv.getD .everything)) 0 xs with
      | .error e => .error e
      | .ok ys => .ok { items := ys, itemValidator := iv.getD .everything, notifiers := (ns.map copy).getD .newEmpty } := by
  unfold runListInit
  rw [if_neg (by simp)]
  refine (congrArg finish (exec_baseInit C xs iv ns {} rfl hN)).trans ?_
  cases valAll (C.vOf (iv.getD .everything)) 0 xs <;> rfl

theorem list_init_is_source (C : Ctx α) (xs : List α) (iv : Option VSrc) (ns : Option NSrc) :
    runListInit Generated.Ctor.traitListInit C xs iv ns = listInit C xs iv ns := by
  refine (finish_baseInit (copy := copyOf) C xs iv ns fun o a b n => by cases n <;> rfl).trans ?_
  rcases ns with _ | _ | _ | _ | _ | _ <;> rfl

theorem set_init_is_source (C : Ctx α) (xs : List α) (iv : Option VSrc) (ns : Option NSrc) :
    runListInit Generated.Ctor.traitSetInit C xs iv ns = setInit C xs iv ns := by
  refine (finish_baseInit (copy := id) C xs iv ns fun o a b n => rfl).trans ?_
  cases ns <;> rfl

/-! ### `TraitListObject.__init__`, `TraitSetObject.__init__` -/

/-- How both begin: `self.trait = trait; self.object = (lambda: None) if object is None else ref(object);
self.name = name; self.name_items = None;
if trait is not None and trait.has_items: self.name_items = name + "_items"`. -/
def objectPrelude (rest : Stmt) : Stmt :=
  .seq (.setAttr "trait" (.var 0))
  (.seq (.setAttr "object" (.ite (.isNone (.var 1)) .lambdaNone (.ref (.var 1))))
  (.seq (.setAttr "name" (.var 2))
  (.seq (.setAttr "name_items" .noneLit)
  (.seq (.ifS (.and (.isNotNone (.var 0)) (.attr (.var 0) "has_items"))
    (.setAttr "name_items" (.addStr (.var 2) "_items")) .skip)
  rest))))

theorem exec_objectPrelude (C : Ctx α) (sup : Option (Frame α → Obj α → Obj α × Flow)) (t : Option Bool)
    (owner : Bool) (v : Option (Val α)) (rest : Stmt) :
    exec C sup (objectPrelude rest)
        ([some (optVal .trait t), some (if owner then .owner else .none), some .name, v], {}) =
      exec C sup rest ([some (optVal .trait t), some (if owner then .owner else .none), some .name, v],
        { trait := some t, object := some owner, name := true, nameItems := some (t == some true) }) := by
  rcases t with _ | _ | _ <;> cases owner <;> rfl

/-- `super().__init__(value, item_validator=V, notifiers=[self.notifier])` where `super().__init__` is `baseInit N`. -/
theorem exec_superInit {N V : Expr} {copy : NSrc → NSrc} {fr : Frame α} {o : Obj α} (C : Ctx α) (xs : List α)
    (hN : ∀ (o : Obj α) a b n, eval o [a, b, some (.nlist n)] N = .ok (.nlist (copy n)))
    (h3 : getVar fr 3 = .ok (.iter xs)) (hV : eval o fr V = .ok (.vfn .own)) :
    finish (exec C (some fun args o =>
        let r := exec C none (baseInit N) (args ++ List.replicate (3 - 3) none, o)
        (r.1.2, r.2)) (.superInitKw (.var 3) V (.list1 (.selfAttr "notifier"))) (fr, o)) =
      match valAll C.own 0 xs with
      | .error e => .error e
      | .ok ys => .ok { o with items := ys, itemValidator := .own, notifiers := copy .ownAlias } := by
  have h := exec_baseInit C xs (some .own) (some .ownAlias) o rfl hN
  simp only [optVal, Option.getD_some, Option.map_some, Ctx.vOf] at h
  simp [h3, hV, Nat.sub_self, List.replicate_zero, List.append_nil, h]
  cases valAll C.own 0 xs <;> rfl

theorem finish_next {fr : Frame α} {o : Obj α} : finish ((fr, o), .next) = .ok o := rfl
theorem finish_raised {st : Frame α × Obj α} {e : Exc} : finish (st, .raised e) = .error e := rfl

theorem list_object_init_is_source (C : Ctx α) (t : Option Bool) (owner : Bool) (xs : List α) :
    runListObjectInit Generated.Ctor.traitListObjectInit Generated.Ctor.traitListInit C t owner xs
      = listObjectInit C t owner xs := by
  unfold runListObjectInit listObjectInit
  rw [if_neg (by decide)]
  refine (congrArg finish (exec_objectPrelude C _ t owner _ _)).trans ?_
  generalize hK : Stmt.superInitKw _ _ _ = K
  by_cases hl : C.lenOk xs.length
  · simp [hl]
    subst hK
    exact exec_superInit (copy := copyOf) C xs (fun o a b n => by cases n <;> rfl) rfl rfl
  · simp [hl, finish_raised]

theorem set_object_init_is_source (C : Ctx α) (t : Option Bool) (owner : Bool) (xs : List α) :
    runListObjectInit Generated.Ctor.traitSetObjectInit Generated.Ctor.traitSetInit C t owner xs
      = setObjectInit C t owner xs := by
  unfold runListObjectInit
  rw [if_neg (by decide)]
  refine (congrArg finish (exec_objectPrelude C _ t owner _ _)).trans ?_
  exact exec_superInit (copy := id) C xs (fun o a b n => rfl) rfl rfl

end TraitsVerif.Lemmas.PyLCtor
