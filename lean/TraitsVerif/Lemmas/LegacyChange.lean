/-
Heap mutations as "one attribute of one object loses `olds` and gains fresh
`news`": preservation of tree-shapedness and the effect on reachability
(helper lemmas for C16).
-/
import TraitsVerif.Lemmas.LegacyReach
namespace TraitsVerif.Model.Legacy
open List

/-- The objects a handler script unregisters / registers. -/
def scUnregs : List Act → List Nat
  | [] => []
  | .unreg x :: sc => x :: scUnregs sc
  | .reg _ :: sc => scUnregs sc

def scRegs : List Act → List Nat
  | [] => []
  | .unreg _ :: sc => scRegs sc
  | .reg x :: sc => x :: scRegs sc

/-- Heap `h'` is `h` with attribute `a` of `o` having lost `olds` and gained `news`;
every gained object is fresh or one of the lost ones (carried over by a reordering or
a reassignment that keeps objects: the graph stays a tree). -/
structure Change (h h' : Heap) (o : Nat) (a : Attr) (olds news : List Nat) : Prop where
  o_lt : o < h.next
  next_le : h.next ≤ h'.next
  other : ∀ p a', (p ≠ o ∨ a' ≠ a) → targets h' a' p = targets h a' p
  mem : ∀ c, c ∈ targets h' a o ↔ (c ∈ targets h a o ∧ c ∉ olds) ∨ c ∈ news
  olds_sub : ∀ c ∈ olds, c ∈ targets h a o
  news_ok : ∀ c ∈ news, (h.next ≤ c ∧ c < h'.next) ∨ c ∈ olds
  nodup' : (targets h' a o).Nodup
  olds_nodup : olds.Nodup
  news_nodup : news.Nodup
  keys' : ∀ p, ((h'.obj p).byname.map (·.1)).Nodup

variable {h h' : Heap} {o : Nat} {a : Attr} {olds news : List Nat}

theorem reach_below {L : List Link} {k j x : Nat} :
    x ∈ reach h L (k + j) ↔ ∃ c, c ∈ reach h L k ∧ x ∈ descFrom h L k c j :=
  ⟨reach_split, fun ⟨_, hc, hx⟩ => descFrom_sub_reach hc hx⟩

section
variable (hc : Change h h' o a olds news)
include hc

theorem Change.mem_targets {p a' c} :
    c ∈ targets h' a' p ↔
      (c ∈ targets h a' p ∧ ¬(p = o ∧ a' = a ∧ c ∈ olds)) ∨ (p = o ∧ a' = a ∧ c ∈ news) := by
  by_cases hpa : p = o ∧ a' = a
  · obtain ⟨rfl, rfl⟩ := hpa
    rw [hc.mem]; simp
  · rw [hc.other _ _ (Decidable.not_and_iff_not_or_not.mp hpa)]
    constructor
    · intro h1; exact Or.inl ⟨h1, fun ⟨e1, e2, _⟩ => hpa ⟨e1, e2⟩⟩
    · rintro (⟨h1, _⟩ | ⟨e1, e2, _⟩)
      · exact h1
      · exact (hpa ⟨e1, e2⟩).elim

theorem Change.same_targets (hp : news.Perm olds) (p : Nat) (a' : Attr) (c : Nat) :
    c ∈ targets h' a' p ↔ c ∈ targets h a' p := by
  rw [hc.mem_targets, hp.mem_iff]
  constructor
  · rintro (⟨h1, _⟩ | ⟨rfl, rfl, h3⟩)
    · exact h1
    · exact hc.olds_sub c h3
  · intro h1
    by_cases h2 : p = o ∧ a' = a ∧ c ∈ olds
    · exact Or.inr h2
    · exact Or.inl ⟨h1, h2⟩

/-- A change of an attribute the name does not follow at the object's depth (or
of an unreachable object) leaves reachability unchanged. -/
theorem Change.reach_off_path {L : List Link}
    (hoff : ∀ k l, o ∈ reach h L k → L[k]? = some l → l.attr ≠ a) :
    ∀ m x, x ∈ reach h' L m ↔ x ∈ reach h L m :=
  fun _ x => descFrom_congr (fun i p l _ hp hl _ => by
    rw [Nat.zero_add] at hl
    rw [hc.other _ _ (Decidable.not_and_iff_not_or_not.mp (fun ⟨e1, e2⟩ => hoff i l (e1 ▸ hp) hl e2))]) x

variable (ht : TreeShaped h)
include ht

theorem Change.tree : TreeShaped h' := by
  have old_or_new : ∀ {p a' c}, c ∈ targets h' a' p →
      (c ∈ targets h a' p) ∨ (p = o ∧ a' = a ∧ c ∈ news) := by
    intro p a' c hm
    rcases (hc.mem_targets).mp hm with ⟨h1, _⟩ | h2
    · exact Or.inl h1
    · exact Or.inr h2
  refine ⟨?_, ?_, ?_, ?_, ?_, ?_, hc.keys'⟩
  · intro p a' c hm
    rcases old_or_new hm with h1 | ⟨rfl, rfl, h3⟩
    · exact ht.up _ _ _ h1
    · rcases hc.news_ok c h3 with hf | hcar
      · have := hc.o_lt; omega
      · exact ht.up _ _ _ (hc.olds_sub c hcar)
  · -- an object that was referenced before and is gained now was referenced from `(o, a)`
    have carried : ∀ {c p a'}, c ∈ targets h a' p → c ∈ news → p = o ∧ a' = a := by
      intro c p a' h1 h2
      rcases hc.news_ok c h2 with hf | hcar
      · have := ht.bound _ _ _ h1; omega
      · exact ht.uniq _ _ _ _ _ h1 (hc.olds_sub c hcar)
    intro c o₁ a₁ o₂ a₂ h1 h2
    rcases old_or_new h1 with h1 | ⟨e1, e1', h1⟩ <;> rcases old_or_new h2 with h2 | ⟨e2, e2', h2⟩
    · exact ht.uniq _ _ _ _ _ h1 h2
    · exact ⟨(carried h1 h2).1.trans e2.symm, (carried h1 h2).2.trans e2'.symm⟩
    · exact ⟨e1.trans (carried h2 h1).1.symm, e1'.trans (carried h2 h1).2.symm⟩
    · exact ⟨e1.trans e2.symm, e1'.trans e2'.symm⟩
  · intro p a'
    by_cases hpa : p = o ∧ a' = a
    · obtain ⟨rfl, rfl⟩ := hpa; exact hc.nodup'
    · rw [hc.other _ _ (Decidable.not_and_iff_not_or_not.mp hpa)]; exact ht.nodup _ _
  · intro p a' c hm
    rcases old_or_new hm with h1 | ⟨_, _, h3⟩
    · have := ht.bound _ _ _ h1; have := hc.next_le; omega
    · rcases hc.news_ok c h3 with hf | hcar
      · exact hf.2
      · have := ht.bound _ _ _ (hc.olds_sub c hcar); have := hc.next_le; omega
  · intro p a' hp
    have hpo : p ≠ o := by have := hc.o_lt; have := hc.next_le; omega
    rw [hc.other _ _ (Or.inl hpo)]
    exact ht.empty _ _ (by have := hc.next_le; omega)
  · have := ht.pos; have := hc.next_le; omega

theorem Change.fresh_leaf {c} (hf : h.next ≤ c)
    (a' : Attr) : targets h' a' c = [] := by
  have hco : c ≠ o := by have := hc.o_lt; omega
  rw [hc.other _ _ (Or.inl hco)]
  exact ht.empty _ _ hf

/-- Below an object the changed attribute held before the change, nothing changes. -/
theorem Change.descFrom_old {L : List Link}
    {c k j x} (hco : c ∈ targets h a o) :
    x ∈ descFrom h' L k c j ↔ x ∈ descFrom h L k c j := by
  refine descFrom_congr (fun i p l _ hp _ _ => ?_) x
  have hpo : p ≠ o := by have := ht.up _ _ _ hco; have := descFrom_ge ht hp; omega
  rw [hc.other _ _ (Or.inl hpo)]

/-- Below an object reachable one level under the changed one nothing changes. -/
theorem Change.descFrom_level {L : List Link}
    {k c : Nat} (hok : o ∈ reach h L k) (hck : c ∈ reach h L (k + 1)) :
    ∀ j x, x ∈ descFrom h' L (k + 1) c j ↔ x ∈ descFrom h L (k + 1) c j := by
  refine fun j x => descFrom_congr (fun i p l _ hp _ _ => ?_) x
  have hpo : p ≠ o := by
    rintro rfl
    have := reach_unique_depth ht (descFrom_sub_reach hck hp) hok
    omega
  rw [hc.other _ _ (Or.inl hpo)]

/-- A change of the attribute the name follows at the depth `k` of a reachable object:
the subtrees of the removed objects leave, the subtrees of the added ones enter. -/
theorem Change.reach_on_path {L : List Link}
    {k : Nat} {l : Link} (hok : o ∈ reach h L k) (hl : L[k]? = some l) (hla : l.attr = a) :
    ∀ m x, x ∈ reach h' L m ↔
      (x ∈ reach h L m ∧ ¬ ∃ c ∈ olds, Below h L (k + 1) c m x) ∨ ∃ c ∈ news, Below h' L (k + 1) c m x := by
  have hlow : ∀ m, m ≤ k → ∀ x, x ∈ reach h' L m ↔ x ∈ reach h L m := by
    refine fun m hm x => descFrom_congr (fun i p l hi hp _ _ => ?_) x
    have hpo : p ≠ o := by
      rintro rfl
      have := reach_unique_depth ht hp hok; omega
    rw [hc.other _ _ (Or.inl hpo)]
  have hmid : ∀ c, c ∈ reach h' L (k + 1) ↔ (c ∈ reach h L (k + 1) ∧ c ∉ olds) ∨ c ∈ news := by
    intro c
    rw [mem_reach_succ, mem_reach_succ]
    constructor
    · rintro ⟨lm, p, hlm, hp, hx⟩
      rw [hl] at hlm; cases hlm
      have hp' := (hlow k (Nat.le_refl _) p).mp hp
      rcases (hc.mem_targets).mp hx with ⟨h1, h2⟩ | ⟨_, _, h3⟩
      · refine Or.inl ⟨⟨_, p, hl, hp', h1⟩, ?_⟩
        intro hco
        obtain ⟨rfl, e2⟩ := ht.uniq _ _ _ _ _ h1 (hc.olds_sub c hco)
        exact h2 ⟨rfl, e2, hco⟩
      · exact Or.inr h3
    · rintro (⟨⟨lm, p, hlm, hp, hx⟩, hno⟩ | hn)
      · rw [hl] at hlm; cases hlm
        refine ⟨_, p, hl, (hlow k (Nat.le_refl _) p).mpr hp, ?_⟩
        exact (hc.mem_targets).mpr (Or.inl ⟨hx, fun ⟨_, _, h3⟩ => hno h3⟩)
      · refine ⟨l, o, hl, (hlow k (Nat.le_refl _) o).mpr hok, ?_⟩
        rw [hla]; exact (hc.mem _).mpr (Or.inr hn)
  intro m x
  by_cases hm : m ≤ k
  · rw [hlow m hm x]
    constructor
    · intro hx; exact Or.inl ⟨hx, fun ⟨_, _, hb⟩ => by have := hb.1; omega⟩
    · rintro (⟨hx, _⟩ | ⟨_, _, hb⟩)
      · exact hx
      · have := hb.1; omega
  · obtain ⟨j, rfl⟩ : ∃ j, m = (k + 1) + j := ⟨m - (k + 1), by omega⟩
    simp only [below_add]
    rw [reach_below, reach_below]
    constructor
    · rintro ⟨c, hcr, hx⟩
      rcases (hmid c).mp hcr with ⟨h1, h2⟩ | h3
      · have hx' := (hc.descFrom_level ht hok h1 j x).mp hx
        exact Or.inl ⟨⟨c, h1, hx'⟩, fun ⟨c', hc', hx''⟩ => h2 (descFrom_same_depth ht hx'' hx' ▸ hc')⟩
      · exact Or.inr ⟨c, h3, hx⟩
    · rintro (⟨⟨c, h1, hx⟩, hno⟩ | ⟨c, h3, hx⟩)
      · exact ⟨c, (hmid c).mpr (Or.inl ⟨h1, fun hco => hno ⟨c, hco, hx⟩⟩),
          (hc.descFrom_level ht hok h1 j x).mpr hx⟩
      · exact ⟨c, (hmid c).mpr (Or.inr h3), hx⟩

end

end TraitsVerif.Model.Legacy
