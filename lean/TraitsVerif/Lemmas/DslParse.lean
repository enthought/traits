/-
C15 — the recursive-descent parser `run` / `parseToks` is sound and complete
for the derivation trees (`Cst` with `shape`): `parseToks_iff`.  Completeness is an induction over
`Derives` with the fuel measure `need`, soundness one over the arms of `run`.  Core Lean only.
-/
import TraitsVerif.Model.DslParse
import TraitsVerif.Lemmas.DslShape
namespace TraitsVerif.Model.Dsl

def headConn : List Tok → Bool | .conn _ :: _ => true | _ => false
def headComma : List Tok → Bool | .comma :: _ => true | _ => false
def headStar : List Tok → Bool | .star :: _ => true | _ => false

/-! ### one step of `run`, per mode -/

theorem run_pos {f : Nat} (hf : 0 < f) (m : Mode) (ts : List Tok) :
    run f m ts = run (f - 1 + 1) m ts := by
  rw [Nat.sub_add_cancel hf]

theorem run_elem_name (f n r) : run (f+1) .elem (.name n :: r) = some (.trait n, r) := rfl
theorem run_elem_items (f r) : run (f+1) .elem (.items :: r) = some (.items, r) := rfl
theorem run_elem_meta (f n r) : run (f+1) .elem (.plus :: .name n :: r) = some (.metadata n, r) := rfl
theorem run_elem_star (f r) : run f .elem (.star :: r) = none := by cases f <;> rfl
theorem run_elem_lb (f r) : run (f+1) .elem (.lb :: r) =
    match run f (.par false) r with
    | some (p, .rb :: r') => some (.group p, r')
    | _ => none := rfl

theorem run_ser (f t ts) : run (f+1) (.ser t) ts =
    if (t && headStar ts) = true then some (.any, ts.tail) else
    match run f .elem ts with
    | some (e, r) => run f (.serLoop t e) r
    | none => none := by
  cases t <;> cases ts with
  | nil => rfl
  | cons a r => cases a <;> rfl

theorem run_serLoop_conn (f t acc c r) : run (f+1) (.serLoop t acc) (.conn c :: r) =
    if (t && headStar r) = true then some (.ser acc c .any, r.tail) else
    match run f .elem r with
    | some (e, r') => run f (.serLoop t (.ser acc c e)) r'
    | none => none := by
  cases t <;> cases r with
  | nil => rfl
  | cons a r => cases a <;> rfl

theorem run_serLoop_stop (f t acc ts) (h : headConn ts = false) :
    run (f+1) (.serLoop t acc) ts = some (acc, ts) := by
  cases ts with
  | nil => rfl
  | cons a r => cases a <;> first | rfl | cases h

theorem run_par (f t ts) : run (f+1) (.par t) ts =
    match run f (.ser t) ts with
    | some (s, r) => run f (.parLoop t s) r
    | none => none := rfl

theorem run_parLoop_comma (f t acc r) : run (f+1) (.parLoop t acc) (.comma :: r) =
    match run f (.ser t) r with
    | some (s, r') => run f (.parLoop t (.par acc s)) r'
    | none => none := rfl

theorem run_parLoop_stop (f t acc ts) (h : headComma ts = false) :
    run (f+1) (.parLoop t acc) ts = some (acc, ts) := by
  cases ts with
  | nil => rfl
  | cons a r => cases a <;> first | rfl | cases h

def okSer (t : Bool) (k : Kind) : Bool := if t then k.leSerT else k.leSer
def okPar (t : Bool) (k : Kind) : Bool := t || k.lePar

theorem okSer_of_leSer {t k} (h : Kind.leSer k = true) : okSer t k = true := by
  cases t
  · exact h
  · exact leSer_leSerT h

theorem okPar_of_okSer {t k} (h : okSer t k = true) : okPar t k = true := by
  cases t
  · exact leSer_lePar h
  · rfl

/-- fuel that suffices to read the tree -/
def need : Cst → Nat
  | .trait _ => 1
  | .items => 1
  | .metadata _ => 1
  | .any => 1
  | .group p => need p + 5
  | .ser l _ r => need l + need r + 2
  | .par l r => need l + need r + 3

theorem need_pos (c : Cst) : 1 ≤ need c := by cases c <;> simp [need] <;> omega

theorem need_le (c : Cst) : need c ≤ 4 * (toks c).length := by
  induction c with
  | group p ih => simp only [need, toks, List.length_cons, List.length_append]; omega
  | ser l c r ihl ihr => simp only [need, toks, List.length_cons, List.length_append]; omega
  | par l r ihl ihr => simp only [need, toks, List.length_cons, List.length_append]; omega
  | _ => simp [need, toks]

/-! ### completeness: every derivation tree is read back from its tokens -/

/-- How a tree of kind `k` is read back from its tokens, with enough fuel.  `serC` / `parC`: the
reader of a series / of a `,` list reads `c` as its first operand and goes on into its loop with
`c` as the tree built so far — with some fuel `f'` of which at least the `g` that the caller set
aside is left.  `ser` / `parC` need `headConn more = false`: followed by a connector, `c` would
not be the whole series but the left operand of a longer one. -/
structure Complete (c : Cst) (k : Kind) : Prop where
  elem : k = .elem → ∀ f rest, need c ≤ f → run f .elem (toks c ++ rest) = some (c, rest)
  serC : k.leSer = true → ∀ t f g more, need c + g + 1 ≤ f →
      ∃ f', g ≤ f' ∧ run f (.ser t) (toks c ++ more) = run f' (.serLoop t c) more
  ser : ∀ t, okSer t k = true → ∀ f more, need c + 2 ≤ f → headConn more = false →
      run f (.ser t) (toks c ++ more) = some (c, more)
  parC : ∀ t, okPar t k = true → ∀ f g more, need c + g + 3 ≤ f → headConn more = false →
      ∃ f', g ≤ f' ∧ run f (.par t) (toks c ++ more) = run f' (.parLoop t c) more

theorem headStar_elem {c : Cst} (h : Derives c .elem) (more : List Tok) :
    headStar (toks c ++ more) = false := by
  cases h <;> rfl

theorem ser_of_serC {c : Cst} {t : Bool}
    (h : ∀ f g more, need c + g + 1 ≤ f →
      ∃ f', g ≤ f' ∧ run f (.ser t) (toks c ++ more) = run f' (.serLoop t c) more) :
    ∀ f more, need c + 2 ≤ f → headConn more = false →
      run f (.ser t) (toks c ++ more) = some (c, more) := by
  intro f more hf hm
  obtain ⟨f', hf', e⟩ := h f 1 more hf
  rw [e, run_pos hf', run_serLoop_stop _ _ _ _ hm]

theorem parC_of_ser {c : Cst} {t : Bool}
    (hser : ∀ f more, need c + 2 ≤ f → headConn more = false →
      run f (.ser t) (toks c ++ more) = some (c, more)) :
    ∀ f g more, need c + g + 3 ≤ f → headConn more = false →
      ∃ f', g ≤ f' ∧ run f (.par t) (toks c ++ more) = run f' (.parLoop t c) more := by
  intro f g more hf hm
  refine ⟨f - 1, by omega, ?_⟩
  rw [run_pos (f := f) (by omega), run_par, hser (f - 1) more (by omega) hm]

theorem Complete.of_elem {c : Cst} (hs : Derives c .elem)
    (he : ∀ f rest, need c ≤ f → run f .elem (toks c ++ rest) = some (c, rest)) :
    Complete c .elem := by
  have hserC : ∀ t f g more, need c + g + 1 ≤ f →
      ∃ f', g ≤ f' ∧ run f (.ser t) (toks c ++ more) = run f' (.serLoop t c) more := by
    intro t f g more hf
    refine ⟨f - 1, by omega, ?_⟩
    rw [run_pos (f := f) (by omega), run_ser, headStar_elem hs more, Bool.and_false,
      if_neg Bool.false_ne_true, he (f - 1) more (by omega)]
  exact {
    elem := fun _ => he
    serC := fun _ => hserC
    ser := fun t _ => ser_of_serC (hserC t)
    parC := fun t _ => parC_of_ser (ser_of_serC (hserC t)) }

theorem Complete.of_serC {c : Cst}
    (hserC : ∀ t f g more, need c + g + 1 ≤ f →
      ∃ f', g ≤ f' ∧ run f (.ser t) (toks c ++ more) = run f' (.serLoop t c) more) :
    Complete c .ser where
  elem := nofun
  serC := fun _ => hserC
  ser := fun t _ => ser_of_serC (hserC t)
  parC := fun t _ => parC_of_ser (ser_of_serC (hserC t))

/-- the kinds that are read only in the terminal variant of `series` -/
theorem Complete.of_serT {c : Cst} {k : Kind} (hk : k = .anyK ∨ k = .serT)
    (hser : ∀ f more, need c + 2 ≤ f → headConn more = false →
      run f (.ser true) (toks c ++ more) = some (c, more)) : Complete c k := by
  rcases hk with rfl | rfl <;> exact {
    elem := nofun
    serC := nofun
    ser := fun t ht => by cases t; cases ht; exact hser
    parC := fun t ht => by cases t; cases ht; exact parC_of_ser hser }

theorem Complete.of_parC {c : Cst} {k : Kind} (hk : k = .par ∨ k = .parT)
    (hparC : ∀ t, okPar t k = true → ∀ f g more, need c + g + 3 ≤ f → headConn more = false →
      ∃ f', g ≤ f' ∧ run f (.par t) (toks c ++ more) = run f' (.parLoop t c) more) :
    Complete c k := by
  rcases hk with rfl | rfl <;> exact {
    elem := nofun
    serC := nofun
    ser := fun t ht => by cases t <;> cases ht
    parC := hparC }

theorem parC_step {l r : Cst} {kl kr : Kind} (hL : Complete l kl) (hR : Complete r kr) {t : Bool}
    (htl : okPar t kl = true) (htr : okSer t kr = true) :
    ∀ f g more, need (.par l r) + g + 3 ≤ f → headConn more = false →
      ∃ f', g ≤ f' ∧ run f (.par t) (toks (.par l r) ++ more) = run f' (.parLoop t (.par l r)) more := by
  intro f g more hf hm
  simp only [need] at hf
  obtain ⟨f1, hf1, e⟩ := hL.parC t htl f (need r + g + 3) (.comma :: (toks r ++ more)) (by omega) rfl
  refine ⟨f1 - 1, by omega, ?_⟩
  rw [toks_par_append, e, run_pos (f := f1) (by omega), run_parLoop_comma,
    hR.ser t htr (f1 - 1) more (by omega) hm]

theorem Derives.complete {c : Cst} {k : Kind} (h : Derives c k) : Complete c k := by
  induction h with
  | trait n => exact .of_elem (.trait n) fun f rest hf => by rw [run_pos hf]; exact run_elem_name ..
  | items => exact .of_elem .items fun f rest hf => by rw [run_pos hf]; exact run_elem_items ..
  | metadata n => exact .of_elem (.metadata n) fun f rest hf => by rw [run_pos hf]; exact run_elem_meta ..
  | any => exact .of_serT (.inl rfl) fun f more hf _ => by rw [run_pos (f := f) (by omega)]; rfl
  | @group p _ hp hle ih =>
    refine .of_elem (.group hp hle) fun f rest hf => ?_
    simp only [need] at hf
    obtain ⟨f1, hf1, e⟩ := ih.parC false hle (f - 1) 1 (.rb :: rest) (by omega) rfl
    rw [toks_group_append, run_pos (f := f) (by omega), run_elem_lb, e, run_pos hf1,
      run_parLoop_stop _ _ _ _ rfl]
  | @serElem l r _ cn _ hle hr ihl ihr =>
    refine .of_serC fun t f g more hf => ?_
    simp only [need] at hf
    obtain ⟨f1, hf1, e⟩ := ihl.serC hle t f (need r + g + 1) (.conn cn :: (toks r ++ more)) (by omega)
    refine ⟨f1 - 1, by omega, ?_⟩
    rw [toks_ser_append, e, run_pos (f := f1) (by omega), run_serLoop_conn, headStar_elem hr more,
      Bool.and_false, if_neg Bool.false_ne_true, ihr.elem rfl (f1 - 1) more (by omega)]
  | @serAny l _ cn _ hle ihl =>
    refine .of_serT (.inr rfl) fun f more hf _ => ?_
    simp only [need] at hf
    obtain ⟨f1, hf1, e⟩ := ihl.serC hle true f 1 (.conn cn :: (toks .any ++ more)) (by omega)
    rw [toks_ser_append, e, run_pos hf1, run_serLoop_conn]
    rfl
  | par _ _ hl hr ihl ihr =>
    refine .of_parC (.inl rfl) fun t _ => parC_step ihl ihr ?_ (okSer_of_leSer hr)
    cases t
    · exact hl
    · rfl
  | parT _ _ _ hT ihl ihr =>
    refine .of_parC (.inr rfl) fun t ht => ?_
    cases t
    · cases ht
    · exact parC_step ihl ihr rfl hT

theorem complete (c : Cst) : ∀ k, shape c = some k → Complete c k :=
  fun _ h => (Derives.of_shape c h).complete

theorem parseToks_toks (c : Cst) (h : (shape c).isSome = true) : parseToks (toks c) = some c := by
  obtain ⟨k, hk⟩ := isSome_shape.mp h
  have hn := need_le c
  obtain ⟨f1, hf1, e⟩ := hk.complete.parC true rfl (fuelFor (toks c)) 1 []
    (by simp only [fuelFor]; omega) rfl
  rw [List.append_nil] at e
  rw [parseToks, e, run_pos hf1, run_parLoop_stop _ _ _ _ rfl]

/-! ### soundness: whatever is read is a derivation tree of exactly the tokens consumed -/

/-- What `run` has done when it returns `(c, rest)`: the tokens before the cursor — those of the
tree built so far in the two loop modes, none otherwise — followed by the input are the tokens
of `c` followed by `rest`; and `c` has a kind the mode allows, if the tree built so far had. -/
def Spec : Mode → List Tok → Cst → List Tok → Prop
  | .elem, ts, c, rest => ts = toks c ++ rest ∧ Derives c .elem
  | .ser t, ts, c, rest => ts = toks c ++ rest ∧ ∃ k, Derives c k ∧ okSer t k = true
  | .serLoop t acc, ts, c, rest => ∀ ka, Derives acc ka → ka.leSer = true →
      toks acc ++ ts = toks c ++ rest ∧ ∃ k, Derives c k ∧ okSer t k = true
  | .par t, ts, c, rest => ts = toks c ++ rest ∧ ∃ k, Derives c k ∧ okPar t k = true
  | .parLoop t acc, ts, c, rest => ∀ ka, Derives acc ka → okPar t ka = true →
      toks acc ++ ts = toks c ++ rest ∧ ∃ k, Derives c k ∧ okPar t k = true

theorem derives_par_ok {t l r kl kr} (hl : Derives l kl) (hr : Derives r kr)
    (hkl : okPar t kl = true) (hkr : okSer t kr = true) :
    ∃ k, Derives (.par l r) k ∧ okPar t k = true := by
  cases hpp : (kl.lePar && kr.leSer) with
  | true =>
    rw [Bool.and_eq_true] at hpp
    exact ⟨.par, .par hl hr hpp.1 hpp.2, Bool.or_true t⟩
  | false =>
    cases t
    · rw [show (kl.lePar && kr.leSer) = true from Bool.and_eq_true _ _ ▸ ⟨hkl, hkr⟩] at hpp
      cases hpp
    · exact ⟨.parT, .parT hl hr hpp hkr, rfl⟩

theorem sound : ∀ f mode ts c rest, run f mode ts = some (c, rest) → Spec mode ts c rest := by
  intro f mode ts
  fun_induction run f mode ts <;> intro c rest h
  -- element: NAME | "items" | "+" NAME | "[" parallel "]"
  case case2 f n r => cases h; exact ⟨rfl, .trait n⟩
  case case3 => cases h; exact ⟨rfl, .items⟩
  case case4 f n r => cases h; exact ⟨rfl, .metadata n⟩
  case case5 f r p r' hp ih =>
    cases h
    obtain ⟨e, k, hk, hok⟩ := ih _ _ hp
    exact ⟨by rw [e, toks_group_append], .group hk hok⟩
  -- series: `*` alone (terminal variant), or an element and then the loop
  case case8 => cases h; exact ⟨rfl, .anyK, .any, rfl⟩
  case case9 f t ts e r he _ ihe ihl =>
    rw [he] at h
    obtain ⟨e1, hse⟩ := ihe _ _ he
    exact e1 ▸ ihl _ _ h .elem hse rfl
  case case10 he _ _ => rw [he] at h; cases h
  -- the series loop: connector and `*` (terminal variant) | connector and element, again | stop
  case case11 f acc cn r =>
    cases h
    exact fun ka hka hle => ⟨(toks_ser_append acc cn .any r).symm, .serT, .serAny cn hka hle, rfl⟩
  case case12 f t acc cn r e r' he _ ihe ihl =>
    intro ka hka hle
    rw [he] at h
    obtain ⟨e1, hse⟩ := ihe _ _ he
    rw [e1, ← toks_ser_append]
    exact ihl _ _ h .ser (.serElem cn hka hle hse) rfl
  case case13 he _ _ => rw [he] at h; cases h
  case case14 =>
    cases h
    exact fun ka hka hle => ⟨rfl, ka, hka, okSer_of_leSer hle⟩
  -- `,` list: a series and then the loop
  case case15 f t ts s r hs ihs ihl =>
    obtain ⟨e1, ks, hks, hoks⟩ := ihs _ _ hs
    exact e1 ▸ ihl _ _ h ks hks (okPar_of_okSer hoks)
  -- the `,` loop: comma and series, again | stop
  case case17 f t acc r s r' hs ihs ihl =>
    intro ka hka hoka
    obtain ⟨e1, ks, hks, hoks⟩ := ihs _ _ hs
    obtain ⟨kp, hkp, hokp⟩ := derives_par_ok hka hks hoka hoks
    rw [e1, ← toks_par_append]
    exact ihl _ _ h kp hkp hokp
  case case19 =>
    cases h
    exact fun ka hka hoka => ⟨rfl, ka, hka, hoka⟩
  -- out of fuel; no alternative of `element` applies; a failed recursive call
  all_goals cases h

theorem parseToks_sound (ts : List Tok) (c : Cst) (h : parseToks ts = some c) :
    toks c = ts ∧ (shape c).isSome = true := by
  rw [parseToks] at h
  split at h
  · rename_i c' hr
    cases h
    obtain ⟨e, k, hk, _⟩ := sound _ _ _ _ _ hr
    exact ⟨by rw [e, List.append_nil], isSome_shape.mpr ⟨k, hk⟩⟩
  · cases h

theorem parseToks_iff {ts : List Tok} {c : Cst} :
    parseToks ts = some c ↔ toks c = ts ∧ (shape c).isSome = true :=
  ⟨parseToks_sound ts c, fun ⟨e, h⟩ => e ▸ parseToks_toks c h⟩

end TraitsVerif.Model.Dsl
