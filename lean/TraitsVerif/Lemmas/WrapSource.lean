/-
The notifier wrappers (`Generated/WrapProg.lean`, language `Model/PyW.lean`) against `Model/Wrappers.lean`'s filters
and `Model.Attr.callWrapper`: one lemma per translated function, by symbolic execution of the interpreter.

`hOut` is what the user's handler does: the exception it raised, if any, and the object state it leaves.  The interpreter's
call of it (`invoke_eq`) and the model (`callWrapper_eq`, `callWrapper_observe`, `dispatchSem_eq`) are stated through it, so
that a wrapper which calls the handler is run once, with the simp set `pyw`: the interpreter's arms as stated here, `try`
left out.  `exec_try_handler` is the one place where control depends on the handler; what is split there is the re-raise
flag and `hOut`'s result.  The filters, `equals` and `init` branch on their inputs inside expressions: there the cases
come first, and each is run (`exec` by definition for `try`, `self.a = …`, `raise`).
-/
import TraitsVerif.Generated.WrapProg
import TraitsVerif.Lemmas.SimpAttr
import TraitsVerif.Lemmas.AttrBasic
namespace TraitsVerif.Lemmas.WrapSource
open TraitsVerif TraitsVerif.Model.Attr TraitsVerif.Model.PyW
open TraitsVerif.Generated

/-- The user's handler on object state `s`: the exception it raised, if any, and the object state it leaves (the call
logged; a handler that unregisters its wrapper takes it out of the list, which a static wrapper is not in). -/
def hOut (C : WC) (s : OSt) : Option Exc × OSt :=
  let s1 : OSt := { s with ctx := { s.ctx with log := s.ctx.log ++ [⟨s.self, C.n.h, C.old, C.new⟩] } }
  match C.E.handler C.n.h s.ctx.log.length (C.old, C.new) with
  | .ok .stay => (none, s1)
  | .ok .removeSelf => (none, if C.n.kind = .static then s1 else s1.removeSelf C.n C.loc)
  | .error e => (some e, s1)

def excVal : Option Exc → Except Exc Val
  | none => .ok .none
  | some e => .error e

theorem invoke_eq (C : WC) (ms : MS) : invoke C ms = (excVal (hOut C ms.s).1, { ms with s := (hOut C ms.s).2 }) := by
  unfold invoke hOut
  dsimp only
  rcases C.E.handler C.n.h ms.s.ctx.log.length (C.old, C.new) with e | _ | _ <;> rfl

section
variable (C : WC) (ms : MS)
theorem exec_pass : exec C .pass ms = (ms, .next) := rfl
theorem exec_seq (a b) : exec C (.seq a b) ms = match exec C a ms with | (ms1, .next) => exec C b ms1 | r => r := rfl
theorem exec_assign (i e) : exec C (.assign i e) ms = match eval C e ms with
    | (.ok v, ms1) => if v = .stuck then (ms1, .returned .stuck) else ({ ms1 with vars := setVar ms1.vars i v }, .next)
    | (.error x, ms1) => (ms1, .raised x) := rfl
theorem exec_expr (e) : exec C (.expr e) ms = match eval C e ms with
    | (.ok v, ms1) => if v = .stuck then (ms1, .returned .stuck) else (ms1, .next)
    | (.error x, ms1) => (ms1, .raised x) := rfl
theorem exec_if (c t e) : exec C (.ifS c t e) ms = match eval C c ms with
    | (.ok v, ms1) => if v = .stuck then (ms1, .returned .stuck) else if truthy v then exec C t ms1 else exec C e ms1
    | (.error x, ms1) => (ms1, .raised x) := rfl
theorem exec_ret (e) : exec C (.ret e) ms = match eval C e ms with
    | (.ok v, ms1) => (ms1, .returned v)
    | (.error x, ms1) => (ms1, .raised x) := rfl
end

/-- `try: f(args) except Exception [as v]: h else: o` where `f(args)` calls the user's handler: the handler's outcome
decides which of `h`, `o` runs, from the machine state of before with the handler's object state. -/
theorem exec_try_handler {C : WC} {ms : MS} {f args v h o} (hcall : eval C (.call f args) ms = invoke C ms) :
    exec C (.tryS (.expr (.call f args)) v h o) ms =
      match (hOut C ms.s).1 with
      | none => exec C o { ms with s := (hOut C ms.s).2 }
      | some x =>
        match exec C h { ms with s := (hOut C ms.s).2, cur := some x,
                                 vars := match v with | some i => setVar ms.vars i .exc | none => ms.vars } with
        | (ms3, f) => ({ ms3 with cur := ms.cur }, f) := by
  rw [exec, exec_expr, hcall, invoke_eq]
  cases (hOut C ms.s).1
  · rfl
  · simp only [excVal]
    generalize exec C h _ = r
    rcases r with ⟨ms3, _ | _ | _⟩ <;> rfl

attribute [pyw] Model.PyW.run exec_pass exec_seq exec_assign exec_expr exec_if exec_ret
  eval evalArgs bindArgs setVar truthy getGlob getAttr callFn triVal traitKindMembers comparisonModeMembers List.lookup
  Kind.toNat CMode.toNat invoke_eq

theorem change_accepted_is_source (C : WC) (old new : Id) (s : OSt) :
    Model.PyW.run C WrapProg.change_accepted [.object, .name, .id old, .id new] s
      = (.ok (.bool (changeAccepted C.E.cmp C.t.kind C.t.flags old new)),
         if old = uninit then s else s.ensureItrait) := by
  unfold changeAccepted changeAcceptedCmp eqMode
  by_cases ho : old = uninit
  · simp [pyw, WrapProg.change_accepted, ho]
  · cases hk : C.t.kind
    · by_cases hm : comparisonModeInt C.t.flags = 2
      · cases hn : C.E.cmp.neq old new <;> simp [pyw, exec, WrapProg.change_accepted, ho, hk, hm, hn]
      · have hm' : ¬ ((comparisonModeInt C.t.flags : Nat) : Int) = 2 := by omega
        simp [pyw, WrapProg.change_accepted, ho, hk, hm, hm']
    · simp [pyw, WrapProg.change_accepted, ho, hk]

theorem prevent_event_is_source (C : WC) (s : OSt) :
    Model.PyW.run C WrapProg.ctrait_prevent_event [.event] s
      = (.ok (.bool (preventEvent C.E.cmp C.t.kind C.t.flags C.old C.new)), s) := by
  unfold preventEvent eqMode
  by_cases ho : C.old = uninit
  · simp [pyw, WrapProg.ctrait_prevent_event, ho]
  · cases hk : C.t.kind
    · by_cases hm : comparisonModeInt C.t.flags = 2
      · cases hn : C.E.cmp.eqv C.old C.new <;> simp [pyw, exec, WrapProg.ctrait_prevent_event, ho, hk, hm, hn]
      · have hm' : ¬ ((comparisonModeInt C.t.flags : Nat) : Int) = 2 := by omega
        simp [pyw, WrapProg.ctrait_prevent_event, ho, hk, hm, hm']
    · simp [pyw, WrapProg.ctrait_prevent_event, ho, hk]

/-- what of the handler's outcome reaches `call_notifiers` when `handle_exception` re-raises (`b`) or swallows -/
def reraise (b : Bool) (r : Option Exc × OSt) : Except Exc Val × OSt := (if b then excVal r.1 else .ok .none, r.2)

theorem callWrapper_eq (C : WC) (s : OSt) (hk : C.n.kind ≠ .observe) :
    ofWrapper (callWrapper C.E C.t C.n C.loc C.old C.new s) =
      if changeAccepted C.E.cmp C.t.kind C.t.flags C.old C.new
      then reraise C.E.reraiseLegacy (hOut C (if C.old = uninit then s else s.ensureItrait))
      else (.ok .none, if C.old = uninit then s else s.ensureItrait) := by
  unfold callWrapper changeAccepted
  split
  · exact absurd ‹_› hk
  · by_cases ho : C.old = uninit
    · simp [ho, ofWrapper]
    · cases changeAcceptedCmp C.E.cmp C.t.kind C.t.flags C.old C.new
      · simp [ho, ofWrapper]
      · simp only [ho, if_false, Bool.not_true, Bool.false_eq_true, if_true, hOut, reraise, ensureItrait_self]
        rcases C.E.handler C.n.h s.ensureItrait.ctx.log.length (C.old, C.new) with e | _ | _ <;>
        cases C.E.reraiseLegacy <;> rfl

theorem callWrapper_observe (C : WC) (s : OSt) (hk : C.n.kind = .observe) :
    ofWrapper (callWrapper C.E C.t C.n C.loc C.old C.new s) =
      if preventEvent C.E.cmp C.t.kind C.t.flags C.old C.new then (.ok .none, s)
      else reraise C.E.reraiseObserve (hOut C s) := by
  unfold callWrapper hOut reraise
  simp only [hk]
  split
  · rfl
  · rcases C.E.handler C.n.h s.ctx.log.length (C.old, C.new) with e | _ | _ <;> cases C.E.reraiseObserve <;> rfl

theorem static_call_is_source (C : WC) (s : OSt) (hk : C.n.kind = .static) :
    Model.PyW.run C WrapProg.AbstractStaticChangeNotifyWrapper_call [.self, .object, .name, .id C.old, .id C.new] s
      = ofWrapper (callWrapper C.E C.t C.n C.loc C.old C.new s) := by
  rw [callWrapper_eq C s (by simp [hk])]
  -- the run stops at the `try`, for which `pyw` has no equation
  simp [pyw, WrapProg.AbstractStaticChangeNotifyWrapper_call]
  rw [exec_try_handler (by simp [pyw])]
  cases changeAccepted C.E.cmp C.t.kind C.t.flags C.old C.new
  · rfl
  · cases hrl : C.E.reraiseLegacy <;> simp [pyw, hrl, reraise] <;>
    generalize hOut C _ = r <;> rcases r with ⟨_ | e, s'⟩ <;> rfl

/-- what `callFn` takes `self._dispatch_change_event(object, name, old, new, handler)` to be -/
def dispatchSem (C : WC) (s : OSt) : Except Exc Val × OSt :=
  match invoke C { vars := fun _ => .stuck, s := s } with
  | (.error e, ms1) => if C.E.reraiseLegacy then (.error e, ms1.s) else (.ok .none, ms1.s)
  | (r, ms1) => (r, ms1.s)

theorem dispatchSem_eq (C : WC) (s : OSt) : dispatchSem C s = reraise C.E.reraiseLegacy (hOut C s) := by
  unfold dispatchSem reraise
  rw [invoke_eq]
  generalize hOut C _ = r
  rcases r with ⟨_ | e, s'⟩ <;> cases C.E.reraiseLegacy <;> rfl

theorem dispatch_is_source (C : WC) (s : OSt) (sels : List Sel) (o n : Id) :
    Model.PyW.run C WrapProg.TraitChangeNotifyWrapper_dispatch [.self, .handler, .tuple sels o n] s
      = (match invoke C { vars := fun _ => .stuck, s := s } with | (r, ms1) => (r, ms1.s)) := by
  simp [pyw, WrapProg.TraitChangeNotifyWrapper_dispatch]
  cases (hOut C s).1 <;> rfl

theorem dispatch_change_event_is_source (C : WC) (s : OSt) :
    Model.PyW.run C WrapProg.TraitChangeNotifyWrapper_dispatch_change_event
        [.self, .object, .name, .id C.old, .id C.new, .handler] s = dispatchSem C s := by
  rw [dispatchSem_eq]
  simp [pyw, WrapProg.TraitChangeNotifyWrapper_dispatch_change_event]
  rw [exec_try_handler (by simp [pyw])]
  cases hrl : C.E.reraiseLegacy <;> simp [pyw, hrl, reraise] <;>
  generalize hOut C _ = r <;> rcases r with ⟨_ | e, s'⟩ <;> rfl

theorem notify_function_is_source (C : WC) (s : OSt) (hk : C.n.kind = .dynamic) :
    Model.PyW.run C WrapProg.TraitChangeNotifyWrapper_notify_function_listener
        [.self, .object, .name, .id C.old, .id C.new] s
      = ofWrapper (callWrapper C.E C.t C.n C.loc C.old C.new s) := by
  rw [callWrapper_eq C s (by simp [hk])]
  simp [pyw, WrapProg.TraitChangeNotifyWrapper_notify_function_listener, reraise]
  cases changeAccepted C.E.cmp C.t.kind C.t.flags C.old C.new
  · rfl
  · generalize hOut C _ = r; rcases r with ⟨_ | e, s'⟩ <;> cases C.E.reraiseLegacy <;> rfl

theorem notify_method_is_source (C : WC) (s : OSt) (hk : C.n.kind = .dynamic) (k : Nat) (hn : C.wrapName = some k)
    (ha : C.ownerAlive = true) :
    Model.PyW.run C WrapProg.TraitChangeNotifyWrapper_notify_method_listener
        [.self, .object, .name, .id C.old, .id C.new] s
      = ofWrapper (callWrapper C.E C.t C.n C.loc C.old C.new s) := by
  rw [callWrapper_eq C s (by simp [hk])]
  simp [pyw, WrapProg.TraitChangeNotifyWrapper_notify_method_listener, reraise, hn, ha]
  cases changeAccepted C.E.cmp C.t.kind C.t.flags C.old C.new
  · rfl
  · generalize hOut C _ = r; rcases r with ⟨_ | e, s'⟩ <;> cases C.E.reraiseLegacy <;> rfl

theorem dynamic_call_is_source (C : WC) (s : OSt) :
    Model.PyW.run C WrapProg.TraitChangeNotifyWrapper_call [.self, .object, .name, .id C.old, .id C.new] s
      = ofWrapper (callWrapper C.E C.t C.n C.loc C.old C.new s) := by
  rcases h : callWrapper C.E C.t C.n C.loc C.old C.new s with ⟨_ | e, s'⟩ <;>
  simp [pyw, ofWrapper, WrapProg.TraitChangeNotifyWrapper_call, h]

theorem observe_call_is_source (C : WC) (s : OSt) (hk : C.n.kind = .observe) :
    Model.PyW.run C WrapProg.TraitEventNotifier_call [.self, .args, .args] s
      = ofWrapper (callWrapper C.E C.t C.n C.loc C.old C.new s) := by
  rw [callWrapper_observe C s hk]
  simp [pyw, WrapProg.TraitEventNotifier_call]
  cases preventEvent C.E.cmp C.t.kind C.t.flags C.old C.new
  · simp only [Bool.false_eq_true, if_false]
    rw [exec_try_handler (by simp [pyw])]
    cases hro : C.E.reraiseObserve <;> simp [pyw, hro, reraise] <;>
    generalize hOut C _ = r <;> rcases r with ⟨_ | e, s'⟩ <;> rfl
  · rfl

/-- the value `equals` receives for a candidate handler -/
def candVal : Cand → Val
  | .self => .self
  | _ => .cand

/-- When does a wrapper stand for a given handler (`on_trait_change` registration / removal look-up)?  The wrapper
itself; a bound method: same method name and the SAME listener object (identity — equal-but-distinct listener objects
are different handlers; seeded change C02-m13 compared them with `==`); otherwise a function wrapper whose function
is that very function. -/
def equalsSpec (C : WC) : Bool :=
  match C.cand with
  | .self => true
  | .method (some o) k => decide (C.wrapName = some k) && decide (C.wrapOwner = some o)
  | c => C.wrapName.isNone && decide (c = .func C.wrapFn)

theorem equals_is_source (C : WC) (s : OSt) :
    Model.PyW.run C WrapProg.TraitChangeNotifyWrapper_equals [.self, candVal C.cand] s
      = (.ok (.bool (equalsSpec C)), s) := by
  unfold equalsSpec
  rcases hc : C.cand with _ | f | ⟨_ | o, k⟩
  · simp [pyw, WrapProg.TraitChangeNotifyWrapper_equals, candVal]
  · cases hn : C.wrapName <;> simp [pyw, WrapProg.TraitChangeNotifyWrapper_equals, candVal, hc, hn]
  · cases hn : C.wrapName <;> simp [pyw, WrapProg.TraitChangeNotifyWrapper_equals, candVal, hc, hn]
  · rcases hn : C.wrapName with _ | k' <;> rcases ho : C.wrapOwner with _ | o'
    · simp [pyw, WrapProg.TraitChangeNotifyWrapper_equals, candVal, hc, hn]
    · simp [pyw, WrapProg.TraitChangeNotifyWrapper_equals, candVal, hc, hn]
    · by_cases hk : k = k' <;> simp [pyw, WrapProg.TraitChangeNotifyWrapper_equals, candVal, hc, hn, ho, hk] <;>
        simp [eq_comm, hk]
    · by_cases hk : k = k' <;> by_cases hoo : o = o' <;>
        simp [pyw, WrapProg.TraitChangeNotifyWrapper_equals, candVal, hc, hn, ho, hk, hoo] <;> simp_all [eq_comm]

/-- The dead-owner path of a method wrapper: the weak reference no longer refers to the listener object — nobody is
called (the log is untouched), nothing is raised; only `_change_accepted`'s look-up of the instance trait happened. -/
theorem notify_method_dead (C : WC) (s : OSt) (hd : C.ownerAlive = false) :
    Model.PyW.run C WrapProg.TraitChangeNotifyWrapper_notify_method_listener
        [.self, .object, .name, .id C.old, .id C.new] s
      = (.ok .none, if C.old = uninit then s else s.ensureItrait) := by
  simp [pyw, WrapProg.TraitChangeNotifyWrapper_notify_method_listener, hd]
  cases changeAccepted C.E.cmp C.t.kind C.t.flags C.old C.new <;> rfl

/-- `listener_deleted` (the weak reference's callback): the wrapper takes itself out of the notifier list it sits in;
nothing is raised (a wrapper that is no longer there is not an error). -/
theorem listener_deleted_is_source (C : WC) (s : OSt) :
    Model.PyW.run C WrapProg.TraitChangeNotifyWrapper_listener_deleted [.self, .weak] s
      = (.ok .none, s.removeSelf C.n C.loc) := by
  simp [pyw, exec, WrapProg.TraitChangeNotifyWrapper_listener_deleted]

/-- what a handler of the given arity receives from each wrapper class: the source's tables -/
theorem argument_transforms_are_source :
    WrapProg.TraitChangeNotifyWrapper_argument_transforms
      = [(0, []), (1, [.new]), (2, [.name, .new]), (3, [.obj, .name, .new]), (4, [.obj, .name, .old, .new])]
    ∧ WrapProg.StaticTraitChangeNotifyWrapper_argument_transforms
      = [(0, []), (1, [.obj]), (2, [.obj, .new]), (3, [.obj, .old, .new]), (4, [.obj, .name, .old, .new])]
    ∧ WrapProg.StaticAnytraitChangeNotifyWrapper_argument_transforms
      = [(0, []), (1, [.obj]), (2, [.obj, .name]), (3, [.obj, .name, .new]), (4, [.obj, .name, .old, .new])] :=
  ⟨rfl, rfl, rfl⟩

/-! ### `ExtendedTraitChangeNotifyWrapper` (the internal wrappers of extended-name listeners): no `_change_accepted`
filter (an `Uninitialized` old value and an equal new value are passed on, no instance trait is created), no tracers;
everything else as for `TraitChangeNotifyWrapper`. -/

theorem ext_dispatch_change_event_is_source (C : WC) (s : OSt) :
    Model.PyW.run C WrapProg.ExtendedTraitChangeNotifyWrapper_dispatch_change_event
        [.self, .object, .name, .id C.old, .id C.new, .handler] s = dispatchSem C s := by
  rw [dispatchSem_eq]
  simp [pyw, WrapProg.ExtendedTraitChangeNotifyWrapper_dispatch_change_event]
  rw [exec_try_handler (by simp [pyw])]
  cases hrl : C.E.reraiseLegacy <;> simp [pyw, hrl, reraise] <;>
  generalize hOut C _ = r <;> rcases r with ⟨_ | e, s'⟩ <;> rfl

theorem ext_notify_function_is_source (C : WC) (s : OSt) :
    Model.PyW.run C WrapProg.ExtendedTraitChangeNotifyWrapper_notify_function_listener
        [.self, .object, .name, .id C.old, .id C.new] s = dispatchSem C s := by
  rw [dispatchSem_eq]
  simp [pyw, WrapProg.ExtendedTraitChangeNotifyWrapper_notify_function_listener, reraise]
  generalize hOut C _ = r; rcases r with ⟨_ | e, s'⟩ <;> cases C.E.reraiseLegacy <;> rfl

theorem ext_notify_method_is_source (C : WC) (s : OSt) (k : Nat) (hn : C.wrapName = some k) :
    Model.PyW.run C WrapProg.ExtendedTraitChangeNotifyWrapper_notify_method_listener
        [.self, .object, .name, .id C.old, .id C.new] s
      = if C.ownerAlive then dispatchSem C s else (.ok .none, s) := by
  rw [dispatchSem_eq]
  cases ha : C.ownerAlive <;>
  simp [pyw, WrapProg.ExtendedTraitChangeNotifyWrapper_notify_method_listener, reraise, hn, ha]
  generalize hOut C _ = r; rcases r with ⟨_ | e, s'⟩ <;> cases C.E.reraiseLegacy <;> rfl

/-! ### `TraitChangeNotifyWrapper.init` -/

/-- What `init(handler, owner, target)` does, case by case: a bound method with a live `__self__` gets a weak
reference to its owner (callback `listener_deleted`), the method NAME, the notifier list, the METHOD listener and the
transform for `co_argcount - 1` arguments; anything else (a function, a method without `__self__`) gets — after the
weak reference to `target`, for a function with a target — no name, the handler itself, the FUNCTION listener and the
transform for `co_argcount` arguments; more than four arguments: `TraitNotificationError`, raised before a listener
or a transform is installed.  Returned: the argument count. -/
def initSpec (C : WC) (target : Bool) : Except Exc Val × List (Model.PyW.Attr × Val) :=
  match C.cand with
  | .method (some _) k =>
    let pre := [(Model.PyW.Attr.object, Val.weak), (.name, .nameV k), (.owner, .ownerList)]
    if (C.candArgc : Int) - 1 > 4 then (.error .other, pre)
    else (.ok (.int ((C.candArgc : Int) - 1)),
          pre ++ [(.notify_listener, .listenerRef true), (.argument_transform, .xformV ((C.candArgc : Int) - 1))])
  | c =>
    let pre := if (target && (match c with | .func _ => true | _ => false)) = true
      then [(Model.PyW.Attr.object, Val.weak), (.owner, .ownerList)] else []
    if (C.candArgc : Int) > 4 then (.error .other, pre)
    else (.ok (.int C.candArgc),
          pre ++ [(.name, .none), (.handler, .cand), (.notify_listener, .listenerRef false),
                  (.argument_transform, .xformV C.candArgc)])

theorem init_is_source (C : WC) (s : OSt) (target : Bool) (hc : C.cand ≠ .self) (h1 : 1 ≤ C.candArgc) :
    runInit C WrapProg.TraitChangeNotifyWrapper_init
        [.self, candVal C.cand, .ownerList, if target then .target else .none] s = initSpec C target := by
  rcases hcand : C.cand with _ | f | ⟨_ | o, k⟩
  · exact absurd hcand hc
  · by_cases hg : (C.candArgc : Int) > 4 <;> cases target <;>
    simp [pyw, exec, runInit, WrapProg.TraitChangeNotifyWrapper_init, candVal, initSpec, hcand, hg]
  -- a method, with or without `__self__`, never looks at `target`
  · by_cases hg : (C.candArgc : Int) > 4 <;>
    simp [pyw, exec, runInit, WrapProg.TraitChangeNotifyWrapper_init, candVal, initSpec, hcand, hg]
  · by_cases hg : (C.candArgc : Int) - 1 > 4
    · simp [pyw, exec, runInit, WrapProg.TraitChangeNotifyWrapper_init, candVal, initSpec, hcand, hg]
    · have a2 : (1 : Int) ≤ (C.candArgc : Int) := by omega
      have a3 : (C.candArgc : Int) - 1 ≤ 4 := by omega
      simp [pyw, exec, runInit, WrapProg.TraitChangeNotifyWrapper_init, candVal, initSpec, hcand, hg, a2, a3]
end TraitsVerif.Lemmas.WrapSource
