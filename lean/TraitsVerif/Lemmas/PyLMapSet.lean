/-
The hand-written model `SetM.TraitSet.step` is the interpretation of the
translated source (`Generated/MapSetProg.lean` `traitSetProg`): each method body is
run by `simp` with the interpreter's equations
(`Lemmas/PyLMapExec.lean`), split where the model splits: on the validator's
verdict, on membership, on whether something was removed / added.
-/
import TraitsVerif.Generated.MapSetProg
import TraitsVerif.Lemmas.PyLMapExec
namespace TraitsVerif.Lemmas.PyLMS
open TraitsVerif TraitsVerif.Py TraitsVerif.Model.SetM TraitsVerif.Model.PyLM TraitsVerif.Model.PyLM.S
open TraitsVerif.Py.PSet (insert erase union ofList inter diff symm popChoice Op)
variable {α : Type} [DecidableEq α]

attribute [local simp] Generated.traitSetProg runTraitSetOp opCall opHint TraitSet.step notifyRemoved notifyAdded
  symParts

theorem ts_step_is_source (v : Callback α α) (s : PSet α) (op : Op α) :
    runTraitSetOp Generated.traitSetProg v s op = summaryOfStep s op (TraitSet.step v s op) := by
  -- a non-set operand of an in-place operator: `NotImplemented`, nothing removed
  have hno : diff s s = [] := by simp [diff, List.filter_eq_nil_iff]
  cases op with
  | add x =>
    simp -implicitDefEqProofs
    cases hv : v 0 x with
    | error e => simp -implicitDefEqProofs
    | ok y => by_cases hy : y ∈ s <;> simp -implicitDefEqProofs [hy]
  | discard x | remove x =>
    simp -implicitDefEqProofs
    by_cases hx : x ∈ s <;> simp -implicitDefEqProofs [hx]
  | pop hint =>
    simp -implicitDefEqProofs
    cases popChoice s hint <;> simp -implicitDefEqProofs
  | clear =>
    simp -implicitDefEqProofs
    cases ofList s <;> simp -implicitDefEqProofs
  | update args =>
    simp -implicitDefEqProofs
    cases hv : valAll v 0 args.flatten with
    | error e => simp -implicitDefEqProofs
    | ok ys =>
      simp -implicitDefEqProofs
      cases diff (ofList ys) s <;> simp -implicitDefEqProofs
  | differenceUpdate args =>
    simp -implicitDefEqProofs
    cases diff s (args.foldl diff s) <;> simp -implicitDefEqProofs
  | intersectionUpdate args =>
    simp -implicitDefEqProofs
    cases diff s (args.foldl inter s) <;> simp -implicitDefEqProofs
  | symmetricDifferenceUpdate xs =>
    simp -implicitDefEqProofs
    generalize hR : inter s (ofList xs) = R
    cases hv : valAll v 0 (diff (ofList xs) R) with
    | error e => simp -implicitDefEqProofs
    | ok ws =>
      simp -implicitDefEqProofs
      cases R <;> cases diff (ofList ws) s <;> simp -implicitDefEqProofs
  | ior b xs =>
    cases b with
    | false => simp -implicitDefEqProofs [hno]
    | true =>
      simp -implicitDefEqProofs
      cases hv : valAll v 0 xs with
      | error e => simp -implicitDefEqProofs
      | ok ys =>
        simp -implicitDefEqProofs
        cases diff (union s (ofList ys)) s <;> simp -implicitDefEqProofs
  | iand b xs =>
    cases b with
    | false => simp -implicitDefEqProofs [hno]
    | true =>
      simp -implicitDefEqProofs
      cases diff s (inter s xs) <;> simp -implicitDefEqProofs
  | isub b xs =>
    cases b with
    | false => simp -implicitDefEqProofs [hno]
    | true =>
      simp -implicitDefEqProofs
      cases diff s (diff s xs) <;> simp -implicitDefEqProofs
  | ixor b xs =>
    cases b with
    | false => simp -implicitDefEqProofs
    | true =>
      simp -implicitDefEqProofs
      generalize hR : inter s (ofList xs) = R
      cases hv : valAll v 0 (diff (ofList xs) R) with
      | error e => simp -implicitDefEqProofs
      | ok ws =>
        simp -implicitDefEqProofs
        cases R <;> cases diff (ofList ws) s <;> simp -implicitDefEqProofs

/-! ### `TraitSetObject._validator` -/

omit [DecidableEq α] in
attribute [local simp] V.runValidator Generated.traitSetObjectValidator V.exec V.eval V.getVar V.setVar V.truthy
  TraitSetObject.validator Except.map in
theorem tso_validator_is_source (σ : TSOSelf) (inner : Bool → Callback α α) (n : Nat) (x : α) :
    V.runValidator Generated.traitSetObjectValidator σ inner n x = TraitSetObject.validator σ inner n x := by
  obtain ⟨o, t⟩ := σ
  rcases o with _ | alive
  · cases t <;> simp
  rcases t with _ | _ | _
  · simp
  · cases alive <;> simp <;> (cases inner _ n x with
      | ok y => simp
      | error e => by_cases he : e = .traitError <;> simp [he])
  · simp

end TraitsVerif.Lemmas.PyLMS
