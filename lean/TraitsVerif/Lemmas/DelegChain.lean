/-
Chains of deferral: reading follows a chain of linked deferring attributes to its end; the walk of
`setattr_delegate` follows the same chain when the class prefixes used by '*' styles agree, up to the
100-step recursion limit.
-/
import TraitsVerif.Lemmas.DelegPool
namespace TraitsVerif.Model.Deleg

/-- `Chain p P k o n x t`: `k` deferral steps lead from attribute `n` of `o` to attribute `t` of `x`;
every level is *linked* (no local value, a delegate is set), names are computed as a read does (each
level's own class), and every level `(object, DelegInfo)` satisfies `P`. -/
inductive Chain (p : Pool) (P : ObjId → DelegInfo → Prop) : Nat → ObjId → Name → ObjId → Name → Prop
  | zero (o : ObjId) (n : Name) : Chain p P 0 o n o n
  | succ {k : Nat} {o : ObjId} {n : Name} {d : DelegInfo} {y x : ObjId} {t : Name} :
      (p.obj o).dict n = none → (p.obj o).cls.trait n = .defer d → (p.obj o).deleg = some y → P o d →
      Chain p P k y (attrName d (p.obj o).cls.pfx n) x t → Chain p P (k + 1) o n x t

/-- `WChain p q k o n x t`: `k` steps as `setattr_delegate` takes them: traits and delegate
references only, names computed with the one class prefix `q` of the object the walk started on. -/
inductive WChain (p : Pool) (q : Option Name) : Nat → ObjId → Name → ObjId → Name → Prop
  | zero (o : ObjId) (n : Name) : WChain p q 0 o n o n
  | succ {k : Nat} {o : ObjId} {n : Name} {d : DelegInfo} {y x : ObjId} {t : Name} :
      (p.obj o).cls.trait n = .defer d → (p.obj o).deleg = some y →
      WChain p q k y (attrName d q n) x t → WChain p q (k + 1) o n x t

/-- A '*' style level uses the class prefix `q` (the condition under which the read chain and the
write walk name the same attributes). -/
def StarAgree (p : Pool) (q : Option Name) (o : ObjId) (d : DelegInfo) : Prop :=
  d.ptype = .className → (p.obj o).cls.pfx = q

/-- Two pools, because the callers read in the pool after a step and know the trait from the pool before. -/
theorem read_defer {p p' : Pool} {o : ObjId} {n : Name} {d : DelegInfo} {y : ObjId}
    (hcls : (p'.obj o).cls = (p.obj o).cls) (hd : (p'.obj o).dict n = none)
    (htd : (p.obj o).cls.trait n = .defer d) (hy : (p'.obj o).deleg = some y) (f : Nat) :
    read p' (f + 1) o n = read p' f y (attrName d (p.obj o).cls.pfx n) := by
  simp only [read, hd, hcls, htd, hy]

theorem step_set_of_walk {E : Env} {i : Nat} {p : Pool} {o : ObjId} {n : Name} {d : DelegInfo} {v : Val} {x : ObjId}
    {t : Name} {td : TraitDef} (htd : (p.obj o).cls.trait n = .defer d) (hm : d.modify = true)
    (hw : walk p (p.obj o).cls.pfx 100 o d n = .ok (x, t, td)) :
    step E i p (.set o n v) = step E i p (.set x t v) := by
  obtain ⟨rfl, hnd⟩ := walk_ok hw
  simp only [step, htd, setDefer, hw, hm, if_true]
  cases htx : (p.obj x).cls.trait t with
  | defer d' => exact absurd htx (hnd d')
  | plain vid dflt cmp => rfl
  | python => rfl

theorem chain_read {p : Pool} {P : ObjId → DelegInfo → Prop} {k : Nat} {o : ObjId} {n : Name} {x : ObjId} {t : Name}
    (h : Chain p P k o n x t) : ∀ f, read p (k + f) o n = read p f x t := by
  induction h with
  | zero => intro f; simp
  | succ hd htd hy _ _ ih =>
    intro f
    rw [Nat.add_right_comm]
    simp only [read, hd, htd, hy]
    exact ih f

theorem chain_wchain {p : Pool} {q : Option Name} {k : Nat} {o : ObjId} {n : Name} {x : ObjId} {t : Name}
    (h : Chain p (StarAgree p q) k o n x t) : WChain p q k o n x t := by
  induction h with
  | zero => exact .zero ..
  | @succ k o n d y x t hd htd hy hP _ ih =>
    refine .succ htd hy ?_
    have : attrName d q n = attrName d (p.obj o).cls.pfx n := by
      unfold attrName
      cases hpt : d.ptype <;> simp only []
      rw [hP hpt]
    rw [this]; exact ih

theorem wchain_head_defer {p : Pool} {q : Option Name} {k : Nat} {o : ObjId} {n : Name} {x : ObjId} {t : Name}
    (h : WChain p q k o n x t) {d' : DelegInfo} (hx : (p.obj x).cls.trait t = .defer d') :
    ∃ d, (p.obj o).cls.trait n = .defer d := by
  cases h with
  | zero => exact ⟨d', hx⟩
  | succ htd _ _ => exact ⟨_, htd⟩

theorem wchain_walk {p : Pool} {q : Option Name} {x : ObjId} {t : Name} (hnd : NonDefer ((p.obj x).cls.trait t))
    {k : Nat} {o : ObjId} {n : Name} (h : WChain p q k o n x t) :
    ∀ (d : DelegInfo) (f : Nat), (p.obj o).cls.trait n = .defer d → k ≤ f →
      walk p q f o d n = .ok (x, t, (p.obj x).cls.trait t) := by
  induction h with
  | zero o n => exact fun d _ htd _ => absurd htd (hnd d)
  | @succ k o n d' y x t htd' hy hrest ih =>
    intro d f htd hf
    rw [htd] at htd'; cases htd'
    obtain ⟨f, rfl⟩ : ∃ f', f = f' + 1 := ⟨f - 1, by omega⟩
    cases hrest with
    | zero => exact walk_end hy hnd
    | succ htd2 hy2 hrest2 => rw [walk_defer hy htd2]; exact ih hnd _ f htd2 (by omega)

theorem wchain_walk_limit {p : Pool} {q : Option Name} {x : ObjId} {t : Name} {d' : DelegInfo}
    (hx : (p.obj x).cls.trait t = .defer d') {k : Nat} {o : ObjId} {n : Name} (h : WChain p q k o n x t) :
    ∀ (d : DelegInfo) (f : Nat), (p.obj o).cls.trait n = .defer d → f ≤ k → walk p q f o d n = .error .traitError := by
  induction h with
  | zero o n =>
    intro d f _ hf
    obtain rfl : f = 0 := by omega
    rfl
  | @succ k o n d1 y x t htd' hy hrest ih =>
    intro d f htd hf
    rw [htd] at htd'; cases htd'
    cases f with
    | zero => rfl
    | succ f =>
      obtain ⟨d2, htd2⟩ := wchain_head_defer hrest hx
      rw [walk_defer hy htd2]; exact ih hx d2 f htd2 (by omega)

end TraitsVerif.Model.Deleg
