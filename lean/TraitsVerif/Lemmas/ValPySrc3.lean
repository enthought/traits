/-
Source tie of the Python-level validate methods, the methods with loops (Union and TraitCompound:
first alternative that does not raise TraitError; Tuple: generator over `zip`; BaseTuple:
`enumerate` / `append`; TraitCoerceType: the coercible types), each loop by one induction, and
the assembly `srcPy_eq6` over all covered trait types.
-/
import TraitsVerif.Lemmas.ValPySrc2
namespace TraitsVerif.Model.PyVSrc
open TraitsVerif TraitsVerif.Py.Value TraitsVerif.Model.Val TraitsVerif.Generated.PyValidators
variable (C : Ctx) (v : Val)

/-! ## The alternatives loops: Union, TraitCompound -/

/-- First result that is not a TraitError; TraitError when there is none. -/
def firstOk (v : Val) : List (Val → Res) → Res
  | [] => .traitError
  | g :: gs => match g v with | .traitError => firstOk v gs | r => r

/-- The alternatives loop (`for x in xs: try: return x(...) except TraitError: pass`),
stated on the semantics of its body. -/
theorem forEach_first {R : Type} (step : (Val → Res) → List PV → (List PV → R) → R)
    (kn : List PV → R) (kr : PV → R) (ke : PExc → R) (a b c d : PV) (v : Val) (K : R)
    (hb : ∀ g x kn', step g [a, b, c, d, x] kn' =
      match g v with
      | .ok w => kr (.val w)
      | .traitError => kn' [a, b, c, d, .fnv g]
      | .raised e => if e = .traitError then kn' [a, b, c, d, .fnv g] else ke (.ex e))
    (hkn : ∀ x, kn [a, b, c, d, x] = K) :
    ∀ (gs : List (Val → Res)) (x : PV), (∀ g ∈ gs, g v ≠ .raised .traitError) →
      forEach step gs [a, b, c, d, x] kn =
      match firstOk v gs with
      | .ok w => kr (.val w)
      | .traitError => K
      | .raised e => ke (.ex e)
  | [], x, _ => hkn x
  | g :: gs, x, hte => by
    have ih := forEach_first step kn kr ke a b c d v K hb hkn gs (.fnv g) fun g' hg' => hte g' (List.mem_cons_of_mem _ hg')
    rw [forEach, hb, firstOk]
    cases hgv : g v with
    | ok w => rfl
    | traitError => exact ih
    | raised e =>
      have : e ≠ .traitError := fun he => hte g List.mem_cons_self (by rw [hgv, he])
      simp only [this, if_false]

/-- A method of the shape `for x in self.attr: try: return x(object, name, value) except
TraitError: pass`, then `rest`: the first validator in `self.attr` that does not raise
TraitError decides; `rest` runs if there is none. -/
theorem run_alternatives (attr : String) (call : Expr) (rest : Stmt) (gs : List (Val → Res)) (K : MRes)
    (hcfg : C.cfg attr = .fns gs)
    (hcall : ∀ g (k : PV → MRes) ke, evalE C call [.self_, .hobj, .name, .val v, .fnv g] k ke =
      callFn (.fnv g) [.hobj, .name, .val v] k ke)
    (hrest : ∀ x, exec C rest [.self_, .hobj, .name, .val v, x] (fun _ => .ret (.val Val.none)) MRes.ret MRes.exc = K)
    (hte : ∀ g ∈ gs, g v ≠ .raised .traitError) :
    runMethod C ⟨4, 5, .seq (.forIn 4 (.selfAttr attr)
        (.try_ (.ret call) (.cons (.names ["TraitError"]) .pass .nil))) rest⟩ [.self_, .hobj, .name, .val v] =
      match firstOk v gs with
      | .ok w => .ret (.val w)
      | .traitError => K
      | .raised e => .exc (.ex e) := by
  pyv_eval [hcfg]
  refine forEach_first _ _ _ _ _ _ _ _ v K (fun g x kn' => ?_) hrest gs _ hte
  pyv_eval [hcall, callFn_fnv, specMatches_traitError, decide_eq_true_eq]
  cases g v <;> rfl

theorem run_Union (gs : List (Val → Res)) (hcfg : C.cfg "list_ctrait_instances" = .fns gs)
    (hte : ∀ g ∈ gs, g v ≠ .raised .traitError) :
    runMethod C m_Union_validate [.self_, .hobj, .name, .val v] = resToM (firstOk v gs) :=
  (run_alternatives C v _ _ _ gs (.exc .te) hcfg (fun g k ke => by pyv_eval []) (fun x => by pyv_eval []) hte).trans
    (by cases firstOk v gs <;> rfl)

theorem run_slow_validate (gs : List (Val → Res)) (hcfg : C.cfg "slow_validates" = .fns gs)
    (hte : ∀ g ∈ gs, g v ≠ .raised .traitError) :
    runMethod C m_TraitCompound_slow_validate [.self_, .hobj, .name, .val v] = resToM (firstOk v gs) :=
  (run_alternatives C v _ _ _ gs (.exc .te) hcfg (fun g k ke => by pyv_eval []) (fun x => by pyv_eval []) hte).trans
    (by cases firstOk v gs <;> rfl)

theorem run_TraitCompound (gs : List (Val → Res)) (r : Res) (hcfg : C.cfg "validates" = .fns gs)
    (hc : C.callM "TraitCompound.slow_validate" [.self_, .hobj, .name, .val v] = resToM r)
    (hte : ∀ g ∈ gs, g v ≠ .raised .traitError) :
    runMethod C m_TraitCompound_validate [.self_, .hobj, .name, .val v] =
      resToM (match firstOk v gs with | .traitError => r | x => x) :=
  (run_alternatives C v _ _ _ gs (resToM r) hcfg (fun g k ke => by pyv_eval [])
    (fun x => by pyv_eval []; exact callOut_resToM C _ _ _ hc) hte).trans (by cases firstOk v gs <;> rfl)

/-! ## Tuple: the generator over `zip(types, value)` -/

/-- Element-wise validation (what the generator over `zip(types, value)` computes). -/
def elemsL : List (Val → Res) → List Val → Except (Option Exc) (List Val)
  | g :: gs, b :: bs =>
    match g b with
    | .traitError => .error none
    | .raised e => .error (some e)
    | .ok a => match elemsL gs bs with | .error x => .error x | .ok as => .ok (a :: as)
  | _, _ => .ok []

theorem ctraitValidateL_eq (E : Env) (items : List TraitType) (vs : List Val) :
    ctraitValidateL E items vs = elemsL (items.map (fun t => ctraitValidate E t)) vs := by
  induction items generalizing vs with
  | nil => cases vs <;> simp [ctraitValidateL, elemsL]
  | cons t ts ih =>
    cases vs with
    | nil => simp [ctraitValidateL, elemsL]
    | cons b bs =>
      simp only [ctraitValidateL, List.map_cons, elemsL]
      have hct : ctraitValidateWith E (descOf E t) (hasPy t) (fun x => pyValidate E t x) b = ctraitValidate E t b := rfl
      rw [hct, ih]
      cases ctraitValidate E t b <;> rfl

theorem map_pvToVal : ∀ ws : List Val, List.map pvToVal (List.map PV.val ws) = ws
  | [] => rfl
  | w :: ws => by simp [pvToVal, map_pvToVal ws]

theorem zipEval_callFn {R : Type} : ∀ (gs : List (Val → Res)) (vs : List Val) (k : List PV → R) (ke : PExc → R),
    zipEval (fun g b k' ke' => callFn (.fnv g) [.hobj, .name, .val b] k' ke') gs vs k ke =
      match elemsL gs vs with
      | .ok ws => k (ws.map PV.val)
      | .error none => ke .te
      | .error (some e) => ke (.ex e)
  | [], _, _, _ | _ :: _, [], _, _ => rfl
  | g :: gs, b :: bs, k, ke => by
    rw [zipEval, callFn_fnv, elemsL]
    cases g b with
    | traitError | raised e => rfl
    | ok a =>
      simp only [zipEval_callFn gs bs]
      cases elemsL gs bs with
      | ok ws => rfl
      | error x => cases x <;> rfl

theorem run_Tuple (items : List TraitType) (hcfg : C.cfg = selfCfgE C.E (.tuple items))
    (hte : ∀ t ∈ items, ∀ x, ctraitValidate C.E t x ≠ .raised .traitError) :
    runMethod C m_Tuple_validate [.self_, .hobj, .name, .val v] = resToM (pyValidate C.E (.tuple items) v) := by
  pyv_eval [m_Tuple_validate, hcfg, cfgE_tuple_ntc, cfgE_tuple_types]
  rcases v with a | ⟨sub, vs⟩ | ws
  · simp only [isInst_tuple_atom, Bool.false_eq_true, if_false]; rfl
  · pyv_eval [isInst_tuple_tuple]
    rw [zipEval_callFn]
    simp only [pyValidate, ctraitValidateL_eq, List.length_map, Int.natCast_inj, decide_eq_true_eq, apply_ite resToM,
      map_pvToVal, specMatches_traitError, ite_self]
    congr 1
    cases hel : elemsL (items.map fun t => ctraitValidate C.E t) vs with
    | ok ws => rfl
    | error x =>
      cases x with
      | none => rfl
      | some e =>
        obtain ⟨t, ht, b, hb⟩ := ctraitValidateL_raised C.E items vs e ((ctraitValidateL_eq ..).trans hel)
        have hne : e ≠ .traitError := fun he => hte t ht b (he ▸ hb)
        simp only [hne, if_false]; rfl
  · rfl

/-! ## BaseTuple: the `enumerate` / `append` loop -/

/-- The loop `for i, t in enumerate(types): out.append(t.validate(object, name, value[i]))` from index `n` on,
stated on what one round does (`hstep`): it validates `vs[n], vs[n+1], …` with `gs` and appends the results. -/
theorem forEachI_validate {R : Type} (step : Nat → (Val → Res) → List PV → (List PV → R) → R) (kn : List PV → R)
    (ke : PExc → R) (s t : PV) (sub : Bool) (vs : List Val) (K : List PV → R)
    (hstep : ∀ n g acc x y kn', step n g [s, .hobj, .name, .val (.tuple sub vs), t, .lst acc, x, y] kn' =
      match g (vs.getD n Val.none) with
      | .ok w => kn' [s, .hobj, .name, .val (.tuple sub vs), t, .lst (acc ++ [.val w]), .int n, .fnv g]
      | .traitError => ke .te
      | .raised e => ke (.ex e))
    (hkn : ∀ acc x y, kn [s, .hobj, .name, .val (.tuple sub vs), t, .lst acc, x, y] = K acc) :
    ∀ (gs : List (Val → Res)) (n : Nat) (acc : List PV) (x y : PV), n + gs.length ≤ vs.length →
      forEachI step n gs [s, .hobj, .name, .val (.tuple sub vs), t, .lst acc, x, y] kn =
      match elemsL gs (vs.drop n) with
      | .ok ws => K (acc ++ ws.map PV.val)
      | .error none => ke .te
      | .error (some e) => ke (.ex e)
  | [], n, acc, x, y, _ => by rw [forEachI, hkn]; cases vs.drop n <;> simp [elemsL]
  | g :: gs, n, acc, x, y, hlen => by
    have hn : n < vs.length := by simp only [List.length_cons] at hlen; omega
    have hget : vs.getD n Val.none = vs[n] := by simp [List.getD_eq_getElem?_getD, hn]
    rw [forEachI, hstep, List.drop_eq_getElem_cons hn, elemsL, hget]
    cases g vs[n] with
    | traitError | raised e => rfl
    | ok w =>
      simp only [forEachI_validate step kn ke s t sub vs K hstep hkn gs (n + 1) _ _ _ (by simp only [List.length_cons] at hlen; omega)]
      cases elemsL gs (vs.drop (n + 1)) with
      | ok ws => simp
      | error o => cases o <;> rfl

/-- The loop over the item CTraits of a BaseTuple, under its bare `except`: the new tuple, or TraitError. -/
theorem forEachI_ctraits (C : Ctx) (E : Env) (kn : List PV → MRes) (kr : PV → MRes) (s t : PV) (items : List TraitType)
    (sub : Bool) (vs : List Val) (hl : vs.length = items.length)
    (hkn : ∀ acc x y, kn [s, .hobj, .name, .val (.tuple sub vs), t, .lst acc, x, y] =
      .ret (.val (.tuple false (acc.map (fun x => match x with | .val v => v | _ => Val.none))))) :
    forEachI (fun n g σ' kn' =>
        exec C (.append 5 (.attrCall (.loc 7) "validate" [.loc 1, .loc 2, .subscript (.loc 3) (.loc 6)]))
          ((σ'.set 6 (.int n)).set 7 (.fnv g)) kn' kr (fun _ => .exc .te))
      0 (items.map (fun t => ctraitValidate E t)) [s, .hobj, .name, .val (.tuple sub vs), t, .lst [], .undef, .undef] kn =
    match ctraitValidateL E items vs with
    | .ok ws => .ret (.val (.tuple false ws))
    | .error _ => .exc .te := by
  rw [forEachI_validate _ kn (fun _ => .exc .te) s t sub vs _ (fun n g acc x y kn' => ?_) hkn _ 0 [] .undef .undef (by simp [hl]),
    ctraitValidateL_eq, List.drop_zero]
  · cases elemsL (items.map fun t => ctraitValidate E t) vs with
    | ok ws => exact congrArg (fun l => MRes.ret (.val (.tuple false l))) (map_pvToVal ws)
    | error o => cases o <;> rfl
  · pyv_eval [callFn_fnv, Int.toNat_natCast]
    cases g (vs.getD n Val.none) <;> rfl

section
variable (E : Env)
theorem baseTuple_core (items : List TraitType) (vs : List Val) (sub : Bool) (hl : vs.length = items.length) :
    forEachI
        (fun n g σ' kn' =>
          exec (C := ⟨E, selfCfgE E (.baseTuple items), runL E (selfCfgE E (.baseTuple items)) 2⟩)
            (.append 5 (.attrCall (.loc 7) "validate" [(.loc 1), (.loc 2), (.subscript (.loc 3) (.loc 6))]))
            ((σ'.set 6 (.int n)).set 7 (.fnv g)) kn' (fun v => MRes.ret v) (fun _ => MRes.exc .te))
        0 (items.map (fun t => ctraitValidate E t))
        [.self_, .hobj, .name, .val (.tuple sub vs), .fns (items.map (fun t => ctraitValidate E t)), .lst [], .undef, .undef]
        (fun σ => match σ.getD 5 .undef with
          | .lst xs => MRes.ret (.val (.tuple false (xs.map (fun x => match x with | .val v => v | _ => Val.none))))
          | _ => MRes.ret .undef) =
      match ctraitValidateL E items vs with
      | .ok ws => MRes.ret (.val (.tuple false ws))
      | .error _ => MRes.exc .te :=
  forEachI_ctraits _ E _ _ _ _ items sub vs hl fun _ _ _ => rfl
end

theorem run_BaseTuple (items : List TraitType) (hcfg : C.cfg = selfCfgE C.E (.baseTuple items)) :
    runMethod C m_BaseTuple_validate [.self_, .hobj, .name, .val v] = resToM (pyValidate C.E (.baseTuple items) v) := by
  rw [m_BaseTuple_validate]
  generalize hB : Stmt.append 5 _ = B
  pyv_eval [hcfg, cfgE_baseTuple_ntc, cfgE_baseTuple_types]
  rcases v with a | ⟨sub, vs⟩ | vs
  · simp only [isInst_tuple_atom, isInst_list_atom, Bool.false_eq_true, if_false]; rfl
  all_goals
    pyv_eval [isInst_tuple_tuple, isInst_list_tuple, isInst_list_list, pyValidate, List.length_map, Int.natCast_inj,
      decide_eq_true_eq, apply_ite resToM]
    subst hB
    split
    · rename_i hl
      rw [forEachI_ctraits C C.E _ _ _ _ items _ vs hl fun acc _ _ => builtin_tuple_lst C _ _ acc]
      cases ctraitValidateL C.E items vs <;> rfl
    · rfl

/-! ## TraitCoerceType: the loop over the coercible types -/

/-- The loop `for typ in fast_validate[2:]: if tv is typ: return fast_validate[1](value)`, stated on what one
round does (`hstep`); `f` is how the coercible types are stored. -/
theorem forEachPV_coerce {R : Type} (step : PV → List PV → (List PV → R) → R) (K hit : R) (s h n T : PV)
    (f : Option Ty → PV) (hn : f none = .val Val.none) (hs : ∀ t, f (some t) = .ty t)
    (hstep : ∀ x y kn', step x [s, h, n, .val v, T, .tyOf v, y] kn' =
      if pvIs (.tyOf v) x then hit else kn' [s, h, n, .val v, T, .tyOf v, x]) :
    ∀ (rest : List (Option Ty)) (y : PV),
      forEachPV step (rest.map f) [s, h, n, .val v, T, .tyOf v, y] (fun _ => K) =
      if rest.any (fun t => match t with | some t => Val.exactTy t v | none => false) then hit else K
  | [], _ => rfl
  | o :: rest, y => by
    rw [List.map_cons, forEachPV, hstep, forEachPV_coerce step K hit s h n T f hn hs hstep rest, List.any_cons]
    cases o with
    | none => rw [hn]; rfl
    | some t => cases h : Val.exactTy t v <;> simp only [hs, pvIs_tyOf, h] <;> rfl

theorem run_TraitCoerceType (ty : Ty) (hcfg : C.cfg = selfCfg (.coerceH ty)) :
    runMethod C m_TraitCoerceType_validate [.self_, .hobj, .name, .val v] = resToM (pyValidate C.E (.coerceH ty) v) := by
  rw [m_TraitCoerceType_validate]
  generalize hB : Stmt.ite (.is (.loc 5) (.loc 6)) _ _ = B
  pyv_eval [hcfg, cfg_coerceH]
  rw [List.drop_succ_cons, List.drop_succ_cons, List.drop_zero,
    forEachPV_coerce v _ _ (ofExcept (C.E.cast ty v) MRes.ret MRes.exc) _ _ _ _ _ rfl (fun _ => rfl)
      fun x y kn' => by subst hB; pyv_eval []]
  simp only [pyValidate, pyCoerceValidate]
  cases Val.exactTy ty v
  · cases (coerceRest ty).any _
    · rfl
    · cases C.E.cast ty v <;> rfl
  · rfl

/-! ## Assembly -/

section
variable (E : Env)

theorem firstOk_eq (v : Val) (gs : List (Val → Res)) : firstOk v gs = firstAccept (gs.map (· v)) := by
  induction gs with
  | nil => rfl
  | cons g gs ih => rw [firstOk, List.map_cons, firstAccept_cons, ih]; cases g v <;> rfl

theorem unionFirst_eq (alts : List TraitType) (v : Val) :
    unionFirst E alts v = firstOk v (alts.map (fun t => ctraitValidate E t)) := by
  rw [firstOk_eq, unionFirst_eq_firstAccept, List.map_map]; rfl

theorem firstOk_append (v : Val) (as bs : List (Val → Res)) :
    firstOk v (as ++ bs) = match firstOk v as with | .traitError => firstOk v bs | r => r := by
  simp only [firstOk_eq, List.map_append, firstAccept_append]
  cases firstAccept _ <;> rfl

/-- `(name, m)` is an entry of the translated table. -/
macro "table_mem" : tactic => `(tactic| simp only [table, List.mem_cons, true_or, or_true])

/-- What `handler.validate(object, name, v)` is, given the method the handler's class
defines, its place in the table, and what running it gives. -/
theorem srcPy_of_run {t : TraitType} {name : String} {m : Method} {v : Val} {r : Res} (hm : pyMethodOf t = some name)
    (h : runMethod ⟨E, selfCfgE E t, runL E (selfCfgE E t) 2⟩ m [.self_, .hobj, .name, .val v] = resToM r)
    (hmem : (name, m) ∈ table := by table_mem) :
    srcPy E t v = some r := by
  rw [srcPy, hm]
  simp only []
  rw [runL_of_mem hmem, h, toRes_resToM]

/-- The same one level down: a method called by the handler's method. -/
theorem callee_of_run {t : TraitType} (name : String) {m : Method} {args : List PV} {r : MRes} (n : Nat)
    (h : runMethod ⟨E, selfCfgE E t, runL E (selfCfgE E t) n⟩ m args = r) (hmem : (name, m) ∈ table := by table_mem) :
    runL E (selfCfgE E t) (n + 1) name args = r :=
  (runL_of_mem hmem E _ n args).trans h

theorem selfCfgE_noFast (t : TraitType) : selfCfgE E (.noFast t) = selfCfgE E t := by
  funext a; simp [selfCfgE]

theorem srcPy_noFast (t : TraitType) (v : Val) : srcPy E (.noFast t) v = srcPy E t v := by
  simp only [srcPy, pyMethodOf, selfCfgE_noFast]

/-- Trait types whose Python `validate` method is tied to its source text (`srcPy_eq6`): `pyCovered6`,
reached in six steps of which this is the first. -/
def pyCovered : TraitType → Bool
  | .noFast t => pyCovered t
  | .int | .float | .complex | .str | .bytes | .bool
  | .cint | .cfloat | .ccomplex | .cstr | .cbytes | .cbool
  | .enum _ | .map .. | .noneTrait | .this _ => true
  | _ => false

def pyCovered2 : TraitType → Bool
  | .noFast t => pyCovered2 t
  | .rangeF .. | .type_ .. | .instance .. => true
  | t => pyCovered t

def pyCovered3 : TraitType → Bool
  | .noFast t => pyCovered3 t
  | .rangeI .. => true
  | t => pyCovered2 t

/-- No member validator reports a TraitError as a foreign exception.  The model has the result
`raised traitError` (Int on a value whose `__index__` raises TraitError: only TypeError is
caught) where a real caller sees a TraitError like any other, and `except TraitError` catches it.
For a Tuple the condition is asked of every value, not of the items of `v`: no Tuple with an Int,
Float, Complex or Range item meets it. -/
def noTE (E : Env) : TraitType → Val → Prop
  | .noFast t, v => noTE E t v
  | .tuple items, _ => ∀ t ∈ items, ∀ x, ctraitValidate E t x ≠ .raised .traitError
  | .union alts, v => ∀ t ∈ alts, ctraitValidate E t v ≠ .raised .traitError
  | .compoundH hs, v => ∀ t ∈ hs, pyValidate E t v ≠ .raised .traitError
  | _, _ => True

def pyCovered4 : TraitType → Bool
  | .noFast t => pyCovered4 t
  | .tuple _ | .union _ | .compoundH _ | .callable _ => true
  | t => pyCovered3 t

def pyCovered5 : TraitType → Bool
  | .noFast t => pyCovered5 t
  | .coerceH _ | .castH _ | .instanceH .. | .functionH _ | .enumH _ | .mapH .. => true
  | t => pyCovered4 t

theorem noTE_noFast (t : TraitType) (v : Val) : noTE E (.noFast t) v = noTE E t v := by simp [noTE]

def pyCovered6 : TraitType → Bool
  | .noFast t => pyCovered6 t
  | .baseTuple _ => true
  | t => pyCovered5 t

/-- The alternatives loops of the Python source compute "first accepting alternative". -/
theorem srcPy_union_first (alts : List TraitType) (v : Val)
    (hn : ∀ t ∈ alts, ctraitValidate E t v ≠ .raised .traitError) :
    srcPy E (.union alts) v = some (firstOk v (alts.map (fun t => ctraitValidate E t))) :=
  srcPy_of_run E rfl (run_Union _ v _ (cfgE_union E alts) (List.forall_mem_map.mpr hn))

theorem srcPy_compound_first (hs : List TraitType) (v : Val)
    (hn : ∀ t ∈ hs, pyValidate E t v ≠ .raised .traitError) :
    srcPy E (.compoundH hs) v = some (firstOk v
      ((hs.filter (fun t => (descOf E t).isSome)).map (fun t => pyValidate E t) ++
       (hs.filter (fun t => !(descOf E t).isSome)).map (fun t x => if hasPy t then pyValidate E t x else .ok x))) := by
  rw [firstOk_append]
  refine srcPy_of_run E rfl (run_TraitCompound _ v _ _ (cfgE_validates E hs) ?_
    (List.forall_mem_map.mpr fun t ht => hn t (List.mem_filter.mp ht).1))
  refine callee_of_run E (t := .compoundH hs) "TraitCompound.slow_validate" 1
    (run_slow_validate _ v _ (cfgE_slow_validates E hs) (List.forall_mem_map.mpr fun t ht h => ?_))
  split at h
  · exact hn t (List.mem_filter.mp ht).1 h
  · cases h

theorem srcPy_eq6 (hE : CastIdem E) (hA : ∀ v cls r, E.adapt v cls = .ok (some r) → r ≠ Val.none) :
    ∀ (t : TraitType) (v : Val), pyCovered6 t = true → noTE E t v → srcPy E t v = some (pyValidate E t v)
  | .noFast t, v, h, hn => (srcPy_noFast E t v).trans (srcPy_eq6 hE hA t v h hn)
  | .int, v, _, _ => srcPy_of_run E rfl (run_BaseInt _ v (callee_of_run E "_validate_int" 1 (run_validate_int _ v)))
  | .float, v, _, _ => srcPy_of_run E rfl (run_BaseFloat _ v)
  | .complex, v, _, _ => srcPy_of_run E rfl (run_BaseComplex _ v)
  | .str, v, _, _ => srcPy_of_run E rfl (run_BaseStr _ v)
  | .bytes, v, _, _ => srcPy_of_run E rfl (run_BaseBytes _ v)
  | .bool, v, _, _ => srcPy_of_run E rfl (run_BaseBool _ v hE)
  | .cint, v, _, _ => srcPy_of_run E (m := m_BaseCInt_validate) rfl (run_castNumeric _ v "int" .int fun k ke => builtin_int _ k ke v)
  | .cfloat, v, _, _ => srcPy_of_run E (m := m_BaseCFloat_validate) rfl (run_castNumeric _ v "float" .float fun k ke => builtin_float _ k ke v)
  | .ccomplex, v, _, _ => srcPy_of_run E (m := m_BaseCComplex_validate) rfl (run_castNumeric _ v "complex" .complex fun k ke => builtin_complex _ k ke v)
  | .cstr, v, _, _ => srcPy_of_run E (m := m_BaseCStr_validate) rfl (run_castAny _ v "str" .str fun k ke => builtin_str _ k ke v)
  | .cbytes, v, _, _ => srcPy_of_run E (m := m_BaseCBytes_validate) rfl (run_castAny _ v "bytes" .bytes fun k ke => builtin_bytes _ k ke v)
  | .cbool, v, _, _ => srcPy_of_run E (m := m_BaseCBool_validate) rfl (run_castAny _ v "bool" .bool fun k ke => builtin_bool _ k ke v)
  | .rangeF lo hi a b, v, _, _ =>
    srcPy_of_run E rfl (run_BaseRange _ v "float_validate" "BaseRange.float_validate" _
      (cfg_rf_v lo hi a b) (by decide) (callee_of_run E "BaseRange.float_validate" 1 (run_float_validate _ v lo hi a b rfl)))
  | .rangeI lo hi a b, v, _, _ =>
    srcPy_of_run E rfl (run_BaseRange _ v "int_validate" "BaseRange.int_validate" _
      (cfg_ri_v lo hi a b) (by decide) (callee_of_run E "BaseRange.int_validate" 1
        (run_int_validate _ v lo hi a b rfl (callee_of_run E "_validate_int" 0 (run_validate_int _ v)))))
  | .enum vals, v, _, _ => srcPy_of_run E rfl (run_BaseEnum _ v vals rfl)
  | .map keys vals, v, _, _ => srcPy_of_run E rfl (run_Map _ v keys vals rfl)
  | .noneTrait, v, _, _ => srcPy_of_run E rfl (run_NoneTrait _ v)
  | .this false, v, _, _ => srcPy_of_run E (name := "This.validate") rfl (run_This _ v)
  | .this true, v, _, _ => srcPy_of_run E (name := "This.validate_none") rfl (run_This_none _ v)
  | .type_ cls an, v, _, _ => srcPy_of_run E rfl (run_Type _ v cls an rfl)
  | .instance cls an mode dflt, v, _, _ =>
    srcPy_of_run E rfl (run_BaseInstance _ v cls an mode dflt rfl (hA v cls))
  | .callable an, v, _, _ =>
    srcPy_of_run E rfl (run_Callable _ v an rfl
      (callee_of_run E "BaseCallable.validate" 1 (run_BaseCallable _ v)))
  | .tuple items, v, _, hn => srcPy_of_run E rfl (run_Tuple _ v items rfl hn)
  | .baseTuple items, v, _, _ => srcPy_of_run E rfl (run_BaseTuple _ v items rfl)
  | .union alts, v, _, hn => by rw [srcPy_union_first E alts v hn, pyValidate, unionFirst_eq]
  | .compoundH hs, v, _, hn => by
    have hslow : (slowAlts E hs).map (ctraitValidate E · v) =
        (hs.filter fun t => !(descOf E t).isSome).map fun t => if hasPy t then pyValidate E t v else .ok v :=
      List.map_congr_left fun t ht => ctraitValidate_of_none E v (by simpa using (List.mem_filter.mp ht).2)
    rw [srcPy_compound_first E hs v hn, firstOk_append, firstOk_eq, firstOk_eq, pyValidate, pySel_true, pySel_false, hslow]
    simp only [List.map_map, Function.comp_def, fastAlts]
    cases firstAccept _ <;> rfl
  | .coerceH ty, v, _, _ => srcPy_of_run E rfl (run_TraitCoerceType _ v ty rfl)
  | .castH ty, v, _, _ => srcPy_of_run E rfl (run_TraitCastType _ v ty rfl)
  | .instanceH cls an, v, _, _ => srcPy_of_run E rfl (run_TraitInstance _ v cls an rfl)
  | .functionH f, v, _, _ => srcPy_of_run E rfl (run_TraitFunction _ v f rfl)
  | .enumH vals, v, _, _ => srcPy_of_run E rfl (run_TraitEnum _ v vals rfl)
  | .mapH keys vals, v, _, _ => srcPy_of_run E rfl (run_TraitMap _ v keys vals rfl)

end

end TraitsVerif.Model.PyVSrc
