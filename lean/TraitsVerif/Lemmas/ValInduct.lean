/-
An induction principle for `TraitType` (a nested inductive: sub-traits sit in
lists), written once so that the property proofs need no boilerplate.
-/
import TraitsVerif.Model.PyValidate
namespace TraitsVerif.Model.Val
open TraitsVerif TraitsVerif.Py.Value

/-- The sub-traits of a trait type that holds a list of them. -/
def TraitType.subs : TraitType → Option (List TraitType)
  | .tuple items => some items
  | .baseTuple items => some items
  | .validatedTuple items _ => some items
  | .either alts _ => some alts
  | .union alts => some alts
  | .compoundH hs => some hs
  | _ => none

def TraitType.isNoFast : TraitType → Bool
  | .noFast _ => true
  | _ => false

mutual
theorem TraitType.induct' {P : TraitType → Prop} {Q : List TraitType → Prop}
    (atomic : ∀ t, t.subs = none → t.isNoFast = false → P t)
    (noFast : ∀ t, P t → P (.noFast t))
    (node : ∀ t ts, t.subs = some ts → Q ts → P t)
    (nil : Q []) (cons : ∀ t ts, P t → Q ts → Q (t :: ts)) : ∀ t, P t := by
  intro t
  cases t
  case tuple ts | baseTuple ts | validatedTuple ts _ | either ts _ | union ts | compoundH ts =>
    exact node _ ts rfl (TraitType.inductL' atomic noFast node nil cons ts)
  case noFast t => exact noFast t (TraitType.induct' atomic noFast node nil cons t)
  all_goals exact atomic _ rfl rfl
theorem TraitType.inductL' {P : TraitType → Prop} {Q : List TraitType → Prop}
    (atomic : ∀ t, t.subs = none → t.isNoFast = false → P t)
    (noFast : ∀ t, P t → P (.noFast t))
    (node : ∀ t ts, t.subs = some ts → Q ts → P t)
    (nil : Q []) (cons : ∀ t ts, P t → Q ts → Q (t :: ts)) : ∀ ts, Q ts
  | [] => nil
  | t :: ts => cons t ts (TraitType.induct' atomic noFast node nil cons t)
      (TraitType.inductL' atomic noFast node nil cons ts)
end

/-- The same with "every member" for the lists. -/
theorem TraitType.induct {P : TraitType → Prop}
    (atomic : ∀ t, t.subs = none → t.isNoFast = false → P t)
    (noFast : ∀ t, P t → P (.noFast t))
    (node : ∀ t ts, t.subs = some ts → (∀ t' ∈ ts, P t') → P t) : ∀ t, P t :=
  TraitType.induct' (Q := fun ts => ∀ t' ∈ ts, P t') atomic noFast node (fun _ h => nomatch h)
    (fun _ _ ht hts => List.forall_mem_cons.mpr ⟨ht, hts⟩)

/-- For the Boolean conditions that are conjunctions over a list of members. -/
theorem forall_mem_of_and {f : List TraitType → Bool} {g : TraitType → Bool}
    (hcons : ∀ t ts, f (t :: ts) = (g t && f ts)) : ∀ {ts}, f ts = true → ∀ t ∈ ts, g t = true
  | [], _ => fun _ ht => nomatch ht
  | a :: as, h => by
    rw [hcons, Bool.and_eq_true] at h
    exact List.forall_mem_cons.mpr ⟨h.1, forall_mem_of_and hcons h.2⟩

end TraitsVerif.Model.Val
