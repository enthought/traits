/-
`Model.Adapt` is the interpretation of the translated source
(`Generated/AdaptProg.lean`), part 2: `_adapt` — the sort of the edges, the
priority queue, the walk along a candidate path (`for … else`), the loop over the
sorted edges, the `while` loop.
-/
import TraitsVerif.Lemmas.AdaptSource
import TraitsVerif.Lemmas.AdaptLoop
namespace TraitsVerif.Lemmas.AdaptSource
open TraitsVerif TraitsVerif.Model.Adapt TraitsVerif.Model.PyA TraitsVerif.Generated.AdaptProg

variable {α : Type}

/-! ## The priority queue -/

theorem weightLt_enc (a b : Entry) (h : a.cnt ≠ b.cnt) :
    weightLt (α := α) (encEntry a) (encEntry b) = some (keyLt a b) := by
  have h' : ¬ ((a.cnt : Int) = (b.cnt : Int)) := by omega
  have hb : ∀ m n : Nat, ((m : Int) == (n : Int)) = (m == n) := fun m n => by
    rw [Bool.eq_iff_iff]; simp; omega
  simp [weightLt, encEntry, keyLt, hb, h']

/-- Equal weight triples (in particular equal counters) make the comparison stuck. -/
theorem weightLt_tie (a b : Entry) (h1 : a.nAd = b.nAd) (h2 : a.mroSum = b.mroSum) (h3 : a.cnt = b.cnt) :
    weightLt (α := α) (encEntry a) (encEntry b) = none := by
  simp [weightLt, encEntry, h1, h2, h3]

theorem heapInsert_enc (e : Entry) : ∀ q : List Entry, (∀ x ∈ q, x.cnt ≠ e.cnt) →
    heapInsert (α := α) (encEntry e) (q.map encEntry) = some ((qInsert e q).map encEntry)
  | [], _ => by simp [heapInsert, qInsert]
  | x :: xs, h => by
    have hx : e.cnt ≠ x.cnt := fun hh => h x List.mem_cons_self hh.symm
    simp only [List.map_cons, heapInsert, weightLt_enc e x hx, qInsert]
    cases keyLt e x with
    | true => simp
    | false => simp [heapInsert_enc e xs (fun y hy => h y (List.mem_cons_of_mem _ hy))]

/-! ## "Walk path and create adapters": the `for offer in new_path: … else:` loop -/

/-- Outside the loop's own variables (`offer`, slot 11; `adapter`, slot 13) nothing changed. -/
def Same (st st' : St α) : Prop :=
  st'.counter = st.counter ∧ ∀ j, j ≠ 11 → j ≠ 13 → getVar st'.vars j = getVar st.vars j

theorem Same.of_step {st st' : St α} {v w : Val α} {tr : List CallRec}
    (h : Same ⟨setVar (setVar st.vars 11 v) 13 w, st.counter, tr, st.reg⟩ st') : Same st st' :=
  ⟨h.1, fun j h1 h2 => by rw [h.2 j h1 h2]; simp [h1, h2]⟩

/-- How the walk leaves the `for` loop: exhausted, `break` (a factory returned `None`), or the exception. -/
def walkFlow : WalkRes α → Flow α
  | .done _ => .next
  | .failed => .brk
  | .raised e => .raised e

theorem walk_loop (C : Ctx α) (fuel : Nat) : ∀ (os : List Offer) (st : St α) (a : α),
    getVar st.vars 13 = .ok (.obj a) →
    ∃ st', forLoop [11] (exec C fuel adaptLoop3) (os.map .offer) st = (st', walkFlow (walk C.f os a st.trace).1) ∧
      st'.trace = (walk C.f os a st.trace).2 ∧
      ((walk C.f os a st.trace).1 = .failed → Same st st') ∧
      ∀ a', (walk C.f os a st.trace).1 = .done a' → getVar st'.vars 13 = .ok (.obj a') ∧ Same st st' := by
  intro os
  unfold adaptLoop3
  induction os with
  | nil =>
    intro st a h13
    refine ⟨st, rfl, rfl, (nomatch ·), fun a' h => ?_⟩
    cases h
    exact ⟨h13, rfl, fun _ _ _ => rfl⟩
  | cons o os ih =>
    intro st a h13
    simp only [List.map_cons, forLoop_cons, bindTargets_one, walk]
    cases hf : C.f st.trace.length o a with
    | none =>
      refine ⟨_, by simp [h13, hf, isSame, walkFlow]; rfl, by rfl,
        fun _ => ⟨by rfl, fun j h1 h2 => ?_⟩, fun _ h => nomatch h⟩
      simp [h1, h2]
    | raise e =>
      exact ⟨_, by simp [h13, hf, walkFlow]; rfl, by rfl, (nomatch ·), fun _ h => nomatch h⟩
    | adapter a' =>
      obtain ⟨st', hl, ht, hfail, hdone⟩ :=
        ih ⟨setVar (setVar st.vars 11 (.offer o)) 13 (.obj a'), st.counter, st.trace ++ [⟨o.id, .ok⟩], st.reg⟩ a' (by simp)
      exact ⟨st', by simp [h13, hf, isSame, hl], ht, fun h => (hfail h).of_step,
        fun a'' h => ⟨(hdone a'' h).1, (hdone a'' h).2.of_step⟩⟩

/-! ## The loop over the sorted edges -/

/-- How a result of the model shows as the way the `while` statement of `_adapt` ends. -/
def flowOf : Res α → Flow α
  | .found _ a => .returned (.obj a)
  | .raised e => .raised e
  | .notFound => .next
  | .outOfFuel => .outOfFuel

def encWeight (w : Entry) : Val α := .tuple [.int w.nAd, .int w.mroSum, .int w.cnt]

section adapt
variable (adaptee : α) (target : Nat)

/-- The interpreter state and the model state agree (slots of `_adapt`: 0 adaptee,
1 to_protocol, 2 counter, 4 offer_queue). -/
structure Rel (st : Model.PyA.St α) (mst : Model.Adapt.St) : Prop where
  h0 : getVar st.vars 0 = .ok (.obj adaptee)
  h1 : getVar st.vars 1 = .ok (.ty target)
  h2 : getVar st.vars 2 = .ok .counterRef
  h4 : getVar st.vars 4 = .ok (.list (mst.queue.map encEntry))
  hc : st.counter = mst.counter
  ht : st.trace = mst.trace
  /-- the counters in the queue are below the next counter value, hence (with
  `heapInsert_enc`) no two heap entries ever compare equal on their weight triple -/
  hlt : ∀ e ∈ mst.queue, e.cnt < mst.counter

/-- … and, while the edges of the popped entry `w` are processed, slots 6 (`weight`) and 7 (`path`) hold it. -/
structure RelW (w : Entry) (st : Model.PyA.St α) (mst : Model.Adapt.St) : Prop extends Rel adaptee target st mst where
  h6 : getVar st.vars 6 = .ok (encWeight w)
  h7 : getVar st.vars 7 = .ok (encPath w.path)

/-- What a run of (part of) the loop over the edges of `w` shows of the model's `processEdges`. -/
def EdgeSim (w : Entry) (r : Model.PyA.St α × Flow α) : Option (Res α) × Model.Adapt.St → Prop
  | (none, mst') => r.2 = .next ∧ RelW adaptee target w r.1 mst'
  | (some (.found _ a), mst') => r.2 = .returned (.obj a) ∧ r.1.trace = mst'.trace
  | (some (.raised e), mst') => r.2 = .raised e ∧ r.1.trace = mst'.trace
  | _ => False

variable {adaptee target}

theorem RelW.setVar {w : Entry} {st : Model.PyA.St α} {mst : Model.Adapt.St} (R : RelW adaptee target w st mst)
    {i : Nat} (hi : 8 ≤ i) (v : Val α) : RelW adaptee target w { st with vars := setVar st.vars i v } mst := by
  have h : ∀ j, j < 8 → getVar (Model.PyA.setVar st.vars i v) j = getVar st.vars j := fun j hj => by
    rw [getVar_setVar, if_neg (by omega)]
  exact ⟨⟨by rw [h 0 (by decide), R.h0], by rw [h 1 (by decide), R.h1], by rw [h 2 (by decide), R.h2],
    by rw [h 4 (by decide), R.h4], R.hc, R.ht, R.hlt⟩, by rw [h 6 (by decide), R.h6], by rw [h 7 (by decide), R.h7]⟩

theorem RelW.of_same {w : Entry} {st st' : Model.PyA.St α} {mst : Model.Adapt.St} (R : RelW adaptee target w st mst)
    (h : Same st st') : RelW adaptee target w st' { mst with trace := st'.trace } :=
  ⟨⟨by rw [h.2 0 (by decide) (by decide), R.h0], by rw [h.2 1 (by decide) (by decide), R.h1],
    by rw [h.2 2 (by decide) (by decide), R.h2], by rw [h.2 4 (by decide) (by decide), R.h4], by rw [h.1, R.hc], rfl,
    R.hlt⟩, by rw [h.2 6 (by decide) (by decide), R.h6], by rw [h.2 7 (by decide) (by decide), R.h7]⟩

variable (C : Ctx α) (fuel : Nat)
  (hprov : ∀ a b, C.call "provides_protocol" [.ty a, .ty b] = .ok (.bool (C.cfg.provides a b)))
include hprov

theorem edge_body {w : Entry} {st : Model.PyA.St α} {mst : Model.Adapt.St} (R : RelW adaptee target w st mst)
    (d : Nat) (o : Offer) (h10 : getVar st.vars 10 = .ok (.int d)) (h11 : getVar st.vars 11 = .ok (.offer o)) :
    ∃ r, exec C fuel adaptLoop2 st = r ∧
      EdgeSim adaptee target w r (processEdges C.cfg C.f adaptee target w [(d, o)] mst) := by
  cases hp : C.cfg.provides o.to target with
  | false =>
    have hpush := heapInsert_enc (α := α) ⟨w.nAd + 1, w.mroSum + d, mst.counter, w.path ++ [o], o.to⟩ mst.queue
      (fun x hx => Nat.ne_of_lt (R.hlt x hx))
    simp only [encEntry, encPath, List.map_append, List.map_cons, List.map_nil, Int.natCast_add, Int.cast_ofNat_Int] at hpush
    refine ⟨(_, .next), by
      simp [adaptLoop2, R.h1, R.h2, R.h4, R.hc, R.h6, R.h7, h10, h11, hprov, hp, encWeight, encPath, hpush]; rfl, ?_⟩
    simp only [processEdges, hp, EdgeSim, Bool.false_eq_true, if_false]
    refine ⟨trivial, ⟨by simp [R.h0], by simp [R.h1], by simp [R.h2], by simp, rfl, R.ht, fun e he => ?_⟩,
      by simp [R.h6], by simp [R.h7]⟩
    rcases Adapt.mem_qInsert.1 he with rfl | h
    · exact Nat.lt_succ_self _
    · exact Nat.lt_succ_of_lt (R.hlt e h)
  | true =>
    obtain ⟨st', hl, ht, hfail, hdone⟩ := walk_loop C fuel (w.path ++ [o])
      ⟨setVar (setVar st.vars 12 (.list (w.path.map .offer ++ [.offer o]))) 13 (.obj adaptee), st.counter, st.trace,
        st.reg⟩ adaptee (by simp)
    rcases hw : walk C.f (w.path ++ [o]) adaptee st.trace with ⟨res, tr⟩
    simp only [hw, List.map_append, List.map_cons, List.map_nil] at hl ht hfail hdone
    refine ⟨_, by simp [adaptLoop2, R.h0, R.h1, R.h7, h11, hprov, hp, encPath, hl]; rfl, ?_⟩
    simp only [processEdges, hp, if_true, ← R.ht, hw]
    cases res with
    | done a => simp [EdgeSim, walkFlow, (hdone a rfl).1, ht]
    | raised e => simp [EdgeSim, walkFlow, ht]
    | failed => simpa [EdgeSim, walkFlow, ht] using
      ((R.setVar (i := 12) (by decide) _).setVar (i := 13) (by decide) _).of_same (hfail rfl)

theorem edges_loop {w : Entry} : ∀ (es : List Edge) {st : Model.PyA.St α} {mst : Model.Adapt.St},
    RelW adaptee target w st mst →
    EdgeSim adaptee target w
      (forLoop [10, 11] (exec C fuel adaptLoop2) (es.map encEdge) st) (processEdges C.cfg C.f adaptee target w es mst)
  | [], _, _, R => ⟨rfl, R⟩
  | (d, o) :: es, st, mst, R => by
    obtain ⟨r, hb, hs⟩ := edge_body C fuel hprov
      ((R.setVar (i := 10) (by decide) (.int d)).setVar (i := 11) (by decide) (.offer o)) d o (by simp) (by simp)
    rw [Adapt.processEdges_cons]
    simp only [List.map_cons, forLoop_cons, encEdge, bindTargets_tuple, bindAll_cons, bindAll_nil, hb]
    generalize processEdges C.cfg C.f adaptee target w [(d, o)] mst = m at hs ⊢
    obtain ⟨st1, fl⟩ := r
    match m, hs with
    | (none, mst1), ⟨hf, R1⟩ => cases hf; exact edges_loop es R1
    | (some (.found p a), mst1), ⟨hf, ht⟩ => cases hf; exact ⟨rfl, ht⟩
    | (some (.raised e), mst1), ⟨hf, ht⟩ => cases hf; exact ⟨rfl, ht⟩

omit hprov

theorem EdgeSim.loopThen_skip {w : Entry} {r : Model.PyA.St α × Flow α} {m : Option (Res α) × Model.Adapt.St}
    (h : EdgeSim adaptee target w r m) :
    EdgeSim adaptee target w (loopThen r (exec C fuel .skip)) m := by
  obtain ⟨st', fl⟩ := r
  match m, h with
  | (none, _), ⟨hf, R⟩ => cases hf; exact ⟨rfl, R⟩
  | (some (.found _ _), _), ⟨hf, ht⟩ => cases hf; exact ⟨rfl, ht⟩
  | (some (.raised _), _), ⟨hf, ht⟩ => cases hf; exact ⟨rfl, ht⟩

/-! ## The `while len(offer_queue) > 0:` loop -/

structure Calls (C : Ctx α) : Prop where
  prov : ∀ a b, C.call "provides_protocol" [.ty a, .ty b] = .ok (.bool (C.cfg.provides a b))
  app : ∀ cur path, C.call "_get_applicable_offers" [.ty cur, encPath path] =
    .ok (.list ((applicable C.cfg cur path).map encEdge))
  cmp : ∀ a b, C.call "_by_weight_then_from_protocol_specificity" [encEdge a, encEdge b] =
    .ok (.int (cmpI C.cfg a b))

variable {C} (H : Calls C)
include H

theorem while_body {st : Model.PyA.St α} {w : Entry} {rest : List Entry} {cnt : Nat} {tr : List CallRec}
    (R : Rel adaptee target st ⟨w :: rest, cnt, tr⟩) :
    EdgeSim adaptee target w (exec C fuel adaptLoop1 st)
      (processEdges C.cfg C.f adaptee target w (pySort (edgeLt C.cfg) (applicable C.cfg w.cur w.path)) ⟨rest, cnt, tr⟩) := by
  have h4 := R.h4
  simp only [List.map_cons, encEntry] at h4
  have hsort := Adapt.pySort_map encEdge (edgeLt C.cfg) (cmpLt C "_by_weight_then_from_protocol_specificity")
    (fun a b => by simp [cmpLt, H.cmp, cmpI_lt]) (applicable C.cfg w.cur w.path)
  simp [adaptLoop1, h4, H.app, hsort]
  -- the guard of `sortCmp`: every comparison returns an int
  rw [if_pos (by simp [List.all_eq_true, cmpOk, H.cmp])]
  simp only [andThen_next, exec_forIn, eval_var, getVar_setVar, if_true]
  refine EdgeSim.loopThen_skip C fuel (edges_loop C fuel H.prov _ (mst := ⟨rest, cnt, tr⟩)
    ⟨⟨?_, ?_, ?_, ?_, R.hc, R.ht, fun e he => R.hlt e (List.mem_cons_of_mem _ he)⟩, ?_, ?_⟩) <;>
    simp [R.h0, R.h1, R.h2, encWeight]

omit H in
theorem while_cond {st : Model.PyA.St α} {mst : Model.Adapt.St} (R : Rel adaptee target st mst) :
    condOf C (.gt (.call "len" (.cons (.var 4) .nil)) (.intLit 0)) st = .ok (decide (0 < mst.queue.length)) := by
  simp [condOf, R.h4]

theorem while_loop : ∀ (n : Nat) {st : Model.PyA.St α} {mst : Model.Adapt.St}, Rel adaptee target st mst →
    ∃ st', whileLoop (condOf C (.gt (.call "len" (.cons (.var 4) .nil)) (.intLit 0)))
        (exec C fuel adaptLoop1) n st = (st', flowOf (adaptLoop C.cfg C.f adaptee target n mst).1) ∧
      st'.trace = (adaptLoop C.cfg C.f adaptee target n mst).2
  | 0, st, _, R => ⟨st, rfl, R.ht⟩
  | n + 1, st, ⟨[], _, _⟩, R => ⟨st, by rw [whileLoop_succ, while_cond R]; rfl, R.ht⟩
  | n + 1, st, ⟨w :: rest, cnt, tr⟩, R => by
    have hs := while_body fuel H R
    rw [whileLoop_succ, while_cond R]
    simp only [List.length_cons, Nat.zero_lt_succ, decide_true, adaptLoop]
    generalize exec C fuel adaptLoop1 st = r at hs ⊢
    generalize processEdges C.cfg C.f adaptee target w _ _ = m at hs ⊢
    obtain ⟨st1, fl⟩ := r
    match m, hs with
    | (none, mst1), ⟨hf, R1⟩ => cases hf; exact while_loop n R1.toRel
    | (some (.found p a), mst1), ⟨hf, ht⟩ => cases hf; exact ⟨st1, rfl, ht⟩
    | (some (.raised e), mst1), ⟨hf, ht⟩ => cases hf; exact ⟨st1, rfl, ht⟩

/-- How a result of the model's search shows as the way the call of `_adapt` ends. -/
def flowRet : Res α → Flow α
  | .found _ a => .returned (.obj a)
  | .raised e => .raised e
  | .notFound => .returned .none
  | .outOfFuel => .outOfFuel

/-- The body of `_adapt`, run in any context whose pure calls are the translated functions. -/
theorem adapt_fn (st : Model.PyA.St α) (h0 : getVar st.vars 0 = .ok (.obj adaptee))
    (h1 : getVar st.vars 1 = .ok (.ty target)) (htr : st.trace = []) :
    ∃ st', exec C fuel adaptBody st =
        (st', flowRet (adaptLoop C.cfg C.f adaptee target fuel (initSt C.srcType)).1) ∧
      st'.trace = (adaptLoop C.cfg C.f adaptee target fuel (initSt C.srcType)).2 := by
  obtain ⟨st', hw, ht⟩ := while_loop fuel H fuel (adaptee := adaptee) (target := target) (mst := initSt C.srcType)
    (st := ⟨setVar (setVar (setVar st.vars 2 .counterRef) 3 (.int 0)) 4
      (.list [.tuple [.tuple [.int 0, .int 0, .int 0], .list [], .ty C.srcType]]), 1, st.trace, st.reg⟩)
    ⟨by simp [h0], by simp [h1], by simp, by simp [initSt, encEntry, encPath], rfl, htr, by simp [initSt]⟩
  refine ⟨st', ?_, ht⟩
  simp [adaptBody, h0, hw]
  cases (adaptLoop C.cfg C.f adaptee target fuel (initSt C.srcType)).1 <;> simp [flowOf, flowRet]

end adapt

/-! ## `_adapt` -/

theorem lookup_adapt : lookupFn "_adapt" adaptProg = some ⟨2, 19, adaptBody⟩ := by simp [adaptProg]

theorem calls_ctx (cfg : Cfg) (hne : NonEmptyGroups cfg) (f : Factory α) (s : Nat) :
    Calls (ctxAt adaptProg cfg f s callDepth) :=
  ⟨call_provides cfg f s 2, call_applicable cfg hne f s 0, call_cmp cfg f s 2⟩

/-- **`_adapt` interpreted from its source is the model's `adaptLoop`** from the
initial state, for every amount of fuel. -/
theorem runAdapt_eq (cfg : Cfg) (hne : NonEmptyGroups cfg) (f : Factory α) (srcType : Nat) (adaptee : α)
    (target fuel : Nat) :
    runAdapt adaptProg cfg f srcType adaptee target fuel =
      (viewRes (adaptLoop cfg f adaptee target fuel (initSt srcType)).1,
       (adaptLoop cfg f adaptee target fuel (initSt srcType)).2) := by
  obtain ⟨st', he, ht⟩ := adapt_fn fuel (calls_ctx cfg hne f srcType) (adaptee := adaptee) (target := target)
    { vars := initFrame [.obj adaptee, .ty target] } rfl rfl rfl
  simp only [ctxAt] at he ht
  simp only [runAdapt, ctxAt, lookup_adapt, runFn_eq, List.length_cons, List.length_nil, ne_eq, not_true_eq_false,
    if_false, he]
  cases (adaptLoop cfg f adaptee target fuel (initSt srcType)).1 <;> simp [flowRet, viewRes, ht]

end TraitsVerif.Lemmas.AdaptSource
