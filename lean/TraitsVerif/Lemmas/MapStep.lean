/-
Step-level facts about `TraitDict.step` for property C06; the property theorems
in `Props/C06.lean` are assembled from these.  A successful step ends in one of a
few ways — validated pairs stored (many by `update` / `|=`, one by `__setitem__` /
`setdefault`), a present key erased, nothing done, `popitem`, `clear` — and for
each of them everything C06 asks of the outcome (`Good`) is shown once;
`step_good` sorts the mutators into them.
Refinement of the builtin dict is a second sweep over the mutators.
-/
import TraitsVerif.Lemmas.MapTrait
namespace TraitsVerif.Model.Map
open TraitsVerif TraitsVerif.Py
open TraitsVerif.Py.Dict
variable {K V : Type} [DecidableEq K]

/-- Keys and values are validator outputs (the invariant of property C04 for dicts). -/
abbrev AllValid (kv : Callback K K) (vv : Callback V V) (d : Dict K V) : Prop :=
  ∀ p ∈ d, TraitDict.ValidOut kv p.1 ∧ TraitDict.ValidOut vv p.2

omit [DecidableEq K] in
theorem valPairs_ok {kv : Callback K K} {vv : Callback V V} {n : Nat} {ps ps' : List (K × V)}
    (h : valPairs kv vv n ps = .ok ps') : ps'.length = ps.length ∧ AllValid kv vv ps' := by
  fun_induction valPairs kv vv n ps generalizing ps' with
  | case1 => cases h; exact ⟨rfl, nofun⟩
  | case2 | case3 | case4 => cases h                 -- the key, the value or a later pair is rejected
  | case5 n k v ps k' hk v' hv ps'' hps ih =>
    cases h
    refine ⟨by simp [(ih hps).1], fun q hq => ?_⟩
    rcases List.mem_cons.mp hq with rfl | hq
    · exact ⟨⟨n, k, hk⟩, ⟨n, v, hv⟩⟩
    · exact (ih hps).2 q hq

theorem set_valid {kv : Callback K K} {vv : Callback V V} {d : Dict K V} {k : K} {v : V}
    (hd : AllValid kv vv d) (hk : TraitDict.ValidOut kv k) (hv : TraitDict.ValidOut vv v) :
    AllValid kv vv (set d k v) := by
  intro p hp
  rcases mem_set hp with hp | ⟨h2, h1⟩
  · exact hd p hp
  · refine ⟨?_, h2 ▸ hv⟩
    rcases h1 with h1 | ⟨w, hw⟩
    · exact h1 ▸ hk
    · exact (hd _ hw).1

theorem update_valid {kv : Callback K K} {vv : Callback V V} {ps : List (K × V)} {d : Dict K V}
    (hd : AllValid kv vv d) (hps : AllValid kv vv ps) : AllValid kv vv (update d ps) := by
  induction ps generalizing d with
  | nil => exact hd
  | cons q ps ih =>
    exact ih (set_valid hd (hps q (by simp)).1 (hps q (by simp)).2) fun p hp => hps p (List.mem_cons_of_mem _ hp)

/-! #### what a successful step leaves behind -/

/-- What C06 (and the validity invariant of C04) ask of the outcome `o` of a step from `d`. -/
structure Good (kv : Callback K K) (vv : Callback V V) (d : Dict K V) (o : DOut K V) : Prop where
  wf : WF d → WF o.items
  event : WF d → ∀ t, o.event = some t →
    Reconstructs d o.items t ∧ WF t.changed ∧ ¬ (t.removed = [] ∧ t.added = [] ∧ t.changed = [])
  quiet : o.event = none → o.items = d
  valid : AllValid kv vv d → AllValid kv vv o.items

variable {kv : Callback K K} {vv : Callback V V} {d : Dict K V}

/-- Validated pairs stored by the builtin's `update` and reported as the update loop sorts them
(`update`, `|=`; with one pair `__setitem__`, `setdefault`). -/
theorem good_stored {ps : List (K × V)} (hv : AllValid kv vv ps) (hne : ps ≠ []) (r : Ret K V) :
    Good kv vv d { items := update d ps, ret := r,
                   event := some ⟨[], (updLoop d ps {}).added, (updLoop d ps {}).changed⟩ } :=
  ⟨(wf_update · _), fun _ t ht => by
      cases ht
      exact ⟨reconstructs_update d ps, (updLoop_wf d ps {} ⟨wf_nil, wf_nil⟩).2,
        fun hh => hne ((updLoop_silent_iff d ps).mp (by simpa using hh.2))⟩,
    nofun, (update_valid · hv)⟩

/-- A single store is the update loop on one pair. -/
theorem storeValidated_eq (d : Dict K V) (k : K) (v : V) (r : Ret K V) :
    storeValidated d k v r =
      { items := update d [(k, v)], ret := r,
        event := some ⟨[], (updLoop d [(k, v)] {}).added, (updLoop d [(k, v)] {}).changed⟩ } := by
  unfold storeValidated updLoop; cases get? d k <;> rfl

/-- `self[validated_key] = validated_value`. -/
theorem good_store {k' : K} {v' : V} (hk : TraitDict.ValidOut kv k') (hv : TraitDict.ValidOut vv v') (r : Ret K V) :
    Good kv vv d (storeValidated d k' v' r) ∧ (storeValidated d k' v' r).event ≠ none := by
  rw [storeValidated_eq]
  exact ⟨good_stored (fun p hp => by cases List.mem_singleton.mp hp; exact ⟨hk, hv⟩) (List.cons_ne_nil _ _) r, nofun⟩

/-- A present key removed (`del`, `pop`). -/
theorem good_erase {k : K} {x : V} (h : get? d k = some x) (r : Ret K V) :
    Good kv vv d { items := erase d k, ret := r, event := some ⟨[(k, x)], [], []⟩ } :=
  ⟨(wf_erase · _), fun _ t ht => by cases ht; exact ⟨reconstructs_removed h, by simp [WF, keys], by simp⟩, nofun,
    fun hv p hp => hv p (mem_erase hp)⟩

theorem good_same (r : Ret K V) : Good kv vv d { items := d, ret := r } :=
  ⟨id, nofun, fun _ => rfl, id⟩

/-- `update` / `|=` in one piece: the validated pairs go to the builtin's `update` as they are
(`dict(pairs)` stores the same, in the same order), and something is reported unless there is no pair. -/
theorem updateLike_eq (ps : List (K × V)) (r : Ret K V) :
    updateLike kv vv d ps r = (valPairs kv vv 0 ps).map fun ps' =>
      { items := update d ps', ret := r,
        event := if ps' = [] then none else some ⟨[], (updLoop d ps' {}).added, (updLoop d ps' {}).changed⟩ } := by
  unfold updateLike
  cases valPairs kv vv 0 ps with
  | error e => rfl
  | ok ps' =>
    have hsil := updLoop_silent_iff d ps'
    simp only [Except.map, updLoop_validated_nil, update_ofPairs]
    split <;> rename_i hc
    · simp [hsil.mp hc]
    · simp [mt hsil.mpr hc]

theorem good_update {ps : List (K × V)} {r : Ret K V} {o : DOut K V} (h : updateLike kv vv d ps r = .ok o) :
    Good kv vv d o ∧ (o.event = none ↔ ps = []) := by
  rw [updateLike_eq] at h
  cases hps : valPairs kv vv 0 ps with
  | error e => rw [hps] at h; cases h
  | ok ps' =>
    simp only [hps, Except.map, Except.ok.injEq] at h
    subst h
    obtain ⟨hlen, hv⟩ := valPairs_ok hps
    have hnil : ps = [] ↔ ps' = [] := by rw [← List.length_eq_zero_iff, ← hlen, List.length_eq_zero_iff]
    by_cases hp : ps' = []
    · subst hp; simpa [hnil, update] using good_same (kv := kv) (vv := vv) (d := d) r
    · simpa [hp, hnil] using good_stored (d := d) hv hp r

theorem step_good {op : Op K V} {o : DOut K V} (h : TraitDict.step kv vv d op = .ok o) :
    Good kv vv d o ∧ (o.event = none ↔ SilentCase d op) := by
  revert h
  -- one case per arm of `TraitDict.step`, with what the arm found out as hypotheses
  fun_cases TraitDict.step kv vv d op with
  | case1 | case2 | case4 | case11 | case12 | case14 | case18 => nofun       -- the arms that raise
  | case3 k v k' hk v' hv =>                                                   -- `__setitem__`
    rintro ⟨⟩
    have := good_store (d := d) ⟨0, k, hk⟩ ⟨0, v, hv⟩ .none
    exact ⟨this.1, by simp [this.2, SilentCase]⟩
  | case5 k x hx | case15 k x hx =>                                            -- `del`, `pop(k)`
    rintro ⟨⟩; exact ⟨good_erase hx _, by simp [SilentCase]⟩
  | case6 ps | case9 ps => exact good_update                                   -- `|=`, `update`
  | case7 he =>                                                                -- `clear` of `{}`
    rintro ⟨⟩; cases List.isEmpty_iff.mp he; exact ⟨good_same _, by simp [SilentCase]⟩
  | case8 he =>                                                                -- `clear`
    rintro ⟨⟩
    have hne : d ≠ [] := mt List.isEmpty_iff.mpr he
    exact ⟨⟨fun _ => wf_nil, fun _ t ht => by
      cases ht; exact ⟨reconstructs_clear d, by simp [WF, keys], by simp [hne]⟩, nofun, by simp [AllValid]⟩,
      by simp [SilentCase, hne]⟩
  | case10 k v old hx =>                                                       -- `setdefault`, raw key present
    rintro ⟨⟩; exact ⟨good_same _, by simp [SilentCase, contains_eq, hx]⟩
  | case13 k v hx k' hk v' hv =>                                               -- `setdefault`, stores
    rintro ⟨⟩
    have := good_store (d := d) ⟨0, k, hk⟩ ⟨0, v, hv⟩ (.val v')
    exact ⟨this.1, by simp [this.2, SilentCase, contains_eq, hx]⟩
  | case16 k dflt hx =>                                                        -- `pop(k, default)`, absent
    rintro ⟨⟩; exact ⟨good_same _, by simp [SilentCase, hx]⟩
  | case17 k dflt x hx =>                                                      -- `pop(k, default)`, present
    rintro ⟨⟩; exact ⟨good_erase hx _, by simp [SilentCase, hx]⟩
  | case19 k x hx =>                                                           -- `popitem`
    rintro ⟨⟩
    exact ⟨⟨wf_dropLast, fun hwf t ht => by
      cases ht; exact ⟨reconstructs_popitem hwf hx, by simp [WF, keys], by simp⟩, nofun,
      fun hv p hp => hv p ((List.dropLast_sublist d).subset hp)⟩, by simp [SilentCase]⟩

/-! #### refinement -/

/-- Refinement of one step (property C06, first clause); the hypothesis is only
asked for where the step succeeds. -/
theorem step_refines (kv : Callback K K) (vv : Callback V V) (d : Dict K V) (op : Op K V)
    (hyp : ∀ o, TraitDict.step kv vv d op = .ok o → SetdefaultHyp kv d op) : Refines kv vv d op := by
  unfold Refines reference
  revert hyp
  fun_cases TraitDict.step kv vv d op <;> intro hyp
  case case6 | case9 =>                                        -- `|=`, `update`
    simp only [validateOp, updateLike_eq]; cases valPairs kv vv 0 _ <;> rfl
  case case13 k v hg k' hk v' hv =>                            -- `setdefault` storing: the validated key must be new too
    have hc : get? d k' = none := by simpa [contains_eq, hg] using hyp _ rfl k' hk
    simp [validateOp, Dict.step, Except.map, DOut.proj, storeValidated_eq, update, contains_eq, hg, hk, hv, hc]
  -- every other arm hands the builtin what it validated, or fails as the builtin does
  all_goals simp [validateOp, Dict.step, Except.map, DOut.proj, storeValidated_eq, update, contains_eq, *]

theorem dict_step_error {op : Op K V} {e : Exc} (h : Dict.step d op = .error e) : e = .keyError := by
  cases op <;> simp only [Dict.step] at h <;> (try split at h) <;> cases h <;> rfl

end TraitsVerif.Model.Map
