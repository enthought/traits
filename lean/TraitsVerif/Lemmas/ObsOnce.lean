/-
Cluster `obs`: "exactly once".  At most one user notifier per handler key sits on
an observable (`UniqueUsers`, an invariant of every operation), so a change
delivers to a key at most once; with the refinement invariant, exactly once iff
the registrations reach the changed trait.
-/
import TraitsVerif.Lemmas.ObsInvSet
namespace TraitsVerif.Model.Obs
open TraitsVerif

def isUserKey (k : HKey) : Notifier → Bool
  | .user k' _ => k' == k
  | _ => false

/-- at most one user notifier per handler key and observable -/
def UniqueUsers (H : Hooks) : Prop := ∀ o k, (H.get o).countP (isUserKey k) ≤ 1

theorem countP_userAdd (k k' : HKey) (ns : List Notifier) :
    (userAdd k ns).countP (isUserKey k') =
      if k = k' ∧ ns.countP (isUserKey k) = 0 then 1 else ns.countP (isUserKey k') := by
  fun_induction userAdd k ns with
  | case1 => by_cases e : k = k' <;> simp [isUserKey, e]       -- empty list: appended with count 1
  | case2 k'' rc ns e =>                                         -- the equal notifier is bumped in place
    obtain rfl : k = k'' := by simpa using e
    by_cases e2 : k = k' <;> simp [isUserKey, e2]
  | case3 k'' rc ns e ih =>                                      -- another user notifier: look further
    have e' : ¬ k'' = k := fun h => e (by simp [h])
    by_cases e2 : k = k'
    · subst e2; simp [isUserKey, ih, e']
    · simp [List.countP_cons, isUserKey, ih, e2]
  | case4 n ns hn ih =>                                          -- a maintainer: look further
    cases n with
    | user k'' rc => exact (hn k'' rc rfl).elim
    | maint mk g k'' => simp [isUserKey, ih]

theorem countP_addKey_le (q : NKey) (k' : HKey) (ns : List Notifier) (hu : ns.countP (isUserKey k') ≤ 1) :
    (addKey q ns).countP (isUserKey k') ≤ 1 := by
  cases q with
  | user k =>
    simp only [addKey, countP_userAdd]
    split <;> omega
  | maint mk g k =>
    simp [addKey, maintAdd, List.countP_append, isUserKey]; exact hu

theorem countP_userRemove_le (k k' : HKey) (ns ns' : List Notifier) (h : userRemove k ns = .ok ns') :
    ns'.countP (isUserKey k') ≤ ns.countP (isUserKey k') := by
  fun_induction userRemove k ns generalizing ns' with
  | case1 => cases h                                      -- empty list: NotifierNotFound
  | case2 => cases h; simp [List.countP_cons]             -- count 1: the notifier leaves the list
  | case3 => cases h                                      -- count 0: RuntimeError
  | case4 => cases h; simp [List.countP_cons, isUserKey]  -- decremented in place
  | case5 k'' rc ns _ ih =>                               -- another user notifier: look further
    obtain ⟨l, hr, rfl⟩ := Except.map_eq_ok h
    have := ih l hr
    simp only [List.countP_cons]; omega
  | case6 n ns _ ih =>                                    -- a maintainer: look further
    obtain ⟨l, hr, rfl⟩ := Except.map_eq_ok h
    have := ih l hr
    simp only [List.countP_cons]; omega

theorem countP_maintRemove_le (mk : MKind) (g : Graph) (k k' : HKey) (ns ns' : List Notifier)
    (h : maintRemove mk g k ns = .ok ns') : ns'.countP (isUserKey k') ≤ ns.countP (isUserKey k') := by
  fun_induction maintRemove mk g k ns generalizing ns' with
  | case1 => cases h                                      -- empty list: NotifierNotFound
  | case2 => cases h; simp [List.countP_cons]             -- the first equal one is removed
  | case3 n ns _ ih =>                                    -- not equal: look further
    obtain ⟨l, hr, rfl⟩ := Except.map_eq_ok h
    have := ih l hr
    simp only [List.countP_cons]; omega

theorem addItem_unique (it : Item) (H : Hooks) (hu : UniqueUsers H) : UniqueUsers (addItem it H) := by
  intro o k
  unfold addItem
  rw [Hooks.get_upd]
  split
  · exact countP_addKey_le _ _ _ (hu _ _)
  · exact hu o k

theorem removeItem_unique (it : Item) (H H' : Hooks) (hu : UniqueUsers H) (h : removeItem it H = .ok H') :
    UniqueUsers H' := by
  obtain ⟨l, hr, rfl⟩ := removeItem_ok_iff.1 h
  intro o k
  rw [Hooks.get_upd]
  split
  · have := hu it.1 k
    cases hit : it.2 with
    | user k0 => rw [hit] at hr; have := countP_userRemove_le k0 k _ _ hr; omega
    | maint mk g k0 => rw [hit] at hr; have := countP_maintRemove_le mk g k0 k _ _ hr; omega
  · exact hu o k

/-! ### any predicate on hooks kept by `add_to` / `remove_from` is kept by everything -/

section pres
variable (P : Hooks → Prop) (hadd : ∀ it H, P H → P (addItem it H))
  (hrm : ∀ it H H', P H → removeItem it H = .ok H' → P H')
include hadd hrm

theorem addRemove_pres (h : Heap) (k : HKey) (g : Graph) (rm extra : Bool) (x : W) (H : Hooks) (hP : P H) :
    P (addRemove h k rm extra g x H).H :=
  addRemove_touch P (fun _ => True) (fun it H _ hP => hadd it H hP) (fun it H H' _ hP hr => hrm it H H' hP hr)
    h k g rm extra x H (fun _ _ => trivial) hP

/-- every mutation keeps `P`: its maintainers only add and remove items -/
theorem mutate_pres (E : Env) (st : St) (m : Mutation) (hP : P st.H) : P (mutate E st m).st.H := by
  have hm := fun k g => maint_inv P k g fun h rm extra g' x H _ hP => addRemove_pres P hadd hrm h k g' rm extra x H hP
  exact mutate_inv (N := fun _ => True) (I := fun H _ => P H) st m
    ⟨fun _ _ _ _ _ _ => trivial, fun _ _ _ _ _ _ _ _ _ hI => hI,
      fun mk g k _ _ h o old new H _ hI => (hm k g).1 h mk o old new H hI,
      fun mk g k _ _ h ev H _ hI => (hm k g).2 h ev H hI⟩ hP

end pres

theorem addRemove_unique (h : Heap) (k : HKey) (g : Graph) (rm extra : Bool) (x : W) (H : Hooks)
    (hu : UniqueUsers H) : UniqueUsers (addRemove h k rm extra g x H).H :=
  addRemove_pres UniqueUsers addItem_unique removeItem_unique h k g rm extra x H hu

theorem mutate_unique (E : Env) (st : St) (m : Mutation) (hu : UniqueUsers st.H) :
    UniqueUsers (mutate E st m).st.H :=
  mutate_pres UniqueUsers addItem_unique removeItem_unique E st m hu

theorem UniqueUsers_empty : UniqueUsers Hooks.empty := by
  intro o k; simp [Hooks.empty]

/-! ### what a non-raising call of the copied notifier list delivers -/

def deliv (E : Env) (h : Heap) (o : Id) (n : Name) (old new : Val) : Notifier → Option Delivered
  | .user k _ => if E.dead k || preventTrait E h o n old new then none else some (.trait k o n old new)
  | .maint .. => none

theorem callTrait_delivered_eq (E : Env) (h : Heap) (o : Id) (n : Name) (old new : Val)
    (ns : List Notifier) (H : Hooks) (ds : List Delivered)
    (hok : (callTrait E h o n old new ns H ds).2.2 = none) :
    (callTrait E h o n old new ns H ds).2.1 = ds ++ ns.filterMap (deliv E h o n old new) := by
  fun_induction callTrait E h o n old new ns H ds with
  | case1 => simp                                                  -- end of the list
  | case2 k rc ns H ds hc ih => simpa [deliv, hc] using ih hok     -- user notifier, dead or prevented
  | case3 k rc ns H ds hc ih => simpa [deliv, hc] using ih hok     -- live user notifier: delivers
  | case4 mk g k ns H ds hd ih => exact ih hok                     -- dead maintainer
  | case5 => cases hok                                             -- the maintainer raises
  | case6 mk g k ns H ds hd r he ih => exact ih hok                -- the maintainer ran

theorem count_deliv (E : Env) (h : Heap) (o : Id) (n : Name) (old new : Val) (k : HKey) (ns : List Notifier) :
    ((ns.filterMap (deliv E h o n old new)).filter (fun d => d.key == k)).length =
      if E.dead k || preventTrait E h o n old new then 0 else ns.countP (isUserKey k) := by
  -- a notifier delivers to `k` iff it is a user notifier of `k`, alive, and the event is not prevented
  have hd : ∀ nt, ((deliv E h o n old new nt).map (fun d => d.key == k)).getD false =
      (isUserKey k nt && !(E.dead k || preventTrait E h o n old new)) := by
    intro nt
    cases nt with
    | maint mk g k' => rfl
    | user k' rc =>
      by_cases e : k' = k
      · subst e; cases hc : (E.dead k' || preventTrait E h o n old new) <;> simp [deliv, isUserKey, hc, Delivered.key]
      · simp [deliv, isUserKey]; split <;> simp [Delivered.key, e]
  rw [← List.countP_eq_length_filter, List.countP_filterMap]
  simp only [hd]
  cases (E.dead k || preventTrait E h o n old new) <;> simp

theorem cntList_pos_iff_countP (k : HKey) (ns : List Notifier) (hw : WFList ns) :
    0 < cntList (.user k) ns ↔ 0 < ns.countP (isUserKey k) := by
  induction ns with
  | nil => simp [cntList]
  | cons nt ns ih =>
    have ih' := ih hw.tail
    cases nt with
    | maint mk g k' =>
      simp only [cntList, NKey.equals, List.countP_cons, isUserKey]
      simp only [Bool.false_eq_true, if_false, Nat.zero_add, Nat.add_zero]
      exact ih'
    | user k' rc =>
      have hrc : 0 < rc := hw k' rc (List.mem_cons_self ..)
      simp only [cntList, NKey.equals, List.countP_cons, isUserKey, beq_iff_eq]
      by_cases e : k' = k
      · simp [e]; omega
      · simp only [e, if_false, Nat.zero_add, Nat.add_zero]
        exact ih'

theorem setField_calls (E : Env) (st : St) (regs : List Reg) (o : Id) (n : Name) (v : Val) (fresh : Id)
    (fs : List Field) (f : Field) (hinv : HooksEqReach st.h st.H regs) (fr : SetFrag E st regs o n v fs f)
    (hset : f.val ≠ .unset) (hu : UniqueUsers st.H) (hne : f.val ≠ v)
    (hprev : preventTrait E (storeField st.h o n v) o n f.val v = false) (k : HKey) :
    ((mutate E st (.setField o n v fresh)).delivered.filter (fun d => d.key == k)).length =
      if 0 < specCnt st.h regs (.trait o n) (.user k) then 1 else 0 := by
  obtain ⟨hfire, _, _⟩ := fire_preserves E st regs o n v fs f hinv fr
  have hset' : (f.val == Val.unset) = false := beq_eq_false_iff_ne.2 hset
  have hsv : (f.cmp != Cmp.none && f.val == v) = false := by simp [hne]
  have hpos := cntList_pos_iff_countP k (st.H.get (.trait o n)) (hinv.1 _)
  have hc := hinv.2 (.trait o n) (.user k)
  unfold cnt at hc
  rw [hc] at hpos
  have hle := hu (.trait o n) k
  simp only [mutate, fr.ho, fr.hf]
  by_cases hemp : (st.H.get (.trait o n)).isEmpty = true
  · simp only [hemp, if_true, List.filter_nil, List.length_nil]
    have hnil : st.H.get (.trait o n) = [] := by simpa using hemp
    rw [hnil] at hpos
    simp only [List.countP_nil, Nat.lt_irrefl, iff_false] at hpos
    simp [hpos]
  · simp only [hemp, Bool.false_eq_true, if_false, oldValue, hset', hsv]
    have hd := callTrait_delivered_eq E (storeField st.h o n v) o n f.val v _ st.H [] hfire.2
    simp only [fire] at hd ⊢
    rw [hd, List.nil_append, count_deliv, fr.alive k, hprev]
    simp only [Bool.or_self, Bool.false_eq_true, if_false]
    by_cases h0 : 0 < specCnt st.h regs (.trait o n) (.user k)
    · have := hpos.1 h0
      simp only [h0, if_true]; omega
    · have : ¬ 0 < (st.H.get (.trait o n)).countP (isUserKey k) := fun h => h0 (hpos.2 h)
      simp only [h0, if_false]; omega

end TraitsVerif.Model.Obs
