/-
Step-level facts about `TraitSet.step` for property C07; the property theorems in
`Props/C07.lean` are assembled from these.  Every mutator ends the same way —
it reports a part of the old members as removed and new, validated ones as
added, the new members being the old ones without the former and with the
latter (`Good.of_parts`) — so the delta law, silence, the representation
invariant and the validity of the members are read off one sweep over the
mutators (`step_good`); refinement of the builtin set is a second one.
-/
import TraitsVerif.Model.TraitSet
import TraitsVerif.Lemmas.SetPy
import TraitsVerif.Lemmas.PyBasic
set_option linter.unusedSectionVars false
namespace TraitsVerif.Model.SetM
open TraitsVerif TraitsVerif.Py
open TraitsVerif.Py.PSet
variable {α : Type} [DecidableEq α]
variable {v : Callback α α} {s : PSet α}

/-! #### what a successful step leaves behind -/

/-- `(removed, added)` as every mutator reports them: nobody is notified when both are empty. -/
def mkEvent (removed added : PSet α) : Option (SEvent α) :=
  if removed.isEmpty && added.isEmpty then none else some ⟨removed, added⟩

theorem notifyRemoved_eq (items removed : PSet α) :
    notifyRemoved items removed = { items := items, event := mkEvent removed [] } := by
  cases removed <;> rfl

theorem notifyAdded_eq (items added : PSet α) :
    notifyAdded items added = { items := items, event := mkEvent [] added } := by
  cases added <;> rfl

/-- What C07 (and the validity invariant of C04) ask of the outcome `o` of a step from `s`. -/
structure Good (v : Callback α α) (s : PSet α) (o : SOut α) : Prop where
  wf : WF s → WF o.items
  delta : ∀ e, o.event = some e → Delta s o.items e
  quiet : o.event = none → Equiv o.items s
  valid : (∀ x ∈ s, TraitSet.ValidOut v x) → ∀ x ∈ o.items, TraitSet.ValidOut v x

theorem Good.of_parts {o : SOut α} (removed added : PSet α)
    (he : o.event = mkEvent removed added) (hwf : WF s → WF o.items)
    (hr : ∀ x ∈ removed, x ∈ s) (ha : ∀ x ∈ added, x ∉ s ∧ TraitSet.ValidOut v x)
    (hnew : ∀ x, x ∈ o.items ↔ (x ∈ s ∧ x ∉ removed) ∨ x ∈ added) : Good v s o := by
  refine ⟨hwf, fun e h => ?_, fun h x => ?_, fun hv x hx => ?_⟩
  · rw [he, mkEvent] at h
    split at h <;> cases h
    rename_i hc
    refine ⟨hr, fun x hx => (ha x hx).1, hnew, ?_⟩
    simp only [Bool.and_eq_true, List.isEmpty_iff, not_and] at hc
    exact (Classical.em (removed = [])).elim (fun h => .inr (hc h)) .inl
  · rw [he, mkEvent] at h
    split at h <;> cases h
    rename_i hc
    simp only [Bool.and_eq_true, List.isEmpty_iff] at hc
    rw [hnew x, hc.1, hc.2]; simp
  · rcases (hnew x).mp hx with h | h
    · exact hv x h.1
    · exact (ha x h).2

theorem good_removed {new : PSet α} (hwf : WF s → WF new) (hsub : ∀ x ∈ new, x ∈ s) :
    Good v s (notifyRemoved new (diff s new)) := by
  rw [notifyRemoved_eq]
  refine .of_parts (diff s new) [] rfl hwf (fun x hx => (mem_diff.mp hx).1) (by simp) fun x => ?_
  simp only [mem_diff, List.not_mem_nil, or_false]
  exact ⟨fun hx => ⟨hsub x hx, fun h => h.2 hx⟩, fun ⟨h1, h2⟩ => Classical.byContradiction fun hn => h2 ⟨h1, hn⟩⟩

theorem good_added {new added : PSet α} (hwf : WF s → WF new)
    (ha : ∀ x ∈ added, x ∉ s ∧ TraitSet.ValidOut v x) (hnew : ∀ x, x ∈ new ↔ x ∈ s ∨ x ∈ added) :
    Good v s (notifyAdded new added) := by
  rw [notifyAdded_eq]
  exact .of_parts [] added rfl hwf (by simp) ha (by simpa using hnew)

/-- A member taken out (`discard`, `remove`, `pop`). -/
theorem good_erase {x : α} (hx : x ∈ s) (r : Option α) :
    Good v s { items := erase s x, ret := r, event := some ⟨[x], []⟩ } :=
  .of_parts [x] [] rfl (wf_erase · x) (by simpa using hx) (by simp) (by simp [mem_erase])

theorem symParts_ok {xs : List α} {removed added : PSet α}
    (h : symParts v s xs = .ok (removed, added)) :
    ∃ ws, valAll v 0 (symRaw s xs) = .ok ws ∧ removed = inter s (ofList xs) ∧
      added = diff (ofList ws) s := by
  unfold symParts at h
  simp only [] at h
  split at h <;> cases h
  rename_i ws hws
  exact ⟨ws, hws, rfl, rfl⟩

/-- The shared end of `^=` and `symmetric_difference_update` (`u` = `removed | added` in either order). -/
theorem good_sym {xs : List α} {removed added u : PSet α}
    (h : symParts v s xs = .ok (removed, added)) (hu : ∀ x, x ∈ u ↔ x ∈ removed ∨ x ∈ added) :
    Good v s { items := symm s u, event := mkEvent removed added } := by
  obtain ⟨ws, hws, rfl, rfl⟩ := symParts_ok h
  refine .of_parts _ _ rfl (wf_symm · _) (fun x hx => (mem_inter.mp hx).1)
    (fun x hx => ⟨(mem_diff.mp hx).2, (valAll_valid hws).2 x (mem_ofList.mp (mem_diff.mp hx).1)⟩) fun x => ?_
  simp only [mem_symm, hu, mem_inter, mem_diff, mem_ofList]; grind

theorem step_good {op : Op α} {o : SOut α}
    (h : TraitSet.step v s op = .ok o) : Good v s o := by
  revert h
  -- one case per arm of `TraitSet.step`, with what the arm found out as hypotheses
  fun_cases TraitSet.step v s op with
  | case2 | case3 | case5 | case7 | case8 | case11 | case12 | case21 | case24 | case25 | case28 => nofun  -- the arms that raise
  | case1 xs =>                                                                -- `&=`
    rintro ⟨⟩; exact good_removed (wf_inter · _) fun x hx => (mem_inter.mp hx).1
  | case4 xs ys hys new =>                                                     -- `|=`
    rintro ⟨⟩
    simp only [new]
    exact good_added (wf_union · _)
      (fun x hx => by
        have := mem_diff.mp hx
        exact ⟨this.2, (valAll_valid hys).2 x (by simpa [mem_union, mem_ofList, this.2] using this.1)⟩)
      (by simp only [mem_union, mem_diff, mem_ofList]; grind)
  | case6 xs =>                                                                -- `-=`
    rintro ⟨⟩; exact good_removed (wf_diff · _) fun x hx => (mem_diff.mp hx).1
  | case9 xs r a hp _ he | case10 xs r a hp _ he =>                            -- `^=`
    rintro ⟨⟩; simpa [mkEvent, he] using good_sym hp fun x => mem_union.trans Or.comm
  | case13 x y hy hm =>                                                        -- `add`, already a member
    rintro ⟨⟩; exact .of_parts [] [] rfl (wf_insert · y) (by simp) (by simp) (by simp [mem_insert, hm])
  | case14 x y hy hm =>                                                        -- `add`
    rintro ⟨⟩
    exact .of_parts [] [y] rfl (wf_insert · y) (by simp) (by simpa using ⟨hm, 0, x, hy⟩) (by simp [mem_insert])
  | case15 r he | case16 r he =>                                               -- `clear`
    rintro ⟨⟩
    exact .of_parts (ofList s) [] (by simpa [mkEvent, r] using he) (fun _ => wf_nil) (fun x => mem_ofList.mp) (by simp)
      (by simp [mem_ofList])
  | case17 x hx | case23 x hx =>                                               -- `discard` / `remove` of a member
    rintro ⟨⟩; exact good_erase hx _
  | case18 x hx =>                                                             -- `discard` of a non-member
    rintro ⟨⟩; exact .of_parts [] [] rfl (wf_erase · x) (by simp) (by simp) (by simp [mem_erase]; grind)
  | case19 args =>                                                             -- `difference_update`
    rintro ⟨⟩; exact good_removed (wf_foldl wf_diff · _) fun x hx => (mem_foldl_diff.mp hx).1
  | case20 args =>                                                             -- `intersection_update`
    rintro ⟨⟩; exact good_removed (wf_foldl wf_inter · _) fun x hx => (mem_foldl_inter.mp hx).1
  | case22 hint x hx =>                                                        -- `pop`
    rintro ⟨⟩; exact good_erase (popChoice_mem hx) _
  | case26 xs r a hp _ he | case27 xs r a hp _ he =>                           -- `symmetric_difference_update`
    rintro ⟨⟩; simpa [mkEvent, he] using good_sym hp fun x => mem_union
  | case29 args ys hys =>                                                      -- `update`
    rintro ⟨⟩
    exact good_added (wf_union · _)
      (fun x hx => ⟨(mem_diff.mp hx).2, (valAll_valid hys).2 x (mem_ofList.mp (mem_diff.mp hx).1)⟩) (by simp [mem_union])

theorem delta_not_equiv {pre post : PSet α} {e : SEvent α} (h : Delta pre post e) : ¬ Equiv post pre := by
  intro heq
  rcases h.nonempty with hne | hne <;> obtain ⟨x, hx⟩ := List.exists_mem_of_ne_nil _ hne
  · rcases (h.post_eq x).mp ((heq x).mpr (h.removed_sub x hx)) with ⟨_, h2⟩ | h2
    · exact h2 hx
    · exact h.added_new x h2 (h.removed_sub x hx)
  · exact h.added_new x hx ((heq x).mp ((h.post_eq x).mpr (.inr hx)))

/-! #### refinement -/

theorem ResEquiv.trans : ∀ {a b c : Except Exc (PSet α × Option α)}, ResEquiv a b → ResEquiv b c → ResEquiv a c
  | .error _, .error _, .error _, h1, h2 => Eq.trans h1 h2
  | .ok _, .ok _, .ok _, h1, h2 => ⟨h1.1.trans h2.1, h1.2.trans h2.2⟩
  | .error _, .ok _, _, h1, _ => h1.elim
  | .ok _, .error _, _, h1, _ => h1.elim
  | .error _, .error _, .ok _, _, h2 => h2.elim
  | .ok _, .ok _, .error _, _, h2 => h2.elim

theorem ResEquiv.refl (a : Except Exc (PSet α × Option α)) : ResEquiv a a := by
  cases a with
  | error e => rfl
  | ok r => exact ⟨Equiv.refl _, rfl⟩

/-- Every builtin-set operation depends on the members only (`pop` being given a member). -/
theorem step_congr {a b : PSet α} (h : Equiv a b) (op : Op α) (hint : GoodHint a op) :
    ResEquiv (PSet.step a op) (PSet.step b op) := by
  cases op with
  | add x => exact ⟨fun y => by simp [mem_insert, h y], rfl⟩
  | discard x => exact ⟨fun y => by simp [mem_erase, h y], rfl⟩
  | remove x =>
    simp only [PSet.step]
    by_cases hx : x ∈ a
    · simp only [hx, (h x).mp hx, if_true]; exact ⟨fun y => by simp [mem_erase, h y], rfl⟩
    · simp only [hx, mt (h x).mpr hx, if_false]; rfl
  | pop hint' =>
    simp only [PSet.step]
    rcases hint with rfl | ⟨x, rfl, hm⟩
    · cases equiv_nil h.symm; cases hint' <;> rfl
    · rw [popChoice_good hm, popChoice_good ((h x).mp hm)]
      exact ⟨fun y => by simp [mem_erase, h y], rfl⟩
  | clear => exact ⟨Equiv.refl _, rfl⟩
  | update args => exact ⟨fun y => by simp [mem_union, h y], rfl⟩
  | differenceUpdate args => exact ⟨fun y => by simp [mem_foldl_diff, h y], rfl⟩
  | intersectionUpdate args => exact ⟨fun y => by simp [mem_foldl_inter, h y], rfl⟩
  | symmetricDifferenceUpdate xs => exact ⟨fun y => by simp [mem_symm, h y], rfl⟩
  | ior isSet xs => cases isSet <;> first | rfl | exact ⟨fun y => by simp [mem_union, h y], rfl⟩
  | iand isSet xs => cases isSet <;> first | rfl | exact ⟨fun y => by simp [mem_inter, h y], rfl⟩
  | isub isSet xs => cases isSet <;> first | rfl | exact ⟨fun y => by simp [mem_diff, h y], rfl⟩
  | ixor isSet xs => cases isSet <;> first | rfl | exact ⟨fun y => by simp [mem_symm, h y], rfl⟩

/-- Validation turns `pop` into `pop` and nothing else into it. -/
theorem goodHint_validated {op op' : Op α}
    (hv : validateSetOp v s op = .ok op') (h : GoodHint s op) : GoodHint s op' := by
  cases op <;> (try cases ‹Bool›) <;> simp only [validateSetOp] at hv <;> (try split at hv) <;> cases hv <;>
    first | exact h | trivial

/-- Toggling `removed | added` is toggling `removed ++ ws` when the validated new items `ws` are absent (F24). -/
theorem symm_parts_equiv {removed ws u : PSet α} (hy : ∀ y ∈ ws, y ∉ s)
    (hu : ∀ x, x ∈ u ↔ x ∈ removed ∨ x ∈ diff (ofList ws) s) : Equiv (symm s u) (symm s (removed ++ ws)) := by
  intro x
  simp only [mem_symm, hu, mem_diff, mem_ofList, List.mem_append]; grind

/-- Refinement of one step (property C07, first clause); the hypothesis is only
asked for where the step succeeds. -/
theorem step_refines (v : Callback α α) (s : PSet α) (op : Op α)
    (hyp : ∀ o, TraitSet.step v s op = .ok o → SymHyp v s op) : SetRefines v s op := by
  unfold SetRefines setReference setReferenceOn
  revert hyp
  fun_cases TraitSet.step v s op <;> intro hyp
  case case8 xs e hp | case25 xs e hp =>       -- `^=`, `symmetric_difference_update`: a new item is rejected
    unfold symParts at hp
    simp only [] at hp
    split at hp <;> cases hp
    simp [validateSetOp, ResEquiv, Except.map, *]
  case case9 xs r a hp _ _ | case10 xs r a hp _ _ | case26 xs r a hp _ _ | case27 xs r a hp _ _ =>   -- … all accepted
    obtain ⟨ws, hws, rfl, rfl⟩ := symParts_ok hp
    have hy := hyp _ rfl ws hws
    simp only [symRaw] at hws
    simp only [validateSetOp, hws, PSet.step, Except.map, SOut.proj, ResEquiv, and_true, ↓reduceIte]
    exact symm_parts_equiv hy fun x => by simp only [mem_union, or_comm]
  -- every other arm hands the builtin what it validated (`update` only the new items), or fails as the builtin does
  all_goals simp +zetaDelta [validateSetOp, PSet.step, Except.map, SOut.proj, notifyRemoved_eq, notifyAdded_eq,
    ResEquiv, Equiv.refl, *]
  case case4 => intro x; simp [mem_union, mem_ofList]                          -- `|=`
  case case29 => intro x; simp only [mem_union, mem_diff, mem_ofList]; grind    -- `update`

theorem pset_step_error {op : Op α} {e : Exc} (h : PSet.step s op = .error e) :
    e = .keyError ∨ e = .typeError := by
  cases op <;> simp only [PSet.step] at h <;> (try split at h) <;> cases h <;> simp

end TraitsVerif.Model.SetM
