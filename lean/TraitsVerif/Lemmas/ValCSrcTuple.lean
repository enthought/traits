/-
`validate_trait_tuple_check`: the helper's translated source text (the loop over the items,
the result tuple built in place with `PyTuple_SET_ITEM`, the inner loop that copies the items
seen so far when the first validated item differs from the original), interpreted, computes the
model's `tupleCheck`: `tupleCheckSpec_holds` discharges the hypothesis `TupleCheckSpec`.

The loop invariant is `tupOf`: what the variable `tuple` holds once a prefix of the items is
validated.  Loops and loop bodies are specified Hoare-style, for every postcondition `Q` of the
answer: `Q` holds of the run if it holds of the continuation applied to the final state.
-/
import TraitsVerif.Lemmas.ValCSrcAlone
namespace TraitsVerif.Model.CSrc
open TraitsVerif TraitsVerif.Py.Value TraitsVerif.Model.Val TraitsVerif.Generated.CValidators

/-! ## The tuple the C loop builds -/

/-- The new tuple when the items `ws` have been stored: the other slots are still NULL. -/
def fill (n : Nat) (ws : List Val) : List CV := ws.map .obj ++ List.replicate (n - ws.length) .null

theorem fill_set (n : Nat) (ws : List Val) (a : Val) (h : ws.length < n) :
    (fill n ws).set ws.length (.obj a) = fill n (ws ++ [a]) := by
  have h2 : n - ws.length = (n - (ws.length + 1)) + 1 := by omega
  simp [fill, List.set_append_right, h2, List.replicate_succ]

/-- The variable `tuple` once the items `ws` are validated: NULL as long as every validated item
is the original one, the new tuple from the first difference on. -/
def tupOf (n : Nat) (vs ws : List Val) : CV :=
  if ws = vs.take ws.length then .null else .mtuple (fill n ws)

theorem take_snoc (vs : List Val) (i : Nat) (b : Val) (h : vs[i]? = some b) : vs.take i ++ [b] = vs.take (i + 1) := by
  obtain ⟨hi, rfl⟩ := List.getElem?_eq_some_iff.1 h
  exact (List.take_succ_eq_append_getElem hi).symm

theorem tupOf_same (n : Nat) (vs ws : List Val) (b : Val) (hw : ws = vs.take ws.length)
    (hb : vs[ws.length]? = some b) : tupOf n vs (ws ++ [b]) = .null := by
  have : ws ++ [b] = vs.take (ws ++ [b]).length := by
    rw [List.length_append, List.length_singleton, ← take_snoc vs _ b hb, ← hw]
  rw [tupOf, if_pos this]

theorem tupOf_diff (n : Nat) (vs ws : List Val) (a : Val)
    (h : ws ≠ vs.take ws.length ∨ ∃ b, vs[ws.length]? = some b ∧ a ≠ b) :
    tupOf n vs (ws ++ [a]) = .mtuple (fill n (ws ++ [a])) := by
  rw [tupOf, if_neg]
  rw [List.length_append, List.length_singleton]
  intro he
  have h1 : ws = vs.take ws.length := by
    have := congrArg (List.take ws.length) he
    rwa [List.take_left', List.take_take, Nat.min_eq_left (Nat.le_succ _)] at this
    rfl
  rcases h with h | ⟨b, hb, hab⟩
  · exact h h1
  · rw [← take_snoc vs _ b hb, ← h1] at he
    exact hab (by simpa using he)

theorem tupOf_all (n : Nat) (vs ws : List Val) (hn : n = vs.length) (hl : ws.length = vs.length) :
    tupOf n vs ws = if ws = vs then .null else .mtuple (ws.map .obj) := by
  simp [tupOf, fill, hl, hn]

theorem tupleItems_length (E : Env) (ds : List (Option Desc)) (bs ws : List Val) (hl : ds.length = bs.length)
    (h : tupleItems E ds bs = .ok ws) : ws.length = bs.length := by
  rw [tupleItems_elementwise] at h
  simpa [hl] using elementwise_ok_length _ _ h

/-! ## The two loops -/

section loops
variable {R : Type} (cond incr : St → (CV → St → R) → R) (body : St → (Out → St → R) → R) (k : Out → St → R)
  (Q : R → Prop)

/-- The inner loop `for (j = 0; j < i; j++) tuple[j] = value[j]`. -/
theorem iter_copy (S : Nat → List CV → CV → St) (n : Nat) (vs : List Val) (i : Nat)
    (hin : i < n) (hiv : i ≤ vs.length)
    (hc : ∀ j xs t k', cond (S j xs t) k' = k' (ofBool (decide (j < i))) (S j xs t))
    (hi : ∀ j xs t (rec : St → R), incr (S j xs t) (fun _ s => rec s) = rec (S (j + 1) xs t))
    (hb : ∀ j xs t k' b, vs[j]? = some b → body (S j xs t) k' = k' .norm (S j (xs.set j (.obj b)) (.obj b)))
    (hQ : ∀ t', Q (k .norm (S i (fill n (vs.take i)) t')))
    (m j : Nat) (t : CV) (hj : j ≤ i) (hm : i - j < m) : Q (iter cond incr body k m (S j (fill n (vs.take j)) t)) := by
  refine iter_ind cond incr body k (fun j (a : List CV × CV) => S j a.1 a.2) i (fun j a => hc j a.1 a.2)
    (fun j a => hi j a.1 a.2) (fun j a r => j ≤ i → a.1 = fill n (vs.take j) → Q r)
    (fun j a hij hji h => ?_) (fun j a rec hji ih _ h => ?_) m j (_, t) hm hj rfl
  · obtain rfl : j = i := Nat.le_antisymm hji hij
    exact h ▸ hQ a.2
  · have hjv : j < vs.length := by omega
    have hg : vs[j]? = some vs[j] := List.getElem?_eq_getElem hjv
    have hl : (vs.take j).length = j := by simp; omega
    rw [hb j _ _ _ _ hg]
    refine ih (_, _) hji ?_
    rw [h, ← take_snoc vs j _ hg, ← fill_set n _ _ (by omega), hl]

/-- The loop over the items: the invariant is `tupOf`, `S` the variables the loop touches; with the items
`ws` validated it goes on to compute `tupleItems` of the items and values from position `ws.length` on. -/
theorem iter_tuple (E : Env) (S : Nat → CV → CV → CV → CV → CV → St) (n : Nat)
    (items : List (Option Desc)) (vs : List Val)
    (hc : ∀ i tup t4 t5 t6 t10 k', cond (S i tup t4 t5 t6 t10) k' = k' (ofBool (decide (i < n))) (S i tup t4 t5 t6 t10))
    (hi : ∀ i tup t4 t5 t6 t10 (rec : St → R), incr (S i tup t4 t5 t6 t10) (fun _ s => rec s) = rec (S (i + 1) tup t4 t5 t6 t10))
    (hb : ∀ ws t4 t5 t6 t10 k' od b (Q : R → Prop), ws.length < n → items[ws.length]? = some od →
      vs[ws.length]? = some b →
      (∀ u4 u5 u6 u10, Q (match optValidate E od b with
        | .traitError => k' (.ret .null) (S ws.length (tupOf n vs ws) u4 u5 u6 u10)
        | .raised e => k' (.ret .null) { S ws.length (tupOf n vs ws) u4 u5 u6 u10 with err := some e }
        | .ok a => k' .norm (S ws.length (tupOf n vs (ws ++ [a])) u4 u5 u6 u10))) →
      Q (body (S ws.length (tupOf n vs ws) t4 t5 t6 t10) k'))
    (hn : n = items.length) (hv : n = vs.length) (m : Nat) (ws : List Val) (t4 t5 t6 t10 : CV)
    (hw : ws.length ≤ n) (hm : n - ws.length < m)
    (hQ : ∀ i' tup u4 u5 u6 u10, Q (match tupleItems E (items.drop ws.length) (vs.drop ws.length) with
      | .error none => k (.ret .null) (S i' tup u4 u5 u6 u10)
      | .error (some e) => k (.ret .null) { S i' tup u4 u5 u6 u10 with err := some e }
      | .ok as => k .norm (S n (tupOf n vs (ws ++ as)) u4 u5 u6 u10))) :
    Q (iter cond incr body k m (S ws.length (tupOf n vs ws) t4 t5 t6 t10)) := by
  refine iter_ind cond incr body k (fun i (a : CV × CV × CV × CV × CV) => S i a.1 a.2.1 a.2.2.1 a.2.2.2.1 a.2.2.2.2) n
    (fun i a => hc i _ _ _ _ _) (fun i a => hi i _ _ _ _ _)
    (fun i a r => ∀ ws, ws.length = i → i ≤ n → a.1 = tupOf n vs ws →
      (∀ i' tup u4 u5 u6 u10, Q (match tupleItems E (items.drop i) (vs.drop i) with
        | .error none => k (.ret .null) (S i' tup u4 u5 u6 u10)
        | .error (some e) => k (.ret .null) { S i' tup u4 u5 u6 u10 with err := some e }
        | .ok as => k .norm (S n (tupOf n vs (ws ++ as)) u4 u5 u6 u10))) → Q r)
    (fun i a hni ws _ hin ha hQ => ?_) (fun i a rec hin ih ws hw _ ha hQ => ?_)
    m ws.length (_, t4, t5, t6, t10) hm ws rfl hw rfl hQ
  · obtain rfl : i = n := Nat.le_antisymm hin hni
    have := hQ 0 .null a.2.1 a.2.2.1 a.2.2.2.1 a.2.2.2.2
    rw [List.drop_eq_nil_of_le (Nat.le_of_eq hn.symm)] at this
    simpa [tupleItems, ha] using this
  · obtain ⟨tup, t4, t5, t6, t10⟩ := a
    subst hw ha
    have hI : ws.length < items.length := hn ▸ hin
    have hV : ws.length < vs.length := hv ▸ hin
    rw [List.drop_eq_getElem_cons hI, List.drop_eq_getElem_cons hV] at hQ
    refine hb ws t4 t5 t6 t10 _ _ _ Q hin (List.getElem?_eq_getElem hI) (List.getElem?_eq_getElem hV) fun u4 u5 u6 u10 => ?_
    have hQ' := hQ ws.length (tupOf n vs ws) u4 u5 u6 u10
    simp only [tupleItems] at hQ'
    cases hov : optValidate E items[ws.length] vs[ws.length] with
    | traitError => simpa [hov] using hQ'
    | raised e => simpa [hov] using hQ'
    | ok a =>
      refine ih (_, u4, u5, u6, u10) (ws ++ [a]) (by simp) hin rfl fun i' tup w4 w5 w6 w10 => ?_
      have h := hQ i' tup w4 w5 w6 w10
      simp only [tupleItems, hov] at h
      cases hr : tupleItems E (items.drop (ws.length + 1)) (vs.drop (ws.length + 1)) with
      | error x => cases x <;> simpa [hr] using h
      | ok as => simpa [hr] using h

end loops

/-! ## The function -/

/-- `validate_trait_tuple_check` once `value` is known to be a tuple of the right length: the
loop over the items and the two `return`s after it. -/
def tcMain : Stmt := (Stmt.drop 1 fn_validate_trait_tuple_check.body.thn).thn
/-- The body of that loop, -/
def tcBody : Stmt := (getLoop (Stmt.drop 1 tcMain).head).2.2.2
/-- and its last statement, which stores the validated item. -/
def tcStore : Stmt := Stmt.drop 4 tcBody

/-- The variables of `validate_trait_tuple_check` inside the loop: `traits, obj, name, value`,
`itrait, bitem, aitem, tuple, n, i, j`. -/
def tcS (items : List (Option Desc)) (v : Val) (n i : Nat) (tup t4 t5 t6 t10 : CV) : St :=
  ⟨[.traits items, .hobj, .name, .obj v, t4, t5, t6, tup, .int n, .int i, t10], none⟩

section body
variable (C : Ctx) (fuel : Nat) (items : List (Option Desc)) (sub : Bool) (vs : List Val)
  (k : Out → St → Option (CV × Err)) (Q : Option (CV × Err) → Prop)

/-- `if (tuple != NULL) SET_ITEM(tuple, i, aitem); else if (aitem != bitem) { new tuple, copy
the first i items, SET_ITEM } else DECREF(aitem)` keeps the invariant. -/
theorem tc_store (ws : List Val) (a b : Val) (t4 t10 : CV) (hf : ws.length < fuel) (hlt : ws.length < vs.length)
    (hgV : vs[ws.length]? = some b)
    (hQ : ∀ u5 u10, Q (k .norm (tcS items (.tuple sub vs) vs.length ws.length (tupOf vs.length vs (ws ++ [a]))
      t4 u5 (.obj a) u10))) :
    Q (exec C fuel tcStore (tcS items (.tuple sub vs) vs.length ws.length (tupOf vs.length vs ws)
      t4 (.obj b) (.obj a) t10) k) := by
  show Q (exec _ _ (.ite _ _ (.ite _ (.seq _ (.seq _ (.seq (.forLoop _ _ _ _) _))) _)) ⟨_, _⟩ _)
  by_cases hw : ws = vs.take ws.length
  · rw [show tupOf vs.length vs ws = .null from if_pos hw]
    by_cases hab : a = b
    · subst hab
      have := hQ (.obj a) t10
      rw [tupOf_same _ _ _ _ hw hgV] at this
      csrc_eval [tcS]
      exact this
    · have := hQ
      rw [tupOf_diff _ _ _ _ (.inr ⟨b, hgV, hab⟩)] at this
      csrc_eval [tcS, hab]
      refine iter_copy _ _ _ _ Q
        (fun j xs t => ⟨[.traits items, .hobj, .name, .obj (.tuple sub vs), t4, t, .obj a, .mtuple xs,
          .int ↑vs.length, .int ↑ws.length, .int ↑j], none⟩)
        vs.length vs ws.length hlt (Nat.le_of_lt hlt) (fun j xs t k' => by simp)
        (fun j xs t rec => by simp [Int.natCast_add]) (fun j xs t k' b' hb' => by csrc_eval [hb'])
        (fun t' => ?_) fuel 0 (.obj b) (Nat.zero_le _) (by omega)
      rw [← hw]
      csrc_eval [fill_set _ _ _ hlt]
      exact this ..
  · rw [show tupOf vs.length vs ws = .mtuple (fill vs.length ws) from if_neg hw]
    have := hQ (.obj b) t10
    rw [tupOf_diff _ _ _ _ (.inl hw), ← fill_set _ _ _ hlt] at this
    csrc_eval [tcS]
    exact this

/-- One iteration: fetch the item and its trait, validate, give up on a failure, store. -/
theorem tc_body (E : Env) (inner : Desc → Val → Res) (cdflt : Val) (ws : List Val) (od : Option Desc) (b : Val)
    (t4 t5 t6 t10 : CV) (hf : ws.length < fuel) (hlt : ws.length < vs.length)
    (hgI : items[ws.length]? = some od) (hgV : vs[ws.length]? = some b)
    (hin : ∀ d, od = some d → inner d b = fastAlone E d b)
    (hte : ∀ d, od = some d → fastAlone E d b ≠ .raised .traitError)
    (hQ : ∀ u4 u5 u6 u10, Q (match optValidate E od b with
      | .traitError => k (.ret .null) (tcS items (.tuple sub vs) vs.length ws.length (tupOf vs.length vs ws) u4 u5 u6 u10)
      | .raised e => k (.ret .null)
          { tcS items (.tuple sub vs) vs.length ws.length (tupOf vs.length vs ws) u4 u5 u6 u10 with err := some e }
      | .ok a => k .norm
          (tcS items (.tuple sub vs) vs.length ws.length (tupOf vs.length vs (ws ++ [a])) u4 u5 u6 u10))) :
    Q (exec (C0 E inner cdflt) fuel tcBody
      (tcS items (.tuple sub vs) vs.length ws.length (tupOf vs.length vs ws) t4 t5 t6 t10) k) := by
  show Q (exec _ _ (.seq _ (.seq _ (.seq _ (.seq _ tcStore)))) ⟨_, _⟩ _)
  cases od with
  | none =>
    csrc_eval [hgI, hgV]
    exact tc_store _ fuel items sub vs k Q ws b b _ t10 hf hlt hgV fun u5 u10 => hQ _ u5 _ u10
  | some d =>
    have hQ' := fun u6 => hQ (.itrait (some d)) (.obj b) u6 t10
    simp only [optValidate] at hQ'
    csrc_eval [C0, hgI, hgV, hin d rfl]
    cases hv : fastAlone E d b with
    | traitError => simpa [hv, tcS] using hQ' .null
    | raised e =>
      have hne : e ≠ .traitError := fun h => hte d rfl (h ▸ hv)
      simpa [hv, hne, tcS] using hQ' .null
    | ok a =>
      refine tc_store _ fuel items sub vs k Q ws a b _ t10 hf hlt hgV fun u5 u10 => ?_
      simpa [optValidate, hv] using hQ (.itrait (some d)) u5 (.obj a) u10

end body

variable (E : Env) (inner : Desc → Val → Res) (cdflt : Val) (fuel : Nat) (items : List (Option Desc))

theorem cvToVal_obj : cvToVal ∘ CV.obj = id := rfl

theorem tupleCheck_tuple_eq
    (hin : ∀ d, some d ∈ items → ∀ x, inner d x = fastAlone E d x)
    (hte : ∀ d, some d ∈ items → ∀ x, fastAlone E d x ≠ .raised .traitError)
    (hf : items.length < fuel) (sub : Bool) (vs : List Val) (hlen : items.length = vs.length) :
    helpers E inner cdflt fuel "validate_trait_tuple_check" [.traits items, .hobj, .name, .obj (.tuple sub vs)] none =
      tupToC (tupleCheck E items (.tuple sub vs)) := by
  rw [helpers_eq E inner cdflt fuel rfl, runFn_eq]
  simp only [tupleCheck, tupleCheckWith, hlen, if_true]
  show finK none (exec _ _ (.seq (.ite _ (.seq _ (.ite _ tcMain _)) _) _) ⟨[_, _, _, _, _, _, _, _, _, _, _], _⟩ _) = _
  csrc_eval [isInst_tuple_tuple, hlen]
  show finK none (exec _ _ (.seq _ (.seq (.forLoop _ _ _ tcBody) _)) _ _) = _
  csrc_eval []
  refine iter_tuple _ _ _ _ (fun r => finK none r = tupToC _) E (tcS items (.tuple sub vs) vs.length) vs.length items vs
    (fun i tup t4 t5 t6 t10 k' => by simp [tcS]) (fun i tup t4 t5 t6 t10 rec => by simp [tcS, Int.natCast_add])
    (fun ws t4 t5 t6 t10 k' od b Q hlt hgI hgV hQ =>
      tc_body fuel items sub vs k' Q E inner cdflt ws od b t4 t5 t6 t10 (by omega) hlt hgI hgV
        (fun d hd => hin d (List.mem_of_getElem? (hd ▸ hgI)) b) (fun d hd => hte d (List.mem_of_getElem? (hd ▸ hgI)) b) hQ)
    hlen.symm rfl fuel [] .undef .undef .undef .undef (Nat.zero_le _) (by omega) fun i' tup u4 u5 u6 u10 => ?_
  rw [List.length_nil, List.drop_zero, List.drop_zero]
  cases hti : tupleItems E items vs with
  | error x =>
    cases x with
    | none => simp [tcS, finK, finishT, tupToC]
    | some e => simp [tcS, finK, finishT, tupToC]
  | ok ws =>
    have hwl := tupleItems_length E items vs ws hlen hti
    simp only [List.nil_append, tupOf_all _ _ _ rfl hwl]
    by_cases hwv : ws = vs
    · subst hwv
      simp [tcS, finK, finishT, tupToC, Val.beqL_refl]
    · have hb1 : Val.beqL ws vs = false := Bool.eq_false_iff.2 fun h => hwv ((Val.beqL_iff ws vs).1 h)
      simp [tcS, hwv, finK, finishT, tupToC, hb1, cvToVal_obj]

theorem tupleCheck_nontuple_eq (v : Val) (hv : Val.isInst .tuple v = false) :
    helpers E inner cdflt fuel "validate_trait_tuple_check" [.traits items, .hobj, .name, .obj v] none = (.null, none) := by
  rw [helpers_eq E inner cdflt fuel rfl, runFn_eq]
  show finK none (exec _ _ (.seq (.ite _ fn_validate_trait_tuple_check.body.thn _) _) ⟨[_, _, _, _, _, _, _, _, _, _, _], _⟩ _) = _
  csrc_eval [hv, finK, finishT]

theorem tupleCheck_length_eq (sub : Bool) (vs : List Val) (hlen : ¬ items.length = vs.length) :
    helpers E inner cdflt fuel "validate_trait_tuple_check" [.traits items, .hobj, .name, .obj (.tuple sub vs)] none =
      (.null, none) := by
  rw [helpers_eq E inner cdflt fuel rfl, runFn_eq]
  show finK none (exec _ _ (.seq (.ite _ (.seq _ (.ite _ tcMain _)) _) _) ⟨[_, _, _, _, _, _, _, _, _, _, _], _⟩ _) = _
  have hlen' : ¬ ((items.length : Int) = ↑vs.length) := by omega
  csrc_eval [isInst_tuple_tuple, hlen', finK, finishT]

/-- `validate_trait_tuple_check`, interpreted on its translated source text, computes the
model's `tupleCheck` (the equation `TupleCheckSpec` asks for), provided the item validators
are the stand-alone validators (`hin`), none of them reports the junk value
`.raised .traitError` (`hte`: the C code clears a TraitError and reports "no match"), and
the loop bound of the interpreter exceeds the number of items (`hf`).  `hte` is asked of every
value: an Int, Float, Complex or float Range item fails it (a TraitError raised by the value's
`__index__` / `__float__` / `__complex__` comes out as `.raised .traitError`), and with
`inner = fastAlone E` `TupleCheckSpec` itself is false of such items. -/
theorem tupleCheckSpec_holds (E : Env) (inner : Desc → Val → Res) (cdflt : Val) (fuel : Nat)
    (items : List (Option Desc))
    (hin : ∀ d, some d ∈ items → ∀ x, inner d x = fastAlone E d x)
    (hte : ∀ d, some d ∈ items → ∀ x, fastAlone E d x ≠ .raised .traitError)
    (hf : items.length < fuel) :
    TupleCheckSpec E inner cdflt fuel items := by
  intro v
  cases v with
  | atom a =>
    rw [tupleCheck_nontuple_eq E inner cdflt fuel items _ (by cases a <;> simp [Val.isInst])]
    simp [tupleCheck, tupleCheckWith, tupToC]
  | list ws =>
    rw [tupleCheck_nontuple_eq E inner cdflt fuel items _ (by simp [Val.isInst])]
    simp [tupleCheck, tupleCheckWith, tupToC]
  | tuple sub vs =>
    by_cases hlen : items.length = vs.length
    · exact tupleCheck_tuple_eq E inner cdflt fuel items hin hte hf sub vs hlen
    · rw [tupleCheck_length_eq E inner cdflt fuel items sub vs hlen]
      simp [tupleCheck, tupleCheckWith, hlen, tupToC]

end TraitsVerif.Model.CSrc
