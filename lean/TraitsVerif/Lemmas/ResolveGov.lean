/-
"Every trait the lookup of (object, name) can be dispatched to satisfies P":
the invariant behind the policy theorems of C13 (strict, read-only, constant,
event, remove restores), its preservation along histories, and the outcome of
get / set / del under it.
-/
import TraitsVerif.Lemmas.ResolveInv
namespace TraitsVerif.Model.Resolve
open TraitsVerif

/-- Class level: the class-dictionary entry if there is one, else whatever an
uncached resolution (read or write) returns. -/
def ClassGov (P : Trait → Prop) (c : Cls) (name : Name) : Prop :=
  ∀ t, (c.ctraits.get name = some t ∨
        (c.ctraits.get name = none ∧ ∃ b, resolve₀ c.prefixes name b = .ok t)) → P t

def InstGov (P : Trait → Prop) (o : Obj) (name : Name) : Prop :=
  ∀ t, o.itraits.get name = some t → P t

/-- The wildcard table has an entry for '' (`update_traits_class_dict` makes sure). -/
def Total (c : Cls) : Prop := ∃ t, ([], t) ∈ c.prefixes

def ClassGovAt (P : Trait → Prop) (w : World) (oi : Nat) (name : Name) : Prop :=
  ∃ o c, w.objs[oi]? = some o ∧ w.classes[o.cls]? = some c ∧ ClassGov P c name ∧ Total c

def GovAt (P : Trait → Prop) (w : World) (oi : Nat) (name : Name) : Prop :=
  ∃ o c, w.objs[oi]? = some o ∧ w.classes[o.cls]? = some c ∧ InstGov P o name ∧ ClassGov P c name ∧ Total c

def DictAt (w : World) (oi : Nat) (name : Name) (r : Option Val) : Prop :=
  ∃ o, w.objs[oi]? = some o ∧ o.dict.get name = r

theorem DictAt.get {w : World} {oi : Nat} {name : Name} {r : Option Val} (h : DictAt w oi name r) {o : Obj}
    (ho : w.objs[oi]? = some o) : o.dict.get name = r := by
  obtain ⟨o', ho', h⟩ := h
  rw [ho] at ho'; cases ho'; exact h

theorem GovAt.of_class_trait {P : Trait → Prop} {w : World} {oi : Nat} {name : Name} {o : Obj} {c : Cls} {t : Trait}
    (ho : w.objs[oi]? = some o) (hc : w.classes[o.cls]? = some c) (hi : o.itraits.get name = none)
    (hct : c.ctraits.get name = some t) (hP : P t) (htot : Total c) : GovAt P w oi name := by
  refine ⟨o, c, ho, hc, ?_, ?_, htot⟩
  · intro t' ht'; rw [hi] at ht'; cases ht'
  · intro t' ht'
    rcases ht' with ht' | ⟨ht', _⟩
    · rw [hct] at ht'; cases ht'; exact hP
    · rw [hct] at ht'; cases ht'

theorem GovAt.classGovAt {P : Trait → Prop} {w : World} {oi : Nat} {name : Name} (h : GovAt P w oi name) :
    ClassGovAt P w oi name := by
  obtain ⟨o, c, ho, hc, _, hcg, ht⟩ := h
  exact ⟨o, c, ho, hc, hcg, ht⟩

theorem Dispatch.sat {P : Trait → Prop} {c : Cls} {o : Obj} {name : Name} {b : Bool} {t : Trait}
    (h : Dispatch c o name b (.ok t)) (hcp : ClsPlain c) (hop : ObjPlain o)
    (hi : InstGov P o name) (hcg : ClassGov P c name) : P t := by
  cases h with
  | inst h => exact hi t h
  | cls _ h => exact hcg t (Or.inl h)
  | pref _ hct h =>
    rw [prefixTrait_plain_eq hcp hop] at h
    exact hcg t (Or.inr ⟨hct, b, h⟩)

theorem ClassGov.cache {P : Trait → Prop} {c : Cls} {name : Name} (hg : ClassGov P c name) {name1 : Name}
    {b : Bool} {t : Trait} (hct : c.ctraits.get name1 = none) (hp : resolve₀ c.prefixes name1 b = .ok t) :
    ClassGov P { c with ctraits := c.ctraits.set name1 t } name := by
  intro t2 ht2
  by_cases hn : name1 = name
  · subst hn
    simp only [Map.get_set_same] at ht2
    rcases ht2 with ht2 | ⟨ht2, _⟩
    · cases ht2; exact hg t (Or.inr ⟨hct, b, hp⟩)
    · cases ht2
  · simp only [Map.get_set_ne _ _ hn] at ht2
    exact hg t2 ht2

theorem step_obj (E : Env) {w : World} (hw : NoDeleg w) {oi : Nat} {o : Obj} (ho : w.objs[oi]? = some o)
    (name : Name) (op : Op) :
    ∃ o', (step E w op).1.objs[oi]? = some o' ∧ o'.cls = o.cls ∧
      ((o'.itraits.get name = o.itraits.get name ∧ o'.dict.get name = o.dict.get name) ∨
       ∃ c, w.classes[o.cls]? = some c ∧ Touch E oi name c o op o') := by
  have he := step_effect E w hw.hooks op
  generalize (step E w op).1 = w1 at he
  cases he with
  | noop | mkClass => exact ⟨o, ho, rfl, Or.inl ⟨rfl, rfl⟩⟩
  | new => exact ⟨o, getElem?_append_some ho, rfl, Or.inl ⟨rfl, rfl⟩⟩
  | res _ _ hres => exact ⟨o, by rw [hres.objs]; exact ho, rfl, Or.inl ⟨rfl, rfl⟩⟩
  | @obj oi1 name1 o1 c1 w' o1' ho1 hc1 hres ht =>
    simp only [hres.objs]
    by_cases hoi : oi1 = oi
    · subst hoi
      rw [ho1] at ho; cases ho
      refine ⟨o1', getElem?_set_self' ho1, ht.frame.1, ?_⟩
      by_cases hn : name1 = name
      · subst hn; exact Or.inr ⟨c1, hc1, ht⟩
      · exact Or.inl (ht.frame.2 name (Ne.symm hn))
    · exact ⟨o, (List.getElem?_set_ne hoi).trans ho, rfl, Or.inl ⟨rfl, rfl⟩⟩

theorem step_cls (E : Env) {P : Trait → Prop} {w : World} (hw : NoDeleg w) {ci : Nat} {c : Cls} {name : Name}
    (hc : w.classes[ci]? = some c) (hg : ClassGov P c name) (op : Op) :
    ∃ c2, (step E w op).1.classes[ci]? = some c2 ∧ ClassGov P c2 name ∧ c2.prefixes = c.prefixes := by
  rcases (step_effect E w hw.hooks op).class_at hc with h | ⟨o, ho, name1, b, t, hct, hp, h⟩
  · exact ⟨c, h, hg, rfl⟩
  · rw [prefixTrait_plain_eq (hw.cls c (List.mem_of_getElem? hc)) (hw.obj o ho)] at hp
    exact ⟨_, h, hg.cache hct hp, rfl⟩

theorem ClassGovAt_step (E : Env) {P : Trait → Prop} {w : World} (hw : NoDeleg w) {oi : Nat} {name : Name}
    (hg : ClassGovAt P w oi name) (op : Op) : ClassGovAt P (step E w op).1 oi name := by
  obtain ⟨o, c, ho, hc, hcg, htot⟩ := hg
  obtain ⟨o', ho', hcls, -⟩ := step_obj E hw ho name op
  obtain ⟨c2, hc2, hg2, hp2⟩ := step_cls E hw hc hcg op
  exact ⟨o', c2, ho', by rw [hcls]; exact hc2, hg2, by unfold Total; rw [hp2]; exact htot⟩

theorem ClassGovAt_run (E : Env) {P : Trait → Prop} {w : World} (hw : NoDeleg w) {oi : Nat} {name : Name}
    (hg : ClassGovAt P w oi name) {ops : List Op} (hops : ∀ op ∈ ops, op.Plain) :
    ClassGovAt P (run E w ops).1 oi name :=
  (run_invariant E (I := fun w => NoDeleg w ∧ ClassGovAt P w oi name)
    (fun _ op h hop => ⟨NoDeleg_step E h.1 hop, ClassGovAt_step E h.1 h.2 op⟩) ⟨hw, hg⟩ hops).2

theorem GovDict_step (E : Env) {P : Trait → Prop} {w : World} (hw : NoDeleg w) {oi : Nat} {name : Name}
    {r : Option Val} (hg : GovAt P w oi name) (hd : DictAt w oi name r) {op : Op}
    (hadd : ∀ t, op = .addTrait oi name t → P t)
    (hset : ∀ t d value d', P t → d.get name = r → setattrKind E t d name value = .ok d' → d'.get name = r)
    (hget : ∀ t d v d', P t → d.get name = r → d.get name = none →
      getattrKind E t d name = .ok (v, d') → d'.get name = r)
    (hrem : op = .removeTrait oi name → r = none) :
    GovAt P (step E w op).1 oi name ∧ DictAt (step E w op).1 oi name r := by
  obtain ⟨o', c2, ho', hc2, hg2, htot2⟩ := ClassGovAt_step E hw hg.classGovAt op
  obtain ⟨o, c, ho, hc, hig, hcg, -⟩ := hg
  have hdr := hd.get ho
  obtain ⟨o'', ho'', -, hview⟩ := step_obj E hw ho name op
  rw [ho'] at ho''; cases ho''
  suffices InstGov P o' name ∧ o'.dict.get name = r from
    ⟨⟨o', c2, ho', hc2, this.1, hg2, htot2⟩, o', ho', this.2⟩
  rcases hview with ⟨hi, hdict⟩ | ⟨c', hc', ht⟩
  · exact ⟨fun t h => hig t (hi ▸ h), hdict ▸ hdr⟩
  · rw [hc] at hc'; cases hc'
    have hP : ∀ {b t}, Dispatch c o name b (.ok t) → P t := fun h =>
      h.sat (hw.cls _ (List.mem_of_getElem? hc)) (hw.obj _ (List.mem_of_getElem? ho)) hig hcg
    have hnew : ∀ t, P t → InstGov P { o with itraits := o.itraits.set name t } name := by
      intro t ht t' h; rw [Map.get_set_same] at h; cases h; exact ht
    cases ht with
    | hook => exact ⟨hig, hdr⟩
    | add t => exact ⟨hnew t (hadd t rfl), hdr⟩
    | clone _ h => exact ⟨hnew _ (hP h), hdr⟩
    | remove =>
      refine ⟨fun t h => ?_, (Map.get_erase_same _ _).trans (hrem rfl).symm⟩
      rw [show (Obj.itraits _).get name = none from Map.get_erase_same _ _] at h; cases h
    | set h hk => exact ⟨hig, hset _ _ _ _ (hP h) hdr hk⟩
    | get hn h hk => exact ⟨hig, hget _ _ _ _ (hP h) hdr hn hk⟩

/-! ### outcome of set / del / get on an object under `GovAt` -/

theorem resolve₀_total {c : Cls} (htot : Total c) (name : Name) : ∃ t, resolve₀ c.prefixes name true = .ok t := by
  unfold resolve₀
  split
  · split
    · exact ⟨_, rfl⟩
    · exact ⟨_, rfl⟩
  · obtain ⟨e, he⟩ := firstMatch_total htot name
    rw [he]; exact ⟨_, rfl⟩

/-- A write always finds a trait (the '' wildcard makes the search total) and the
trait it finds is in `P`. -/
theorem resolveSet_ok {P : Trait → Prop} {w : World} {oi : Nat} {o : Obj} {c : Cls} {name : Name}
    (hcp : ClsPlain c) (hop : ObjPlain o) (hig : InstGov P o name) (hcg : ClassGov P c name) (htot : Total c)
    (hh : o.hooks = []) (ho : w.objs[oi]? = some o) :
    ∃ w' t, resolveSet w oi o c name = (w', .ok t) ∧ P t ∧ Resolved w o c name w' := by
  obtain ⟨hr, hd⟩ := resolveSet_spec w c name hh ho
  cases hrs : resolveSet w oi o c name with
  | mk w' res =>
    rw [hrs] at hr hd
    cases res with
    | ok t => exact ⟨w', t, rfl, hd.sat hcp hop hig hcg, hr⟩
    | error e =>
      exfalso
      cases hd with
      | pref hi hct h =>
        rw [prefixTrait_plain_eq hcp hop] at h
        obtain ⟨t, ht⟩ := resolve₀_total htot name
        rw [ht] at h; cases h

theorem step_set_eq (E : Env) {w : World} {oi : Nat} {o : Obj} {c : Cls} (ho : w.objs[oi]? = some o)
    (hc : w.classes[o.cls]? = some c) (name : Name) (v : Val) :
    step E w (.set oi name v) = setattro E w oi o c name (some v) := by
  simp only [step]; exact withObj_eq ho hc _

theorem step_del_eq (E : Env) {w : World} {oi : Nat} {o : Obj} {c : Cls} (ho : w.objs[oi]? = some o)
    (hc : w.classes[o.cls]? = some c) (name : Name) :
    step E w (.del oi name) = setattro E w oi o c name none := by
  simp only [step]; exact withObj_eq ho hc _

theorem step_get_eq (E : Env) {w : World} {oi : Nat} {o : Obj} {c : Cls} (ho : w.objs[oi]? = some o)
    (hc : w.classes[o.cls]? = some c) (name : Name) :
    step E w (.get oi name) = getattro E w oi o c name := by
  simp only [step]; exact withObj_eq ho hc _

theorem DictAt.setDict {w : World} {oi : Nat} {o : Obj} (ho : w.objs[oi]? = some o) (d : Map Val) (name : Name) :
    DictAt (setDict w oi d) oi name (d.get name) :=
  ⟨{ o with dict := d }, by rw [setDict_eq d ho]; exact getElem?_set_self' ho, rfl⟩

/-- `setattr` / `delattr` under `GovAt P`: the setter of *some* trait in `P` (the same trait for both, the lookup
does not see the value) runs on the object's current `__dict__`; what it makes of it is written back into the
world `w'` the lookup left, which has the objects of `w`. -/
theorem setattro_outcome (E : Env) {P : Trait → Prop} {w : World} (hw : NoDeleg w) {oi : Nat} {name : Name}
    (hg : GovAt P w oi name) :
    ∃ o t w', w.objs[oi]? = some o ∧ w'.objs = w.objs ∧ P t ∧
      (∀ v, step E w (.set oi name v) = match setattrKind E t o.dict name (some v) with
        | .error e => (w', .error e)
        | .ok d => (setDict w' oi d, .ok .done)) ∧
      step E w (.del oi name) = match setattrKind E t o.dict name none with
        | .error e => (w', .error e)
        | .ok d => (setDict w' oi d, .ok .done) := by
  obtain ⟨o, c, ho, hc, hig, hcg, htot⟩ := hg
  obtain ⟨w', t, hrs, hpt, hres⟩ := resolveSet_ok (w := w) (hw.cls c (List.mem_of_getElem? hc))
    (hw.obj o (List.mem_of_getElem? ho)) hig hcg htot (hw.hooks o (List.mem_of_getElem? ho)) ho
  refine ⟨o, t, w', ho, hres.objs, hpt, fun v => ?_, ?_⟩
  · rw [step_set_eq E ho hc, setattro, hrs]; rfl
  · rw [step_del_eq E ho hc, setattro, hrs]; rfl

/-- Outcome of `getattr` when neither `__dict__` nor the type has the name:
AttributeError from the dunder rule, or the getter of some trait in `P`. -/
theorem getattro_outcome (E : Env) {P : Trait → Prop} {w : World} (hw : NoDeleg w) {oi : Nat} {name : Name}
    (hg : GovAt P w oi name) (hd : DictAt w oi name none) (hca : E.classAttr name = none) :
    ∃ o, w.objs[oi]? = some o ∧
      (((step E w (.get oi name)).2 = .error .attributeError ∧ P anyTrait) ∨
       ∃ t, P t ∧ (step E w (.get oi name)).2 = (getattrKind E t o.dict name).map (fun r => Out.val r.1)) := by
  obtain ⟨o, c, ho, hc, hig, hcg, htot⟩ := hg
  have hdn := hd.get ho
  refine ⟨o, ho, ?_⟩
  rw [step_get_eq E ho hc]
  have hcp := hw.cls c (List.mem_of_getElem? hc)
  have hop := hw.obj o (List.mem_of_getElem? ho)
  rw [getattro_eq_resolveGet E w oi o c name hdn fun _ => hca]
  obtain ⟨-, hdis⟩ := resolveGet_spec w c name (hw.hooks o (List.mem_of_getElem? ho)) ho
  generalize resolveGet w oi o c name = r at hdis
  obtain ⟨w', res⟩ := r
  cases res with
  | ok t =>
    refine Or.inr ⟨t, hdis.sat hcp hop hig hcg, ?_⟩
    simp only
    cases getattrKind E t o.dict name <;> rfl
  | error e =>
    -- only the fallback fails, and with a '' wildcard only by the read rule for `__xxx__`
    cases hdis with
    | pref hi hct hp =>
      rw [prefixTrait_plain_eq hcp hop, resolve₀_read] at hp
      split at hp
      · rename_i hdu
        cases hp
        refine Or.inl ⟨rfl, hcg anyTrait (Or.inr ⟨hct, true, ?_⟩)⟩
        unfold resolve₀; simp [hdu.1, hdu.2]
      · obtain ⟨t, ht⟩ := resolve₀_total htot name
        rw [ht] at hp; cases hp

end TraitsVerif.Model.Resolve
