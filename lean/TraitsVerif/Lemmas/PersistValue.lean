/-
Value-level lemmas for the `persist` cluster: what `validate` (assignment),
`pickleV`, `deepcopyV` do to the identities, bindings and contents of a nested
container value, for values of every size and nesting depth.  The successful
runs of `validate` are the derivations of a relation `Validated` with five
rules, and each property of assignment is a recursion over derivations;
unpickling and deep copying are one function, `rebuild`, up to the binding
they give a rebuilt container.
-/
import TraitsVerif.Model.Persist
namespace TraitsVerif.Lemmas.Persist
open TraitsVerif TraitsVerif.Model.Persist

/-! ## Hypotheses on the leaf validators -/

/-- A validated leaf is a fixed point of its validator (`Int`, `Str`, `CInt`,
`Range`, `Enum`, … all are: validating an already validated value returns it). -/
def Idem (E : Env) : Prop := ∀ t a b, E.lv t a = .ok b → E.lv t b = .ok b

/-- Validity of a leaf does not depend on *which copy* of a referenced object it is. -/
def CopyStable (E : Env) : Prop := ∀ t a n, E.lv t a = .ok a → E.lv t (a.copiedAt n) = .ok (a.copiedAt n)

/-! ## Predicates -/

/-- `v` is a fixed point of assignment to a trait of shape `sh`: what C01/C04
establish for every value a trait holds. -/
inductive Valid (E : Env) : Shape → CVal → Prop where
  | any (v : CVal) : Valid E .any v
  | leaf {t a} : E.lv t a = .ok a → Valid E (.leafT t) (.leaf a)
  | node {k kT iT lo hi i b keys kids} :
      (k = .lst → lo ≤ kids.length ∧ kids.length ≤ hi) →
      (∀ key ∈ keys, E.lv kT key = .ok key) →
      (∀ kid ∈ kids, Valid E iT kid) →
      Valid E (.cont k kT iT lo hi) (.node k i b keys kids)

/-- `v` is valid for `sh` AND every container node at a declared position is a
`Trait*Object` bound to object `o` with the trait of that position - at every
nesting depth.  This is the invariant of the live container model (C04). -/
inductive Live (E : Env) (o : Nat) : Shape → CVal → Prop where
  | any (v : CVal) : Live E o .any v
  | leaf {t a} : E.lv t a = .ok a → Live E o (.leafT t) (.leaf a)
  | node {k kT iT lo hi i keys kids} :
      (k = .lst → lo ≤ kids.length ∧ kids.length ≤ hi) →
      (∀ key ∈ keys, E.lv kT key = .ok key) →
      (∀ kid ∈ kids, Live E o iT kid) →
      Live E o (.cont k kT iT lo hi) (.node k i (.bound o (.cont k kT iT lo hi)) keys kids)

theorem Live.valid {E : Env} {o : Nat} {sh : Shape} {v : CVal} (h : Live E o sh v) : Valid E sh v := by
  induction h with
  | any v => exact .any v
  | leaf h => exact .leaf h
  | node h1 h2 _ ih => exact .node h1 h2 ih

/-- Value equality (`==`): identities, bindings and copy generations forgotten. -/
def Leaf.norm : Leaf → Leaf
  | .ref o _ => .ref o 0
  | a => a

mutual
def norm : CVal → CVal
  | .leaf a => .leaf (Leaf.norm a)
  | .node k _ _ keys kids => .node k 0 .plain (keys.map Leaf.norm) (normL kids)
def normL : List CVal → List CVal
  | [] => []
  | v :: vs => norm v :: normL vs
end

theorem normL_eq_map : ∀ l : List CVal, normL l = l.map norm
  | [] => rfl
  | v :: vs => by simp [normL, normL_eq_map vs]

@[simp] theorem Leaf.norm_copiedAt (a : Leaf) (n : Nat) : Leaf.norm (a.copiedAt n) = Leaf.norm a := by
  cases a <;> rfl

/-! ## `valLeaves` -/

theorem valLeaves_ok_of_fixed {E : Env} {t : LeafTy} :
    ∀ {keys : List Leaf}, (∀ key ∈ keys, E.lv t key = .ok key) → valLeaves E t keys = .ok keys
  | [], _ => rfl
  | a :: as, h => by
    have h1 := h a (by simp)
    have h2 := valLeaves_ok_of_fixed (keys := as) (fun k hk => h k (by simp [hk]))
    simp [valLeaves, h1, h2]

theorem valLeaves_fixed {E : Env} (hI : Idem E) {t : LeafTy} {keys : List Leaf} :
    ∀ {keys' : List Leaf}, valLeaves E t keys = .ok keys' → ∀ key ∈ keys', E.lv t key = .ok key := by
  fun_induction valLeaves E t keys with
  | case1 => intro _ h; cases h; nofun
  | case2 => intro _ h; cases h
  | case3 => intro _ h; cases h
  | case4 a as a' ha as' has ih =>
    intro _ h
    cases h
    exact List.forall_mem_cons.mpr ⟨hI _ _ _ ha, ih has⟩

theorem valLeaves_length {E : Env} {t : LeafTy} :
    ∀ {keys keys' : List Leaf}, valLeaves E t keys = .ok keys' → keys'.length = keys.length
  | [], keys', h => by simp [valLeaves] at h; cases h; rfl
  | a :: as, keys', h => by
    unfold valLeaves at h
    split at h
    · cases h
    · split at h
      · cases h
      · rename_i as' has
        cases h
        simp [valLeaves_length has]

/-! ## `validate`: what assignment builds -/

mutual
/-- `Validated E o sh n v w n'`: assigning `v` to a trait of shape `sh` of object `o`, with the allocator at `n`, stores
`w` and leaves the allocator at `n'`.  An `Any` trait takes the value as it is, a leaf trait stores the validated
leaf, a container trait checks kind and length and builds a NEW node bound to `o` over the validated keys and
items; the items are assigned one after the other. -/
inductive Validated (E : Env) (o : Nat) : Shape → Nat → CVal → CVal → Nat → Prop where
  | any (n v) : Validated E o .any n v v n
  | leaf {t n a a'} : E.lv t a = .ok a' → Validated E o (.leafT t) n (.leaf a) (.leaf a') n
  | node {k kT iT lo hi n i b keys kids keys' kids' n'} :
      (k = .lst → lo ≤ kids.length ∧ kids.length ≤ hi) → valLeaves E kT keys = .ok keys' →
      ValidatedL E o iT (n + 1) kids kids' n' →
      Validated E o (.cont k kT iT lo hi) n (.node k i b keys kids)
        (.node k n (.bound o (.cont k kT iT lo hi)) keys' kids') n'
inductive ValidatedL (E : Env) (o : Nat) : Shape → Nat → List CVal → List CVal → Nat → Prop where
  | nil (sh n) : ValidatedL E o sh n [] [] n
  | cons {sh n v vs v' vs' n1 n2} : Validated E o sh n v v' n1 → ValidatedL E o sh n1 vs vs' n2 →
      ValidatedL E o sh n (v :: vs) (v' :: vs') n2
end

section
variable {E : Env} {o : Nat}

mutual
theorem Validated.of_run : ∀ (v : CVal) (sh : Shape) (n : Nat) (w : CVal) (n' : Nat),
    validate E o sh n v = .ok (w, n') → Validated E o sh n v w n'
  | .leaf a, sh, n, w, n', h => by
    unfold validate at h
    cases sh with
    | any => cases h; exact .any _ _
    | leafT t =>
      simp only at h
      split at h
      · cases h
      · rename_i a' ha
        cases h
        exact .leaf ha
    | cont => cases h
  | .node k i b keys kids, sh, n, w, n', h => by
    unfold validate at h
    cases sh with
    | any => cases h; exact .any _ _
    | leafT t => cases h
    | cont k' kT iT lo hi =>
      simp only at h
      split at h
      · cases h
      · rename_i hk
        split at h
        · cases h
        · rename_i hlen
          split at h
          · cases h
          · rename_i keys' hkeys
            split at h
            · cases h
            · rename_i kids' n2 hkids
              cases h
              cases Decidable.of_not_not hk
              exact .node (fun hl => Decidable.of_not_not fun hc => hlen ⟨hl, hc⟩) hkeys
                (ValidatedL.of_run kids iT (n + 1) _ _ hkids)
theorem ValidatedL.of_run : ∀ (l : List CVal) (sh : Shape) (n : Nat) (l' : List CVal) (n' : Nat),
    validateL E o sh n l = .ok (l', n') → ValidatedL E o sh n l l' n'
  | [], sh, n, l', n', h => by
    cases h
    exact .nil _ _
  | v :: vs, sh, n, l', n', h => by
    unfold validateL at h
    split at h
    · cases h
    · rename_i v' n1 hv
      split at h
      · cases h
      · rename_i vs' n2 hvs
        cases h
        exact .cons (Validated.of_run v sh n v' n1 hv) (ValidatedL.of_run vs sh n1 _ _ hvs)
end

mutual
theorem Validated.run {sh n v w n'} (h : Validated E o sh n v w n') : validate E o sh n v = .ok (w, n') := by
  cases h with
  | any _ v => cases v <;> rfl
  | leaf ha => simp only [validate, ha]
  | node hlen hkeys hkids =>
    unfold validate
    simp only [ne_eq, not_true_eq_false, ↓reduceIte, hkeys, hkids.run]
    split
    · rename_i hc
      exact absurd (hlen hc.1) hc.2
    · rfl
theorem ValidatedL.run {sh n l l' n'} (h : ValidatedL E o sh n l l' n') : validateL E o sh n l = .ok (l', n') := by
  cases h with
  | nil => rfl
  | cons hv hvs => simp only [validateL, hv.run, hvs.run]
end

theorem validate_iff {sh n v w n'} : validate E o sh n v = .ok (w, n') ↔ Validated E o sh n v w n' :=
  ⟨Validated.of_run _ _ _ _ _, Validated.run⟩

theorem validateL_iff {sh n l l' n'} : validateL E o sh n l = .ok (l', n') ↔ ValidatedL E o sh n l l' n' :=
  ⟨ValidatedL.of_run _ _ _ _ _, ValidatedL.run⟩

mutual
theorem Validated.live (hI : Idem E) {sh n v w n'} (h : Validated E o sh n v w n') : Live E o sh w := by
  cases h with
  | any _ v => exact .any v
  | leaf ha => exact .leaf (hI _ _ _ ha)
  | node hlen hkeys hkids =>
    have ih := hkids.live hI
    exact .node (fun hl => ih.2 ▸ hlen hl) (valLeaves_fixed hI hkeys) ih.1
theorem ValidatedL.live (hI : Idem E) {sh n l l' n'} (h : ValidatedL E o sh n l l' n') :
    (∀ kid ∈ l', Live E o sh kid) ∧ l'.length = l.length := by
  cases h with
  | nil => exact ⟨nofun, rfl⟩
  | cons hv hvs =>
    have ih := hvs.live hI
    exact ⟨List.forall_mem_cons.mpr ⟨hv.live hI, ih.1⟩, by simp [ih.2]⟩
end

end

theorem validate_live {E : Env} (hI : Idem E) (o : Nat) :
    ∀ (v : CVal) (sh : Shape) (n : Nat) (v' : CVal) (n' : Nat),
      validate E o sh n v = .ok (v', n') → Live E o sh v' :=
  fun _ _ _ _ _ h => (validate_iff.mp h).live hI

theorem validateL_live {E : Env} (hI : Idem E) (o : Nat) :
    ∀ (l : List CVal) (sh : Shape) (n : Nat) (l' : List CVal) (n' : Nat),
      validateL E o sh n l = .ok (l', n') → (∀ kid ∈ l', Live E o sh kid) ∧ l'.length = l.length :=
  fun _ _ _ _ _ h => (validateL_iff.mp h).live hI

theorem ValidatedL.of_forall {E : Env} (o : Nat) (sh : Shape) :
    ∀ (l : List CVal),
      (∀ kid ∈ l, ∀ n, ∃ v' n', Validated E o sh n kid v' n' ∧ norm v' = norm kid) →
      ∀ n, ∃ l' n', ValidatedL E o sh n l l' n' ∧ normL l' = normL l
  | [], _, n => ⟨[], n, .nil _ _, rfl⟩
  | v :: vs, h, n => by
    obtain ⟨v', n1, h1, e1⟩ := h v (by simp) n
    obtain ⟨vs', n2, h2, e2⟩ := ValidatedL.of_forall o sh vs (fun k hk => h k (by simp [hk])) n1
    exact ⟨v' :: vs', n2, .cons h1 h2, by simp [normL, e1, e2]⟩

theorem Valid.validated {E : Env} {sh : Shape} {v : CVal} (h : Valid E sh v) (o : Nat) :
    ∀ n, ∃ w n', Validated E o sh n v w n' ∧ norm w = norm v := by
  induction h with
  | any v => exact fun n => ⟨v, n, .any n v, rfl⟩
  | leaf ha => exact fun n => ⟨_, n, .leaf ha, rfl⟩
  | node hlen hkeys _ ih =>
    intro n
    obtain ⟨kids', n', hk, ek⟩ := ValidatedL.of_forall o _ _ ih (n + 1)
    exact ⟨_, n', .node hlen (valLeaves_ok_of_fixed hkeys) hk, by simp [norm, ek]⟩

theorem validate_of_valid {E : Env} {sh : Shape} {v : CVal} (h : Valid E sh v) (o : Nat) :
    ∀ n, ∃ v' n', validate E o sh n v = .ok (v', n') ∧ norm v' = norm v := fun n =>
  let ⟨w, n', hw, e⟩ := h.validated o n
  ⟨w, n', hw.run, e⟩

/-! ## Identities -/

section
variable {E : Env} {o : Nat}

mutual
theorem Validated.ids_new {sh n v w n'} (h : Validated E o sh n v w n') :
    n ≤ n' ∧ ∀ i ∈ ids w, (n ≤ i ∧ i < n') ∨ i ∈ ids v := by
  cases h with
  | any => exact ⟨Nat.le_refl _, fun _ hi => .inr hi⟩
  | leaf => exact ⟨Nat.le_refl _, nofun⟩
  | node _ _ hkids =>
    have ih := hkids.ids_new
    refine ⟨by omega, fun j hj => ?_⟩
    simp only [ids, List.mem_cons] at hj ⊢
    rcases hj with rfl | hj
    · exact .inl ⟨Nat.le_refl _, by omega⟩
    · exact (ih.2 j hj).imp (fun h => ⟨by omega, h.2⟩) .inr
theorem ValidatedL.ids_new {sh n l l' n'} (h : ValidatedL E o sh n l l' n') :
    n ≤ n' ∧ ∀ i ∈ idsL l', (n ≤ i ∧ i < n') ∨ i ∈ idsL l := by
  cases h with
  | nil => exact ⟨Nat.le_refl _, nofun⟩
  | cons hv hvs =>
    have h1 := hv.ids_new
    have h2 := hvs.ids_new
    refine ⟨by omega, fun j hj => ?_⟩
    simp only [idsL, List.mem_append] at hj ⊢
    rcases hj with hj | hj
    · exact (h1.2 j hj).imp (fun h => ⟨h.1, by omega⟩) .inl
    · exact (h2.2 j hj).imp (fun h => ⟨by omega, h.2⟩) .inr
end

end

theorem validate_ids {E : Env} (o : Nat) :
    ∀ (v : CVal) (sh : Shape) (n : Nat) (v' : CVal) (n' : Nat),
      validate E o sh n v = .ok (v', n') →
      n ≤ n' ∧ ∀ i ∈ ids v', (n ≤ i ∧ i < n') ∨ i ∈ ids v :=
  fun _ _ _ _ _ h => (validate_iff.mp h).ids_new

mutual
/-- Identities of the container nodes at DECLARED positions (those the trait
type-checks: the value of a `List`/`Dict`/`Set` trait and, recursively, the
items of a container-typed inner trait). -/
def declIds : Shape → CVal → List Nat
  | sh, .node _ i _ _ kids =>
    match sh with
    | .cont _ _ iT _ _ => i :: declIdsL iT kids
    | _ => []
  | _, .leaf _ => []
def declIdsL : Shape → List CVal → List Nat
  | _, [] => []
  | sh, v :: vs => declIds sh v ++ declIdsL sh vs
end

section
variable {E : Env} {o : Nat}

mutual
theorem Validated.declIds_new {sh n v w n'} (h : Validated E o sh n v w n') :
    ∀ i ∈ declIds sh w, n ≤ i ∧ i < n' := by
  cases h with
  | any _ v => cases v <;> exact nofun
  | leaf => exact nofun
  | node _ _ hkids =>
    intro j hj
    simp only [declIds, List.mem_cons] at hj
    rcases hj with rfl | hj
    · exact ⟨Nat.le_refl _, hkids.ids_new.1⟩
    · exact ⟨Nat.le_of_succ_le (hkids.declIds_new j hj).1, (hkids.declIds_new j hj).2⟩
theorem ValidatedL.declIds_new {sh n l l' n'} (h : ValidatedL E o sh n l l' n') :
    ∀ i ∈ declIdsL sh l', n ≤ i ∧ i < n' := by
  cases h with
  | nil => exact nofun
  | cons hv hvs =>
    intro j hj
    simp only [declIdsL, List.mem_append] at hj
    rcases hj with hj | hj
    · exact ⟨(hv.declIds_new j hj).1, Nat.lt_of_lt_of_le (hv.declIds_new j hj).2 hvs.ids_new.1⟩
    · exact ⟨Nat.le_trans hv.ids_new.1 (hvs.declIds_new j hj).1, (hvs.declIds_new j hj).2⟩
end

end

theorem validate_declIds_fresh {E : Env} (o : Nat) :
    ∀ (v : CVal) (sh : Shape) (n : Nat) (v' : CVal) (n' : Nat),
      validate E o sh n v = .ok (v', n') → ∀ i ∈ declIds sh v', n ≤ i ∧ i < n' :=
  fun _ _ _ _ _ h => (validate_iff.mp h).declIds_new

theorem validateL_declIds_fresh {E : Env} (o : Nat) :
    ∀ (l : List CVal) (sh : Shape) (n : Nat) (l' : List CVal) (n' : Nat),
      validateL E o sh n l = .ok (l', n') → ∀ i ∈ declIdsL sh l', n ≤ i ∧ i < n' :=
  fun _ _ _ _ _ h => (validateL_iff.mp h).declIds_new

/-! ## Rebuilding a value: `pickleV` and `deepcopyV` -/

mutual
/-- Every leaf copied, every container rebuilt with the next identity and the binding `f` gives it: what
`pickle.loads(pickle.dumps(v))` and `copy.deepcopy(v)` have in common. -/
def rebuild (f : Binding → Binding) (n : Nat) : CVal → CVal × Nat
  | .leaf a => (.leaf (a.copiedAt n), n + 1)
  | .node k _ b keys kids =>
    ((.node k n (f b) (keys.map (Leaf.copiedAt n)) (rebuildL f (n + 1) kids).1), (rebuildL f (n + 1) kids).2)
def rebuildL (f : Binding → Binding) (n : Nat) : List CVal → List CVal × Nat
  | [] => ([], n)
  | v :: vs => ((rebuild f n v).1 :: (rebuildL f (rebuild f n v).2 vs).1, (rebuildL f (rebuild f n v).2 vs).2)
end

/-- The binding of a deep copy: `Trait*Object(self.trait, None, self.name, …)`. -/
def Binding.afterDeepcopy : Binding → Binding
  | .plain => .plain
  | .detached _ => .detached none
  | .ownerless sh => .ownerless sh
  | .bound _ sh => .ownerless sh

mutual
theorem pickleV_eq : ∀ (v : CVal) (n : Nat), pickleV n v = rebuild Binding.afterSetstate n v
  | .leaf a, n => rfl
  | .node k i b keys kids, n => by simp only [pickleV, rebuild, pickleL_eq kids]
theorem pickleL_eq : ∀ (l : List CVal) (n : Nat), pickleL n l = rebuildL Binding.afterSetstate n l
  | [], n => rfl
  | v :: vs, n => by simp only [pickleL, rebuildL, pickleV_eq v, pickleL_eq vs]
end

mutual
theorem deepcopyV_eq : ∀ (v : CVal) (n : Nat), deepcopyV n v = .ok (rebuild Binding.afterDeepcopy n v)
  | .leaf a, n => rfl
  | .node k i b keys kids, n => by cases b <;> simp only [deepcopyV, rebuild, deepcopyL_eq kids, Binding.afterDeepcopy]
theorem deepcopyL_eq : ∀ (l : List CVal) (n : Nat), deepcopyL n l = .ok (rebuildL Binding.afterDeepcopy n l)
  | [], n => rfl
  | v :: vs, n => by simp only [deepcopyL, rebuildL, deepcopyV_eq v, deepcopyL_eq vs]
end

section rebuild
variable (f : Binding → Binding)

mutual
theorem rebuild_fresh : ∀ (v : CVal) (n : Nat),
    n ≤ (rebuild f n v).2 ∧ ∀ i ∈ ids (rebuild f n v).1, n ≤ i ∧ i < (rebuild f n v).2
  | .leaf a, n => ⟨Nat.le_succ _, nofun⟩
  | .node k i b keys kids, n => by
    have ih := rebuildL_fresh kids (n + 1)
    refine ⟨by simp only [rebuild]; omega, fun j hj => ?_⟩
    simp only [rebuild, ids, List.mem_cons] at hj ⊢
    rcases hj with rfl | hj
    · omega
    · have := ih.2 j hj; omega
theorem rebuildL_fresh : ∀ (l : List CVal) (n : Nat),
    n ≤ (rebuildL f n l).2 ∧ ∀ i ∈ idsL (rebuildL f n l).1, n ≤ i ∧ i < (rebuildL f n l).2
  | [], n => ⟨Nat.le_refl _, nofun⟩
  | v :: vs, n => by
    have h1 := rebuild_fresh v n
    have h2 := rebuildL_fresh vs (rebuild f n v).2
    refine ⟨by simp only [rebuildL]; omega, fun j hj => ?_⟩
    simp only [rebuildL, idsL, List.mem_append] at hj ⊢
    rcases hj with hj | hj
    · have := h1.2 j hj; omega
    · have := h2.2 j hj; omega
end

mutual
theorem rebuild_norm : ∀ (v : CVal) (n : Nat), norm (rebuild f n v).1 = norm v
  | .leaf a, n => by simp [rebuild, norm]
  | .node k i b keys kids, n => by
    simp only [rebuild, norm, rebuildL_norm kids, List.map_map]
    congr 1
    exact List.map_congr_left fun a _ => Leaf.norm_copiedAt a n
theorem rebuildL_norm : ∀ (l : List CVal) (n : Nat), normL (rebuildL f n l).1 = normL l
  | [], n => rfl
  | v :: vs, n => by simp only [rebuildL, normL, rebuild_norm v, rebuildL_norm vs]
end

theorem rebuildL_length : ∀ (l : List CVal) (n : Nat), (rebuildL f n l).1.length = l.length
  | [], n => rfl
  | v :: vs, n => by simp [rebuildL, rebuildL_length vs]

theorem rebuildL_forall {P : CVal → Prop} :
    ∀ (l : List CVal), (∀ kid ∈ l, ∀ n, P (rebuild f n kid).1) → ∀ n, ∀ kid ∈ (rebuildL f n l).1, P kid
  | [], _, n => nofun
  | v :: vs, h, n => by
    simp only [rebuildL]
    exact List.forall_mem_cons.mpr ⟨h v (by simp) n, rebuildL_forall vs (fun k hk => h k (by simp [hk])) _⟩

theorem rebuild_valid {E : Env} (hC : CopyStable E) {sh : Shape} {v : CVal} (h : Valid E sh v) :
    ∀ n, Valid E sh (rebuild f n v).1 := by
  induction h with
  | any v => exact fun n => .any _
  | leaf ha => exact fun n => .leaf (hC _ _ n ha)
  | node hlen hkeys _ ih =>
    intro n
    refine .node (fun hk => ?_) (fun key hk => ?_) (rebuildL_forall f _ ih _)
    · rw [rebuildL_length]; exact hlen hk
    · obtain ⟨a, ha, rfl⟩ := List.mem_map.mp hk
      exact hC _ _ n (hkeys a ha)

/-- The step unpickling and deep cloning share: the value is rebuilt with the allocator at `m`, then assigned with
the allocator at `n`; the two need not be related. -/
theorem validate_rebuild {E : Env} (hI : Idem E) (hC : CopyStable E) {sh : Shape} {v : CVal} (h : Valid E sh v)
    (o m n : Nat) :
    ∃ w n', validate E o sh n (rebuild f m v).1 = .ok (w, n') ∧ norm w = norm v ∧ Live E o sh w ∧ n ≤ n' ∧
      ∀ i ∈ ids w, (n ≤ i ∧ i < n') ∨ (m ≤ i ∧ i < (rebuild f m v).2) := by
  obtain ⟨w, n', hv, hn⟩ := validate_of_valid (rebuild_valid f hC h m) o n
  have hl := validate_ids o _ _ _ _ _ hv
  exact ⟨w, n', hv, by rw [hn, rebuild_norm], validate_live hI o _ _ _ _ _ hv, hl.1,
    fun i hi => (hl.2 i hi).imp id ((rebuild_fresh f v m).2 i)⟩

end rebuild

theorem pickleL_fresh : ∀ (l : List CVal) (n : Nat), ∀ i ∈ idsL (pickleL n l).1, n ≤ i ∧ i < (pickleL n l).2 :=
  fun l n => pickleL_eq l n ▸ (rebuildL_fresh _ l n).2

theorem pickleL_norm : ∀ (l : List CVal) (n : Nat), normL (pickleL n l).1 = normL l :=
  fun l n => pickleL_eq l n ▸ rebuildL_norm _ l n

theorem deepcopyL_ids : ∀ (l : List CVal) (n : Nat) (l' : List CVal) (n' : Nat), deepcopyL n l = .ok (l', n') →
    n ≤ n' ∧ ∀ i ∈ idsL l', n ≤ i ∧ i < n' := by
  intro l n l' n' h
  have e : rebuildL Binding.afterDeepcopy n l = (l', n') := Except.ok.inj (deepcopyL_eq l n ▸ h)
  have := rebuildL_fresh Binding.afterDeepcopy l n
  rwa [e] at this

end TraitsVerif.Lemmas.Persist
