/-
Cluster `obs`: calling the notifiers of one observable after a change of the heap restores the
refinement invariant (`runMaints_preserves`), and the case of a mutated cell (`Cell.run_preserves`).

Operational half: a function on hooks *realises a delta* `(rem, add)` (`Does`); sequences and loops
of such functions realise the sums (`Does.andThen`, `Does.foldRes`), in particular the maintainers
of a notifier list run in order, hooks threaded through (`runMaints`, `runMaints_does`; `callTrait`
and the container loop are instances).
Specification half: by the invariant the maintainers found on the observable are, up to `equals`,
the graphs the registrations' walks leave there (`effN_onKind_sum`); when what a registration owes
before and after differs by one `rem` and one `add` per such graph, the two halves meet.
-/
import TraitsVerif.Lemmas.ObsSite
namespace TraitsVerif.Model.Obs
open TraitsVerif

/-! ### functions on hooks and the delta they realise -/

abbrev Cnt := Observable → NKey → Nat

/-- `f` realises the delta `(rem, add)`: on well-formed hooks that hold `rem` it raises nothing, keeps
them well-formed, takes `rem` away and puts `add` there. -/
def Does (f : Hooks → Res) (rem add : Cnt) : Prop :=
  ∀ H, WF H → (∀ o q, rem o q ≤ cnt H o q) →
    (f H).err = none ∧ WF (f H).H ∧ ∀ o q, cnt (f H).H o q + rem o q = cnt H o q + add o q

namespace Does
variable {f g : Hooks → Res} {rem add rem' add' : Cnt}

theorem refl (r : Cnt) : Does (fun H => ⟨H, none⟩) r r :=
  fun _ hw _ => ⟨rfl, hw, fun _ _ => rfl⟩

theorem congr (hf : Does f rem add) (hr : ∀ o q, rem' o q = rem o q) (ha : ∀ o q, add' o q = add o q) :
    Does f rem' add' := by
  intro H hw hle
  obtain ⟨e, w, c⟩ := hf H hw (fun o q => hr o q ▸ hle o q)
  exact ⟨e, w, fun o q => by rw [hr, ha]; exact c o q⟩

theorem of_eq (hf : Does f rem add) (hfg : ∀ H, g H = f H) : Does g rem add :=
  fun H => hfg H ▸ hf H

/-- `f`, then (unless it raised) `g`: the shape of every sequence in the model -/
theorem andThen (hf : Does f rem add) (hg : Does g rem' add') :
    Does (fun H => match (f H).err with | some e => ⟨(f H).H, some e⟩ | none => g (f H).H)
      (fun o q => rem o q + rem' o q) (fun o q => add o q + add' o q) := by
  intro H hw hle
  have hle : ∀ o q, rem o q + rem' o q ≤ cnt H o q := hle
  obtain ⟨e, w, c⟩ := hf H hw (fun o q => by have := hle o q; omega)
  obtain ⟨e', w', c'⟩ := hg _ w (fun o q => by have := hle o q; have := c o q; omega)
  simp only [e]
  exact ⟨e', w', fun o q => by have := c o q; have := c' o q; omega⟩

theorem foldRes {F : W → Hooks → Res} {r a : W → Cnt} :
    ∀ ys : List W, (∀ y ∈ ys, Does (F y) (r y) (a y)) →
      Does (foldRes F ys) (fun o q => (ys.map (r · o q)).sum) (fun o q => (ys.map (a · o q)).sum)
  | [], _ => refl _
  | y :: ys, h =>
    (andThen (h y (List.mem_cons_self ..)) (foldRes ys (fun y' hy' => h y' (List.mem_cons_of_mem _ hy')))).congr
      (fun _ _ => rfl) (fun _ _ => rfl)

end Does

theorem addRemove_does_add (h : Heap) (k : HKey) (g : Graph) (e : Bool) (x : W) (hok : walkOk h e g x = true) :
    Does (addRemove h k false e g x) (fun _ _ => 0) (cntItems (hookList h k e g x)) := by
  intro H hw _
  have he := addRemove_add_ok h k g e x H hok
  obtain ⟨_, c, w⟩ := addRemove_add h k g e x H he
  exact ⟨he, w hw, fun o q => by rw [c]; rfl⟩

theorem addRemove_does_rm (h : Heap) (k : HKey) (g : Graph) (e : Bool) (x : W) (hok : walkOk h e g x = true) :
    Does (addRemove h k true e g x) (cntItems (hookList h k e g x)) (fun _ _ => 0) := by
  intro H hw hle
  obtain ⟨e', c, w⟩ := addRemove_remove h k g e x H hw hok hle
  exact ⟨e', w, c⟩

/-! ### the maintainers of a notifier list, run in order -/

def runMaints (dead : HKey → Bool) (m : MKind → Graph → HKey → Hooks → Res) : List Notifier → Hooks → Res
  | [], H => ⟨H, none⟩
  | .user _ _ :: ns, H => runMaints dead m ns H
  | .maint mk g k :: ns, H =>
    if dead k then runMaints dead m ns H
    else
      let r := m mk g k H
      match r.err with
      | some e => ⟨r.H, some e⟩
      | none => runMaints dead m ns r.H

theorem callTrait_run (E : Env) (h : Heap) (o : Id) (n : Name) (old new : Val) :
    ∀ (ns : List Notifier) (H : Hooks) (ds : List Delivered),
      (callTrait E h o n old new ns H ds).1 =
        (runMaints E.dead (fun mk g k => maintTrait h mk g k o old new) ns H).H ∧
      (callTrait E h o n old new ns H ds).2.2 =
        (runMaints E.dead (fun mk g k => maintTrait h mk g k o old new) ns H).err := by
  intro ns
  induction ns with
  | nil => intro H ds; exact ⟨rfl, rfl⟩
  | cons nt ns ih =>
    intro H ds
    cases nt with
    | user k rc =>
      simp only [callTrait, runMaints]
      split
      · exact ih H ds
      · exact ih H _
    | maint mk g k =>
      simp only [callTrait, runMaints]
      split
      · exact ih H ds
      · cases (maintTrait h mk g k o old new H).err with
        | some e => exact ⟨rfl, rfl⟩
        | none => exact ih _ ds

theorem runMaints_inert (dead : HKey → Bool) (m : MKind → Graph → HKey → Hooks → Res) (ns : List Notifier) (H : Hooks)
    (hm : ∀ mk g k, Notifier.maint mk g k ∈ ns → m mk g k H = ⟨H, none⟩) : runMaints dead m ns H = ⟨H, none⟩ := by
  induction ns with
  | nil => rfl
  | cons nt ns ih =>
    have ih' := ih (fun mk g k hn => hm mk g k (List.mem_cons_of_mem _ hn))
    cases nt with
    | user k rc => exact ih'
    | maint mk g k => simp [runMaints, hm mk g k (List.mem_cons_self ..), ih']

/-- per-notifier quantity: only maintainers contribute -/
def effN (F : MKind → Graph → HKey → Nat) : Notifier → Nat
  | .maint mk g k => F mk g k
  | .user .. => 0

/-- … only those of one kind -/
def onKind (mk : MKind) (F : Graph → HKey → Nat) : MKind → Graph → HKey → Nat :=
  fun mk' g k => if mk' = mk then F g k else 0

theorem runMaints_does (dead : HKey → Bool) (m : MKind → Graph → HKey → Hooks → Res)
    (rem add : Observable → NKey → MKind → Graph → HKey → Nat) :
    ∀ ns : List Notifier,
      (∀ mk g k, Notifier.maint mk g k ∈ ns → dead k = false ∧
        Does (m mk g k) (fun o q => rem o q mk g k) (fun o q => add o q mk g k)) →
      Does (runMaints dead m ns) (fun o q => (ns.map (effN (rem o q))).sum) (fun o q => (ns.map (effN (add o q))).sum)
  | [], _ => .refl _
  | .user _ _ :: ns, h =>
    (runMaints_does dead m rem add ns (fun mk g k hm => h mk g k (List.mem_cons_of_mem _ hm))).congr
      (fun _ _ => Nat.zero_add _) (fun _ _ => Nat.zero_add _)
  | .maint mk g k :: ns, h => by
    have ih := runMaints_does dead m rem add ns (fun mk g k hm => h mk g k (List.mem_cons_of_mem _ hm))
    obtain ⟨hd, hm⟩ := h mk g k (List.mem_cons_self ..)
    exact ((hm.andThen ih).of_eq (fun H => by simp only [runMaints, hd, Bool.false_eq_true, if_false])).congr
      (fun _ _ => rfl) (fun _ _ => rfl)

/-! ### the maintainers on the observable are the visits, up to `equals` -/

theorem exists_pos_of_sum_pos {α} (l : List α) (f : α → Nat) (h : 0 < (l.map f).sum) : ∃ a ∈ l, 0 < f a := by
  induction l with
  | nil => cases h
  | cons a l ih =>
    by_cases ha : 0 < f a
    · exact ⟨a, List.mem_cons_self .., ha⟩
    · obtain ⟨b, hb, hfb⟩ := ih (by simp only [List.map_cons, List.sum_cons] at h; omega)
      exact ⟨b, List.mem_cons_of_mem _ hb, hfb⟩

/-- Two descriptions of the maintainers of kind `mk` on an observable — the notifier list `ns`, and a list `L`
of graphs with their handler keys — that agree in their counts up to `equals`, where `equals` is equality
among the graphs involved, give the same sums: the first maintainer of `ns` is counted in `L`, so some entry
of `L` equals it, hence is it; take both off. -/
theorem sum_effN_of_counts (mk : MKind) (F : Graph → HKey → Nat) :
    ∀ (ns : List Notifier) (L : List (Graph × HKey)),
      (∀ c0 k0, cntList (.maint mk c0 k0) ns = (L.map fun p => hit (.maint mk p.1 p.2) (.maint mk c0 k0)).sum) →
      (∀ g k, Notifier.maint mk g k ∈ ns → ∀ p ∈ L,
        (NKey.maint mk g k).equals (.maint mk p.1 p.2) = true → p = (g, k)) →
      (ns.map (effN (onKind mk F))).sum = (L.map fun p => F p.1 p.2).sum := by
  intro ns
  induction ns with
  | nil =>
    intro L hc _
    cases L with
    | nil => rfl
    | cons p L =>
      have := hc p.1 p.2
      simp only [cntList, List.map_cons, List.sum_cons, hit_self] at this
      omega
  | cons nt ns ih =>
    intro L hc he
    have he' := fun g k hm => he g k (List.mem_cons_of_mem _ hm)
    cases nt with
    | user k rc => simpa [effN] using ih L (fun c0 k0 => by simpa [cntList, NKey.equals] using hc c0 k0) he'
    | maint mk' g k =>
      by_cases e : mk' = mk
      · subst e
        -- counted in `ns`, hence in `L`: some entry of `L` equals it, and by `he` that entry is `(g, k)`
        have hpos : 0 < (L.map fun p => hit (.maint mk' p.1 p.2) (.maint mk' g k)).sum := by
          rw [← hc g k]; simp only [cntList, NKey.equals_refl, if_true]; omega
        obtain ⟨p, hp, hpk⟩ := exists_pos_of_sum_pos _ _ hpos
        have hpk : (NKey.maint mk' p.1 p.2).equals (.maint mk' g k) = true := by
          unfold hit at hpk; split at hpk
          · assumption
          · omega
        obtain rfl := he g k (List.mem_cons_self ..) p hp (NKey.equals_symm hpk)
        obtain ⟨pre, post, rfl⟩ := List.append_of_mem hp
        have := ih (pre ++ post)
          (fun c0 k0 => by
            have := hc c0 k0
            simp only [cntList, List.map_append, List.map_cons, List.sum_append, List.sum_cons, hit] at this ⊢
            omega)
          (fun g' k' hm p' hp' => he' g' k' hm p' (by
            rcases List.mem_append.1 hp' with h1 | h1
            · exact List.mem_append_left _ h1
            · exact List.mem_append_right _ (List.mem_cons_of_mem _ h1)))
        simp only [List.map_cons, List.sum_cons, List.map_append, List.sum_append, effN, onKind, if_true] at this ⊢
        omega
      · -- a maintainer of another kind (like a user notifier) counts for no key of kind `mk`
        have h0 : ∀ c0 k0, (NKey.maint mk' g k).equals (.maint mk c0 k0) = false :=
          fun c0 k0 => NKey.equals_maint_ne e g c0 k k0
        simpa [effN, onKind, e] using ih L (fun c0 k0 => by simpa [cntList, h0] using hc c0 k0) he'

/-- … with the second description given per registration `r` as the graphs `V r`. -/
theorem effN_onKind_sum (mk : MKind) (ns : List Notifier) (regs : List Reg) (V : Reg → List Graph)
    (hcnt : ∀ c0 k0, cntList (.maint mk c0 k0) ns =
      (regs.map (fun r => visitHits mk r.k (V r) (.maint mk c0 k0))).sum)
    (eqs : ∀ g k, Notifier.maint mk g k ∈ ns → ∀ r ∈ regs, ∀ g' ∈ V r,
      (NKey.maint mk g k).equals (.maint mk g' r.k) = true → g = g' ∧ k = r.k)
    (F : Graph → HKey → Nat) :
    (ns.map (effN (onKind mk F))).sum = (regs.map (fun r => ((V r).map (fun g => F g r.k)).sum)).sum := by
  have hL : ∀ f : Graph → HKey → Nat,
      ((regs.flatMap fun r => (V r).map fun g => (g, r.k)).map fun p => f p.1 p.2).sum =
        (regs.map fun r => ((V r).map fun g => f g r.k).sum).sum :=
    fun f => by simp only [sum_map_flatMap, List.map_map, Function.comp_def]
  rw [← hL]
  refine sum_effN_of_counts mk F ns _
    (fun c0 k0 => (hcnt c0 k0).trans (hL fun g k => hit (.maint mk g k) (.maint mk c0 k0)).symm) ?_
  intro g k hm p hp he
  obtain ⟨r, hr, hp⟩ := List.mem_flatMap.1 hp
  obtain ⟨g', hg', rfl⟩ := List.mem_map.1 hp
  obtain ⟨rfl, rfl⟩ := eqs g k hm r hr g' hg' he
  rfl

/-! ### preservation -/

/-- The notifiers of `tgt` are called after the heap went from `h` to `h'`.  If
(`hV`, `eqs`) the maintainers of kind `kind` that a registration `r` owes on `tgt` are the graphs `V r`,
(`hdec`, `hdec'`) what `r` owes in `h` and in `h'` is a common `base` plus, per graph of `V r`, `rem` resp. `add`,
(`hm`) each maintainer of that kind found on `tgt` realises its `(rem, add)` and the others do nothing,
then the hooks are again what the registrations owe, now in `h'`, and nothing was raised.
`eqs`: graph equality is structural on the graphs involved. -/
theorem runMaints_preserves {h h' : Heap} {H : Hooks} {regs : List Reg} {tgt : Observable} {kind : MKind}
    (V : Reg → List Graph) (base : Reg → Cnt) (rem add : Observable → NKey → Graph → HKey → Nat)
    (hinv : HooksEqReach h H regs)
    (hV : ∀ r ∈ regs, ∀ c0 k0, cntItems (hookList h r.k true r.g (some r.x)) tgt (.maint kind c0 k0) =
      visitHits kind r.k (V r) (.maint kind c0 k0))
    (eqs : ∀ g k, Notifier.maint kind g k ∈ H.get tgt → ∀ r ∈ regs, ∀ g' ∈ V r,
      (NKey.maint kind g k).equals (.maint kind g' r.k) = true → g = g' ∧ k = r.k)
    (hdec : ∀ r ∈ regs, ∀ o' q, cntItems (hookList h r.k true r.g (some r.x)) o' q =
      base r o' q + ((V r).map (fun c => rem o' q c r.k)).sum)
    (hdec' : ∀ r ∈ regs, ∀ o' q, cntItems (hookList h' r.k true r.g (some r.x)) o' q =
      base r o' q + ((V r).map (fun c => add o' q c r.k)).sum)
    (dead : HKey → Bool) (m : MKind → Graph → HKey → Hooks → Res)
    (hm : ∀ mk g k, Notifier.maint mk g k ∈ H.get tgt → dead k = false ∧
      Does (m mk g k) (fun o' q => onKind kind (rem o' q) mk g k) (fun o' q => onKind kind (add o' q) mk g k)) :
    HooksEqReach h' (runMaints dead m (H.get tgt) H).H regs ∧ (runMaints dead m (H.get tgt) H).err = none := by
  obtain ⟨hwf, hcnt⟩ := hinv
  have hmatch : ∀ F : Graph → HKey → Nat, ((H.get tgt).map (effN (onKind kind F))).sum =
      (regs.map (fun r => ((V r).map (fun g => F g r.k)).sum)).sum := by
    refine effN_onKind_sum kind (H.get tgt) regs V ?_ eqs
    intro c0 k0
    have := hcnt tgt (.maint kind c0 k0)
    unfold cnt at this
    rw [this]
    exact sum_map_congr _ _ _ (fun r hr => hV r hr c0 k0)
  have hspec : ∀ o' q, specCnt h regs o' q = (regs.map (fun r => base r o' q)).sum +
      (regs.map (fun r => ((V r).map (fun c => rem o' q c r.k)).sum)).sum := by
    intro o' q
    rw [← sum_map_add]
    exact sum_map_congr _ _ _ (fun r hr => hdec r hr o' q)
  have hspec' : ∀ o' q, specCnt h' regs o' q = (regs.map (fun r => base r o' q)).sum +
      (regs.map (fun r => ((V r).map (fun c => add o' q c r.k)).sum)).sum := by
    intro o' q
    rw [← sum_map_add]
    exact sum_map_congr _ _ _ (fun r hr => hdec' r hr o' q)
  have hdo := runMaints_does dead m (fun o' q => onKind kind (rem o' q)) (fun o' q => onKind kind (add o' q))
    (H.get tgt) hm H hwf
  simp only [hmatch, hcnt, hspec] at hdo
  obtain ⟨e, w, cc⟩ := hdo (fun o' q => by omega)
  refine ⟨⟨w, fun o' q => ?_⟩, e⟩
  have := cc o' q
  rw [hspec']
  omega

namespace Cell
variable {C : Cell} {A : Observer → Prop} {h h' : Heap} {regs : List Reg}

theorem blocks_split (h'' : Heap) (k : HKey) {ys a b : List W} (hsp : ys.Perm (a ++ b)) (vs : List Graph)
    (o' : Observable) (q : NKey) :
    Gen.blocks h'' k ys vs o' q = Gen.blocks h'' k a vs o' q + Gen.blocks h'' k b vs o' q := by
  rw [Gen.blocks_eq_blockW, Gen.blocks_eq_blockW, Gen.blocks_eq_blockW, ← sum_map_add]
  exact sum_map_congr _ _ _ (fun c _ => blockW_split h'' hsp o' q c k)

/-- A mutation of the cell `C` — content `items` ↦ `items'`, reported to the notifiers of `C.tgt` as
`removed` / `added` with `items = removed ++ rest`, `items' = rest ++ added` up to order — preserves the
invariant, provided every maintainer of the cell's kind found there removes below `removed` and adds
below `added` (in the new heap) and the others do nothing.
`nsr`: below the current content the maintained sub-graphs never come back to `C.tgt`;
`eqs`: graph equality is structural on the sub-graphs involved. -/
theorem run_preserves {H : Hooks} {items items' removed added rest : List W}
    (nsr : ∀ r ∈ regs, ∀ c ∈ C.visits h r.g (some r.x), ∀ w ∈ items, ∀ it ∈ hookList h r.k true c w, it.1 ≠ C.tgt)
    (ok : C.OK A h) (hk : C.kind ≠ .added) (R0 : C.Rel A h h items) (R1 : C.Rel A h h' items')
    (hall : ∀ r ∈ regs, r.g.All A) (hinv : HooksEqReach h H regs)
    (hsp : items.Perm (removed ++ rest)) (hsp' : items'.Perm (rest ++ added))
    (eqs : ∀ g k, Notifier.maint C.kind g k ∈ H.get C.tgt → ∀ r ∈ regs, ∀ g' ∈ C.visits h r.g (some r.x),
      (NKey.maint C.kind g k).equals (.maint C.kind g' r.k) = true → g = g' ∧ k = r.k)
    (dead : HKey → Bool) (m : MKind → Graph → HKey → Hooks → Res)
    (hm : ∀ mk g k, Notifier.maint mk g k ∈ H.get C.tgt → dead k = false ∧
      Does (m mk g k) (fun o' q => onKind C.kind (blockW h' removed o' q) mk g k)
        (fun o' q => onKind C.kind (blockW h' added o' q) mk g k)) :
    HooksEqReach h' (runMaints dead m (H.get C.tgt) H).H regs ∧ (runMaints dead m (H.get C.tgt) H).err = none := by
  -- below the current content nothing changes, and nothing there sits on the target
  have hloc : ∀ r ∈ regs, ∀ o' q, Gen.blocks h' r.k items (C.visits h r.g (some r.x)) o' q =
      Gen.blocks h r.k items (C.visits h r.g (some r.x)) o' q := by
    intro r hr o' q
    unfold Gen.blocks
    refine sum_map_congr _ _ _ (fun c hc => ?_)
    congr 1
    exact Common.flatMap_congr (fun w hw =>
      Cell.locality ok R1 r.k c (Cell.visits_all h r.g (hall r hr) (some r.x) c hc) true w (nsr r hr c hc w hw))
  have htgt : ∀ r ∈ regs, ∀ q, Gen.blocks h r.k items (C.visits h r.g (some r.x)) C.tgt q = 0 := by
    intro r hr q
    refine sum_map_zero _ _ (fun c hc => cntItems_zero_of_ne _ _ _ (fun it hit => ?_))
    obtain ⟨w, hw, hm'⟩ := List.mem_flatMap.1 hit
    exact nsr r hr c hc w hw it hm'
  refine runMaints_preserves (fun r => C.visits h r.g (some r.x))
    (fun r o' q => cntItems (C.stable h r.k true r.g (some r.x)) o' q +
      Gen.blocks h' r.k rest (C.visits h r.g (some r.x)) o' q)
    (fun o' q => blockW h' removed o' q) (fun o' q => blockW h' added o' q) hinv ?_ eqs ?_ ?_ dead m hm
  · intro r hr c0 k0
    rw [Cell.dec R0 r.k r.g (hall r hr), htgt r hr, Nat.add_zero]
    exact Cell.stable_at_target ok hk r.k r.g (hall r hr) true (some r.x) c0 k0
  · intro r hr o' q
    rw [Cell.dec R0 r.k r.g (hall r hr), ← hloc r hr, blocks_split h' r.k hsp, Gen.blocks_eq_blockW h' r.k removed]
    omega
  · intro r hr o' q
    rw [Cell.dec R1 r.k r.g (hall r hr), blocks_split h' r.k hsp', Gen.blocks_eq_blockW h' r.k added]
    omega

end Cell

end TraitsVerif.Model.Obs
