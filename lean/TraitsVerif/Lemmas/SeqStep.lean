/-
`TraitList.step` and its listeners (`EventSpec`): every emitted event replays to
the new contents and is in normal form, and an operation that emits none has not
changed the contents — one sweep over the operations (`step_eventSpec`).
-/
import TraitsVerif.Lemmas.SeqEvent
namespace TraitsVerif.Model
open TraitsVerif TraitsVerif.Py
variable {α : Type}

theorem replay_single_set (l : List α) (j : Nat) (y : α) (hj : j < l.length) (n : Int)
    (hn : 0 ≤ n) (hnj : j = n.toNat) :
    replay l ⟨.idx n, (l[j]?).toList, [y]⟩ = some (l.set j y)
    ∧ NormalForm l ⟨.idx n, (l[j]?).toList, [y]⟩ := by
  subst hnj
  rw [replay_idx _ _ _ _ hn, List.getElem?_eq_getElem hj]
  constructor
  · simp [List.set_eq_take_append_cons_drop, hj]
  · simp only [NormalForm, Option.toList, List.length_cons, List.length_nil]
    refine ⟨hn, by omega, ?_⟩
    rw [List.drop_eq_getElem_cons hj]; rfl

theorem replay_single_del (l : List α) (j : Nat) (hj : j < l.length) (n : Int)
    (hn : 0 ≤ n) (hnj : j = n.toNat) :
    replay l ⟨.idx n, (l[j]?).toList, []⟩ = some (l.eraseIdx j)
    ∧ NormalForm l ⟨.idx n, (l[j]?).toList, []⟩ := by
  subst hnj
  rw [replay_idx _ _ _ _ hn, List.getElem?_eq_getElem hj]
  constructor
  · simp [List.eraseIdx_eq_take_drop_succ]
  · simp only [NormalForm, Option.toList, List.length_cons, List.length_nil]
    refine ⟨hn, by omega, ?_⟩
    rw [List.drop_eq_getElem_cons hj]; rfl

theorem replay_append (l added : List α) :
    replay l ⟨.idx l.length, [], added⟩ = some (l ++ added)
    ∧ NormalForm l ⟨.idx l.length, [], added⟩ := by
  rw [replay_idx _ _ _ _ (by omega)]
  constructor
  · simp
  · simp [NormalForm]

theorem replay_whole (l added : List α) :
    replay l ⟨.idx 0, l, added⟩ = some added ∧ NormalForm l ⟨.idx 0, l, added⟩ := by
  rw [replay_idx _ _ _ _ (by omega)]
  constructor
  · simp
  · simp [NormalForm]

/-! ### slices that select nothing -/

theorem splice_nil_of_empty {l : List α} {s : Slice} {a b : Int}
    (hidx : s.indices l.length = some (a, b, 1)) (hm : sliceLen a b 1 = 0) :
    splice l a b [] = l := by
  obtain ⟨_, _, hsp⟩ := splice_eq_block [] hidx
  rw [hsp, hm]
  simp

theorem empty_slice_silent {l : List α} {s : Slice} {a b k : Int} (hidx : s.indices l.length = some (a, b, k))
    (hrem : getPositions l (positions a k (sliceLen a b k)) = []) :
    Py.setSlice l s [] = .ok l ∧ Py.delSlice l s = .ok l := by
  have hm : sliceLen a b k = 0 := by rw [← selected_length hidx, hrem]; rfl
  simp only [Py.setSlice, Py.delSlice, hidx, hm]
  by_cases hk : k = 1
  · subst hk
    simp only [if_true, splice_nil_of_empty hidx hm, and_self]
  · simp only [hk, if_false, List.length_nil, ne_eq, not_true, positions, setPositions, delPositions_nil, and_self]

/-- `list.sort` returns a permutation of its input (all the model needs of it). -/
def SortOk (E : Env α) : Prop := ∀ (sp : Nat) (l : List α), (E.sort sp l).Perm l

/-- What the result of an operation on contents `l` owes the listeners: an event, if there is one, replays to the
new contents and is in normal form; without an event the contents are unchanged (`SortOk` is needed for one case
only: sorting the empty list). -/
def EventSpec (E : Env α) (l : List α) : Except Exc (Out α) → Prop
  | .error _ => True
  | .ok o =>
    match o.event with
    | some e => replay l e = some o.items ∧ NormalForm l e
    | none => SortOk E → o.items = l

theorem eventSpec_some {E : Env α} {l l' : List α} {r : Option α} {e : Event α} :
    EventSpec E l (.ok ⟨l', r, some e⟩) ↔ replay l e = some l' ∧ NormalForm l e := Iff.rfl
theorem eventSpec_none {E : Env α} {l l' : List α} {r : Option α} :
    EventSpec E l (.ok ⟨l', r, none⟩) ↔ (SortOk E → l' = l) := Iff.rfl

theorem step_eventSpec (E : Env α) (l : List α) (op : Op α) : EventSpec E l (TraitList.step E l op) := by
  cases op with
  | setIdx i x =>
    simp only [TraitList.step, Py.setIdx]
    cases E.v 0 x with
    | error e => trivial
    | ok y =>
      cases hj : normIdx l.length i with
      | none => trivial
      | some j =>
        obtain ⟨h0, h1, hjn⟩ := normIdx_some hj
        exact eventSpec_some.2 (replay_single_set l j y (by omega) _ h0 hjn)
  | setSlice s xs =>
    rcases hidx : s.indices l.length with _ | ⟨a, b, k⟩
    · simp only [TraitList.step, Py.getSlice, hidx]; trivial
    · cases hv : valAll E.v 0 xs with
      | error e => simp only [TraitList.step, Py.getSlice, hidx, hv]; trivial
      | ok ys =>
        cases hset : Py.setSlice l s ys with
        | error e => simp only [TraitList.step, Py.getSlice, hidx, hv, hset]; trivial
        | ok l' =>
          simp only [TraitList.step, Py.getSlice, normalizeSlice, hidx, hv, hset]
          split
          · rename_i he
            obtain ⟨rfl, hr⟩ : ys = [] ∧ getPositions l (positions a k (sliceLen a b k)) = [] := by
              simpa using he
            exact eventSpec_none.2 fun _ => (Except.ok.inj ((empty_slice_silent hidx hr).1.symm.trans hset)).symm
          · rename_i he
            have hev := setSlice_event hidx hset (by simpa using he)
            simp only [sliceEvent] at hev
            split <;> rename_i hr <;> simpa only [hr, if_true, Bool.false_eq_true, if_false] using eventSpec_some.2 hev
  | delIdx i | pop i =>
    simp only [TraitList.step, Py.delIdx, Py.pop]
    cases hj : normIdx l.length i with
    | none => trivial
    | some j =>
      obtain ⟨h0, h1, hjn⟩ := normIdx_some hj
      have hjl : j < l.length := by omega
      simpa [List.getElem?_eq_getElem hjl, normalizeIdx, eventSpec_some] using replay_single_del l j hjl _ h0 hjn
  | delSlice s =>
    rcases hidx : s.indices l.length with _ | ⟨a, b, k⟩
    · simp only [TraitList.step, Py.getSlice, hidx]; trivial
    · cases hdel : Py.delSlice l s with
      | error e => simp only [TraitList.step, Py.getSlice, hidx, hdel]; trivial
      | ok l' =>
        simp only [TraitList.step, Py.getSlice, normalizeSlice, hidx, hdel]
        split
        · rename_i he
          exact eventSpec_none.2 fun _ =>
            (Except.ok.inj ((empty_slice_silent hidx (by simpa using he)).2.symm.trans hdel)).symm
        · rename_i he
          have hev := delSlice_event hidx hdel (by simpa using he)
          simp only [sliceEvent, List.reverse_nil, ite_self] at hev
          exact eventSpec_some.2 hev
  | append x =>
    simp only [TraitList.step]
    cases E.v 0 x with
    | error e => trivial
    | ok y => exact eventSpec_some.2 (by simpa using replay_append l [y])
  | extend xs | iadd xs =>
    simp only [TraitList.step]
    cases valAll E.v 0 xs with
    | error e => trivial
    | ok ys =>
      cases ys with
      | nil => exact eventSpec_none.2 fun _ => List.append_nil l
      | cons y ys => exact eventSpec_some.2 (replay_append l _)
  | imul n =>
    simp only [TraitList.step]
    split
    · rename_i hn
      cases l with
      | nil => exact eventSpec_none.2 fun _ => by simp [Py.imul, hn]
      | cons x l => simpa [Py.imul, hn, eventSpec_some] using replay_whole (x :: l) []
    · rename_i hn
      have hm := imul_eq_append (l := l) hn
      split
      · rename_i he
        exact eventSpec_none.2 fun _ => by rw [hm, List.isEmpty_iff.mp he, List.append_nil]
      · refine eventSpec_some.2 ?_
        have := replay_append l ((Py.imul l n).drop l.length)
        rwa [← hm] at this
  | insert i x =>
    simp only [TraitList.step]
    cases E.v 0 x with
    | error e => trivial
    | ok y =>
      obtain ⟨h0, h1, hp⟩ := insertPos_eq l.length i
      refine eventSpec_some.2 ?_
      rw [replay_idx _ _ _ _ h0]
      exact ⟨by simp [Py.insert, hp], h0, by simpa using h1, rfl⟩
  | remove x =>
    simp only [TraitList.step, Py.remove]
    cases hj : Py.index E.eq l x with
    | none => trivial
    | some j =>
      have hjl : j < l.length := findIdx?_lt hj
      exact eventSpec_some.2 (replay_single_del l j hjl j (by omega) (by omega))
  | clear | reverse =>
    cases l with
    | nil => exact eventSpec_none.2 fun _ => rfl
    | cons x l => exact eventSpec_some.2 (replay_whole _ _)
  | sort sp =>
    cases l with
    | nil => exact eventSpec_none.2 fun hs => List.perm_nil.mp (hs _ [])
    | cons x l => exact eventSpec_some.2 (replay_whole _ _)

theorem step_event_ok (E : Env α) (l : List α) (op : Op α) (o : Out α) (e : Event α)
    (h : TraitList.step E l op = .ok o) (he : o.event = some e) :
    replay l e = some o.items ∧ NormalForm l e := by
  have := step_eventSpec E l op
  rw [h] at this
  simpa only [EventSpec, he] using this

theorem step_silent (E : Env α) (hs : SortOk E) (l : List α) (op : Op α) (o : Out α)
    (h : TraitList.step E l op = .ok o) (he : o.event = none) : o.items = l := by
  have := step_eventSpec E l op
  rw [h] at this
  simp only [EventSpec, he] at this
  exact this hs

end TraitsVerif.Model
