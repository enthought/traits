/-
What one `step` can do to the world (cluster `resolve`).  First the vocabulary of
the invariants: `resolve₀` (resolution that does not look at the object),
plainness (`Trait.Plain`, `ClsPlain`, `ObjPlain`, `NoDeleg`, `Op.Plain`: no
delegate trait anywhere).  Then the lookups as relations (`Resolved` for the
world, `Dispatch` for the trait), and what one step can do as a relation:
`Effect`, with `Touch` for the object the step addresses.  The invariants of
Lemmas/ResolveInv and the views of Lemmas/ResolveGov are case analyses on it.
-/
import TraitsVerif.Lemmas.ResolvePrefix
namespace TraitsVerif.Model.Resolve
open TraitsVerif

/-! ### facts about `List` that core does not state in this form -/

theorem mapM_getElem?_mem {α : Type} {l : List α} {is : List Nat} {xs : List α}
    (h : is.mapM (fun i => l[i]?) = some xs) : ∀ x ∈ xs, ∃ i ∈ is, l[i]? = some x := by
  induction is generalizing xs with
  | nil => simp at h; subst h; simp
  | cons i is ih =>
    rw [List.mapM_cons] at h
    cases hi : l[i]? with
    | none => simp [hi] at h
    | some a =>
      cases hr : is.mapM (fun i => l[i]?) with
      | none => simp [hi, hr] at h
      | some ys =>
        simp [hi, hr] at h
        subst h
        intro x hx
        rcases List.mem_cons.mp hx with hx | hx
        · subst hx; exact ⟨i, List.mem_cons_self, hi⟩
        · obtain ⟨j, hj, hjx⟩ := ih hr x hx
          exact ⟨j, List.mem_cons_of_mem _ hj, hjx⟩

theorem set_getElem?_self {α : Type} {l : List α} {i : Nat} {a : α} (h : l[i]? = some a) : l.set i a = l := by
  obtain ⟨hi, rfl⟩ := List.getElem?_eq_some_iff.mp h
  exact List.set_getElem_self hi

theorem modify_eq_set {α : Type} {l : List α} {i : Nat} {a : α} (f : α → α) (h : l[i]? = some a) :
    l.modify i f = l.set i (f a) := by
  obtain ⟨hi, rfl⟩ := List.getElem?_eq_some_iff.mp h
  apply List.ext_getElem?
  intro j
  rw [List.getElem?_modify, List.getElem?_set]
  by_cases hij : i = j
  · subst hij; simp [hi]
  · simp [hij]

theorem getElem?_set_self' {α : Type} {l : List α} {i : Nat} {a b : α} (h : l[i]? = some a) :
    (l.set i b)[i]? = some b := by
  obtain ⟨hi, -⟩ := List.getElem?_eq_some_iff.mp h
  simp [hi]

theorem getElem?_append_some {α : Type} {l l' : List α} {i : Nat} {a : α} (h : l[i]? = some a) :
    (l ++ l')[i]? = some a := by
  obtain ⟨hi, -⟩ := List.getElem?_eq_some_iff.mp h
  rw [List.getElem?_append_left hi]; exact h

-- `decide` compares results of `run` (lists of `Except Exc Out`) in Props/C13
deriving instance DecidableEq for Except

/-! ### resolution that does not look at the object: `resolve₀` -/

def Trait.Plain (t : Trait) : Prop := t.kind ≠ .delegate

instance (t : Trait) : Decidable t.Plain := by unfold Trait.Plain; exact inferInstance

/-- `__prefix_trait__` without the delegate-shadow branch: depends on the
class's wildcard table only. -/
def resolve₀ (ps : List (Name × Trait)) (name : Name) (isSet : Bool) : Except Exc Trait :=
  if isDunder name then
    if name = classDunder then .ok genericTrait
    else if isSet then .ok anyTrait
    else .error .attributeError
  else
    match firstMatch ps name with
    | some e => .ok e.2
    | none => .error .other

theorem prefixTrait_eq_resolve₀ {c : Cls} {o : Obj} {name : Name} (b : Bool)
    (h : ∀ t, trait0 c o (stem name) = some t → t.Plain) :
    prefixTrait c o name b = resolve₀ c.prefixes name b := by
  unfold prefixTrait resolve₀
  split
  · rfl
  · dsimp only
    by_cases hu : endsUnderscore name = true
    · simp only [hu, ↓reduceIte]
      cases ht : trait0 c o (stem name) with
      | none => rfl
      | some t =>
        have := h t ht
        unfold Trait.Plain at this
        simp only [this, ↓reduceIte]
        cases firstMatch c.prefixes name <;> rfl
    · simp only [hu]
      cases firstMatch c.prefixes name <;> rfl

theorem resolve₀_read (ps : List (Name × Trait)) (name : Name) :
    resolve₀ ps name false =
      if isDunder name = true ∧ name ≠ classDunder then .error .attributeError else resolve₀ ps name true := by
  unfold resolve₀
  by_cases hdu : isDunder name = true
  · by_cases hcl : name = classDunder <;> simp [hdu, hcl]
  · simp [hdu]

theorem resolve₀_not_dunder {ps : List (Name × Trait)} {name : Name} (h : isDunder name = false) (b b' : Bool) :
    resolve₀ ps name b = resolve₀ ps name b' := by
  cases b <;> cases b' <;> simp [resolve₀_read, h]

theorem resolve₀_ok_write {ps : List (Name × Trait)} {name : Name} {b : Bool} {t : Trait}
    (h : resolve₀ ps name b = .ok t) : resolve₀ ps name true = .ok t := by
  cases b with
  | true => exact h
  | false =>
    rw [resolve₀_read] at h
    split at h
    · cases h
    · exact h

theorem resolve₀_plain {ps : List (Name × Trait)} (hp : ∀ e ∈ ps, e.2.Plain) {name : Name} {b : Bool} {t : Trait}
    (h : resolve₀ ps name b = .ok t) : t.Plain := by
  revert h
  fun_cases resolve₀ ps name b
  -- `__class__`; `__xxx__` written; `__xxx__` read; first match; no match
  · rintro ⟨⟩; decide
  · rintro ⟨⟩; decide
  · rintro ⟨⟩
  · rename_i e he; rintro ⟨⟩; exact hp e (firstMatch_some he).1
  · rintro ⟨⟩

/-! ### plainness (no delegate traits anywhere) -/

structure ClsPlain (c : Cls) : Prop where
  ct : ∀ e ∈ c.ctraits, e.2.Plain
  pf : ∀ e ∈ c.prefixes, e.2.Plain

def ObjPlain (o : Obj) : Prop := ∀ e ∈ o.itraits, e.2.Plain

/-- No delegate trait anywhere, and no `trait_added` listener that adds traits
(`Obj.hooks`) on any object. -/
structure NoDeleg (w : World) : Prop where
  cls : ∀ c ∈ w.classes, ClsPlain c
  obj : ∀ o ∈ w.objs, ObjPlain o
  hooks : ∀ o ∈ w.objs, o.hooks = []

def Op.Plain : Op → Prop
  | .mkClass _ decls => ∀ d ∈ decls, d.2.Plain
  | .addTrait _ _ t => t.Plain
  | .hook _ _ _ => False
  | _ => True

instance (op : Op) : Decidable op.Plain := by
  cases op <;> unfold Op.Plain <;> exact inferInstance

theorem trait0_plain {c : Cls} {o : Obj} (hc : ClsPlain c) (ho : ObjPlain o) {n : Name} {t : Trait}
    (h : trait0 c o n = some t) : t.Plain := by
  unfold trait0 at h
  split at h
  · rename_i t' ht'
    cases h
    exact ho _ (Map.mem_of_get ht')
  · exact hc.ct _ (Map.mem_of_get h)

theorem prefixTrait_plain_eq {c : Cls} {o : Obj} (hc : ClsPlain c) (ho : ObjPlain o) (name : Name) (b : Bool) :
    prefixTrait c o name b = resolve₀ c.prefixes name b :=
  prefixTrait_eq_resolve₀ b (fun _ ht => trait0_plain hc ho ht)

theorem prefixTrait_plain {c : Cls} {o : Obj} (hc : ClsPlain c) (ho : ObjPlain o) {name : Name} {b : Bool}
    {t : Trait} (h : prefixTrait c o name b = .ok t) : t.Plain := by
  rw [prefixTrait_plain_eq hc ho] at h
  exact resolve₀_plain hc.pf h

/-! ### the world after a resolution -/

theorem fireTraitAdded_eq (o : Obj) (name : Name) :
    fireTraitAdded o name = { o with itraits :=
      ((o.hooks.filter fun h => prefixMatches h.1 name).reverse.map fun h => (name, h.2)) ++ o.itraits } := by
  have aux : ∀ (l : List (Name × Trait)) (x : Obj),
      l.foldl (fun o h => if prefixMatches h.1 name then { o with itraits := o.itraits.set name h.2 } else o) x =
        { x with itraits :=
            ((l.filter fun h => prefixMatches h.1 name).reverse.map fun h => (name, h.2)) ++ x.itraits } := by
    intro l
    induction l with
    | nil => intro x; rfl
    | cons h l ih =>
      intro x
      rw [List.foldl_cons, ih]
      cases hm : prefixMatches h.1 name <;> simp [hm, Map.set]
  exact aux o.hooks o

theorem fireTraitAdded_nil {o : Obj} (h : o.hooks = []) (name : Name) : fireTraitAdded o name = o := by
  unfold fireTraitAdded; rw [h]; rfl

theorem fireTraitAdded_dict (o : Obj) (name : Name) :
    (fireTraitAdded o name).dict = o.dict ∧ (fireTraitAdded o name).cls = o.cls := by
  rw [fireTraitAdded_eq]; exact ⟨rfl, rfl⟩

theorem setDict_eq {w : World} {oi : Nat} {o : Obj} (d : Map Val) (h : w.objs[oi]? = some o) :
    setDict w oi d = { w with objs := w.objs.set oi { o with dict := d } } := by
  unfold setDict; rw [modify_eq_set _ h]

theorem setDict_setDict (w : World) (oi : Nat) (d d' : Map Val) : setDict (setDict w oi d) oi d' = setDict w oi d' := by
  simp only [setDict, List.modify_modify_eq]; rfl

/-- The only thing a resolution can do to the world: store the prefix trait it
found in the class dictionary of the object's class — and it does so only when
neither an instance trait nor a class trait of that name exists. -/
inductive Resolved (w : World) (o : Obj) (c : Cls) (name : Name) : World → Prop
  | same : Resolved w o c name w
  | cached (b : Bool) (t : Trait) (hi : o.itraits.get name = none) (hct : c.ctraits.get name = none)
      (hp : prefixTrait c o name b = .ok t) :
      Resolved w o c name { w with classes := w.classes.set o.cls { c with ctraits := c.ctraits.set name t } }

theorem Resolved.objs {w w' : World} {o : Obj} {c : Cls} {name : Name} (h : Resolved w o c name w') :
    w'.objs = w.objs := by
  cases h <;> rfl

theorem getPrefixTrait_error {w : World} {oi : Nat} {o : Obj} {c : Cls} {name : Name} {b : Bool} {e : Exc}
    (h : prefixTrait c o name b = .error e) : getPrefixTrait w oi o c name b = (w, .error e) := by
  simp [getPrefixTrait, h]

theorem getPrefixTrait_ok {w : World} {oi : Nat} {o : Obj} {c : Cls} {name : Name} {b : Bool} {t : Trait}
    (h : prefixTrait c o name b = .ok t) (hi : o.itraits.get name = none)
    (hh : o.hooks = []) (ho : w.objs[oi]? = some o) :
    getPrefixTrait w oi o c name b =
      ({ w with classes := w.classes.set o.cls { c with ctraits := c.ctraits.set name t } }, .ok t) := by
  simp [getPrefixTrait, h, hi, fireTraitAdded_nil hh, set_getElem?_self ho]

/-- The trait `has_traits_setattro` (`b = true`) / `has_traits_getattro` and `get_trait`
(`b = false`) dispatch to (as a relation): instance
trait, else class-dictionary entry, else a fresh prefix resolution. -/
inductive Dispatch (c : Cls) (o : Obj) (name : Name) (b : Bool) : Except Exc Trait → Prop
  | inst {t : Trait} (h : o.itraits.get name = some t) : Dispatch c o name b (.ok t)
  | cls {t : Trait} (hi : o.itraits.get name = none) (h : c.ctraits.get name = some t) : Dispatch c o name b (.ok t)
  | pref {r : Except Exc Trait} (hi : o.itraits.get name = none) (hct : c.ctraits.get name = none)
      (h : prefixTrait c o name b = r) : Dispatch c o name b r

theorem getPrefixTrait_spec (w : World) {oi : Nat} {o : Obj} {c : Cls} {name : Name} (b : Bool)
    (hi : o.itraits.get name = none) (hct : c.ctraits.get name = none)
    (hh : o.hooks = []) (ho : w.objs[oi]? = some o) :
    Resolved w o c name (getPrefixTrait w oi o c name b).1 ∧
      Dispatch c o name b (getPrefixTrait w oi o c name b).2 := by
  cases hp : prefixTrait c o name b with
  | error e => rw [getPrefixTrait_error hp]; exact ⟨.same, .pref hi hct hp⟩
  | ok t => rw [getPrefixTrait_ok hp hi hh ho]; exact ⟨.cached b t hi hct hp, .pref hi hct hp⟩

theorem resolveSet_spec (w : World) {oi : Nat} {o : Obj} (c : Cls) (name : Name)
    (hh : o.hooks = []) (ho : w.objs[oi]? = some o) :
    Resolved w o c name (resolveSet w oi o c name).1 ∧ Dispatch c o name true (resolveSet w oi o c name).2 := by
  unfold resolveSet
  cases hi : o.itraits.get name with
  | some t => exact ⟨.same, .inst hi⟩
  | none =>
    cases hct : c.ctraits.get name with
    | some t => exact ⟨.same, .cls hi hct⟩
    | none =>
      exact getPrefixTrait_spec w true hi hct hh ho

theorem Dispatch.plain {c : Cls} {o : Obj} {name : Name} {b : Bool} {t : Trait} (h : Dispatch c o name b (.ok t))
    (hc : ClsPlain c) (ho : ObjPlain o) : t.Plain := by
  cases h with
  | inst h => exact ho _ (Map.mem_of_get h)
  | cls _ h => exact hc.ct _ (Map.mem_of_get h)
  | pref _ _ h => exact prefixTrait_plain hc ho h

/-! ### what the per-kind functions do to `__dict__` -/

theorem setattrPython_frame {d d' : Map Val} {name : Name} {value : Option Val}
    (h : setattrPython d name value = .ok d') : ∀ k, k ≠ name → d'.get k = d.get k := by
  intro k hk
  unfold setattrPython at h
  split at h
  · cases h; exact Map.get_set_ne _ _ (Ne.symm hk)
  · split at h
    · cases h; exact Map.get_erase_ne _ (Ne.symm hk)
    · cases h

theorem setattrKind_frame {E : Env} {t : Trait} {d d' : Map Val} {name : Name} {value : Option Val}
    (h : setattrKind E t d name value = .ok d') : ∀ k, k ≠ name → d'.get k = d.get k := by
  intro k hk
  have hs : ∀ v, (d.set name v).get k = d.get k := fun v => Map.get_set_ne _ _ (Ne.symm hk)
  have he : (d.erase name).get k = d.get k := Map.get_erase_ne _ (Ne.symm hk)
  have hpy : ∀ value, setattrPython d name value = .ok d' → d'.get k = d.get k :=
    fun _ h => setattrPython_frame h k hk
  revert h
  -- one case per arm of `setattrKind`, in the order of its text
  fun_cases setattrKind E t d name value
  -- trait: delete; store `Undefined`; store the validated value; store unvalidated
  · rintro ⟨⟩; exact he
  · rintro ⟨⟩; exact hs _
  · intro h; obtain ⟨v', _, rfl⟩ := Except.map_eq_ok h; exact hs _
  · rintro ⟨⟩; exact hs _
  -- python; generic
  · exact hpy _
  · exact hpy _
  -- event: nothing is stored (delete; validated; unvalidated)
  · rintro ⟨⟩; rfl
  · intro h; obtain ⟨_, _, rfl⟩ := Except.map_eq_ok h; rfl
  · rintro ⟨⟩; rfl
  -- disallow
  · rintro ⟨⟩
  -- readonly: delete; a default was given; first assignment (slot empty, slot `Undefined`); second
  · rintro ⟨⟩
  · rintro ⟨⟩
  · exact hpy _
  · exact hpy _
  · rintro ⟨⟩
  -- constant; delegate
  · rintro ⟨⟩
  · intro h; obtain ⟨_, _, rfl⟩ := Except.map_eq_ok h; rfl

theorem getattrKind_frame {E : Env} {t : Trait} {d d' : Map Val} {name : Name} {v : Val}
    (h : getattrKind E t d name = .ok (v, d')) : ∀ k, k ≠ name → d'.get k = d.get k := by
  intro k hk
  have hs : ∀ v, (d.set name v).get k = d.get k := fun v => Map.get_set_ne _ _ (Ne.symm hk)
  revert h
  fun_cases getattrKind E t d name
  -- trait; readonly: the default is stored
  · rintro ⟨⟩; exact hs _
  · rintro ⟨⟩; exact hs _
  -- python; generic
  · intro h; obtain ⟨_, _, ⟨⟩⟩ := Except.map_eq_ok h; rfl
  · intro h; obtain ⟨_, _, ⟨⟩⟩ := Except.map_eq_ok h; rfl
  -- event; disallow
  · rintro ⟨⟩
  · rintro ⟨⟩
  -- constant; delegate
  · rintro ⟨⟩; rfl
  · intro h; obtain ⟨_, _, ⟨⟩⟩ := Except.map_eq_ok h; rfl

/-! ### unfolding `step` on an existing object -/

theorem withObj_eq {w : World} {oi : Nat} {o : Obj} {c : Cls} (ho : w.objs[oi]? = some o)
    (hc : w.classes[o.cls]? = some c) (f : Obj → Cls → World × Except Exc Out) : withObj w oi f = f o c := by
  simp [withObj, ho, hc]

theorem withObj_bad {w : World} {oi : Nat} (f : Obj → Cls → World × Except Exc Out)
    (h : w.objs[oi]? = none ∨ ∃ o, w.objs[oi]? = some o ∧ w.classes[o.cls]? = none) :
    withObj w oi f = (w, .error .indexError) := by
  rcases h with h | ⟨o, ho, hc⟩
  · simp [withObj, h]
  · simp [withObj, ho, hc]

/-- The ways a step addressed to (`oi`, `name`) changes the object, each with the object it leaves
behind.  An instance trait for the name appears through `add_trait`, or as the copy `get_trait` makes of
the class-level trait the lookup dispatches to; it goes with `remove_trait`, and so does the `__dict__`
entry; otherwise `__dict__` is what the setter / getter of the trait the lookup dispatches to made of it. -/
inductive Touch (E : Env) (oi : Nat) (name : Name) (c : Cls) (o : Obj) : Op → Obj → Prop
  | hook (t : Trait) : Touch E oi name c o (.hook oi name t) { o with hooks := o.hooks ++ [(name, t)] }
  | add (t : Trait) : Touch E oi name c o (.addTrait oi name t) { o with itraits := o.itraits.set name t }
  | clone {op : Op} {t : Trait} (hi : o.itraits.get name = none) (hd : Dispatch c o name false (.ok t)) :
      Touch E oi name c o op { o with itraits := o.itraits.set name t }
  | remove : Touch E oi name c o (.removeTrait oi name)
      { o with dict := o.dict.erase name, itraits := o.itraits.erase name }
  | set {op : Op} {t : Trait} {value : Option Val} {d : Map Val} (hd : Dispatch c o name true (.ok t))
      (h : setattrKind E t o.dict name value = .ok d) : Touch E oi name c o op { o with dict := d }
  | get {op : Op} {t : Trait} {v : Val} {d : Map Val} (hn : o.dict.get name = none)
      (hd : Dispatch c o name false (.ok t)) (h : getattrKind E t o.dict name = .ok (v, d)) :
      Touch E oi name c o op { o with dict := d }

theorem Touch.frame {E : Env} {oi : Nat} {name : Name} {c : Cls} {o o' : Obj} {op : Op}
    (h : Touch E oi name c o op o') :
    o'.cls = o.cls ∧ ∀ k, k ≠ name → o'.itraits.get k = o.itraits.get k ∧ o'.dict.get k = o.dict.get k := by
  refine ⟨by cases h <;> rfl, fun k hk => ?_⟩
  have hs : ∀ (m : Map Trait) v, (m.set name v).get k = m.get k := fun m v => Map.get_set_ne m v (Ne.symm hk)
  cases h with
  | hook => exact ⟨rfl, rfl⟩
  | add | clone => exact ⟨hs _ _, rfl⟩
  | remove => exact ⟨Map.get_erase_ne _ (Ne.symm hk), Map.get_erase_ne _ (Ne.symm hk)⟩
  | set _ h => exact ⟨rfl, setattrKind_frame h k hk⟩
  | get _ _ h => exact ⟨rfl, getattrKind_frame h k hk⟩

/-- Everything one step can do: nothing; a new class; a new object; a lookup on behalf of an existing
object (`res`), possibly followed by a change of that object (`obj`). -/
inductive Effect (E : Env) (w : World) (op : Op) : World → Prop
  | noop : Effect E w op w
  | mkClass {bases : List Nat} {decls : List (Name × Trait)} {bs : List Cls} (hop : op = .mkClass bases decls)
      (h : bases.mapM (fun b => w.classes[b]?) = some bs) :
      Effect E w op { w with classes := w.classes ++ [mkClass bs decls] }
  | new {ci : Nat} {c : Cls} (h : w.classes[ci]? = some c) :
      Effect E w op { w with objs := w.objs ++ [{ cls := ci }] }
  | res {oi : Nat} {name : Name} {o : Obj} {c : Cls} {w' : World} (ho : w.objs[oi]? = some o)
      (hc : w.classes[o.cls]? = some c) (hres : Resolved w o c name w') : Effect E w op w'
  | obj {oi : Nat} {name : Name} {o : Obj} {c : Cls} {w' : World} {o' : Obj} (ho : w.objs[oi]? = some o)
      (hc : w.classes[o.cls]? = some c) (hres : Resolved w o c name w') (ht : Touch E oi name c o op o') :
      Effect E w op { w' with objs := w'.objs.set oi o' }

theorem Effect.setDict {E : Env} {w w' : World} {op : Op} {oi : Nat} {name : Name} {o : Obj} {c : Cls}
    (ho : w.objs[oi]? = some o) (hc : w.classes[o.cls]? = some c) (hres : Resolved w o c name w') {d : Map Val}
    (ht : Touch E oi name c o op { o with dict := d }) : Effect E w op (setDict w' oi d) := by
  rw [setDict_eq d (by rw [hres.objs]; exact ho)]
  exact .obj ho hc hres ht

theorem setattro_effect (E : Env) {w : World} {op : Op} {oi : Nat} {name : Name} {o : Obj} {c : Cls}
    (value : Option Val) (ho : w.objs[oi]? = some o) (hc : w.classes[o.cls]? = some c) (hh : o.hooks = []) :
    Effect E w op (setattro E w oi o c name value).1 := by
  unfold setattro
  obtain ⟨hr, hd⟩ := resolveSet_spec w c name hh ho
  generalize resolveSet w oi o c name = r at hr hd
  obtain ⟨w', res⟩ := r
  cases res with
  | error e => exact .res ho hc hr
  | ok t =>
    simp only
    cases hk : setattrKind E t o.dict name value with
    | error e => exact .res ho hc hr
    | ok d => exact .setDict ho hc hr (.set hd hk)

theorem trait0_dispatch {c : Cls} {o : Obj} {name : Name} {t : Trait} (b : Bool)
    (h : trait0 c o name = some t) : Dispatch c o name b (.ok t) := by
  unfold trait0 at h
  cases hi : o.itraits.get name with
  | some t' => rw [hi] at h; cases h; exact .inst hi
  | none => rw [hi] at h; exact .cls hi h

theorem trait0_none {c : Cls} {o : Obj} {name : Name} (h : trait0 c o name = none) :
    o.itraits.get name = none ∧ c.ctraits.get name = none := by
  unfold trait0 at h
  cases hi : o.itraits.get name with
  | some t' => rw [hi] at h; cases h
  | none => rw [hi] at h; exact ⟨rfl, h⟩

/-- The lookup of `has_traits_getattro` once `__dict__` and the type have no
entry (ctraits.c:862-881). -/
def resolveGet (w : World) (oi : Nat) (o : Obj) (c : Cls) (name : Name) : World × Except Exc Trait :=
  match trait0 c o name with
  | some t => (w, .ok t)
  | none => getPrefixTrait w oi o c name false

theorem resolveGet_spec (w : World) {oi : Nat} {o : Obj} (c : Cls) (name : Name)
    (hh : o.hooks = []) (ho : w.objs[oi]? = some o) :
    Resolved w o c name (resolveGet w oi o c name).1 ∧ Dispatch c o name false (resolveGet w oi o c name).2 := by
  unfold resolveGet
  cases h0 : trait0 c o name with
  | some t => exact ⟨.same, trait0_dispatch false h0⟩
  | none =>
    obtain ⟨hi, hct⟩ := trait0_none h0
    exact getPrefixTrait_spec w false hi hct hh ho

theorem getattro_eq_resolveGet (E : Env) (w : World) (oi : Nat) (o : Obj) (c : Cls) (name : Name)
    (hd : o.dict.get name = none) (hca : trait0 c o name = none → E.classAttr name = none) :
    getattro E w oi o c name =
      match resolveGet w oi o c name with
      | (w', .error e) => (w', .error e)
      | (w', .ok t) =>
        match getattrKind E t o.dict name with
        | .error e => (w', .error e)
        | .ok (v, d) => (setDict w' oi d, .ok (.val v)) := by
  unfold getattro resolveGet
  rw [hd]
  simp only
  cases h0 : trait0 c o name with
  | some t => rfl
  | none =>
    simp only [hca h0]
    rcases getPrefixTrait w oi o c name false with ⟨w', r⟩
    cases r with
    | error e => rfl
    | ok t =>
      simp only
      cases getattrKind E t o.dict name with
      | error e => rfl
      | ok r => rfl

theorem getattro_effect (E : Env) {w : World} {op : Op} {oi : Nat} {name : Name} {o : Obj} {c : Cls}
    (ho : w.objs[oi]? = some o) (hc : w.classes[o.cls]? = some c) (hh : o.hooks = []) :
    Effect E w op (getattro E w oi o c name).1 := by
  cases hdict : o.dict.get name with
  | some v => unfold getattro; rw [hdict]; exact .noop
  | none =>
    -- the type attribute is only looked at when there is no trait of that name
    by_cases hca : trait0 c o name = none ∧ ∃ v, E.classAttr name = some v
    · obtain ⟨h0, v, hv⟩ := hca
      unfold getattro; simp only [hdict, h0, hv]; exact .noop
    · rw [getattro_eq_resolveGet E w oi o c name hdict (fun h0 => by
        cases hv : E.classAttr name with
        | none => rfl
        | some v => exact absurd ⟨h0, v, hv⟩ hca)]
      obtain ⟨hr, hd⟩ := resolveGet_spec w c name hh ho
      generalize resolveGet w oi o c name = r at hr hd
      obtain ⟨w', res⟩ := r
      cases res with
      | error e => exact .res ho hc hr
      | ok t =>
        simp only
        cases hk : getattrKind E t o.dict name with
        | error e => exact .res ho hc hr
        | ok r => exact .setDict ho hc hr (.get hdict hd hk)

theorem getTrait_effect (E : Env) {w : World} {op : Op} {oi : Nat} {name : Name} {o : Obj} {c : Cls} (inst : Int)
    (ho : w.objs[oi]? = some o) (hc : w.classes[o.cls]? = some c) (hh : o.hooks = []) :
    Effect E w op (getTrait w oi o c name inst).1 := by
  unfold getTrait
  cases hi : o.itraits.get name with
  | some t => exact .noop
  | none =>
    have clone : ∀ (w' : World) (t : Trait), Resolved w o c name w' → Dispatch c o name false (.ok t) →
        Effect E w op { w' with objs := w'.objs.modify oi (fun o => { o with itraits := o.itraits.set name t }) } := by
      intro w' t hres hd
      rw [modify_eq_set _ (by rw [hres.objs]; exact ho)]
      exact .obj ho hc hres (.clone hi hd)
    by_cases h1 : inst = 1
    · simp only [h1, ↓reduceIte]; exact .noop
    · simp only [h1, ↓reduceIte]
      cases hct : c.ctraits.get name with
      | some t =>
        simp only
        by_cases hle : inst ≤ 0
        · simp only [hle, ↓reduceIte]; exact .noop
        · simp only [hle, ↓reduceIte]; exact clone w t .same (.cls hi hct)
      | none =>
        by_cases h0 : inst = 0
        · simp only [h0, ↓reduceIte]; exact .noop
        · obtain ⟨hr, hd⟩ := getPrefixTrait_spec w false hi hct hh ho
          cases hg : getPrefixTrait w oi o c name false with
          | mk w' res =>
            rw [hg] at hr hd
            cases res with
            | error e => simp only [h0, ↓reduceIte]; exact .res ho hc hr
            | ok t =>
              simp only [h0, ↓reduceIte]
              by_cases hle : inst ≤ 0
              · simp only [hle, ↓reduceIte]; exact .res ho hc hr
              · simp only [hle, ↓reduceIte]; exact clone w' t hr hd

/-- The two inner arms of `removeTrait` as one: erasing an absent instance trait changes nothing. -/
theorem removeTrait_eq (w : World) (oi : Nat) (o : Obj) (c : Cls) (name : Name) :
    removeTrait w oi o c name =
      match trait0 c o name with
      | none => (w, .ok (.bool false))
      | some _ =>
        ({ w with objs := w.objs.set oi { o with dict := o.dict.erase name, itraits := o.itraits.erase name } },
          .ok (.bool (o.itraits.get name).isSome)) := by
  unfold removeTrait
  cases trait0 c o name with
  | none => rfl
  | some _ =>
    cases hi : o.itraits.get name with
    | some _ => rfl
    | none => rw [Map.erase_of_get_none _ _ hi]; rfl

theorem removeTrait_effect (E : Env) {w : World} {oi : Nat} {name : Name} {o : Obj} {c : Cls}
    (ho : w.objs[oi]? = some o) (hc : w.classes[o.cls]? = some c) :
    Effect E w (.removeTrait oi name) (removeTrait w oi o c name).1 := by
  rw [removeTrait_eq]
  split
  · exact .noop
  · exact .obj ho hc .same .remove

theorem addTrait_eq {w : World} {oi : Nat} {o : Obj} {c : Cls} (n : Name) (t : Trait) (hh : o.hooks = []) :
    addTrait w oi o c n t =
      ({ w with objs := w.objs.set oi { o with itraits := o.itraits.set n t } }, .ok .done) := by
  unfold addTrait
  cases trait0 c o n with
  | some _ => rfl
  | none =>
    simp only
    rw [fireTraitAdded_nil (o := { o with itraits := o.itraits.set n t }) hh n]

theorem withObj_effect (E : Env) {w : World} {op : Op} (oi : Nat) (f : Obj → Cls → World × Except Exc Out)
    (h : ∀ o c, w.objs[oi]? = some o → w.classes[o.cls]? = some c → Effect E w op (f o c).1) :
    Effect E w op (withObj w oi f).1 := by
  cases ho : w.objs[oi]? with
  | none => rw [withObj_bad _ (Or.inl ho)]; exact .noop
  | some o =>
    cases hc : w.classes[o.cls]? with
    | none => rw [withObj_bad _ (Or.inr ⟨o, ho, hc⟩)]; exact .noop
    | some c => rw [withObj_eq ho hc]; exact h o c ho hc

theorem step_effect (E : Env) (w : World) (hw : ∀ o ∈ w.objs, o.hooks = []) (op : Op) :
    Effect E w op (step E w op).1 := by
  have hk := fun {o : Obj} {oi : Nat} (ho : w.objs[oi]? = some o) => hw o (List.mem_of_getElem? ho)
  cases op with
  | mkClass bases decls =>
    simp only [step]
    cases h : bases.mapM (fun b => w.classes[b]?) with
    | none => exact .noop
    | some bs => exact .mkClass rfl h
  | new ci =>
    simp only [step]
    cases h : w.classes[ci]? with
    | none => exact .noop
    | some c => exact .new h
  | get oi n => exact withObj_effect E oi _ fun o c ho hc => getattro_effect E ho hc (hk ho)
  | set oi n v => exact withObj_effect E oi _ fun o c ho hc => setattro_effect E _ ho hc (hk ho)
  | del oi n => exact withObj_effect E oi _ fun o c ho hc => setattro_effect E _ ho hc (hk ho)
  | removeTrait oi n => exact withObj_effect E oi _ fun o c ho hc => removeTrait_effect E ho hc
  | getTrait oi n inst => exact withObj_effect E oi _ fun o c ho hc => getTrait_effect E inst ho hc (hk ho)
  | addTrait oi n t =>
    refine withObj_effect E oi _ fun o c ho hc => ?_
    rw [addTrait_eq n t (hk ho)]
    exact .obj ho hc .same (.add t)
  | hook oi p t => exact withObj_effect E oi _ fun o c ho hc => .obj ho hc .same (.hook t)

/-! ### the classes and the objects of the world after a step -/

theorem Effect.forall_classes {E : Env} {w w' : World} {op : Op} (he : Effect E w op w') {Q : Cls → Prop}
    (hw : ∀ c ∈ w.classes, Q c)
    (hmk : ∀ bases decls bs, op = .mkClass bases decls → (∀ b ∈ bs, ∃ i ∈ bases, w.classes[i]? = some b) →
      Q (Resolve.mkClass bs decls))
    (hcache : ∀ o ∈ w.objs, ∀ c ∈ w.classes, ∀ name b t, c.ctraits.get name = none →
      prefixTrait c o name b = .ok t → Q { c with ctraits := c.ctraits.set name t }) :
    ∀ c ∈ w'.classes, Q c := by
  cases he with
  | noop | new => exact hw
  | mkClass hop h =>
    intro c hc
    rcases List.mem_append.mp hc with hc | hc
    · exact hw c hc
    · rw [List.mem_singleton.mp hc]; exact hmk _ _ _ hop (mapM_getElem?_mem h)
  | @res oi name o c _ ho hc hr | @obj oi name o c _ _ ho hc hr =>
    cases hr with
    | same => exact hw
    | cached b t hi hct hp =>
      intro c' hc'
      rcases List.mem_or_eq_of_mem_set hc' with hc' | rfl
      · exact hw c' hc'
      · exact hcache o (List.mem_of_getElem? ho) c (List.mem_of_getElem? hc) name b t hct hp

theorem Effect.class_at {E : Env} {w w' : World} {op : Op} (he : Effect E w op w') {ci : Nat} {c : Cls}
    (hc : w.classes[ci]? = some c) :
    w'.classes[ci]? = some c ∨ ∃ o ∈ w.objs, ∃ name b t, c.ctraits.get name = none ∧
      prefixTrait c o name b = .ok t ∧ w'.classes[ci]? = some { c with ctraits := c.ctraits.set name t } := by
  cases he with
  | noop | new => exact Or.inl hc
  | mkClass => exact Or.inl (getElem?_append_some hc)
  | @res oi name o c1 _ ho hc1 hr | @obj oi name o c1 _ _ ho hc1 hr =>
    cases hr with
    | same => exact Or.inl hc
    | cached b t hi hct hp =>
      by_cases hci : o.cls = ci
      · subst hci
        rw [hc1] at hc; cases hc
        exact Or.inr ⟨o, List.mem_of_getElem? ho, name, b, t, hct, hp, getElem?_set_self' hc1⟩
      · exact Or.inl ((List.getElem?_set_ne hci).trans hc)

theorem Effect.forall_objs {E : Env} {w w' : World} {op : Op} (he : Effect E w op w') {Q : Obj → Prop}
    (hw : ∀ o ∈ w.objs, Q o) (hnew : ∀ ci, Q { cls := ci })
    (htouch : ∀ {oi : Nat} {name : Name} {o : Obj} {c : Cls} {o' : Obj}, w.objs[oi]? = some o →
      w.classes[o.cls]? = some c → Touch E oi name c o op o' → Q o') :
    ∀ o ∈ w'.objs, Q o := by
  cases he with
  | noop | mkClass => exact hw
  | new =>
    intro o ho
    rcases List.mem_append.mp ho with ho | ho
    · exact hw o ho
    · rw [List.mem_singleton.mp ho]; exact hnew _
  | res _ _ hr => rw [hr.objs]; exact hw
  | obj ho hc hr ht =>
    intro x hx
    simp only [hr.objs] at hx
    rcases List.mem_or_eq_of_mem_set hx with hx | rfl
    · exact hw x hx
    · exact htouch ho hc ht

end TraitsVerif.Model.Resolve
