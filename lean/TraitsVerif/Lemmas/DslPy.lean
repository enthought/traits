/-
C15 — the hand-written compiler model (Model/DslCompile.lean: `toExpr`, `create`,
`compileChars`) is the interpretation (Model/DslPy.lean) of the program that
`harness/translate/dslprog.py` read from the working tree's parsing.py /
expression.py / observer classes (Generated/DslProg.lean).

Every handler / method body is a closed program: its run on symbolic data
(any name, any notify flag, any operand expressions, any list of branches) is
ONE definitional unfolding, checked by the kernel (`kernel_rfl` = the proof term
`Eq.refl _`; the elaborator's own, much slower, unifier is not asked).  The
recursion over the tree / the expression is ordinary structural induction.
-/
import Lean.Elab.Tactic.Basic
import TraitsVerif.Generated.DslProg
import TraitsVerif.Lemmas.DslCompile
namespace TraitsVerif.Model.DslPy
open TraitsVerif TraitsVerif.Model.Dsl TraitsVerif.Generated

open Lean Elab Tactic Meta in
/-- Close a goal `a = b` with the term `Eq.refl b`; that `a` and `b` are
definitionally equal is checked by the kernel when the theorem is added (no
axiom, no `native_decide`: a failing check is a kernel type error). -/
elab "kernel_rfl" : tactic => do
  let g ← getMainGoal
  let t ← instantiateMVars (← g.getType)
  let some (_, _, rhs) := t.eq? | throwError "kernel_rfl: the goal is not an equality"
  g.assign (← mkEqRefl rhs)

theorem bool_fun (f : Bool → Expr) : f = fun b => cond b (f true) (f false) := by
  funext b; cases b <;> rfl

/-- the evaluator under which the lambda of `join` runs: the body of `join` is the one call
`functools.reduce(…)`, evaluated at `FUEL`, and `eval` applies a call with one unit less -/
abbrev joinEv : Env → DExpr → RV := eval dslProg ⟨noHook, noLark⟩ (FUEL - 1)

/-- The runs of the translated functions and methods on symbolic data.  They
are the fields of one structure so that one declaration (`runs`) proves them
all: the kernel keeps what it has evaluated — the look-ups of functions,
classes and methods by name, which every run repeats — only while it checks
one declaration. -/
structure Runs : Prop where
  -- parsing.py: the handlers
  leaf_trait (x : Name) (t n : Bool) :
    interpTree dslProg t (.trait x) n = .ok (.expr (toExpr (.trait x) n))
  leaf_metadata (x : Name) (t n : Bool) :
    interpTree dslProg t (.metadata x) n = .ok (.expr (toExpr (.metadata x) n))
  leaf_items (t n : Bool) : interpTree dslProg t .items n = .ok (.expr (toExpr .items n))
  leaf_any (t n : Bool) : interpTree dslProg t .any n = .ok (.expr (toExpr .any n))
  /-- `_handle_tree` on a `series` / `series_terminal` node, whatever the handling
  of the two operand trees returns (`fl`, `fr` : notify flag -> expression). -/
  series_handler (fl fr : Bool → Expr) (t n : Bool) (c : Conn) :
    (runFunc dslProg ⟨treeHook (fun i b => match i with
        | 0 => .ok (.expr (fl b))
        | 2 => .ok (.expr (fr b))
        | _ => stuckE), noLark⟩ "parsing._handle_tree"
      [.node (if t then "series_terminal" else "series") [.sub 0, .node (connName c) [], .sub 2],
       .bool n]).collapse
    = .ok (.expr (.series (fl (c == .notify)) (fr n)))
  parallel_handler (fl fr : Bool → Expr) (t n : Bool) :
    (runFunc dslProg ⟨treeHook (fun i b => match i with
        | 0 => .ok (.expr (fl b))
        | 1 => .ok (.expr (fr b))
        | _ => stuckE), noLark⟩ "parsing._handle_tree"
      [.node (if t then "parallel_terminal" else "parallel") [.sub 0, .sub 1], .bool n]).collapse
    = .ok (.expr (.parallel (fl n) (fr n)))
  -- expression.py: `_create_graphs`
  /-- `SingleObserverExpression._create_graphs` + `ObserverGraph.__init__` on any
  observer and any branches: the de-duplication, then the uniqueness test as an
  unevaluated branch. -/
  single_raw (o : Observer) (br : Forest) (rec : Nat → Forest → Res) :
    interpCreateR dslProg rec (.single o) br =
      .ite (!(br.dedupe.dedupe.length == br.dedupe.length)) (.error (.exc "ValueError"))
        (.ok (.forest (.cons o br.dedupe .nil)))
  /-- `SeriesObserverExpression._create_graphs`, whatever (total) functions the
  operands' `_create_graphs` are: second first, its graphs are the branches of the first. -/
  series_raw (a b : Expr) (da db : Forest → Forest) (br : Forest) :
    (interpCreateR dslProg (fun i f => match i with
        | 0 => .ok (.forest (da f))
        | 1 => .ok (.forest (db f))
        | _ => stuckE) (.series a b) br).collapse = .ok (.forest (da (db br)))
  /-- `ParallelObserverExpression._create_graphs`: both operands on the same branches, left graphs first. -/
  parallel_raw (a b : Expr) (da db : Forest → Forest) (br : Forest) :
    (interpCreateR dslProg (fun i f => match i with
        | 0 => .ok (.forest (da f))
        | 1 => .ok (.forest (db f))
        | _ => stuckE) (.parallel a b) br).collapse = .ok (.forest (da br ++ db br))
  -- compile_str -> parse -> _handle_tree; compile_expr -> _as_graphs -> _create_graphs
  parse_raw (te : Cst → Bool → Expr) (tree : Option Cst) :
    (interpParseR dslProg (fun c b => .ok (.expr (te c b))) tree).collapse =
      match tree with
      | none => .error (.exc "ValueError")
      | some c => .ok (.expr (te c true))
  compileExpr_raw (cd : Expr → Forest → Forest) (e : Expr) :
    (interpCompileExprR dslProg (fun e f => .ok (.forest (cd e f))) e).collapse =
      .ok (.forest (cd e .nil))
  compileStr_raw_ok (g : Expr → Forest) (e : Expr) :
    (interpCompileStrR dslProg (.ok (.expr e)) (fun e => .ok (.forest (g e)))).collapse =
      .ok (.forest (g e))
  compileStr_raw_err (x : Err) (rec : Expr → Res) :
    (interpCompileStrR dslProg (.error x) rec).collapse = .error x
  -- expression.join: `functools.reduce(lambda e1, e2: e1.then(e2), expressions)`
  /-- `join(a, …)` is the reduction with the lambda read from the source, started at `a`. -/
  join_unfold (a : DVal) (rest : List DVal) :
    interpJoinL dslProg (a :: rest) =
      (((reduceR joinEv (joinLam dslProg).1 (joinLam dslProg).2.1 (joinLam dslProg).2.2 a rest).bind
          (fun v => .ok (some v, [("expressions", .list (a :: rest))]))).bind retVal).collapse
  join_none : interpJoinL dslProg [] = .error (.exc "TypeError")
  /-- one step of the reduction: `e1.then(e2)` -/
  join_step (e v : Expr) (rest : List DVal) :
    reduceR joinEv (joinLam dslProg).1 (joinLam dslProg).2.1 (joinLam dslProg).2.2 (.expr e)
        (.expr v :: rest) =
      reduceR joinEv (joinLam dslProg).1 (joinLam dslProg).2.1 (joinLam dslProg).2.2
        (.expr (.series e v)) rest

/-- Where a run has to look up a method of an operand expression, or branches on a
flag or a connector, the run is made for each class / value. -/
theorem runs : Runs where
  leaf_trait x t n := by kernel_rfl
  leaf_metadata x t n := by kernel_rfl
  leaf_items t n := by kernel_rfl
  leaf_any t n := by kernel_rfl
  series_handler fl fr t n c := by
    -- `.then` / `|` is looked up in the class of the left operand, `fl true` or `fl false`
    rw [bool_fun fl]
    generalize fl true = x
    generalize fl false = y
    cases t <;> cases c
    · cases x <;> kernel_rfl
    · cases y <;> kernel_rfl
    · cases x <;> kernel_rfl
    · cases y <;> kernel_rfl
  parallel_handler fl fr t n := by
    rw [bool_fun fl]
    generalize fl true = x
    generalize fl false = y
    cases t <;> cases n
    · cases y <;> kernel_rfl
    · cases x <;> kernel_rfl
    · cases y <;> kernel_rfl
    · cases x <;> kernel_rfl
  single_raw o br rec := by kernel_rfl
  series_raw a b da db br := by cases a <;> cases b <;> kernel_rfl
  parallel_raw a b da db br := by cases a <;> cases b <;> kernel_rfl
  parse_raw te tree := by cases tree <;> kernel_rfl
  compileExpr_raw cd e := by cases e <;> kernel_rfl
  compileStr_raw_ok g e := by kernel_rfl
  compileStr_raw_err x rec := by kernel_rfl
  join_unfold a rest := by kernel_rfl
  join_none := by kernel_rfl
  join_step e v rest := by cases e <;> kernel_rfl

/-! ## parsing.py: `_handle_tree` on any tree -/

theorem interpTree_eq (c : Cst) :
    ∀ (t n : Bool), interpTree dslProg t c n = .ok (.expr (toExpr c n)) := by
  induction c with
  | trait x => exact runs.leaf_trait x
  | items => exact runs.leaf_items
  | metadata x => exact runs.leaf_metadata x
  | any => exact runs.leaf_any
  | group p ih => exact fun t n => ih false n
  | ser l c r ihl ihr =>
    intro t n
    simp only [interpTree, ihl, ihr, toExpr, ruleName]
    exact runs.series_handler (toExpr l) (toExpr r) t n c
  | par l r ihl ihr =>
    intro t n
    simp only [interpTree, ihl, ihr, toExpr, ruleName]
    exact runs.parallel_handler (toExpr l) (toExpr r) t n

/-! ## expression.py: `_create_graphs` -/

theorem interpCreate_eqD (e : Expr) :
    ∀ br, interpCreate dslProg e br = .ok (.forest (createD e br)) := by
  induction e with
  | single o =>
    intro br
    -- the second de-duplication changes nothing, so the uniqueness test passes
    rw [interpCreate, runs.single_raw, Forest.dedupe_of_unique _ (Forest.unique_dedupe br),
      beq_self_eq_true]
    rfl
  | series a b iha ihb =>
    intro br
    simp only [interpCreate, iha, ihb, createD]
    exact runs.series_raw a b (createD a) (createD b) br
  | parallel a b iha ihb =>
    intro br
    simp only [interpCreate, iha, ihb, createD]
    exact runs.parallel_raw a b (createD a) (createD b) br

theorem interpCreate_eq (e : Expr) (br : Forest) :
    interpCreate dslProg e br = liftRes .forest (create e br) := by
  rw [interpCreate_eqD, create_total]
  rfl

/-! ## the whole path: compile_str -> parse -> _handle_tree; compile_expr -> _as_graphs -> _create_graphs -/

theorem interpParse_eq (uw : Char → Bool) (s : List Char) :
    interpParse dslProg uw s =
      match parseChars uw s with
      | none => .error (.exc "ValueError")
      | some c => .ok (.expr (toExpr c true)) := by
  have h : interpTree dslProg true = fun c b => .ok (.expr (toExpr c b)) := by
    funext c b; exact interpTree_eq c true b
  rw [interpParse, h]
  exact runs.parse_raw toExpr _

theorem interpCompileExpr_eqD (e : Expr) :
    interpCompileExpr dslProg e = .ok (.forest (createD e .nil)) := by
  have h : interpCreate dslProg = fun e f => .ok (.forest (createD e f)) := by
    funext e f; exact interpCreate_eqD e f
  rw [interpCompileExpr, h]
  exact runs.compileExpr_raw createD e

theorem interpCompileExpr_eq (e : Expr) :
    interpCompileExpr dslProg e = liftRes .forest (compileExpr e) := by
  rw [interpCompileExpr_eqD, compileExpr, create_total]
  rfl

theorem interpCompileStr_eq (uw : Char → Bool) (s : List Char) :
    interpCompileStr dslProg uw s = liftRes .forest (compileChars uw s) := by
  rw [interpCompileStr, interpParse_eq, funext interpCompileExpr_eqD, compileChars]
  cases parseChars uw s with
  | none => exact runs.compileStr_raw_err _ _
  | some c =>
    show _ = liftRes .forest (create (toExpr c true) .nil)
    rw [create_total]
    exact runs.compileStr_raw_ok (fun e => createD e .nil) (toExpr c true)

/-! ## expression.join -/

theorem collapse_bind {α β : Type} (r : R α) (k : α → R β) :
    (r.bind k).collapse = match r.collapse with
      | .ok a => (k a).collapse
      | .error e => .error e := by
  induction r with
  | ok a => rfl
  | error e => rfl
  | ite b t e iht ihe => cases b <;> simp [R.bind, R.collapse, iht, ihe]

theorem join_reduce (es : List Expr) : ∀ e,
    reduceR joinEv (joinLam dslProg).1 (joinLam dslProg).2.1 (joinLam dslProg).2.2 (.expr e) (es.map .expr) =
      .ok (.expr (es.foldl .series e)) := by
  induction es with
  | nil => intro e; rfl
  | cons v vs ih => intro e; rw [List.map_cons, runs.join_step, ih]; rfl

theorem interpJoin_eq (e : Expr) (es : List Expr) :
    interpJoin dslProg e es = .ok (.expr (es.foldl .series e)) := by
  rw [interpJoin, runs.join_unfold, join_reduce]
  rfl

end TraitsVerif.Model.DslPy
