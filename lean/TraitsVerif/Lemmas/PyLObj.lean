/-
The hand-written gates of `Model/ContainerObject.lean` are the interpretation of
the translated source (`Generated/ObjProg.lean`).  The interpreter is run by the
defining equations of `exec` and `eval` (one per construct) as far as the state
of `self` is known, and `self` is split where it gets stuck.  What several
methods share is executed once, for arbitrary slots: the `try … validate(…)`
end of the four validators (`exec_validateTail`) and the delivery of the three
notifiers (`exec_deliverBody`, the model's `Obj.deliver`).
-/
import TraitsVerif.Generated.ObjProg
import TraitsVerif.Model.ContainerObject
namespace TraitsVerif.Lemmas.PyLObj
open TraitsVerif TraitsVerif.Model.PyLO TraitsVerif.Model.Obj
variable {α : Type}

section Interpreter
variable {C : Ctx α} {vs : Frame α} {st : St α} {σ : OSelf}

theorem selfAttrVal_trait : selfAttrVal (α := α) σ "trait" =
    some (match σ.trait with | some (some t) => some (.trait t) | some none => some .none | none => none) := rfl
theorem selfAttrVal_object : selfAttrVal (α := α) σ "object" =
    some (match σ.object with | some a => some (.ref a) | none => none) := rfl
theorem selfAttrVal_name : selfAttrVal (α := α) σ "name" = some (some .name) := rfl
theorem selfAttrVal_nameItems : selfAttrVal (α := α) σ "name_items" =
    some (some (if σ.nameItems then .nameItems else .none)) := rfl

theorem getVar_zero : getVar (some v :: vs) 0 = .ok v := rfl
theorem getVar_succ : getVar (a :: vs) (i + 1) = getVar vs i := rfl
theorem setVar_zero : setVar (a :: vs) 0 v = some v :: vs := rfl
theorem setVar_succ : setVar (a :: vs) (i + 1) v = a :: setVar vs i v := rfl

theorem getVar_setVar (h : i < vs.length) : getVar (setVar vs i v) i = .ok v := by
  simp only [getVar, setVar, List.getElem?_set_self h]
theorem getVar_setVar_ne (h : i ≠ j) : getVar (setVar vs i v) j = getVar vs j := by
  simp only [getVar, setVar, List.getElem?_set_ne h]
theorem length_setVar : (setVar vs i v).length = vs.length :=
  List.length_set

/-- `validate(object, self.name, value)` with `object` the owner or `None`. -/
theorem eval_call3 {o : Bool} {x : α} (hf : eval C vs f = .ok (.validateFn C.which))
    (ha : eval C vs a = .ok (if o then .owner else .none)) (hb : eval C vs b = .ok .name)
    (hc : eval C vs c = .ok (.item x)) :
    eval C vs (.call3 f a b c) = (C.inner o C.ordinal x).map .item := by
  rw [eval, hf, ha, hb, hc]
  cases o <;> exact if_pos rfl

/-- `getattr(self, "trait", None)` -/
theorem eval_traitOrNone : eval C vs (.getattrSelf "trait" .noneLit) =
    .ok (match traitOrNone C.self with | some t => .trait t | none => .none) := by
  rw [eval, selfAttrVal_trait, traitOrNone]
  rcases C.self.trait with _ | _ | t <;> rfl

/-- `getattr(self, "object", lambda: None)()` -/
theorem eval_ownerOrNone : eval C vs (.call0 (.getattrSelf "object" .lambdaNone)) =
    .ok (if ownerOrNone C.self then .owner else .none) := by
  rw [eval, eval, selfAttrVal_object, ownerOrNone]
  rcases C.self.object with _ | a <;> rfl

/-- `getattr(self, "object", None)` -/
theorem eval_refOrNone : eval C vs (.getattrSelf "object" .noneLit) =
    .ok (match C.self.object with | some a => .ref a | none => .none) := by
  rw [eval, selfAttrVal_object]
  cases C.self.object <;> rfl

end Interpreter

attribute [local simp] exec eval truthy selfAttrVal_trait selfAttrVal_object selfAttrVal_name selfAttrVal_nameItems
  getVar_zero getVar_succ setVar_zero setVar_succ
attribute [local simp ↓] eval_traitOrNone eval_ownerOrNone eval_refOrNone

/-- Runs the interpreter (the local simp set: defining equations of `exec` and `eval`, one per construct) on a
frame given as a list, as far as the state of `self` is known. -/
macro "pylo_exec" "[" ts:Lean.Parser.Tactic.simpLemma,* "]" : tactic => `(tactic| simp [$ts,*])

/-- Case split over everything a validator looks at. -/
macro "validator_cases" σ:ident inner:ident n:ident x:ident "[" ts:Lean.Parser.Tactic.simpLemma,* "]" : tactic =>
  `(tactic| (
    obtain ⟨tr, ob, ni, cu⟩ := $σ
    rcases tr with _ | _ | ⟨iN, kN, vN, lo, hi⟩ <;> rcases ob with _ | _ | _ <;>
      try (first
        | (pylo_exec [$ts,*]; done)
        | (cases iN <;> cases kN <;> cases vN <;> (first
            | (pylo_exec [$ts,*]; done)
            | (cases hi' : $inner true $n $x with
               | ok y => pylo_exec [$ts,*, hi']
               | error e => by_cases he : e = Exc.traitError <;> pylo_exec [$ts,*, hi', he])
            | (cases hi' : $inner false $n $x with
               | ok y => pylo_exec [$ts,*, hi']
               | error e => by_cases he : e = Exc.traitError <;> pylo_exec [$ts,*, hi', he]))))))

/-! ### Validators -/

/-- What `runValidator` makes of the way the body ended. -/
def validated : St α × Flow α → Except Exc α
  | (_, .returned (.item y)) => .ok y
  | (_, .raised e) => .error e
  | _ => stuck

theorem validated_returned {st : St α} {y : α} : validated (st, .returned (.item y)) = .ok y := rfl
theorem validated_raised {st : St α} {e : Exc} : validated (α := α) (st, .raised e) = .error e := rfl

theorem runValidator_mk {k : Nat} {body : Stmt} (w : Which) (σ : OSelf) (inner : Bool → Callback α α) (n : Nat)
    (x : α) :
    runValidator ⟨1, k + 1, body⟩ w σ inner n x =
      validated (exec ⟨σ, w, inner, n⟩ body ⟨some (.item x) :: List.replicate k none, []⟩) := by
  unfold runValidator
  rw [if_neg (by simp)]
  rfl

/-- The end of every validator, with `value` in slot 0 and `object` in slot `j`:
`validate = V; if validate is None: return value;
try: return validate(object, self.name, value) except TraitError as e: e.set_prefix(…); raise e`. -/
def validateTail (V : Expr) (k j m : Nat) : Stmt :=
  .seq (.assign k V) (.seq (.ifS (.isNone (.var k)) (.ret (.var 0)) .skip)
    (.tryExcept (.ret (.call3 (.var k) (.var j) (.selfAttr "name") (.var 0))) .traitError m
      (.seq (.setPrefix m) (.raiseVar m))))

/-- The `TraitError` of the inner trait passes through the handler unchanged: `set_prefix` touches the
message only, which is not modelled. -/
theorem exec_validateTail {C : Ctx α} {st : St α} {V : Expr} {k j m : Nat} {x : α} {b vn : Bool}
    (hV : eval C st.vars V = .ok (if vn then .none else .validateFn C.which))
    (h0 : getVar st.vars 0 = .ok (.item x)) (hj : getVar st.vars j = .ok (if b then .owner else .none))
    (hk : k < st.vars.length := by simp) (hm : m < st.vars.length := by simp)
    (hk0 : k ≠ 0 := by decide) (hkj : k ≠ j := by decide) :
    validated (exec C (validateTail V k j m) st) = if vn then .ok x else C.inner b C.ordinal x := by
  cases vn <;> simp only [Bool.false_eq_true, if_false, if_true] at hV ⊢
  · have hc : eval C (setVar st.vars k (.validateFn C.which))
        (.call3 (.var k) (.var j) (.selfAttr "name") (.var 0)) = (C.inner b C.ordinal x).map .item :=
      eval_call3 (getVar_setVar hk) ((getVar_setVar_ne hkj).trans hj) rfl ((getVar_setVar_ne hk0).trans h0)
    simp only [validateTail, exec, eval, hV, getVar_setVar hk, truthy, ↓hc]
    rcases C.inner b C.ordinal x with e | y
    · by_cases he : e = .traitError
      · simp only [he, Except.map, if_true, getVar_setVar (length_setVar.symm ▸ hm), validated_raised]
      · simp only [Except.map, if_neg he, validated_raised]
    · simp only [Except.map, validated_returned]
  · simp only [validateTail, exec, eval, hV, getVar_setVar hk, getVar_setVar_ne hk0, h0, truthy,
      validated_returned]

theorem list_item_validator_is_source (σ : OSelf) (inner : Bool → Callback α α) (n : Nat) (x : α) :
    runValidator Generated.Obj.traitListObjectItemValidator .item σ inner n x = listItemValidator σ inner n x := by
  obtain ⟨tr, ob, ni, cu⟩ := σ
  refine (runValidator_mk ..).trans ?_
  rw [← validateTail, listItemValidator]
  rcases ob with _ | _ | _
  · pylo_exec [validated_raised]
  · pylo_exec [validated_returned]
  · pylo_exec []
    rcases tr with _ | _ | t
    · pylo_exec [validateTail, validated_raised]
    · pylo_exec [validateTail, validated_raised]
    · exact exec_validateTail (b := true) rfl rfl rfl

/-- The attribute of a container trait that holds the inner trait `w`. -/
def innerAttr : Which → String
  | .item => "item_trait"
  | .key => "key_trait"
  | .value => "value_trait"

theorem eval_innerValidate {C : Ctx α} {vs : Frame α} {e : Expr} {t : CT} (w : Which)
    (h : eval C vs e = .ok (.trait t)) :
    eval C vs (.attr (.attr e (innerAttr w)) "validate") =
      .ok (if t.validateNone w then .none else .validateFn w) := by
  rw [eval, eval, h]
  cases w <;> rfl

/-- `TraitDictObject._key_validator` and `_value_validator` differ in the inner trait only. -/
def dictValidatorBody (w : Which) : Stmt :=
  .seq (.assign 1 (.getattrSelf "trait" .noneLit))
  (.seq (.assign 2 (.call0 (.getattrSelf "object" .lambdaNone)))
  (.seq (.ifS (.or (.isNone (.var 1)) (.isNone (.var 2))) (.ret (.var 0)) .skip)
  (validateTail (.attr (.attr (.var 1) (innerAttr w)) "validate") 3 2 4)))

theorem dict_validator_is_source (w : Which) (σ : OSelf) (inner : Bool → Callback α α) (n : Nat) (x : α) :
    runValidator ⟨1, 5, dictValidatorBody w⟩ w σ inner n x = dictValidator w σ inner n x := by
  rw [runValidator_mk, dictValidatorBody, dictValidator]
  cases ht : traitOrNone σ with
  | none => pylo_exec [ht, validated_returned]
  | some t =>
    cases ho : ownerOrNone σ
    · pylo_exec [ht, ho, validated_returned]
    · pylo_exec [ht, ho]
      exact exec_validateTail (b := true) (eval_innerValidate w rfl) rfl rfl

theorem dict_key_validator_is_source (σ : OSelf) (inner : Bool → Callback α α) (n : Nat) (x : α) :
    runValidator Generated.Obj.traitDictObjectKeyValidator .key σ inner n x = dictValidator .key σ inner n x :=
  -- the generated function unfolds to `⟨1, 5, dictValidatorBody .key⟩`
  dict_validator_is_source .key σ inner n x

theorem dict_value_validator_is_source (σ : OSelf) (inner : Bool → Callback α α) (n : Nat) (x : α) :
    runValidator Generated.Obj.traitDictObjectValueValidator .value σ inner n x = dictValidator .value σ inner n x :=
  dict_validator_is_source .value σ inner n x

theorem set_item_validator_is_source (σ : OSelf) (inner : Bool → Callback α α) (n : Nat) (x : α) :
    runValidator Generated.Obj.traitSetObjectItemValidator .item σ inner n x = setItemValidator σ inner n x := by
  refine (runValidator_mk ..).trans ?_
  rw [← validateTail, setItemValidator]
  cases ho : σ.object with
  | none => pylo_exec [ho, validated_returned]
  | some a =>
    cases ht : traitOrNone σ with
    | none => pylo_exec [ho, ht, validated_returned]
    | some t =>
      pylo_exec [ho, ht]
      exact exec_validateTail (b := a) (eval_innerValidate .item rfl) rfl rfl

/-! ### Length check -/

theorem list_validate_length_is_source (σ : OSelf) (n : Int) :
    runLengthCheck Generated.Obj.traitListObjectValidateLength σ n = listValidateLength σ n := by
  unfold runLengthCheck listValidateLength
  rw [if_neg (by decide), Generated.Obj.traitListObjectValidateLength]
  cases ht : traitOrNone σ with
  | none => pylo_exec [ht]
  | some t =>
    pylo_exec [ht]
    by_cases h1 : (t.minlen : Int) ≤ n
    · by_cases h2 : n ≤ (t.maxlen : Int) <;>
        simp only [h1, h2, decide_true, decide_false, Bool.not_true, Bool.not_false, and_self, and_false, if_true,
          if_false]
    · simp only [h1, decide_false, Bool.not_false, false_and, if_false]

/-! ### Notifiers -/

/-- What `runNotifier` makes of the way the body ended. -/
def delivered : St Unit × Flow Unit → Except Exc (List Delivery)
  | (st, .next) => .ok st.sent
  | (st, .returned .none) => .ok st.sent
  | (_, .raised e) => .error e
  | _ => stuck

theorem delivered_next {st : St Unit} : delivered (st, .next) = .ok st.sent := rfl
theorem delivered_returned {st : St Unit} : delivered (st, .returned .none) = .ok st.sent := rfl
theorem delivered_raised {st : St Unit} {e : Exc} : delivered (st, .raised e) = .error e := rfl

theorem runNotifier_mk {p k : Nat} {body : Stmt} {vs : Frame Unit}
    (hvs : (List.range p).map (fun i => some (.param i)) ++ List.replicate k none = vs) (σ : OSelf) :
    runNotifier ⟨p, p + k, body⟩ σ = delivered (exec ⟨σ, .item, fun _ _ _ => stuck, 0⟩ body ⟨vs, []⟩) := by
  unfold runNotifier
  rw [if_neg (by simp), Nat.add_sub_cancel_left, hvs]
  rfl

/-- What the three `notifier` methods share (`Obj.deliver`), with the owner in slot `i` and the event `E`
in slot `j`: `object = self.object(); if object is None: return;
if getattr(object, self.name) is not self: return; event = E; items_event = self.trait.items_event();
object.trait_items_event(self.name_items, event, items_event)`. -/
def deliverBody (E : Expr) (i j k : Nat) : Stmt :=
  .seq (.assign i (.call0 (.selfAttr "object")))
  (.seq (.ifS (.isNone (.var i)) (.ret .noneLit) .skip)
  (.seq (.ifS (.isNotSame (.getattrDyn (.var i) (.selfAttr "name")) .self) (.ret .noneLit) .skip)
  (.seq (.assign j E)
  (.seq (.assign k (.method0 (.selfAttr "trait") "items_event"))
  (.send3 (.var i) "trait_items_event" (.selfAttr "name_items") (.var j) (.var k))))))

theorem exec_deliverBody {C : Ctx Unit} {vs : Frame Unit} {E : Expr} {i j k : Nat} {d : Delivery}
    (hni : C.self.nameItems = true) (hE : ∀ v, eval C (setVar vs i v) E = .ok (.event d))
    (hi : i < vs.length := by decide) (hj : j < vs.length := by decide) (hk : k < vs.length := by decide)
    (hij : i ≠ j := by decide) (hik : i ≠ k := by decide) (hjk : j ≠ k := by decide) :
    delivered (exec C (deliverBody E i j k) ⟨vs, []⟩) = deliver C.self d := by
  obtain ⟨⟨tr, ob, ni, cu⟩, w, inn, ord⟩ := C
  obtain rfl : ni = true := hni
  rw [deliverBody, deliver]
  rcases ob with _ | _ | _
  · pylo_exec [delivered_raised]
  · pylo_exec [delivered_returned, getVar_setVar hi]
  · cases cu
    · pylo_exec [delivered_returned, getVar_setVar hi, sameObj]
    · rcases tr with _ | _ | t
      · pylo_exec [delivered_raised, getVar_setVar hi, sameObj, hE]
      · pylo_exec [delivered_raised, getVar_setVar hi, sameObj, hE]
      · pylo_exec [delivered_next, getVar_setVar, length_setVar, hi, hj, hk, getVar_setVar_ne hik.symm,
          getVar_setVar_ne hij.symm, getVar_setVar_ne hjk.symm, sameObj, hE, List.nil_append]

theorem dict_notifier_is_source (σ : OSelf) :
    runNotifier Generated.Obj.traitDictObjectNotifier σ = dictNotifier σ := by
  refine (runNotifier_mk (k := 3) rfl σ).trans ?_
  rw [← deliverBody, dictNotifier]
  cases hni : σ.nameItems
  · pylo_exec [hni, delivered_returned]
  · pylo_exec [hni]
    exact exec_deliverBody hni fun _ => rfl

theorem set_notifier_is_source (σ : OSelf) :
    runNotifier Generated.Obj.traitSetObjectNotifier σ = setNotifier σ := by
  refine (runNotifier_mk (k := 3) rfl σ).trans ?_
  rw [← deliverBody, setNotifier]
  cases hni : σ.nameItems
  · pylo_exec [hni, delivered_returned]
  · pylo_exec [hni]
    exact exec_deliverBody hni fun _ => rfl

theorem list_notifier_is_source (σ : OSelf) :
    runNotifier Generated.Obj.traitListObjectNotifier σ = listNotifier σ := by
  refine (runNotifier_mk (k := 5) (vs := [some (.param 0), some (.param 1), some (.param 2), some (.param 3),
    none, none, none, none, none]) rfl σ).trans ?_
  rw [← deliverBody, listNotifier]
  obtain ⟨tr, ob, ni, cu⟩ := σ
  rcases tr with _ | _ | t
  · pylo_exec [delivered_raised]
  · cases ni
    · pylo_exec [delivered_returned]
    · pylo_exec [delivered_returned]
  · cases ni
    · pylo_exec [delivered_returned]
    · pylo_exec []
      exact exec_deliverBody rfl fun _ => rfl

end TraitsVerif.Lemmas.PyLObj
