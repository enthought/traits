/-
Invariants of histories of the `deleg` model.  Each is a property of the cells of the pool, preserved by
every `CellStep`, hence by every operation (`step_effect`) and along every history (induction over the
operation list); classes and pool size never change.
-/
import TraitsVerif.Lemmas.DelegEffect
namespace TraitsVerif.Model.Deleg

/-- A DelegatesTo attribute never holds a local value. -/
def NoLocalDeleg (p : Pool) : Prop :=
  ∀ o n d, (p.obj o).cls.trait n = .defer d → d.modify = true → (p.obj o).dict n = none

/-- Forwarders exist only for deferring attributes, and a deferring attribute that holds a local value
(a prototyped attribute whose link is broken) has none. -/
def FwdInv (p : Pool) : Prop :=
  ∀ o n, ((p.obj o).fwd n ≠ none → ∃ d, (p.obj o).cls.trait n = .defer d) ∧
    (∀ d, (p.obj o).cls.trait n = .defer d → (p.obj o).dict n ≠ none → (p.obj o).fwd n = none)

/-- A forwarder is hooked on the current delegate, or on nothing. -/
def HookInv (p : Pool) : Prop := ∀ o n h, (p.obj o).fwd n = some (some h) → (p.obj o).deleg = some h

structure Inv (p : Pool) : Prop where
  wf : PoolWF p
  noLocal : NoLocalDeleg p
  fwd : FwdInv p
  hook : HookInv p

/-- Every linked deferring attribute has a forwarder hooked on the current delegate. -/
def Linked (p : Pool) : Prop :=
  ∀ o n d, (p.obj o).cls.trait n = .defer d → (p.obj o).dict n = none → (p.obj o).fwd n = some (p.obj o).deleg

/-! ### one operation -/

section
variable {p p' : Pool} {op : Op} {br : Bool} (h : Cells p op br p') (I : Inv p)
include h I

theorem cells_inv : Inv p' := by
  refine ⟨fun o => by rw [h.cls o]; exact I.wf o, fun o n d htd hm => ?_, fun o n => ⟨fun hf => ?_, fun d htd hd => ?_⟩,
    fun o n x hf => ?_⟩
  all_goals
    have hN := I.noLocal o n
    have hF := I.fwd o n
    have hH := I.hook o n
  · rw [h.cls o] at htd
    cases h.cell o n with
    | same e _ _ | swap e _ _ => rw [e]; exact hN d htd hm
    | store hnd => exact absurd htd (hnd d)
    | localSet d' htd' hm' => rw [htd] at htd'; cases htd'; rw [hm] at hm'; cases hm'
    | localDel _ _ _ e | relink _ _ _ e => exact e
  · rw [h.cls o]
    cases h.cell o n with
    | same _ e _ | store _ e _ | localDel _ _ _ _ e _ => rw [e] at hf; exact hF.1 hf
    | localSet _ _ _ _ _ e => exact absurd e hf
    | relink d htd => exact ⟨d, htd⟩
    | swap _ e _ =>
      rcases e with e | ⟨hne, _⟩
      · rw [e] at hf; exact hF.1 hf
      · exact hF.1 hne
  · rw [h.cls o] at htd
    cases h.cell o n with
    | same e1 e2 _ => rw [e1] at hd; rw [e2]; exact hF.2 d htd hd
    | store hnd => exact absurd htd (hnd d)
    | localSet _ _ _ _ _ e => exact e
    | localDel _ _ _ e | relink _ _ _ e => exact absurd e hd
    | swap e1 e2 _ =>
      rw [e1] at hd
      have hfw := hF.2 d htd hd
      rcases e2 with e | ⟨hne, _⟩
      · rw [e]; exact hfw
      · exact absurd hfw hne
  · cases h.cell o n with
    | same _ e2 e3 | store _ e2 e3 | localDel _ _ _ _ e2 e3 => rw [e2] at hf; rw [e3]; exact hH x hf
    | localSet _ _ _ _ _ e => rw [e] at hf; cases hf
    | relink _ _ _ _ e2 e3 => rw [e2] at hf; rw [e3]; exact Option.some.inj hf
    | swap _ e2 e3 =>
      rcases e2 with e | ⟨_, e⟩
      · rw [e] at hf
        obtain ⟨d, htd⟩ := hF.1 (by rw [hf]; nofun)
        have h3 := e3 d htd (by rw [hf]; nofun)
        rw [e, hf] at h3
        exact (Option.some.inj h3).symm
      · rw [e] at hf; exact Option.some.inj hf

theorem cells_linked (br0 : br = false) (L : Linked p) : Linked p' := by
  intro o n d htd hd
  have hL := L o n d
  have hF := (I.fwd o n).2 d
  rw [h.cls o] at htd
  cases h.cell o n with
  | same e1 e2 e3 => rw [e1] at hd; rw [e2, e3]; exact hL htd hd
  | store hnd => exact absurd htd (hnd d)
  | localSet _ _ _ _ e => exact absurd hd e
  | localDel _ hne hor =>
    rcases hor with hb | hf
    · rw [br0] at hb; cases hb
    · exact absurd (hF htd hne) hf
  | relink _ _ _ _ e2 e3 => rw [e2, e3]
  | swap e1 _ e3 =>
    rw [e1] at hd
    exact e3 d htd (by rw [hL htd hd]; nofun)

omit I in
theorem cells_untouched {o : ObjId} {n : Name} {d : DelegInfo} (htd : (p.obj o).cls.trait n = .defer d)
    (hnt : op.touches o n = false) : (p'.obj o).dict n = (p.obj o).dict n := by
  cases h.cell o n with
  | same e _ _ | swap e _ _ => exact e
  | store hnd => exact absurd htd (hnd d)
  | localSet _ _ _ ht | localDel ht | relink _ _ ht => rw [hnt] at ht; cases ht

end

/-! ### initial pools -/

theorem mkPool_obj (cs : List Cls) (o : ObjId) : ∃ c, (mkPool cs).obj o = mkObj c ∧ (c ∈ cs ∨ c = ⟨none, []⟩) := by
  unfold mkPool
  simp only []
  cases h : cs[o]? with
  | none => exact ⟨_, rfl, Or.inr rfl⟩
  | some c => exact ⟨c, rfl, Or.inl (List.mem_of_getElem? h)⟩

theorem mkPool_inv (cs : List Cls) (hwf : ∀ c ∈ cs, ClsWF c) : Inv (mkPool cs) := by
  refine ⟨fun o => ?_, fun o n d _ _ => ?_, fun o n => ?_, fun o n h => ?_⟩ <;>
    obtain ⟨c, hc, hm⟩ := mkPool_obj cs o <;> rw [hc]
  · rcases hm with hm | rfl
    · exact hwf c hm
    · exact List.nodup_nil
  · rfl
  · simp only [mkObj]
    cases c.trait n with
    | defer d => exact ⟨fun _ => ⟨d, rfl⟩, fun _ _ hd => absurd rfl hd⟩
    | plain a b c => exact ⟨fun h => absurd rfl h, nofun⟩
    | python => exact ⟨fun h => absurd rfl h, nofun⟩
  · simp only [mkObj]
    cases c.trait n <;> nofun

theorem mkPool_linked (cs : List Cls) : Linked (mkPool cs) := by
  intro o n d htd _
  obtain ⟨c, hc, _⟩ := mkPool_obj cs o
  rw [hc] at htd ⊢
  simp only [mkObj] at htd ⊢
  rw [htd]

/-! ### histories -/

theorem runPool_induction (E : Env) (P : Pool → Prop) : ∀ (ops : List Op) (k : Nat) (p : Pool),
    (∀ op ∈ ops, ∀ k p, P p → P (step E k p op).pool) → P p → P (runPool E k p ops)
  | [], _, _, _, h => h
  | op :: ops, k, p, hstep, h =>
    runPool_induction E P ops (k + 1) _ (fun op' h' => hstep op' (List.mem_cons_of_mem _ h'))
      (hstep op (List.mem_cons_self ..) k p h)

theorem runPool_inv (E : Env) (ops : List Op) (k : Nat) (p : Pool) (I : Inv p) : Inv (runPool E k p ops) :=
  runPool_induction E Inv ops k p (fun op _ k p I => cells_inv (step_effect E k p op).cells I) I

theorem runPool_frame (E : Env) (ops : List Op) (k : Nat) (p : Pool) :
    (runPool E k p ops).size = p.size ∧ ∀ j, ((runPool E k p ops).obj j).cls = (p.obj j).cls :=
  runPool_induction E (fun q => q.size = p.size ∧ ∀ j, (q.obj j).cls = (p.obj j).cls) ops k p
    (fun op _ k q hq =>
      have h := (step_effect E k q op).cells
      ⟨h.size.trans hq.1, fun j => (h.cls j).trans (hq.2 j)⟩)
    ⟨rfl, fun _ => rfl⟩

theorem runPool_untouched (E : Env) (o : ObjId) (n : Name) (d : DelegInfo) (ops : List Op) (k : Nat) (p : Pool)
    (htd : (p.obj o).cls.trait n = .defer d) (hnt : ∀ op ∈ ops, op.touches o n = false) :
    ((runPool E k p ops).obj o).dict n = (p.obj o).dict n :=
  (runPool_induction E (fun q => (q.obj o).cls = (p.obj o).cls ∧ (q.obj o).dict n = (p.obj o).dict n) ops k p
    (fun op hop k q hq =>
      have h := (step_effect E k q op).cells
      ⟨(h.cls o).trans hq.1, (cells_untouched h (by rw [hq.1]; exact htd) (hnt op hop)).trans hq.2⟩)
    ⟨rfl, rfl⟩).2

/-- No `del` of a prototyped value raised after deleting (its read-back through the link failed) during
the history — observable: no failing operation changed state.  Since fix bead785 this is the only way
a link can be left without forwarder (`Effect.broken`). -/
def NoBrokenDel (E : Env) (k : Nat) (p : Pool) (ops : List Op) : Prop :=
  ∀ s ∈ run E k p ops, s.broken = false

theorem runPool_linked (E : Env) : ∀ (ops : List Op) (k : Nat) (p : Pool),
    Inv p → Linked p → NoBrokenDel E k p ops → Linked (runPool E k p ops)
  | [], _, _, _, L, _ => L
  | op :: ops, k, p, I, L, hnf => by
    have he := (step_effect E k p op).cells
    exact runPool_linked E ops (k + 1) _ (cells_inv he I)
      (cells_linked he I (hnf _ (List.mem_cons_self ..)) L) (fun s hs => hnf s (List.mem_cons_of_mem _ hs))

theorem noBrokenDel_of_no_del (E : Env) : ∀ (ops : List Op) (k : Nat) (p : Pool),
    (∀ op ∈ ops, ∀ o n, op ≠ .del o n) → NoBrokenDel E k p ops
  | [], _, _, _ => fun _ hs => (List.not_mem_nil hs).elim
  | op :: ops, k, p, h => by
    intro s hs
    rcases List.mem_cons.mp hs with rfl | hs
    · refine (Bool.not_eq_true _).mp fun hb => ?_
      obtain ⟨o, n, _, hop, _⟩ := (step_effect E k p op).broken hb
      exact h op (List.mem_cons_self ..) o n hop
    · exact noBrokenDel_of_no_del E ops (k + 1) _ (fun op' h' => h op' (List.mem_cons_of_mem _ h')) s hs

end TraitsVerif.Model.Deleg
