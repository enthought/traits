/-
Cluster `obs`: the refinement invariant is preserved by mutations of an observed
DICT container (`d[k] = x` for a new and for an existing key, `del d[k]`, `clear`),
fragments `DictCoreF` and `DictCore` (the same with no `filtered` node in the
registrations).  The objects below a dict are its VALUES, `items.map (·.2)`; the same
object may sit under several keys (the "present twice, removed once" case), only the
keys are distinct.
-/
import TraitsVerif.Lemmas.ObsCont
namespace TraitsVerif.Model.Obs
open TraitsVerif

/-! ### the site of a dict -/

def isDictItems : Observer → Bool
  | .dictItems .. => true
  | _ => false

def dictSite (c : Id) : Gen.Site := ⟨fun ob x => isDictItems ob && x == some c, .cont c, .dict⟩

/-! ### the fragment -/

/-- `DictCoreF` with the premise that no registration contains a `filtered` node (which the proof
does not use: `DictCore.toF`). -/
structure DictCore (E : Env) (st : St) (regs : List Reg) (c : Id) (items items' : List (Key × Id)) (ev : CEvent) : Prop where
  hc : st.h.get c = .dict items
  /-- no `filtered` (`*`, `+metadata`) node in any active registration -/
  noFiltered : ∀ r ∈ regs, r.g.noFiltered = true
  alive : ∀ k, E.dead k = false
  /-- the walks the maintainers perform meet no failing `iter_*` -/
  okRem : ∀ mk g k, Notifier.maint mk g k ∈ st.H.get (.cont c) → ∀ y ∈ ev.removed,
    walkOk (st.h.upd c (.dict items')) true g (some y) = true
  okAdd : ∀ mk g k, Notifier.maint mk g k ∈ st.H.get (.cont c) → ∀ y ∈ ev.added,
    walkOk (st.h.upd c (.dict items')) true g (some y) = true
  /-- NoSelfReach: below the current items, and below the removed / added ones, the
  maintained sub-graphs never come back to the dict itself -/
  nsrItems : ∀ r ∈ regs, ∀ g ∈ Gen.visits (dictSite c) actTrue st.h r.g (some r.x), ∀ y ∈ items.map (·.2),
    ∀ it ∈ hookList st.h r.k true g (some y), it.1 ≠ .cont c
  nsrLive : ∀ mk g k, Notifier.maint mk g k ∈ st.H.get (.cont c) → ∀ y ∈ ev.removed ++ ev.added,
    ∀ it ∈ hookList (st.h.upd c (.dict items')) k true g (some y), it.1 ≠ .cont c
  /-- graph equality is structural on the sub-graphs involved -/
  eqStruct : ∀ mk g k, Notifier.maint mk g k ∈ st.H.get (.cont c) → ∀ r ∈ regs,
    ∀ g' ∈ Gen.visits (dictSite c) actTrue st.h r.g (some r.x),
    (NKey.maint mk g k).equals (.maint .dict g' r.k) = true → g = g' ∧ k = r.k

/-- Hypotheses under which a mutation of the dict `c` (contents
`items` ↦ `items'`, reported as `ev`) preserves the invariant; `filtered` nodes are allowed.  With `hc`,
these are the fields of `ContCore` at the site `dictSite c`, the objects below being the values. -/
structure DictCoreF (E : Env) (st : St) (regs : List Reg) (c : Id) (items items' : List (Key × Id)) (ev : CEvent) : Prop where
  hc : st.h.get c = .dict items
  alive : ∀ k, E.dead k = false
  /-- the walks the maintainers perform meet no failing `iter_*` -/
  okRem : ∀ mk g k, Notifier.maint mk g k ∈ st.H.get (.cont c) → ∀ y ∈ ev.removed,
    walkOk (st.h.upd c (.dict items')) true g (some y) = true
  okAdd : ∀ mk g k, Notifier.maint mk g k ∈ st.H.get (.cont c) → ∀ y ∈ ev.added,
    walkOk (st.h.upd c (.dict items')) true g (some y) = true
  /-- NoSelfReach: below the current items, and below the removed / added ones, the
  maintained sub-graphs never come back to the dict itself -/
  nsrItems : ∀ r ∈ regs, ∀ g ∈ Gen.visits (dictSite c) actTrue st.h r.g (some r.x), ∀ y ∈ items.map (·.2),
    ∀ it ∈ hookList st.h r.k true g (some y), it.1 ≠ .cont c
  nsrLive : ∀ mk g k, Notifier.maint mk g k ∈ st.H.get (.cont c) → ∀ y ∈ ev.removed ++ ev.added,
    ∀ it ∈ hookList (st.h.upd c (.dict items')) k true g (some y), it.1 ≠ .cont c
  /-- graph equality is structural on the sub-graphs involved -/
  eqStruct : ∀ mk g k, Notifier.maint mk g k ∈ st.H.get (.cont c) → ∀ r ∈ regs,
    ∀ g' ∈ Gen.visits (dictSite c) actTrue st.h r.g (some r.x),
    (NKey.maint mk g k).equals (.maint .dict g' r.k) = true → g = g' ∧ k = r.k

section
variable {E : Env} {st : St} {regs : List Reg} {c : Id} {items items' : List (Key × Id)} {ev : CEvent}

theorem dictSite_visits (h : Heap) (c : Id) (g : Graph) (x : W) :
    Gen.visits (dictSite c) actTrue h g x = (contCell .dict c).visits h g x :=
  Gen.visits_contCell _ (fun ob x => by cases ob <;> rfl) g x

theorem DictCore.toF (core : DictCore E st regs c items items' ev) : DictCoreF E st regs c items items' ev :=
  ⟨core.hc, core.alive, core.okRem, core.okAdd, core.nsrItems, core.nsrLive, core.eqStruct⟩

theorem DictCoreF.toCont (core : DictCoreF E st regs c items items' ev) :
    ContCore E st regs (Gen.visits (dictSite c) actTrue st.h) .dict c (.dict items') (items.map (·.2)) ev :=
  ⟨core.alive, core.okRem, core.okAdd, core.nsrItems, core.nsrLive, core.eqStruct⟩

theorem DictCoreF.ofCont (hc : st.h.get c = .dict items)
    (core : ContCore E st regs (Gen.visits (dictSite c) actTrue st.h) .dict c (.dict items') (items.map (·.2)) ev) : DictCoreF E st regs c items items' ev :=
  ⟨hc, core.alive, core.okRem, core.okAdd, core.nsrItems, core.nsrLive, core.eqStruct⟩

theorem DictCore.ofCont (hc : st.h.get c = .dict items) (hnf : ∀ r ∈ regs, r.g.noFiltered = true)
    (core : ContCore E st regs (Gen.visits (dictSite c) actTrue st.h) .dict c (.dict items') (items.map (·.2)) ev) : DictCore E st regs c items items' ev :=
  ⟨hc, hnf, core.alive, core.okRem, core.okAdd, core.nsrItems, core.nsrLive, core.eqStruct⟩

end

/-- `hitems`, `hitems'`: the event is a faithful delta, old = removed ++ rest, new = rest ++ added up to order. -/
theorem dictMut_preservesF (E : Env) (st : St) (regs : List Reg) (c : Id) (items items' : List (Key × Id))
    (rest : List Id) (ev : CEvent) (hinv : HooksEqReach st.h st.H regs) (core : DictCoreF E st regs c items items' ev)
    (hitems : (items.map (·.2)).Perm (ev.removed ++ rest)) (hitems' : (items'.map (·.2)).Perm (rest ++ ev.added)) :
    HooksEqReach (st.h.upd c (.dict items')) (runCont E st (st.h.upd c (.dict items')) c (some ev)).st.H regs ∧
    (runCont E st (st.h.upd c (.dict items')) c (some ev)).err = none :=
  contMut_preserves E st regs _ .dict c (.dict items') (items.map (·.2)) (items'.map (·.2)) rest ev (by rw [core.hc]; rfl) rfl (dictSite_visits st.h c) hinv core.toCont
    hitems hitems'

/-! ### the dict operations -/

/-- a dict with distinct keys around its entry for `k`: filtering `k` out and overwriting it -/
theorem dict_at {k k' : Key} {y : Id} {d : List (Key × Id)} (hnd : (d.map (·.1)).Nodup)
    (hk : d.find? (·.1 == k) = some (k', y)) (x : Id) :
    ∃ pre post, d = pre ++ (k, y) :: post ∧ d.filter (·.1 != k) = pre ++ post ∧
      d.map (fun kv => if kv.1 == k then (k, x) else kv) = pre ++ (k, x) :: post := by
  obtain ⟨hp, pre, post, rfl, hpre⟩ := List.find?_eq_some_iff_append.1 hk
  obtain rfl : k' = k := by simpa using hp
  rw [List.map_append, List.map_cons, List.nodup_append] at hnd
  have hpre' : ∀ a ∈ pre, (a.1 == k') = false := fun a ha => by simpa using hpre a ha
  have hpost : ∀ a ∈ post, (a.1 == k') = false := fun a ha => by
    have := (List.nodup_cons.1 hnd.2.1).1
    simpa using fun e : a.1 = k' => this (List.mem_map.2 ⟨a, ha, e⟩)
  have hf : ∀ l : List (Key × Id), (∀ a ∈ l, (a.1 == k') = false) → l.filter (·.1 != k') = l ∧
      l.map (fun kv => if kv.1 == k' then (k', x) else kv) = l := fun l hl =>
    ⟨List.filter_eq_self.2 (fun a ha => by simp [bne, hl a ha]),
      (List.map_congr_left (fun a ha => by simp [hl a ha])).trans (List.map_id _)⟩
  refine ⟨pre, post, rfl, ?_, ?_⟩
  · rw [List.filter_append, List.filter_cons, (hf pre hpre').1, (hf post hpost).1]; simp
  · rw [List.map_append, List.map_cons, (hf pre hpre').2, (hf post hpost).2]; simp

/-- `d[k] = x`, `k` a new key -/
theorem dictSet_new_preservesF (E : Env) (st : St) (regs : List Reg) (c : Id) (k : Key) (x : Id) (d : List (Key × Id))
    (hk : d.find? (·.1 == k) = none) (hinv : HooksEqReach st.h st.H regs)
    (core : DictCoreF E st regs c d (d ++ [(k, x)]) (.dict [] [(k, x)])) :
    HooksEqReach (mutate E st (.dictSet c k x)).st.h (mutate E st (.dictSet c k x)).st.H regs ∧
    (mutate E st (.dictSet c k x)).err = none := by
  simp only [mutate, core.hc, hk]
  exact dictMut_preservesF E st regs c d _ (d.map (·.2)) _ hinv core (.refl _) (List.map_append ▸ .refl _)

/-- `d[k] = x`, `k` an existing key (old value `y`): reported as `y` removed and `x` added.
The same object may sit under other keys too: it keeps their share of the reference counts. -/
theorem dictSet_overwrite_preservesF (E : Env) (st : St) (regs : List Reg) (c : Id) (k k' : Key) (x y : Id)
    (d : List (Key × Id)) (hk : d.find? (·.1 == k) = some (k', y)) (hnd : (d.map (·.1)).Nodup)
    (hinv : HooksEqReach st.h st.H regs)
    (core : DictCoreF E st regs c d (d.map (fun kv => if kv.1 == k then (k, x) else kv)) (.dict [(k, y)] [(k, x)])) :
    HooksEqReach (mutate E st (.dictSet c k x)).st.h (mutate E st (.dictSet c k x)).st.H regs ∧
    (mutate E st (.dictSet c k x)).err = none := by
  simp only [mutate, core.hc, hk]
  obtain ⟨pre, post, e, e1, e2⟩ := dict_at hnd hk x
  refine dictMut_preservesF E st regs c d _ ((d.filter (·.1 != k)).map (·.2)) _ hinv core ?_ ?_
  · rw [e1, e, List.map_append, List.map_append]; exact List.perm_middle
  · rw [e1, e2, List.map_append, List.map_append]
    exact List.perm_middle.trans (List.perm_append_singleton x _).symm

/-- `del d[k]` / `d.pop(k)`, `k` an existing key -/
theorem dictDel_preservesF (E : Env) (st : St) (regs : List Reg) (c : Id) (k k' : Key) (y : Id)
    (d : List (Key × Id)) (hk : d.find? (·.1 == k) = some (k', y)) (hnd : (d.map (·.1)).Nodup)
    (hinv : HooksEqReach st.h st.H regs)
    (core : DictCoreF E st regs c d (d.filter (·.1 != k)) (.dict [(k, y)] [])) :
    HooksEqReach (mutate E st (.dictDel c k)).st.h (mutate E st (.dictDel c k)).st.H regs ∧
    (mutate E st (.dictDel c k)).err = none := by
  simp only [mutate, core.hc, hk]
  obtain ⟨pre, post, e, e1, _⟩ := dict_at hnd hk y
  refine dictMut_preservesF E st regs c d _ ((d.filter (·.1 != k)).map (·.2)) _ hinv core ?_ (List.append_nil _ ▸ .refl _)
  rw [e1, e, List.map_append, List.map_append]; exact List.perm_middle

/-- `d.clear()` on a non-empty dict -/
theorem dictClear_preservesF (E : Env) (st : St) (regs : List Reg) (c : Id) (d : List (Key × Id))
    (hne : d.isEmpty = false) (hinv : HooksEqReach st.h st.H regs)
    (core : DictCoreF E st regs c d [] (.dict d [])) :
    HooksEqReach (mutate E st (.dictClear c)).st.h (mutate E st (.dictClear c)).st.H regs ∧
    (mutate E st (.dictClear c)).err = none := by
  simp only [mutate, core.hc, hne, Bool.false_eq_true, if_false]
  exact dictMut_preservesF E st regs c d _ [] _ hinv core (List.append_nil _ ▸ .refl _) (.refl _)

/-! The model keeps dict keys distinct: the four operations preserve `Nodup` of the keys
(so the `Nodup` hypothesis of the overwrite / delete lemmas is an invariant of the cell). -/

theorem dict_keys_overwrite (k : Key) (x : Id) (d : List (Key × Id)) :
    (d.map (fun kv => if kv.1 == k then (k, x) else kv)).map (·.1) = d.map (·.1) := by
  rw [List.map_map]
  apply List.map_congr_left
  intro a _
  by_cases ha : a.1 = k
  · simp [ha]
  · simp [ha]

theorem dict_keys_nodup_filter (k : Key) (d : List (Key × Id)) (hnd : (d.map (·.1)).Nodup) :
    ((d.filter (·.1 != k)).map (·.1)).Nodup :=
  hnd.sublist (List.filter_sublist.map _)

theorem dict_keys_nodup_append (k : Key) (x : Id) (d : List (Key × Id)) (hnd : (d.map (·.1)).Nodup)
    (hk : d.find? (·.1 == k) = none) : ((d ++ [(k, x)]).map (·.1)).Nodup :=
  Common.nodup_map_concat hnd fun hm => by
    obtain ⟨a, ha, e⟩ := List.mem_map.1 hm
    have := List.find?_eq_none.1 hk a ha
    simp [e] at this

/-! ### non-vacuity witness

`a.byname = {1: b, 2: b}` (dict cell 100, the SAME object `b` under two keys), `c` another
instance; `a.observe(handler, "byname.items.value")`. -/
namespace DictWitness

def fld (n : Name) (v : Val) : Field := ⟨n, false, .val (if n == nValue then .int 0 else .none), v, .equality⟩

def dKey : HKey := ⟨0, 0⟩

def dHeap : Heap :=
  [(0, .inst [fld nByname (.ref 100), fld nTraitAdded .unset]),
   (1, .inst [fld nValue (.int 3), fld nTraitAdded .unset]),
   (2, .inst [fld nValue (.int 5), fld nTraitAdded .unset]),
   (100, .dict [(1, 1), (2, 1)])]
def dGraph : Graph := .node (.named nByname true false) [.node (.dictItems true false) [.node (.named nValue true false) []]]
def dSt : St := ⟨dHeap, (addRemove dHeap dKey false true dGraph (some 0) Hooks.empty).H⟩
def dRegs : List Reg := [⟨dKey, dGraph, 0⟩]

theorem dInv : HooksEqReach dSt.h dSt.H dRegs := .of_observe dHeap dKey dGraph 0 (by decide)

theorem dHooks : dSt.H.get (.cont 100) =
    [.user dKey 1, .maint .dict (.node (.named nValue true false) []) dKey] := rfl
theorem dVisits : Gen.visits (dictSite 100) actTrue dSt.h dGraph (some 0) = [.node (.named nValue true false) []] := rfl

theorem dMaint (mk : MKind) (g : Graph) (k : HKey) (hm : Notifier.maint mk g k ∈ dSt.H.get (.cont 100)) :
    g = .node (.named nValue true false) [] ∧ k = dKey := by
  rw [dHooks] at hm; simp at hm; exact ⟨hm.2.1, hm.2.2⟩

theorem dNoFiltered : ∀ r ∈ dRegs, r.g.noFiltered = true := by
  intro r hr; simp [dRegs] at hr; subst hr; decide

/-- The hypotheses of `dictDel_preservesF` hold for `del a.byname[1]` (`b` stays under key 2). -/
theorem dCoreDel : DictCore {} dSt dRegs 100 [(1, 1), (2, 1)] ([(1, 1), (2, 1)].filter (·.1 != 1)) (.dict [(1, 1)] []) :=
  .ofCont rfl dNoFiltered
    (.of_single (fun _ => rfl) dMaint rfl dVisits (by decide) (by decide) (by decide))

/-- The hypotheses of `dictSet_overwrite_preservesF` hold for `a.byname[2] = c`. -/
theorem dCoreOverwrite : DictCore {} dSt dRegs 100 [(1, 1), (2, 1)] ([(1, 1), (2, 1)].map (fun kv => if kv.1 == 2 then (2, 2) else kv)) (.dict [(2, 1)] [(2, 2)]) :=
  .ofCont rfl dNoFiltered
    (.of_single (fun _ => rfl) dMaint rfl dVisits (by decide) (by decide) (by decide))

/-- The hypotheses of `dictSet_new_preservesF` hold for `a.byname[3] = c`. -/
theorem dCoreNew : DictCore {} dSt dRegs 100 [(1, 1), (2, 1)] ([(1, 1), (2, 1)] ++ [(3, 2)]) (.dict [] [(3, 2)]) :=
  .ofCont rfl dNoFiltered
    (.of_single (fun _ => rfl) dMaint rfl dVisits (by decide) (by decide) (by decide))

/-- The hypotheses of `dictClear_preservesF` hold for `a.byname.clear()`. -/
theorem dCoreClear : DictCore {} dSt dRegs 100 [(1, 1), (2, 1)] [] (.dict [(1, 1), (2, 1)] []) :=
  .ofCont rfl dNoFiltered
    (.of_single (fun _ => rfl) dMaint rfl dVisits (by decide) (by decide) (by decide))

/-- … the theorem applies to `del a.byname[1]`; the reference count on `b.value` goes 2 ↦ 1
(`b` is still there under key 2) and a later `b.value = 4` is delivered -/
example : HooksEqReach (mutate {} dSt (.dictDel 100 1)).st.h (mutate {} dSt (.dictDel 100 1)).st.H dRegs :=
  (dictDel_preservesF {} dSt dRegs 100 1 1 1 [(1, 1), (2, 1)] rfl (by decide) dInv dCoreDel.toF).1

example : cnt dSt.H (.trait 1 nValue) (.user dKey) = 2 ∧
    cnt (mutate {} dSt (.dictDel 100 1)).st.H (.trait 1 nValue) (.user dKey) = 1 ∧
    (mutate {} (mutate {} dSt (.dictDel 100 1)).st (.setField 1 nValue (.int 4) 0)).delivered =
      [.trait dKey 1 nValue (.int 3) (.int 4)] := by decide

/-- … to `a.byname[2] = c` (existing key): `b.value` 2 ↦ 1, `c.value` 0 ↦ 1 -/
example : HooksEqReach (mutate {} dSt (.dictSet 100 2 2)).st.h (mutate {} dSt (.dictSet 100 2 2)).st.H dRegs :=
  (dictSet_overwrite_preservesF {} dSt dRegs 100 2 2 2 1 [(1, 1), (2, 1)] rfl (by decide) dInv dCoreOverwrite.toF).1

example : cnt (mutate {} dSt (.dictSet 100 2 2)).st.H (.trait 1 nValue) (.user dKey) = 1 ∧
    cnt (mutate {} dSt (.dictSet 100 2 2)).st.H (.trait 2 nValue) (.user dKey) = 1 ∧
    (mutate {} dSt (.dictSet 100 2 2)).delivered = [.dict dKey 100 [(2, 1)] [(2, 2)]] := by decide

/-- … to `a.byname[3] = c` (new key): `c.value` gets hooked -/
example : HooksEqReach (mutate {} dSt (.dictSet 100 3 2)).st.h (mutate {} dSt (.dictSet 100 3 2)).st.H dRegs :=
  (dictSet_new_preservesF {} dSt dRegs 100 3 2 [(1, 1), (2, 1)] rfl dInv dCoreNew.toF).1

example : cnt dSt.H (.trait 2 nValue) (.user dKey) = 0 ∧
    cnt (mutate {} dSt (.dictSet 100 3 2)).st.H (.trait 2 nValue) (.user dKey) = 1 ∧
    cnt (mutate {} dSt (.dictSet 100 3 2)).st.H (.trait 1 nValue) (.user dKey) = 2 := by decide

/-- … and to `a.byname.clear()`: both references to `b.value` are released -/
example : HooksEqReach (mutate {} dSt (.dictClear 100)).st.h (mutate {} dSt (.dictClear 100)).st.H dRegs :=
  (dictClear_preservesF {} dSt dRegs 100 [(1, 1), (2, 1)] (by decide) dInv dCoreClear.toF).1

example : cnt (mutate {} dSt (.dictClear 100)).st.H (.trait 1 nValue) (.user dKey) = 0 ∧
    (mutate {} dSt (.dictClear 100)).delivered = [.dict dKey 100 [(1, 1), (2, 1)] []] := by decide

end DictWitness

/-! `a.byname = {1: b, 2: b}` observed through a quiet `*` node on `a`; `del a.byname[1]`. -/
namespace FilteredDictWitness

def fld (n : Name) (v : Val) : Field := ⟨n, false, .val (if n == nValue then .int 0 else .none), v, .equality⟩
def wKey : HKey := ⟨0, 0⟩
def wHeap : Heap :=
  [(0, .inst [fld nByname (.ref 100), fld nTraitAdded .unset]),
   (1, .inst [fld nValue (.int 3), fld nTraitAdded .unset]),
   (2, .inst [fld nValue (.int 5), fld nTraitAdded .unset]),
   (100, .dict [(1, 1), (2, 1)])]
/-- quiet `*` on `a` → optional items → `value` -/
def wGraph : Graph :=
  .node (.filtered .anyTrait false) [.node (.dictItems true true) [.node (.named nValue true false) []]]
def wSt : St := ⟨wHeap, (addRemove wHeap wKey false true wGraph (some 0) Hooks.empty).H⟩
def wRegs : List Reg := [⟨wKey, wGraph, 0⟩]

theorem wInv : HooksEqReach wSt.h wSt.H wRegs := .of_observe wHeap wKey wGraph 0 (by decide)

theorem wHooks : wSt.H.get (.cont 100) =
    [.user wKey 1, .maint .dict (.node (.named nValue true false) []) wKey] := rfl
theorem wVisits : Gen.visits (dictSite 100) actTrue wSt.h wGraph (some 0) = [.node (.named nValue true false) []] := rfl

theorem wCore : DictCoreF {} wSt wRegs 100 [(1, 1), (2, 1)] ([(1, 1), (2, 1)].filter (·.1 != 1)) (.dict [(1, 1)] []) :=
  .ofCont rfl (.of_single (fun _ => rfl)
    (by intro mk g k hm; rw [wHooks] at hm; simp at hm; exact ⟨hm.2.1, hm.2.2⟩)
    rfl wVisits (by decide) (by decide) (by decide))

example : HooksEqReach (mutate {} wSt (.dictDel 100 1)).st.h (mutate {} wSt (.dictDel 100 1)).st.H wRegs :=
  (dictDel_preservesF {} wSt wRegs 100 1 1 1 [(1, 1), (2, 1)] rfl (by decide) wInv wCore).1

example : cnt wSt.H (.trait 1 nValue) (.user wKey) = 2 ∧
    cnt (mutate {} wSt (.dictDel 100 1)).st.H (.trait 1 nValue) (.user wKey) = 1 := by decide

end FilteredDictWitness

end TraitsVerif.Model.Obs
