/-
Helper lemmas for the `ctab` cluster: `func_index` as a first-occurrence
search, and the finite facts about the TRANSLATED tables that the theorems of
Props/C18 and Props/C14 (`C14_ctrait_roundtrip`) are assembled from.  Every
`decide` below ranges over a translated table / guard list, never over a sample.
-/
import TraitsVerif.Model.FuncIndex
namespace TraitsVerif.Lemmas.CTab
open TraitsVerif.Generated TraitsVerif.Model.FuncIndex

/-! ### `func_index` -/

theorem funcIndexFrom_spec (fn : String) (l : List String) (k : Nat) :
    ∀ i, funcIndexFrom fn l k = some i → k ≤ i ∧ i - k < l.length ∧ l[i - k]? = some fn := by
  fun_induction funcIndexFrom fn l k with
  | case1 => nofun
  | case2 es k => intro i h; cases h; simp
  | case3 e es k he ih =>
    intro i h
    obtain ⟨h1, h2, h3⟩ := ih i h
    refine ⟨by omega, by simp; omega, ?_⟩
    rw [show i - k = (i - (k + 1)) + 1 by omega, List.getElem?_cons_succ]
    exact h3

theorem funcIndex_spec {fn : String} {tbl : List String} {i : Nat} (h : funcIndex fn tbl = some i) :
    i < tbl.length ∧ tbl[i]? = some fn := by
  have := funcIndexFrom_spec fn tbl 0 i h
  simpa using this.2

theorem funcIndexFrom_of_mem (fn : String) (l : List String) (k : Nat) :
    fn ∈ l → ∃ i, funcIndexFrom fn l k = some i := by
  fun_induction funcIndexFrom fn l k with
  | case1 => nofun
  | case2 es k => exact fun _ => ⟨k, rfl⟩
  | case3 e es k he ih => exact fun h => ih ((List.mem_cons.mp h).resolve_left he)

/-- `func_index` terminates inside the array exactly when the function is an entry. -/
theorem funcIndex_isSome_iff {fn : String} {tbl : List String} :
    (funcIndex fn tbl).isSome ↔ fn ∈ tbl := by
  constructor
  · intro h
    obtain ⟨i, hi⟩ := Option.isSome_iff_exists.mp h
    exact List.mem_of_getElem? (funcIndex_spec hi).2
  · intro h
    obtain ⟨i, hi⟩ := funcIndexFrom_of_mem fn tbl 0 h
    simp [funcIndex, hi]

/-! ### Finite facts about the translated tables -/

/-- `__setstate__` subscripts the very table `__getstate__` searched. -/
theorem restore_table_eq : ∀ f ∈ Field.all, restoreTableName f = stateTableName f := by decide

/-- Coverage: every assignable function is an entry of the table `__getstate__` searches. -/
theorem assignable_covered : ∀ f ∈ Field.all, ∀ fn ∈ assignable f, (funcIndex fn (stateTable f)).isSome := by
  -- by the kernel alone: `decide` has the elaborator evaluate the tables a second time
  decide +kernel

theorem field_mem_all (f : Field) : f ∈ Field.all := by cases f <;> decide

theorem admitted_mem {fn var : String} {k : Int} (h : admitted fn var k = true) :
    ∃ ks, guardOf fn var = some ks ∧ k.toNat ∈ ks ∧ 0 ≤ k := by
  unfold admitted at h
  split at h
  · rename_i ks hk
    simp only [Bool.and_eq_true, decide_eq_true_eq, List.contains_iff_mem] at h
    exact ⟨ks, hk, h.2, h.1⟩
  · cases h

/-- The admitted values of a guarded index variable (`[]` when there is no guard). -/
def guardList (fn var : String) : List Nat := (guardOf fn var).getD []

theorem admitted_guardList {fn var : String} {k : Int} (h : admitted fn var k = true) :
    k.toNat ∈ guardList fn var ∧ 0 ≤ k := by
  obtain ⟨ks, h1, h2, h3⟩ := admitted_mem h
  simp [guardList, h1, h2, h3]

/-- Entry `k` of table `c` as the model reads it (`OOB` outside the initialiser). -/
abbrev ent (c : String) (k : Nat) : String := (tableAt c k).getD OOB

/-- What the theorems need of a subscript `tbl[k]` whose value is stored in field `f`. -/
structure SiteOk (tbl : String) (f : Field) (k : Nat) : Prop where
  inBounds : k < (tableNamed tbl).length
  notNull : ent tbl k ≠ NULL
  mem : ent tbl k ∈ assignable f

/-- `assignable` is read off the translated assignment sites: what a guarded subscript site of field `f` stores is
assignable to `f` because the site is in the list, whatever the tables hold. -/
theorem ent_mem_assignable {fn tbl var : String} {f : Field}
    (hs : (fn, f.cname, "tbl", tbl, var) ∈ CTables.assignSites) (hfn : fn ≠ "_trait_setstate") {k : Nat}
    (hk : k ∈ guardList fn var) : ent tbl k ∈ assignable f := by
  refine List.mem_append_right _ (List.mem_flatMap.mpr ⟨_, List.mem_filter.mpr ⟨hs, by simp⟩, ?_⟩)
  unfold guardList at hk
  cases hg : guardOf fn var with
  | none => simp [hg] at hk
  | some ks =>
    rw [hg] at hk
    simpa [expandSite, hfn, hg] using ⟨k, hk, rfl⟩

/-- Every guarded subscript on the right-hand side of an assignment to a function-pointer field, anywhere in
`ctraits.c`: each value its guard admits lies inside the initialiser of the table, at an entry that is not `NULL`. -/
theorem guarded_sites : ∀ s ∈ CTables.assignSites, s.2.2.1 = "tbl" → s.1 ≠ "_trait_setstate" →
    ∀ k ∈ guardList s.1 s.2.2.2.2, k < (tableNamed s.2.2.2.1).length ∧ ent s.2.2.2.1 k ≠ NULL := by
  decide

theorem site_ok {fn tbl var : String} {f : Field} (hs : (fn, f.cname, "tbl", tbl, var) ∈ CTables.assignSites)
    (hfn : fn ≠ "_trait_setstate") {k : Nat} (hk : k ∈ guardList fn var) : SiteOk tbl f k :=
  ⟨(guarded_sites _ hs rfl hfn k hk).1, (guarded_sites _ hs rfl hfn k hk).2, ent_mem_assignable hs hfn hk⟩

/-! The sites by function.  Beyond `SiteOk`: the entries `trait_new` installs are the handler pair of that
`TraitKind` and no property handler; the setter `_trait_set_property` installs directly is never the
validating one, which it installs by name. -/

theorem new_facts : ∀ k ∈ guardList "trait_new" "kind",
    SiteOk "getattr_handlers" .getattr k ∧ SiteOk "setattr_handlers" .setattr k ∧
    requiresProperty (ent "getattr_handlers" k) = false ∧ requiresProperty (ent "setattr_handlers" k) = false ∧
    kindHandlers[k]? = some (ent "getattr_handlers" k, ent "setattr_handlers" k) := by
  refine fun k hk => ⟨site_ok (by decide) (by decide) hk, site_ok (by decide) (by decide) hk, ?_⟩
  revert k
  decide

theorem setValidate_facts : ∀ k ∈ guardList "_trait_set_validate" "kind", SiteOk "validate_handlers" .validate k :=
  fun _ hk => site_ok (by decide) (by decide) hk

theorem delegate_facts :
    (∀ k ∈ guardList "_trait_delegate" "prefix_type", SiteOk "delegate_attr_name_handlers" .delegateAttrName k) ∧
    0 ∈ guardList "_trait_delegate" "prefix_type" :=
  ⟨fun _ hk => site_ok (by decide) (by decide) hk, by decide⟩

theorem setProperty_facts :
    (∀ k ∈ guardList "_trait_set_property" "get_n", SiteOk "getattr_property_handlers" .getattr k) ∧
    (∀ k ∈ guardList "_trait_set_property" "set_n",
      SiteOk "setattr_property_handlers" .setattr k ∧ SiteOk "setattr_property_handlers" .postSetattr k ∧
      ent "setattr_property_handlers" k ≠ "setattr_validate_property") ∧
    (∀ k ∈ guardList "_trait_set_property" "validate_n", SiteOk "setattr_validate_handlers" .validate k) ∧
    "setattr_validate_property" ∈ assignable .setattr := by
  refine ⟨fun _ hk => site_ok (by decide) (by decide) hk,
    fun k hk => ⟨site_ok (by decide) (by decide) hk, site_ok (by decide) (by decide) hk, ?_⟩,
    fun _ hk => site_ok (by decide) (by decide) hk, by decide⟩
  revert k
  decide

theorem misc_facts :
    "post_setattr_trait_python" ∈ assignable .postSetattr ∧ NULL ∈ assignable .postSetattr ∧
    NULL ∈ assignable .validate ∧ NULL ∈ assignable .delegateAttrName ∧
    "setattr_validate_property" ≠ NULL ∧ "post_setattr_trait_python" ≠ NULL := by
  decide

/-! ### Round trip of the index slots -/

theorem tableAt_restore {f : Field} {fn : String} {i : Nat} (h : funcIndex fn (stateTable f) = some i) :
    tableAt (restoreTableName f) i = some fn := by
  rw [restore_table_eq f (field_mem_all f)]
  exact (funcIndex_spec h).2

theorem getstateIdx_eq_some {t : Fns} {i : Idx} :
    getstateIdx t = some i ↔ ∀ f, funcIndex (t.get f) (stateTable f) = some (i.get f) := by
  unfold getstateIdx
  constructor
  · intro h f
    split at h
    · cases h; cases f <;> assumption
    · cases h
  · intro h
    have h1 := h .getattr; have h2 := h .setattr; have h3 := h .postSetattr; have h4 := h .validate
    have h5 := h .delegateAttrName
    simp only [Fns.get, Idx.get] at h1 h2 h3 h4 h5
    simp only [h1, h2, h3, h4, h5]

theorem setstateIdx_eq_some {i : Idx} {t : Fns} :
    setstateIdx i = some t ↔ ∀ f, tableAt (restoreTableName f) (i.get f) = some (t.get f) := by
  unfold setstateIdx
  constructor
  · intro h f
    split at h
    · cases h; cases f <;> assumption
    · cases h
  · intro h
    have h1 := h .getattr; have h2 := h .setattr; have h3 := h .postSetattr; have h4 := h .validate
    have h5 := h .delegateAttrName
    simp only [Fns.get, Idx.get] at h1 h2 h3 h4 h5
    simp only [h1, h2, h3, h4, h5]

theorem getstateIdx_of_forall {t : Fns} (h : ∀ f, (funcIndex (t.get f) (stateTable f)).isSome) :
    ∃ i, getstateIdx t = some i := by
  obtain ⟨a, ha⟩ := Option.isSome_iff_exists.mp (h .getattr)
  obtain ⟨b, hb⟩ := Option.isSome_iff_exists.mp (h .setattr)
  obtain ⟨c, hc⟩ := Option.isSome_iff_exists.mp (h .postSetattr)
  obtain ⟨d, hd⟩ := Option.isSome_iff_exists.mp (h .validate)
  obtain ⟨e, he⟩ := Option.isSome_iff_exists.mp (h .delegateAttrName)
  exact ⟨⟨a, b, c, d, e⟩, getstateIdx_eq_some.mpr fun f => by cases f <;> assumption⟩

/-- Whatever `__getstate__` returned, `__setstate__` of it stays inside the tables and restores the same five
pointers: each index was found in the very table it is used to subscript. -/
theorem setstate_getstate {t : Fns} {i : Idx} (hg : getstateIdx t = some i) : setstateIdx i = some t :=
  setstateIdx_eq_some.mpr fun f => tableAt_restore (getstateIdx_eq_some.mp hg f)

theorem roundtrip_eq {s t : Fns} {i : Idx} (hg : getstateIdx s = some i) (hs : setstateIdx i = some t) :
    t = s :=
  Option.some.inj (hs.symm.trans (setstate_getstate hg))

/-! ### Invariant of constructible traits -/

/-- Invariant of constructible traits: every field holds an assignable function, the two handlers the attribute
protocol calls without a NULL test are there, and a validated property is complete (`_trait_set_property` installs
`setattr_validate_property` together with the validator and the setter it calls). -/
def Good (t : Fns) : Prop :=
  (∀ f, t.get f ∈ assignable f) ∧ t.getattr ≠ NULL ∧ t.setattr ≠ NULL ∧
    (t.setattr = "setattr_validate_property" → t.validate ≠ NULL ∧ t.postSetattr ≠ NULL)

theorem good_new {k : Int} {t : Fns} (h : traitNew k = some t) : Good t := by
  unfold traitNew at h
  split at h
  · rename_i hk
    cases h
    obtain ⟨hg, hs, -, hp, -⟩ := new_facts _ (admitted_guardList hk).1
    refine ⟨fun f => ?_, hg.notNull, hs.notNull, fun hv => ?_⟩
    · cases f
      · exact hg.mem
      · exact hs.mem
      · exact misc_facts.2.1
      · exact misc_facts.2.2.1
      · exact misc_facts.2.2.2.1
    · have hv' : ent "setattr_handlers" k.toNat = "setattr_validate_property" := hv
      rw [hv'] at hp
      exact absurd hp (by decide)
  · cases h

theorem good_step {t t' : Fns} (op : Op) (hg : Good t) (h : apply t op = some t') : Good t' := by
  obtain ⟨ha, hga, hsa, hvp⟩ := hg
  cases op with
  | setValidate kind =>
    simp only [apply] at h
    split at h
    · rename_i hk
      cases h
      have hf := setValidate_facts _ (admitted_guardList hk).1
      refine ⟨fun f => ?_, hga, hsa, fun hs => ⟨hf.notNull, (hvp hs).2⟩⟩
      cases f
      case validate => exact hf.mem
      all_goals exact ha _
    · cases h
  | delegate p =>
    simp only [apply] at h
    cases h
    refine ⟨fun f => ?_, hga, hsa, hvp⟩
    cases f
    case delegateAttrName =>
      show ent "delegate_attr_name_handlers" _ ∈ _
      split
      · rename_i hk
        exact (delegate_facts.1 _ (admitted_guardList hk).1).mem
      · exact (delegate_facts.1 _ delegate_facts.2).mem
    all_goals exact ha _
  | setProperty g s v hasV =>
    simp only [apply] at h
    split at h
    · rename_i hk
      simp only [Bool.and_eq_true] at hk
      obtain ⟨⟨hg', hs'⟩, hv'⟩ := hk
      have fg := setProperty_facts.1 _ (admitted_guardList hg').1
      obtain ⟨fs, fp, fne⟩ := setProperty_facts.2.1 _ (admitted_guardList hs').1
      have fv := setProperty_facts.2.2.1 _ (admitted_guardList hv').1
      cases hasV
      · simp only [Bool.false_eq_true, ↓reduceIte] at h
        cases h
        refine ⟨fun f => ?_, fg.notNull, fs.notNull, fun hs => absurd hs fne⟩
        cases f
        · exact fg.mem
        · exact fs.mem
        all_goals exact ha _
      · simp only [↓reduceIte] at h
        cases h
        refine ⟨fun f => ?_, fg.notNull, misc_facts.2.2.2.2.1, fun _ => ⟨fv.notNull, fp.notNull⟩⟩
        cases f
        · exact fg.mem
        · exact setProperty_facts.2.2.2
        · exact fp.mem
        · exact fv.mem
        · exact ha _
    · cases h
  | setPostSetattr b =>
    simp only [apply] at h
    split at h
    · cases h
      exact ⟨ha, hga, hsa, hvp⟩
    · rename_i hne
      cases h
      refine ⟨fun f => ?_, hga, hsa, fun hs => absurd hs hne⟩
      cases f
      case postSetattr =>
        show (if b = true then _ else _) ∈ _
        split
        · exact misc_facts.1
        · exact misc_facts.2.1
      all_goals exact ha _

theorem good_of_constructible {t : Fns} (h : Constructible t) : Good t := by
  induction h with
  | new h => exact good_new h
  | step op _ h ih => exact good_step op ih h
  | restore _ hg hs ih => rw [roundtrip_eq hg hs]; exact ih

end TraitsVerif.Lemmas.CTab
