/-
The translation tie of C11: the hand-written functions of `Model/Delegate.lean` equal the interpretation
(`Model/DelegSrc.lean`) of the terms `harness/translate/delegsrc.py` generates from the working tree
(`Generated/DelegSrc.lean`).

The interpreters are run by `simp` with their equations (local simp lemmas of each section).  A string
program of the Python side has one exit and its conditionals only assign: it is executed once, the conditions
going into the values it computes (`ite_pst`), and cases are split on the result, against the `if`s of the
model.  A C function is executed once along each of its paths: a case is split where execution depends on it, and the
statements that follow the group being executed are hidden behind a variable meanwhile, so that `simp`
does not walk through them.  The loops of `setattr_delegate` and `_has_traits_trait` are one lemma about
their body (`body_eq`, `base_body_eq`) and an induction on the number of iterations left before the bound
`++i >= 100`; both lemmas hold for every name computation, so the failing one is a special case.
-/
import TraitsVerif.Generated.DelegSrc
namespace TraitsVerif.Model.DelegSrc
open TraitsVerif TraitsVerif.Model.Deleg
open TraitsVerif.Generated.DelegSrc

/-! ### `delegate_attr_name_*` and the string programs of the Python side -/

section Strings

/-! `if … else …` over assignments is one assignment of conditional values: the two states are written as one, with
the condition inside the values, so that the statements after it run once. -/
section
variable {p : Prop} [Decidable p]
theorem ite_pst {v w : List PVal} {m s r} :
    (if p then (⟨v, m, s, r⟩ : PSt) else ⟨w, m, s, r⟩) = ⟨if p then v else w, m, s, r⟩ := by
  split <;> rfl
theorem ite_cons {α : Type} {a b : α} {l k : List α} :
    (if p then a :: l else b :: k) = (if p then a else b) :: (if p then l else k) := by
  split <;> rfl
theorem ite_str {a b : Name} : (if p then PVal.str a else .str b) = .str (if p then a else b) := (apply_ite _ _ _ _).symm
theorem ite_int {a b : Nat} : (if p then PVal.int a else .int b) = .int (if p then a else b) := (apply_ite _ _ _ _).symm
end

attribute [local simp] execN NExpr.eval PCtx.exec PCtx.test PCtx.eval setReg PVal.toStr PVal.toNat lookupP List.lookup
  clsAttr traitMeta ite_pst ite_cons ite_str ite_int

theorem attrName_is_source (d : DelegInfo) (clsPfx : Option Name) (n : Name) :
    attrNameSrc attrNameHandlers d clsPfx n = some (attrName d clsPfx n) := by
  unfold attrNameSrc attrName
  cases d.ptype
  case className => cases clsPfx <;> simp [attrNameHandlers, PrefixType.toNat]
  all_goals simp [attrNameHandlers, PrefixType.toNat]

theorem mkDelegate_is_source (dname pfx : Name) (modify : Bool) :
    initDelegateSrc initDelegate dname pfx modify = some (mkDelegate pfx modify) := by
  unfold mkDelegate initDelegateSrc
  simp [initDelegate]
  -- left: the record computed, with the conditions inside `stored` and `ptype`, against the `if`s of `mkDelegate`
  by_cases h1 : pfx = []
  · simp [h1, PrefixType.ofNat]
  · cases pfx.getLast? with
    | none => simp [h1, PrefixType.ofNat]
    | some ch =>
      by_cases h2 : ch = '*'
      · by_cases h3 : pfx.dropLast = [] <;> simp [h1, h2, h3, PrefixType.ofNat]
      · simp [h1, h2, PrefixType.ofNat]

theorem delegatePattern_is_source (dname raw n : Name) :
    delegatePatternSrc Generated.DelegSrc.delegatePattern dname raw n
      = some (' ' :: dname ++ ':' :: Deleg.delegatePattern n raw) := by
  unfold Deleg.delegatePattern delegatePatternSrc
  simp [Generated.DelegSrc.delegatePattern]
  cases raw.getLast? <;> simp

theorem traitDelegateName_is_source (clsPfx : Option Name) (n head pat : Name) (hp : pat ≠ []) :
    traitDelegateNameSrc Generated.DelegSrc.traitDelegateName clsPfx n (head ++ pat)
      = some (head ++ Deleg.traitDelegateName clsPfx n pat) := by
  unfold Deleg.traitDelegateName traitDelegateNameSrc
  have hd : (head ++ pat).dropLast = head ++ pat.dropLast := List.dropLast_append_of_ne_nil hp
  cases hc : pat.getLast? with
  | none => exact absurd (List.getLast?_eq_none_iff.mp hc) hp
  | some ch =>
    have hl : (head ++ pat).getLast? = some ch := by rw [List.getLast?_append, hc]; rfl
    simp [Generated.DelegSrc.traitDelegateName, hl, hd]
    split <;> rfl

theorem afterLastColon_append (h t : Name) (ht : ':' ∉ t) : afterLastColon (h ++ ':' :: t) = t := by
  unfold afterLastColon
  have h1 : (h ++ ':' :: t).reverse = t.reverse ++ (':' :: h.reverse) := by simp
  rw [h1, List.takeWhile_append_of_pos, List.takeWhile_cons_of_neg (by simp), List.append_nil, List.reverse_reverse]
  intro c hc
  have : c ∈ t := by simpa using hc
  simp only [ne_eq, decide_not, Bool.not_eq_eq_eq_not, Bool.not_true, decide_eq_false_iff_not]
  intro hcc; subst hcc; exact ht this

theorem initListener_is_source (clsPfx : Option Name) (n head pat : Name) (hp : pat ≠ [])
    (hc : ':' ∉ Deleg.traitDelegateName clsPfx n pat) :
    let out := initListenerSrc initListener
      (fun a b => (traitDelegateNameSrc Generated.DelegSrc.traitDelegateName clsPfx a b).getD [])
      clsPfx n (head ++ ':' :: pat)
    out.registered = head ++ ':' :: Deleg.traitDelegateName clsPfx n pat
    ∧ out.key = n
    ∧ out.reported (Deleg.traitDelegateName clsPfx n pat) = n := by
  have htdn := traitDelegateName_is_source clsPfx n (head ++ [':']) pat hp
  simp only [List.append_assoc, List.cons_append, List.nil_append] at htdn
  simp [initListenerSrc, initListener, htdn, afterLastColon_append _ _ hc]

end Strings

/-! ### `_remove_trait_delegate_listener` on the listener table -/

theorem removeListener_remove_is_source (hooked : Option ObjId) (f : Option (Option ObjId)) :
    removeListenerSrc removeListener true hooked f = LSt.ofFwd none := by
  cases f <;> simp [removeListenerSrc, removeListener, execL, LSt.ofFwd]

theorem removeListener_restore_is_source (hooked : Option ObjId) (f : Option (Option ObjId)) :
    removeListenerSrc removeListener false hooked f
      = LSt.ofFwd (match f with | some h => some h | none => some hooked) := by
  cases f <;> simp [removeListenerSrc, removeListener, execL, LSt.ofFwd]

/-! ### `getattr_delegate` -/

section Get
attribute [local simp] GetCtx.exec GetCtx.cond CErr.exc setReg

theorem execGet_eq (p : Pool) (recur : Option (ObjId → Name → Except Exc Val)) (o : ObjId) (n : Name) (d : DelegInfo)
    (nameFn : NameFn) :
    execGet getattrDelegate p recur o n d nameFn =
      match nameFn d (p.obj o).cls.pfx n with
      | .error e => .error e
      | .ok da =>
        match recur with
        | none => .error .runtimeError
        | some rd =>
          match (p.obj o).deleg with
          | none => .error .attributeError
          | some x => rd x da := by
  unfold execGet
  simp only [getattrDelegate]
  generalize hr : Stmt.seq (Stmt.ite (Cond.hasGetattro _) _ _) _ = rest
  cases hn : nameFn d (p.obj o).cls.pfx n with
  | error e => cases hx : (p.obj o).deleg <;> simp [hx, hn]
  | ok da =>
    cases hx : (p.obj o).deleg with
    | none =>
      simp [hx, hn]
      subst hr
      cases recur <;> simp
    | some x =>
      simp [hx, hn]
      subst hr
      cases recur with
      | none => simp
      | some rd => cases hv : rd x da <;> simp [hv]

end Get

/-! ### `setattr_delegate` -/

section Set
attribute [local simp] SetCtx.exec SetCtx.cond CErr.exc setReg

/-- What `setattr_delegate` does once the chain walk has reached a non-deferring trait. -/
def terminal (E : Env) (k : Nat) (p : Pool) (o : ObjId) (n : Name) (d0 : DelegInfo) (v : Option Val)
    (x : ObjId) (t : Name) (td : TraitDef) : StepOut :=
  if d0.modify then plainSet E k p x t td v
  else
    let r := protoSet E k p o n td v
    if isOk r then removeListenerCall r o n d0 v.isSome else r

def loopBody : Stmt := (setattrDelegate.loop).getD .skip

/-- One iteration of the loop of `setattr_delegate`, with `cur`, `d`, `da` the delegate, trait and name
registers and `i` the counter. -/
def bodyResult (c : SetCtx) (o : ObjId) (n : Name) (i : Nat) (cur : ObjId) (d : DelegInfo) (da : Name) :
    Outcome SetSt StepOut :=
  match (c.p.obj cur).deleg with
  | none => .ret (fail c.p .traitError)
  | some x =>
    match c.nameFn d (c.p.obj o).cls.pfx da with
    | .error e => .ret (fail c.p e)
    | .ok da' =>
      match (c.p.obj x).cls.trait da' with
      | .defer d' =>
        if i + 1 ≥ 100 then .ret (fail c.p .traitError)
        else .next { O := [.obj o, .obj x, .obj x], S := [n, da', da'], T := [.defer c.d, .defer d'], i := i + 1 }
      | td => .ret (terminal c.E c.k c.p o n c.d c.value x da' td)

/-- After the local store of a PrototypedFrom assignment: `_remove_trait_delegate_listener` runs when the
store succeeded, and `result = -1` when that call raised. -/
theorem after_local_store (c : SetCtx) (o : ObjId) (n : Name) (o1 o2 : OVal) (s1 s2 : Name) (T : List TraitDef) (i : Nat)
    (r : StepOut) :
    c.exec (.ite .resultOk (.seq (.removeListener 0 0) (.ite .tempNull .resultFail .skip)) .skip)
        { O := [.obj o, o1, o2], S := [n, s1, s2], T := T, i := i, result := some r }
      = .next { O := [.obj o, o1, o2], S := [n, s1, s2], T := T, i := i,
                result := some (if isOk r then removeListenerCall r o n c.d c.value.isSome else r) } := by
  cases h1 : isOk r
  · simp [h1]
  · cases h2 : isOk (removeListenerCall r o n c.d c.value.isSome) <;> simp [h1, h2]

theorem body_eq (c : SetCtx) (o : ObjId) (n : Name) (i : Nat) (cur : ObjId) (d : DelegInfo) (da : Name)
    (o2 : OVal) (s2 : Name) :
    c.exec loopBody { O := [.obj o, .obj cur, o2], S := [n, da, s2], T := [.defer c.d, .defer d], i := i }
      = bodyResult c o n i cur d da := by
  unfold bodyResult loopBody
  simp only [setattrDelegate, Option.getD]
  generalize hr : Stmt.seq (Stmt.attrName _ _ _ _) _ = rest
  cases hx : (c.p.obj cur).deleg with
  | none => simp [hx]
  | some x =>
    simp [hx]
    subst hr
    generalize hr : Stmt.seq (Stmt.ite (Cond.noAttrNameFn _) _ _) _ = rest
    cases hn : c.nameFn d (c.p.obj o).cls.pfx da with
    | error e => simp [hn]
    | ok da' =>
      simp [hn]
      subst hr
      generalize (c.p.obj x).cls.trait da' = td
      generalize hr : Stmt.ite Cond.resultOk _ _ = fin
      have hfin := after_local_store c o n (.obj x) (.obj x) da' da'
      rw [hr] at hfin
      cases td with
      | defer d' => by_cases hi : 99 ≤ i <;> simp [hi]
      | plain vid dflt cmp => cases hm : c.d.modify <;> simp [terminal, hm, hfin]
      | python => cases hm : c.d.modify <;> simp [terminal, hm, hfin]

theorem SetCtx.loop_succ (c : SetCtx) (body : Stmt) (f : Nat) (st : SetSt) :
    c.loop body (f + 1) st = match c.exec body st with | .next st' => c.loop body f st' | r => r := rfl

/-- The loop is the chain walk of the model: `f` iterations are left before the bound `++i >= 100`. -/
theorem loop_eq (c : SetCtx) (hc : c.nameFn = totalName) (o : ObjId) (n : Name) :
    ∀ (f g i : Nat) (cur : ObjId) (d : DelegInfo) (da : Name) (o2 : OVal) (s2 : Name),
      i + f = 100 → 0 < f → f ≤ g →
      c.loop loopBody g { O := [.obj o, .obj cur, o2], S := [n, da, s2], T := [.defer c.d, .defer d], i := i }
        = .ret (match walk c.p (c.p.obj o).cls.pfx f cur d da with
                | .error e => fail c.p e
                | .ok (x, t, td) => terminal c.E c.k c.p o n c.d c.value x t td) := by
  intro f
  induction f with
  | zero => intro _ _ _ _ _ _ _ _ h; cases h
  | succ f ih =>
    intro g i cur d da o2 s2 hi _ hg
    obtain ⟨g, rfl⟩ : ∃ g', g = g' + 1 := ⟨g - 1, by omega⟩
    rw [SetCtx.loop_succ, body_eq, bodyResult, walk, hc]
    cases (c.p.obj cur).deleg with
    | none => rfl
    | some x =>
      simp only [totalName]
      cases (c.p.obj x).cls.trait (attrName d (c.p.obj o).cls.pfx da) with
      | defer d' =>
        cases f with
        | zero => simp only [show i + 1 ≥ 100 by omega, if_true, walk]
        | succ f =>
          simp only [show ¬ i + 1 ≥ 100 by omega, if_false]
          exact ih g (i + 1) x d' _ _ _ (by omega) (by omega) (by omega)
      | plain vid dflt cmp => rfl
      | python => rfl

/-- `setattr_delegate` up to its loop: `pre` copies `name` and `obj` into the registers the loop works on. -/
theorem execSet_eq (E : Env) (k : Nat) (p : Pool) (o : ObjId) (n : Name) (d : DelegInfo) (v : Option Val)
    (nameFn : NameFn) :
    execSet setattrDelegate E k p o n d v nameFn =
      match (SetCtx.mk E k p d v nameFn).loop loopBody loopFuel
          { O := [.obj o, .obj o, .null], S := [n, n, []], T := [.defer d, .defer d] } with
      | .ret r => r
      | _ => fail p .other := by
  rfl

theorem setDefer_eq_terminal (E : Env) (k : Nat) (p : Pool) (o : ObjId) (n : Name) (d : DelegInfo) (v : Option Val) :
    setDefer E k p o n d v =
      match walk p (p.obj o).cls.pfx 100 o d n with
      | .error e => fail p e
      | .ok (x, t, td) => terminal E k p o n d v x t td := by
  unfold setDefer terminal
  cases walk p (p.obj o).cls.pfx 100 o d n with
  | error e => rfl
  | ok r =>
    obtain ⟨x, t, td⟩ := r
    cases hm : d.modify
    · -- PrototypedFrom: the local store, then `_remove_trait_delegate_listener` when it succeeded
      simp only [Bool.false_eq_true, if_false]
      cases td <;> cases v <;> simp only [protoSet]
      · split
        · simp only [*]; rfl
        · simp only [*]; split <;> simp only [*] <;> rfl
      · split
        · simp only [*]; rfl
        · simp only [*]; split <;> simp only [*] <;> rfl
      · split <;> simp only [*] <;> rfl
      · rfl
      · split <;> simp only [*] <;> rfl
      · rfl
    · cases td <;> cases v <;> rfl

theorem setDefer_is_source (E : Env) (k : Nat) (p : Pool) (o : ObjId) (n : Name) (d : DelegInfo) (v : Option Val) :
    setDefer E k p o n d v = execSet setattrDelegate E k p o n d v := by
  rw [setDefer_eq_terminal, execSet_eq, loopFuel,
    loop_eq ⟨E, k, p, d, v, totalName⟩ rfl o n 100 1000 0 o d n .null [] rfl (by omega) (by omega)]

theorem write_name_failure (E : Env) (k : Nat) (p : Pool) (o : ObjId) (n : Name) (d : DelegInfo) (v : Option Val)
    (e : Exc) :
    execSet setattrDelegate E k p o n d v (fun _ _ _ => .error e)
      = match (p.obj o).deleg with
        | none => fail p .traitError
        | some _ => fail p e := by
  rw [execSet_eq, loopFuel, SetCtx.loop_succ, body_eq, bodyResult]
  cases (p.obj o).deleg <;> rfl

end Set

/-! ### `_has_traits_trait` (`base_trait`) -/

section Base
attribute [local simp] BaseCtx.exec BaseCtx.cond setReg

def baseBody : Stmt := (hasTraitsTrait.loop).getD .skip

/-- One iteration of the loop of `_has_traits_trait`; `td` is the trait register. -/
def baseResult (c : BaseCtx) (o : ObjId) (n : Name) (i : Nat) (cur : ObjId) (td : TraitDef) (da s2 : Name)
    (raised : Bool) :
    Outcome BaseSt (Option TraitDef) :=
  match td with
  | .defer d =>
    match (c.p.obj cur).deleg with
    | none => .brk { O := [.obj o, .pyNone, .pyNone], S := [n, da, s2], T := [some td], i := i, raised := true }
    | some x =>
      match c.nameFn d (c.p.obj o).cls.pfx da with
      | .error _ => .ret none
      | .ok da' =>
        if i + 1 ≥ 100 then
          .brk { O := [.obj o, .obj x, .obj x], S := [n, da', da'], T := [some ((c.p.obj x).cls.trait da')], i := i + 1,
                 raised := true }
        else .next { O := [.obj o, .obj x, .obj x], S := [n, da', da'], T := [some ((c.p.obj x).cls.trait da')],
                     i := i + 1, raised := raised }
  | td => .ret (some td)

theorem base_body_eq (c : BaseCtx) (o : ObjId) (n : Name) (i : Nat) (cur : ObjId) (td : TraitDef) (da s2 : Name)
    (o2 : OVal) (raised : Bool) :
    c.exec baseBody { O := [.obj o, .obj cur, o2], S := [n, da, s2], T := [some td], i := i, raised := raised }
      = baseResult c o n i cur td da s2 raised := by
  unfold baseResult baseBody
  simp only [hasTraitsTrait, Option.getD]
  generalize hr : Stmt.seq (Stmt.objSetNull _) _ = rest
  cases td with
  | plain vid dflt cmp => simp
  | python => simp
  | defer d =>
    simp
    subst hr
    generalize hr : Stmt.seq (Stmt.attrName _ _ _ _) _ = rest
    cases hx : (c.p.obj cur).deleg with
    | none => simp [hx]
    | some x =>
      simp [hx]
      subst hr
      cases hn : c.nameFn d (c.p.obj o).cls.pfx da with
      | error e => simp [hn]
      | ok da' => by_cases hi : 99 ≤ i <;> simp [hn, hi]

theorem BaseCtx.loop_succ (c : BaseCtx) (body : Stmt) (f : Nat) (st : BaseSt) :
    c.loop body (f + 1) st = match c.exec body st with | .next st' => c.loop body f st' | r => r := rfl

def returnsTrait : Outcome BaseSt (Option TraitDef) → Bool
  | .ret (some _) => true
  | _ => false

/-- The loop is `baseOk`: `f` more levels may be entered before the bound `++i >= 100`. -/
theorem base_loop (c : BaseCtx) (hc : c.nameFn = totalName) (o : ObjId) (n : Name) (f : Nat) (cur : ObjId)
    (td : TraitDef) (da : Name) : ∀ (g i : Nat) (s2 : Name) (o2 : OVal) (raised : Bool), i + f = 99 → f ≤ g →
      returnsTrait (c.loop baseBody (g + 1)
          { O := [.obj o, .obj cur, o2], S := [n, da, s2], T := [some td], i := i, raised := raised })
        = baseOk c.p (c.p.obj o).cls.pfx f cur td da := by
  fun_induction baseOk c.p (c.p.obj o).cls.pfx f cur td da <;> intro g i s2 o2 raised hi hg <;>
    rw [BaseCtx.loop_succ, base_body_eq]
  -- a typed or undeclared trait is returned
  case case1 | case2 => rfl
  -- the bound is reached on a deferring trait
  case case3 =>
    simp only [baseResult, hc, totalName, show i + 1 ≥ 100 by omega, if_true]
    cases (c.p.obj _).deleg <;> rfl
  -- no delegate
  case case4 hy => simp only [baseResult, hy]; rfl
  -- on to the trait of that name on the delegate
  case case5 f _ _ _ x hy _ ih =>
    obtain ⟨g, rfl⟩ : ∃ g', g = g' + 1 := ⟨g - 1, by omega⟩
    simp only [baseResult, hy, hc, totalName, show ¬ i + 1 ≥ 100 by omega, if_false]
    exact ih g (i + 1) _ _ _ (by omega) (by omega)

/-- The loop of `_has_traits_trait(obj, (name, -2))` from the state `pre` leaves: the trait looked up, `obj`
and `name` copied into the registers the loop works on. -/
def baseRun (p : Pool) (o : ObjId) (n : Name) (nameFn : NameFn) : Outcome BaseSt (Option TraitDef) :=
  (BaseCtx.mk p (-2) nameFn).loop baseBody loopFuel
    { O := [.obj o, .obj o, .null], S := [n, n, []], T := [some ((p.obj o).cls.trait n)] }

/-- After a `break` the function returns NULL (`post`), which needs the exception to be set. -/
theorem execBase_eq (p : Pool) (o : ObjId) (n : Name) (nameFn : NameFn) :
    execBase hasTraitsTrait p o n nameFn = (match baseRun p o n nameFn with | .ret r => r | _ => none)
    ∧ execBaseDefined hasTraitsTrait p o n nameFn
        = (match baseRun p o n nameFn with | .ret _ => true | .brk st => st.raised | _ => false) := by
  have hpost : ∀ st, (BaseCtx.mk p (-2) nameFn).exec hasTraitsTrait.post st = if st.raised then .ret none else .stuck :=
    fun _ => rfl
  unfold execBase execBaseDefined
  simp only [show hasTraitsTrait.loop = some baseBody from rfl, hpost]
  refine ⟨?_, ?_⟩ <;> (show (match baseRun p o n nameFn with | .ret r => _ | .brk st => _ | _ => _) = _)
  -- after a `break`: split on `st.raised`, the fifth field of `BaseSt`
  all_goals cases baseRun p o n nameFn with
    | brk st => obtain ⟨_, _, _, _, _ | _, _⟩ := st <;> rfl
    | _ => rfl

theorem hookOk_is_source (p : Pool) (x : ObjId) (t : Name) :
    (execBase hasTraitsTrait p x t).isSome = hookOk p x t := by
  rw [(execBase_eq p x t totalName).1, hookOk,
    ← base_loop ⟨p, -2, totalName⟩ rfl x t 99 x _ t 999 0 [] .null false (by omega) (by omega)]
  show _ = returnsTrait (baseRun p x t totalName)
  cases baseRun p x t totalName with
  | ret r => cases r <;> rfl
  | _ => rfl

/-- `base_trait` when the name computation fails (fix 4e38e77 of finding F111): on a deferring attribute
the call raises (returns NULL with the exception set) and is free of undefined behaviour. -/
theorem base_name_failure (p : Pool) (o : ObjId) (n : Name) (d : DelegInfo) (e : Exc)
    (hd : (p.obj o).cls.trait n = .defer d) :
    execBase hasTraitsTrait p o n (fun _ _ _ => .error e) = none
    ∧ execBaseDefined hasTraitsTrait p o n (fun _ _ _ => .error e) = true := by
  obtain ⟨h1, h2⟩ := execBase_eq p o n (fun _ _ _ => .error e)
  rw [h1, h2, baseRun, loopFuel, BaseCtx.loop_succ, base_body_eq, hd]
  simp only [baseResult]
  cases (p.obj o).deleg <;> exact ⟨rfl, rfl⟩

end Base

end TraitsVerif.Model.DelegSrc
