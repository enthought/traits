/-
The hand-written model `Map.TraitDict.step` is the interpretation of the
translated source (`Generated/MapSetProg.lean` `traitDictProg`).  Each method body is run once by `simp` with the interpreter's
equations (`Lemmas/PyLMapExec.lean`) up to the point where the outcome depends on
a validator's verdict or on a lookup in the dict; the proof splits there, as the
model does, and runs on.  The `for key, value in items:` loop of `update` /
`__ior__` is done by induction on the list of pairs (`loop_spec`).
-/
import TraitsVerif.Generated.MapSetProg
import TraitsVerif.Lemmas.PyLMapExec
namespace TraitsVerif.Lemmas.PyLMD
open TraitsVerif TraitsVerif.Py TraitsVerif.Model.Map TraitsVerif.Model.PyLM TraitsVerif.Model.PyLM.D
open TraitsVerif.Py.Dict (get? contains set erase update ofPairs Op Ret)
variable {K V : Type} [DecidableEq K]

attribute [local simp] Generated.traitDictProg runTraitDictOp opCall TraitDict.step storeValidated updateLike
  Dict.contains

/-! ### The `for key, value in items:` loop of `update` / `__ior__` -/

/-- The frame during the loop: slots 0-4 = other, validated_dict, added, changed,
items; 5-10 = key, value and the temporaries of the body (whatever they hold);
`tail` = the slots after them (`retval` in `__ior__`). -/
def lframe (o it : Val K V) (acc : UpdAcc K V) (j5 j6 j7 j8 j9 j10 : Option (Val K V)) (tail : Frame K V) :
    Frame K V :=
  some o :: some (.dict acc.validated) :: some (.dict acc.added) :: some (.dict acc.changed) :: some it ::
    j5 :: j6 :: j7 :: j8 :: j9 :: j10 :: tail

def lstate (d : Dict K V) (ev : List (Triple K V)) (n : Nat) (fr : Frame K V) : St K V :=
  { self := d, vars := fr, kcount := n, vcount := n, events := ev }

/-- One iteration of the model's `updLoop`. -/
def accStep (d : Dict K V) (acc : UpdAcc K V) (k' : K) (v' : V) : UpdAcc K V :=
  match get? d k' with
  | some old => { acc with changed := Dict.set acc.changed k' old, validated := Dict.set acc.validated k' v' }
  | none => { acc with added := Dict.set acc.added k' v', validated := Dict.set acc.validated k' v' }

theorem updLoop_cons (d : Dict K V) (k : K) (v : V) (ps : List (K × V)) (acc : UpdAcc K V) :
    updLoop d ((k, v) :: ps) acc = updLoop d ps (accStep d acc k v) := by
  simp only [updLoop, accStep]; cases get? d k <;> rfl

def BodySpec (kv : Callback K K) (vv : Callback V V) (d : Dict K V) (ev : List (Triple K V)) (o it : Val K V)
    (tail : Frame K V) (F : St K V → St K V × Flow K V) : Prop :=
  ∀ (acc : UpdAcc K V) (n : Nat) (j7 j8 j9 j10 : Option (Val K V)) (k : K) (v : V),
    let st := lstate d ev n (lframe o it acc (some (.key k)) (some (.val v)) j7 j8 j9 j10 tail)
    (∀ e, kv n k = .error e → (F st).2 = .raised e ∧ (F st).1.self = d ∧ (F st).1.events = ev) ∧
    (∀ k' e, kv n k = .ok k' → vv n v = .error e →
      (F st).2 = .raised e ∧ (F st).1.self = d ∧ (F st).1.events = ev) ∧
    (∀ k' v', kv n k = .ok k' → vv n v = .ok v' →
      F st = (lstate d ev (n + 1) (lframe o it (accStep d acc k' v') (some (.key k)) (some (.val v))
        (some (.key k')) (some (.key k')) (some (.val v')) (some (.val v')) tail), .next))

/-- **The loop is the model's fold**: `valPairs` decides whether it raises, and
`updLoop` is what it leaves in `validated_dict`, `added`, `changed`. -/
theorem loop_spec (kv : Callback K K) (vv : Callback V V) (d : Dict K V) (ev : List (Triple K V)) (o it : Val K V)
    (tail : Frame K V) (F : St K V → St K V × Flow K V) (hF : BodySpec kv vv d ev o it tail F)
    (ps : List (K × V)) :
    ∀ (acc : UpdAcc K V) (n : Nat) (j5 j6 j7 j8 j9 j10 : Option (Val K V)),
      let st := lstate d ev n (lframe o it acc j5 j6 j7 j8 j9 j10 tail)
      (∀ e, valPairs kv vv n ps = .error e →
        ∃ st', forLoop 5 6 F ps st = (st', .raised e) ∧ st'.self = d ∧ st'.events = ev) ∧
      (∀ ps', valPairs kv vv n ps = .ok ps' → ∃ j5' j6' j7' j8' j9' j10',
        forLoop 5 6 F ps st = (lstate d ev (n + ps.length) (lframe o it (updLoop d ps' acc)
          j5' j6' j7' j8' j9' j10' tail), .next)) := by
  induction ps with
  | nil =>
    intro acc n j5 j6 j7 j8 j9 j10 st
    exact ⟨(fun _ h => nomatch h), fun _ h => by cases h; exact ⟨j5, j6, j7, j8, j9, j10, rfl⟩⟩
  | cons p ps ih =>
    obtain ⟨k, v⟩ := p
    intro acc n j5 j6 j7 j8 j9 j10
    obtain ⟨h1, h2, h3⟩ := hF acc n j7 j8 j9 j10 k v
    -- `forLoop` hands `F` the state with key and value put in slots 5 and 6: the `lstate` of `hF`
    -- once `setVar` is computed, which `erw` does
    simp only [forLoop, valPairs]
    cases hk : kv n k with
    | error e' =>
      obtain ⟨hs, hd, he⟩ := h1 e' hk
      erw [show F _ = ((F _).1, .raised e') from Prod.ext rfl hs]
      exact ⟨fun e h => ⟨_, by cases h; rfl, hd, he⟩, fun _ h => nomatch h⟩
    | ok k' =>
      cases hv : vv n v with
      | error e' =>
        obtain ⟨hs, hd, he⟩ := h2 k' e' hk hv
        erw [show F _ = ((F _).1, .raised e') from Prod.ext rfl hs]
        exact ⟨fun e h => ⟨_, by cases h; rfl, hd, he⟩, fun _ h => nomatch h⟩
      | ok v' =>
        erw [h3 k' v' hk hv]
        obtain ⟨ih1, ih2⟩ := ih (accStep d acc k' v') (n + 1) (some (.key k)) (some (.val v))
          (some (.key k')) (some (.key k')) (some (.val v')) (some (.val v'))
        cases hr : valPairs kv vv (n + 1) ps with
        | error e' => exact ⟨fun e h => by cases h; exact ih1 e' hr, fun _ h => nomatch h⟩
        | ok r =>
          obtain ⟨a5, a6, a7, a8, a9, a10, hl⟩ := ih2 r hr
          exact ⟨(fun _ h => nomatch h), fun ps' h => by
            cases h; exact ⟨a5, a6, a7, a8, a9, a10, by
              show forLoop 5 6 F ps _ = _
              rw [hl, updLoop_cons, Nat.add_assoc, Nat.add_comm 1]; rfl⟩⟩

variable (kv : Callback K K) (vv : Callback V V) (d : Dict K V)

/-- The loop body of `update` / `__ior__` as translated (slots as in `lframe`) meets `BodySpec`. -/
theorem body_spec (ev : List (Triple K V)) (o it : Val K V) (tail : Frame K V) :
    BodySpec kv vv d ev o it tail (exec { kv := kv, vv := vv, sup := builtinSup }
      (.seq (.validate .key 7 (.var 5)) (.seq (.assign 8 (.var 7)) (.seq (.validate .value 9 (.var 6))
        (.seq (.assign 10 (.var 9))
          (.seq (.ifS (.contains (.var 8) .self) (.setItem 3 (.var 8) (.getItem .self (.var 8)))
                  (.setItem 2 (.var 8) (.var 10)))
            (.setItem 1 (.var 8) (.var 10)))))))) := by
  intro acc n j7 j8 j9 j10 k v
  simp -implicitDefEqProofs [lstate, lframe]
  cases hk : kv n k with
  | error e => simp -implicitDefEqProofs
  | ok k' =>
    simp -implicitDefEqProofs
    cases hv : vv n v with
    | error e => simp -implicitDefEqProofs
    | ok v' =>
      simp -implicitDefEqProofs
      cases hg : get? d k' <;> simp -implicitDefEqProofs [hg, accStep]

/-- `if added or changed: self.notify(removed={}, added=added, changed=changed)`, the
statement after the `super()` call in `update` and `__ior__`. -/
theorem exec_notify_if_any (C : Ctx K V) (x0 x1 : Option (Val K V)) (a c : Dict K V)
    (rest : Frame K V) (kc vc : Nat) (ev : List (Triple K V)) :
    exec C (.ifS (.or (.var 2) (.var 3)) (.notify [.emptyDict, .var 2, .var 3]) .skip)
        { self := d, vars := x0 :: x1 :: some (.dict a) :: some (.dict c) :: rest, kcount := kc, vcount := vc,
          events := ev }
      = ({ self := d, vars := x0 :: x1 :: some (.dict a) :: some (.dict c) :: rest, kcount := kc, vcount := vc,
           events := ev ++ if a.isEmpty && c.isEmpty then [] else [⟨[], a, c⟩] }, .next) := by
  cases a <;> cases c <;> simp -implicitDefEqProofs

/-- `items = other.items() if hasattr(other, 'keys') else other`: a mapping is read
through its items, anything else is iterated as it is. -/
theorem eval_items {o : Val K V} {ps : List (K × V)} (ho : o = .pairs ps ∨ o = .dict ps) (fr : Frame K V) :
    eval d (some o :: fr) (.ite (.hasKeys (.var 0)) (.items (.var 0)) (.var 0)) = .ok (.pairs ps) := by
  rcases ho with rfl | rfl <;> simp -implicitDefEqProofs

theorem td_update_of {o : Val K V} {ps : List (K × V)}
    (ho : o = .pairs ps ∨ o = .dict ps) :
    runTraitDictM Generated.traitDictProg kv vv "update" [o] d
      = summaryOfStep d (TraitDict.step kv vv d (.update ps)) := by
  simp -implicitDefEqProofs [↓eval_items d ho]
  have hl := loop_spec kv vv d [] o (.pairs ps) [] _ (body_spec kv vv d [] o (.pairs ps) []) ps {} 0
    none none none none none none
  simp only [lstate, lframe] at hl
  cases hvp : valPairs kv vv 0 ps with
  | error e =>
    obtain ⟨st', hs, hd, he⟩ := hl.1 e hvp
    simp -implicitDefEqProofs [hs, hd, he]
  | ok ps' =>
    obtain ⟨j5, j6, j7, j8, j9, j10, hs⟩ := hl.2 ps' hvp
    simp -implicitDefEqProofs [hs, ↓exec_notify_if_any]
    split <;> rfl

theorem td_ior_of {o : Val K V} {ps : List (K × V)}
    (ho : o = .pairs ps ∨ o = .dict ps) :
    runTraitDictM Generated.traitDictProg kv vv "__ior__" [o] d
      = summaryOfStep d (TraitDict.step kv vv d (.ior ps)) := by
  simp -implicitDefEqProofs [↓eval_items d ho]
  have hl := loop_spec kv vv d [] o (.pairs ps) [none] _ (body_spec kv vv d [] o (.pairs ps) [none]) ps {} 0
    none none none none none none
  simp only [lstate, lframe] at hl
  cases hvp : valPairs kv vv 0 ps with
  | error e =>
    obtain ⟨st', hs, hd, he⟩ := hl.1 e hvp
    simp -implicitDefEqProofs [hs, hd, he]
  | ok ps' =>
    obtain ⟨j5, j6, j7, j8, j9, j10, hs⟩ := hl.2 ps' hvp
    simp -implicitDefEqProofs [hs, ↓exec_notify_if_any]
    split <;> rfl

theorem td_step_is_source (op : Op K V) :
    runTraitDictOp Generated.traitDictProg kv vv d op = summaryOfStep d (TraitDict.step kv vv d op) := by
  cases op with
  | setitem k v =>
    simp -implicitDefEqProofs
    cases hk : kv 0 k with
    | error e => simp -implicitDefEqProofs
    | ok k' =>
      simp -implicitDefEqProofs
      cases hv : vv 0 v with
      | error e => simp -implicitDefEqProofs
      | ok v' =>
        simp -implicitDefEqProofs
        cases get? d k' <;> simp -implicitDefEqProofs
  | delitem k | pop k | popDefault k _ =>
    simp -implicitDefEqProofs
    cases hg : get? d k <;> simp -implicitDefEqProofs [hg]
  | update ps => exact td_update_of kv vv d (.inl rfl)
  | ior ps => exact td_ior_of kv vv d (.inl rfl)
  | setdefault k v =>
    simp -implicitDefEqProofs
    cases hg0 : get? d k with
    | some x => simp -implicitDefEqProofs
    | none =>
      simp -implicitDefEqProofs
      cases hk : kv 0 k with
      | error e => simp -implicitDefEqProofs
      | ok k' =>
        simp -implicitDefEqProofs
        cases hv : vv 0 v with
        | error e => simp -implicitDefEqProofs
        | ok v' =>
          simp -implicitDefEqProofs
          cases get? d k' <;> simp -implicitDefEqProofs
  | popitem =>
    simp -implicitDefEqProofs
    cases d.getLast? with
    | none => simp -implicitDefEqProofs
    | some p => obtain ⟨k, x⟩ := p; simp -implicitDefEqProofs [ofPairs, update, Dict.set]
  | clear =>
    simp -implicitDefEqProofs
    cases d <;> simp -implicitDefEqProofs

end TraitsVerif.Lemmas.PyLMD
