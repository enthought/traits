/-
Lemmas about the two CPython pieces of the `adapt` model:
 * `pySort` (count_run + binarysort) is a permutation for *every* comparison, and
   orders its output by any negatively transitive relation `S` the comparison is
   compatible with — even when the comparison itself is not a weak order; it commutes with a
   map of the items that preserves the comparison (`pySort_map`: sorting encoded edges);
 * the sorted-list queue: `qInsert` keeps the list sorted and is a permutation, and
   popping the head of the sorted list is what any min-heap with the same contents
   pops when keys are unique (`heap_is_sorted_list`).
-/
import TraitsVerif.Model.Adapt
namespace TraitsVerif.Lemmas.Adapt
open TraitsVerif TraitsVerif.Model.Adapt
variable {α : Type}

/-! ### `pySort` is a permutation -/

theorem binInsert_perm (lt : α → α → Bool) (xs : List α) (x : α) :
    (binInsert lt xs x).Perm (x :: xs) := by
  unfold binInsert
  have h := List.perm_middle (a := x) (l₁ := xs.take (bisect lt x xs 0 xs.length))
    (l₂ := xs.drop (bisect lt x xs 0 xs.length))
  rwa [List.take_append_drop] at h

theorem foldl_binInsert_perm (lt : α → α → Bool) :
    ∀ (tl acc : List α), (tl.foldl (binInsert lt) acc).Perm (acc ++ tl)
  | [], acc => by simp
  | x :: tl, acc => by
    simp only [List.foldl_cons]
    refine (foldl_binInsert_perm lt tl _).trans ?_
    refine ((binInsert_perm lt acc x).append_right tl).trans ?_
    simpa using (List.perm_middle (a := x) (l₁ := acc) (l₂ := tl)).symm

theorem runDesc_eq (lt : α → α → Bool) : ∀ (l : List α) (prev : α),
    runDesc lt prev l = runAsc (fun a b => !lt a b) prev l
  | [], _ => rfl
  | x :: xs, prev => by
    unfold runDesc runAsc
    cases lt x prev <;> simp [runDesc_eq lt xs x]

theorem runAsc_append (lt : α → α → Bool) :
    ∀ (l : List α) (prev : α), (runAsc lt prev l).1 ++ (runAsc lt prev l).2 = l
  | [], _ => rfl
  | x :: xs, prev => by
    unfold runAsc
    split
    · rfl
    · simp [runAsc_append lt xs x]

theorem pySort_perm (lt : α → α → Bool) : ∀ l : List α, (pySort lt l).Perm l
  | [] => by simp [pySort]
  | [a] => by simp [pySort]
  | a :: b :: rest => by
    simp only [pySort, runDesc_eq]
    split
    · refine (foldl_binInsert_perm lt _ _).trans (((List.reverse_perm _).append_right _).trans ?_)
      simp [runAsc_append]
    · refine (foldl_binInsert_perm lt _ _).trans ?_
      simp [runAsc_append]

theorem mem_pySort {lt : α → α → Bool} {l : List α} {x : α} : x ∈ pySort lt l ↔ x ∈ l :=
  (pySort_perm lt l).mem_iff

/-! ### what order `pySort` guarantees -/

/-- `S` is a relation the sort is able to respect on the elements satisfying `P`:
negatively transitive, never contradicted by a `true` answer of `lt`, never
missed by a `false` answer. -/
structure Compat (lt : α → α → Bool) (S : α → α → Prop) (P : α → Prop) : Prop where
  nt : ∀ a b c, P a → P b → P c → S a b → S a c ∨ S c b
  c1 : ∀ a b, P a → P b → lt a b = true → ¬ S b a
  c2 : ∀ a b, P a → P b → lt a b = false → ¬ S a b

def SortedS (S : α → α → Prop) (l : List α) : Prop := l.Pairwise (fun a b => ¬ S b a)

section sorted
variable {lt : α → α → Bool} {S : α → α → Prop} {P : α → Prop} (H : Compat lt S P)
include H

theorem Compat.flip : Compat (fun a b => !lt a b) (fun a b => S b a) P :=
  ⟨fun a b c ha hb hc h => (H.nt b a c hb ha hc h).symm, fun a b ha hb h => H.c2 a b ha hb (by simpa using h),
    fun a b ha hb h => H.c1 a b ha hb (by simpa using h)⟩

theorem bisectGo_spec (pivot : α) (xs : List α) (hP : P pivot) (hxs : ∀ x ∈ xs, P x) (hs : SortedS S xs) :
    ∀ fuel l r, r - l ≤ fuel → r ≤ xs.length →
      (∀ x ∈ xs.take l, ¬ S pivot x) → (∀ x ∈ xs.drop r, ¬ S x pivot) →
      (∀ x ∈ xs.take (bisectGo lt pivot xs fuel l r), ¬ S pivot x) ∧
      (∀ x ∈ xs.drop (bisectGo lt pivot xs fuel l r), ¬ S x pivot) := by
  intro fuel
  induction fuel with
  | zero =>
    intro l r hf _ hl hr
    have hrl : r ≤ l := by omega
    exact ⟨hl, fun x hx => hr x ((List.drop_sublist_drop_left xs hrl).subset hx)⟩
  | succ fuel ih =>
    intro l r hf hlen hl hr
    unfold bisectGo
    by_cases hlr : l < r
    · simp only [hlr, if_true]
      generalize hp : l + (r - l) / 2 = p
      have hpl : l ≤ p := hp ▸ Nat.le_add_right _ _
      have hpr : p < r := hp ▸ Nat.add_lt_of_lt_sub' (Nat.div_lt_self (Nat.sub_pos_of_lt hlr) (by decide))
      have hpx : p < xs.length := Nat.lt_of_lt_of_le hpr hlen
      rw [List.getElem?_eq_getElem hpx]
      simp only
      have hPp : P xs[p] := hxs _ (List.getElem_mem hpx)
      have hs' : (xs.take p ++ xs[p] :: xs.drop (p + 1)).Pairwise (fun a b => ¬ S b a) := by
        rw [← List.drop_eq_getElem_cons hpx, List.take_append_drop]; exact hs
      obtain ⟨_, hs2, hs3⟩ := List.pairwise_append.1 hs'
      by_cases hlt : lt pivot xs[p] = true
      · simp only [hlt, if_true]
        refine ih l p (by omega) (Nat.le_of_lt hpx) hl fun x hx => ?_
        rw [List.drop_eq_getElem_cons hpx] at hx
        rcases List.mem_cons.1 hx with rfl | hx
        · exact H.c1 _ _ hP hPp hlt
        · intro hS
          rcases H.nt _ _ _ (hxs _ ((List.drop_sublist _ _).subset hx)) hP hPp hS with h | h
          · exact (List.pairwise_cons.1 hs2).1 x hx h
          · exact H.c1 _ _ hP hPp hlt h
      · have hlt' : lt pivot xs[p] = false := by simpa using hlt
        simp only [hlt', Bool.false_eq_true, if_false]
        refine ih (p + 1) r (by omega) hlen (fun x hx => ?_) hr
        rw [List.take_succ_eq_append_getElem hpx] at hx
        rcases List.mem_append.1 hx with hx | hx
        · intro hS
          rcases H.nt _ _ _ hP (hxs _ ((List.take_sublist _ _).subset hx)) hPp hS with h | h
          · exact H.c2 _ _ hP hPp hlt' h
          · exact hs3 x hx _ List.mem_cons_self h
        · rw [List.mem_singleton] at hx
          subst hx
          exact H.c2 _ _ hP hPp hlt'
    · simp only [hlr, if_false]
      have hrl : r ≤ l := by omega
      exact ⟨hl, fun x hx => hr x ((List.drop_sublist_drop_left xs hrl).subset hx)⟩

theorem binInsert_sorted (pivot : α) (xs : List α) (hP : P pivot) (hxs : ∀ x ∈ xs, P x) (hs : SortedS S xs) :
    SortedS S (binInsert lt xs pivot) := by
  unfold binInsert bisect
  obtain ⟨h1, h2⟩ := bisectGo_spec H pivot xs hP hxs hs (xs.length - 0) 0 xs.length (Nat.le_refl _)
    (Nat.le_refl _) (by simp) (by simp)
  generalize bisectGo lt pivot xs (xs.length - 0) 0 xs.length = k at h1 h2
  have hs' : (xs.take k ++ xs.drop k).Pairwise (fun a b => ¬ S b a) := by
    rw [List.take_append_drop]; exact hs
  rw [List.pairwise_append] at hs'
  refine List.pairwise_append.2 ⟨hs'.1, List.pairwise_cons.2 ⟨h2, hs'.2.1⟩, fun a ha b hb => ?_⟩
  rcases List.mem_cons.1 hb with rfl | hb
  · exact h1 a ha
  · exact hs'.2.2 a ha b hb

theorem foldl_binInsert_sorted :
    ∀ (tl acc : List α), (∀ x ∈ tl, P x) → (∀ x ∈ acc, P x) → SortedS S acc →
      SortedS S (tl.foldl (binInsert lt) acc)
  | [], _, _, _, hs => hs
  | x :: tl, acc, htl, hacc, hs => by
    refine foldl_binInsert_sorted tl _ (fun y hy => htl y (List.mem_cons_of_mem _ hy)) (fun y hy => ?_)
      (binInsert_sorted H x acc (htl x List.mem_cons_self) hacc hs)
    rcases List.mem_cons.1 ((binInsert_perm lt acc x).mem_iff.1 hy) with rfl | hy
    · exact htl _ List.mem_cons_self
    · exact hacc y hy

theorem runAsc_sorted : ∀ (l : List α) (prev : α), P prev → (∀ x ∈ l, P x) →
    SortedS S (prev :: (runAsc lt prev l).1)
  | [], prev, _, _ => by simp [runAsc, SortedS]
  | x :: xs, prev, hp, hl => by
    unfold runAsc
    by_cases hlt : lt x prev = true
    · simp [hlt, SortedS]
    · have hlt' : lt x prev = false := by simpa using hlt
      simp only [hlt', Bool.false_eq_true, if_false]
      have hPx : P x := hl x List.mem_cons_self
      have hxs : ∀ y ∈ xs, P y := fun y hy => hl y (List.mem_cons_of_mem _ hy)
      have ih := runAsc_sorted xs x hPx hxs
      refine List.pairwise_cons.2 ⟨fun y hy => ?_, ih⟩
      rcases List.mem_cons.1 hy with rfl | hy
      · exact H.c2 _ _ hPx hp hlt'
      · intro hS
        have hPy : P y := hxs y (by rw [← runAsc_append lt xs x]; exact List.mem_append_left _ hy)
        rcases H.nt _ _ _ hPy hp hPx hS with h | h
        · exact (List.pairwise_cons.1 ih).1 y hy h
        · exact H.c2 _ _ hPx hp hlt' h

/-- The order `list.sort` guarantees with a comparison that is not a weak order:
every negatively transitive relation compatible with the comparison is respected. -/
theorem pySort_sorted : ∀ l : List α, (∀ x ∈ l, P x) → SortedS S (pySort lt l)
  | [], _ => by simp [pySort, SortedS]
  | [a], _ => by simp [pySort, SortedS]
  | a :: b :: rest, hl => by
    obtain ⟨hPa, hl'⟩ := List.forall_mem_cons.1 hl
    obtain ⟨hPb, hrest⟩ := List.forall_mem_cons.1 hl'
    -- whichever run `count_run` finds: its elements and the remaining ones satisfy `P`
    have hrun : ∀ lt' : α → α → Bool, (∀ x ∈ a :: b :: (runAsc lt' b rest).1, P x) ∧
        ∀ x ∈ (runAsc lt' b rest).2, P x := fun lt' => by
      have h := runAsc_append lt' rest b ▸ hrest
      exact ⟨List.forall_mem_cons.2 ⟨hPa, List.forall_mem_cons.2 ⟨hPb, fun x hx => h x (List.mem_append_left _ hx)⟩⟩,
        fun x hx => h x (List.mem_append_right _ hx)⟩
    simp only [pySort, runDesc_eq]
    by_cases hlt : lt b a = true
    · simp only [hlt, if_true]
      refine foldl_binInsert_sorted H _ _ (hrun _).2 (fun x hx => (hrun _).1 x (List.mem_reverse.1 hx)) ?_
      have h := runAsc_sorted H.flip (b :: rest) a hPa hl'
      unfold runAsc at h
      simp only [hlt, Bool.not_true, Bool.false_eq_true, if_false] at h
      exact List.pairwise_reverse.2 h
    · have hlt' : lt b a = false := by simpa using hlt
      simp only [hlt', Bool.false_eq_true, if_false]
      refine foldl_binInsert_sorted H _ _ (hrun _).2 (hrun _).1 ?_
      have h := runAsc_sorted H (b :: rest) a hPa hl'
      unfold runAsc at h
      simpa only [hlt', Bool.false_eq_true, if_false] using h

end sorted

/-! ### `pySort` commutes with an encoding that preserves the comparison -/
section sortmap
variable {β γ : Type} (enc : β → γ) (lt : β → β → Bool) (lt' : γ → γ → Bool)
  (h : ∀ a b, lt' (enc a) (enc b) = lt a b)
include h

theorem bisectGo_map (p : β) (xs : List β) :
    ∀ fuel l r, bisectGo lt' (enc p) (xs.map enc) fuel l r = bisectGo lt p xs fuel l r := by
  intro fuel
  induction fuel with
  | zero => intro l r; simp [bisectGo]
  | succ n ih =>
    intro l r
    simp only [bisectGo, List.getElem?_map]
    cases hx : xs[l + (r - l) / 2]? with
    | none => simp
    | some x => simp [h, ih]

theorem binInsert_map (xs : List β) (p : β) :
    binInsert lt' (xs.map enc) (enc p) = (binInsert lt xs p).map enc := by
  simp [binInsert, bisect, bisectGo_map enc lt lt' h, List.map_take, List.map_drop]

theorem foldl_binInsert_map (ys : List β) :
    ∀ xs : List β, (ys.map enc).foldl (binInsert lt') (xs.map enc) = (ys.foldl (binInsert lt) xs).map enc := by
  induction ys with
  | nil => intro xs; rfl
  | cons y ys ih => intro xs; simp only [List.map_cons, List.foldl_cons, binInsert_map enc lt lt' h, ih]

theorem runAsc_map (xs : List β) :
    ∀ prev, runAsc lt' (enc prev) (xs.map enc) = ((runAsc lt prev xs).1.map enc, (runAsc lt prev xs).2.map enc) := by
  induction xs with
  | nil => intro prev; simp [runAsc]
  | cons x xs ih =>
    intro prev
    simp only [List.map_cons, runAsc, h]
    cases lt x prev <;> simp [ih]

theorem pySort_map (l : List β) : pySort lt' (l.map enc) = (pySort lt l).map enc := by
  match l with
  | [] => rfl
  | [a] => rfl
  | a :: b :: rest =>
    have hd := runAsc_map enc (fun a b => !lt a b) (fun a b => !lt' a b) (fun a b => by rw [h]) rest b
    simp only [List.map_cons, pySort, h, runDesc_eq, runAsc_map enc lt lt' h, hd]
    cases lt b a
    · simpa using foldl_binInsert_map enc lt lt' h (runAsc lt b rest).2 (a :: b :: (runAsc lt b rest).1)
    · simpa using foldl_binInsert_map enc lt lt' h (runAsc (fun a b => !lt a b) b rest).2
        (a :: b :: (runAsc (fun a b => !lt a b) b rest).1).reverse

end sortmap

/-! ### the queue -/

def KeyLe (a b : Entry) : Prop :=
  a.nAd < b.nAd ∨ (a.nAd = b.nAd ∧ (a.mroSum < b.mroSum ∨ (a.mroSum = b.mroSum ∧ a.cnt ≤ b.cnt)))

theorem keyLt_true {a b : Entry} (h : keyLt a b = true) : KeyLe a b := by
  simp only [keyLt, Bool.or_eq_true, Bool.and_eq_true, decide_eq_true_eq, beq_iff_eq] at h
  unfold KeyLe; omega

theorem keyLt_false {a b : Entry} (h : keyLt a b = false) : KeyLe b a := by
  have h' : ¬ (keyLt a b = true) := by simp [h]
  simp only [keyLt, Bool.or_eq_true, Bool.and_eq_true, decide_eq_true_eq, beq_iff_eq] at h'
  unfold KeyLe; omega

theorem KeyLe.trans {a b c : Entry} (h1 : KeyLe a b) (h2 : KeyLe b c) : KeyLe a c := by
  unfold KeyLe at *; omega

theorem KeyLe.nAd_le {a b : Entry} (h : KeyLe a b) : a.nAd ≤ b.nAd := by
  unfold KeyLe at h; omega

def QSorted (q : List Entry) : Prop := q.Pairwise KeyLe

theorem qInsert_perm (e : Entry) : ∀ q : List Entry, (qInsert e q).Perm (e :: q)
  | [] => by simp [qInsert]
  | x :: xs => by
    unfold qInsert
    split
    · exact List.Perm.refl _
    · exact ((qInsert_perm e xs).cons x).trans (List.Perm.swap e x xs)

theorem mem_qInsert {e x : Entry} {q : List Entry} : x ∈ qInsert e q ↔ x = e ∨ x ∈ q := by
  rw [(qInsert_perm e q).mem_iff, List.mem_cons]

theorem qInsert_sorted (e : Entry) : ∀ q : List Entry, QSorted q → QSorted (qInsert e q)
  | [], _ => by simp [qInsert, QSorted]
  | x :: xs, hs => by
    unfold qInsert
    obtain ⟨hx, hxs⟩ := List.pairwise_cons.1 hs
    cases h : keyLt e x with
    | true =>
      refine List.pairwise_cons.2 ⟨fun y hy => ?_, hs⟩
      rcases List.mem_cons.1 hy with rfl | hy
      · exact keyLt_true h
      · exact (keyLt_true h).trans (hx y hy)
    | false =>
      refine List.pairwise_cons.2 ⟨fun y hy => ?_, qInsert_sorted e xs hxs⟩
      rcases mem_qInsert.1 hy with rfl | hy
      · exact keyLt_false h
      · exact hx y hy

/-- **Popping the sorted list is popping the heap.**  Let `q` be the model's queue
(sorted, counters pairwise distinct) and `h` any arrangement of the same entries
(e.g. the array of a binary heap).  Whatever entry `m` a pop of `h` returns, as long
as it is minimal among the contents (the contract of `heapq.heappop`), is the head
of `q`, and what remains in the heap is again an arrangement of the tail of `q`. -/
theorem heap_is_sorted_list (q h : List Entry) (hperm : h.Perm q) (hs : QSorted q)
    (huniq : q.Pairwise (fun a b => a.cnt ≠ b.cnt))
    (m : Entry) (rest : List Entry) (hpop : h.Perm (m :: rest))
    (hmin : ∀ e ∈ rest, keyLt e m = false) :
    ∃ q', q = m :: q' ∧ rest.Perm q' := by
  cases q with
  | nil =>
    have := (hpop.symm.trans hperm).length_eq
    simp at this
  | cons x q' =>
    have hmq : m ∈ x :: q' := (hpop.symm.trans hperm).mem_iff.1 List.mem_cons_self
    have hxm : x = m := by
      rcases List.mem_cons.1 hmq with h | h
      · exact h.symm
      · -- m is further down the sorted list: x ≤ m; x is in the heap, so not below m: equal keys
        have hle : KeyLe x m := (List.pairwise_cons.1 hs).1 m h
        have hne : x.cnt ≠ m.cnt := (List.pairwise_cons.1 huniq).1 m h
        have hx : x ∈ m :: rest := (hperm.symm.trans hpop).mem_iff.1 List.mem_cons_self
        rcases List.mem_cons.1 hx with hx | hx
        · exact hx
        · have hge := keyLt_false (hmin x hx)
          unfold KeyLe at hle hge
          omega
    subst hxm
    exact ⟨q', rfl, (hpop.symm.trans hperm).cons_inv⟩

end TraitsVerif.Lemmas.Adapt
