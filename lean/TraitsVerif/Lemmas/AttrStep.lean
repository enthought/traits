/-
C02: what `getattr_trait`, `setattr_trait` and `setattr_event` compute once the
callbacks are resolved, for a trait with a constant default, under `Quiet` /
`PostQuiet`.
-/
import TraitsVerif.Lemmas.AttrSpec
import TraitsVerif.Lemmas.AttrEff
namespace TraitsVerif.Model.Attr
open TraitsVerif

/-- A standard trait (`TraitKind.trait`) with comparison mode `m`, the two
"original value" bits and constant default `d`. -/
structure StdTrait (t : TraitCore) (m : CMode) (orig po : Bool) (d : Id) : Prop where
  kind : t.kind = .trait
  flags : t.flags = mkFlags m orig po
  dvt : t.dvt = Generated.CONSTANT_DEFAULT_VALUE
  dv : t.dv = some d

def OSt.posted (s : OSt) (t : TraitCore) (v : Id) : OSt :=
  match t.post with
  | none => s
  | some _ => { s with ctx := { s.ctx with postLog := s.ctx.postLog ++ [(s.self, v)] } }

def OSt.withNval (s : OSt) (n : Nat) : OSt := { s with ctx := { s.ctx with nval := n } }

theorem postSetattr_quiet {E : Env} (pq : PostQuiet E) (t : TraitCore) (v : Id) (s : OSt) :
    postSetattr E t v s = (none, s.posted t v) := by
  unfold postSetattr OSt.posted
  cases h : t.post with
  | none => rfl
  | some p => simp [pq p]

@[simp] theorem posted_slot (s : OSt) (t : TraitCore) (v : Id) : (s.posted t v).slot = s.slot := by
  unfold OSt.posted; cases t.post <;> rfl
@[simp] theorem posted_tn (s : OSt) (t : TraitCore) (v : Id) : (s.posted t v).tn = s.tn := by
  unfold OSt.posted; cases t.post <;> rfl
@[simp] theorem posted_on (s : OSt) (t : TraitCore) (v : Id) : (s.posted t v).on = s.on := by
  unfold OSt.posted; cases t.post <;> rfl
@[simp] theorem posted_self (s : OSt) (t : TraitCore) (v : Id) : (s.posted t v).self = s.self := by
  unfold OSt.posted; cases t.post <;> rfl
@[simp] theorem posted_noNotify (s : OSt) (t : TraitCore) (v : Id) : (s.posted t v).noNotify = s.noNotify := by
  unfold OSt.posted; cases t.post <;> rfl
@[simp] theorem posted_log (s : OSt) (t : TraitCore) (v : Id) : (s.posted t v).ctx.log = s.ctx.log := by
  unfold OSt.posted; cases t.post <;> rfl
@[simp] theorem posted_nval (s : OSt) (t : TraitCore) (v : Id) : (s.posted t v).ctx.nval = s.ctx.nval := by
  unfold OSt.posted; cases t.post <;> rfl

@[simp] theorem withNval_slot (s : OSt) (n : Nat) : (s.withNval n).slot = s.slot := rfl
@[simp] theorem withNval_tn (s : OSt) (n : Nat) : (s.withNval n).tn = s.tn := rfl
@[simp] theorem withNval_on (s : OSt) (n : Nat) : (s.withNval n).on = s.on := rfl
@[simp] theorem withNval_it (s : OSt) (n : Nat) : (s.withNval n).it = s.it := rfl
@[simp] theorem withNval_cn (s : OSt) (n : Nat) : (s.withNval n).cn = s.cn := rfl
@[simp] theorem withNval_self (s : OSt) (n : Nat) : (s.withNval n).self = s.self := rfl
@[simp] theorem withNval_noNotify (s : OSt) (n : Nat) : (s.withNval n).noNotify = s.noNotify := rfl
@[simp] theorem withNval_log (s : OSt) (n : Nat) : (s.withNval n).ctx.log = s.ctx.log := rfl
@[simp] theorem withNval_nval (s : OSt) (n : Nat) : (s.withNval n).ctx.nval = n := rfl

theorem defaultValueFor_const {E : Env} {t : TraitCore} {m : CMode} {orig po : Bool} {d : Id}
    (st : StdTrait t m orig po d) (s : OSt) : s.defaultValueFor E t = (.ok d, s) := by
  unfold OSt.defaultValueFor Attr.defaultValueFor
  simp [st.dvt, st.dv]

theorem materialise_const {E : Env} {t : TraitCore} {m : CMode} {orig po : Bool} {d : Id}
    (st : StdTrait t m orig po d) (pq : PostQuiet E) (s : OSt) :
    s.materialise E t = (.ok d, ({ s with slot := some d }).posted t d) := by
  unfold OSt.materialise
  rw [defaultValueFor_const st]
  simp only [postSetattr_quiet pq]

/-- No hypothesis on the handlers: the `(Uninitialized, default)` notification reaches none. -/
theorem getattrTrait_nf {E : Env} {t : TraitCore} {m : CMode} {orig po : Bool} {d : Id}
    (st : StdTrait t m orig po d) (pq : PostQuiet E) (s : OSt) :
    getattrTrait E t s = (.ok d, ({ s with slot := some d }).posted t d) :=
  (getattrTrait_eq E t s).trans (materialise_const st pq s)

theorem validateAssigned_spec (E : Env) (t : TraitCore) (v : Id) (s : OSt) :
    s.validateAssigned E t v
    = ((specValidate E t true s.ctx.nval v).1, s.withNval (specValidate E t true s.ctx.nval v).2) := by
  unfold OSt.validateAssigned specValidate runValidate OSt.withNval
  cases hv : t.validate with
  | none => simp
  | some k =>
    by_cases hu : v = undef
    · simp [hu]
    · simp [hu]

theorem fetchOld_nf {E : Env} {t : TraitCore} {m : CMode} {orig po : Bool} {d : Id}
    (st : StdTrait t m orig po d) (pq : PostQuiet E) (c0 dn : Bool) (w : Id) (s : OSt) :
    s.fetchOld E t c0 dn w =
      if t.post.isSome || dn then
        (.ok (some (s.slot.getD d), c0 || (s.slot.getD d != w)),
          match s.slot with
          | some _ => s
          | none => ({ s with slot := some d }).posted t d)
      else (.ok (none, c0), s) := by
  rw [fetchOld_eq, materialise_const st pq]
  cases s.slot <;> rfl

/-! ### The four value operations, seen through what the histories of C02 look at

Callbacks resolved (`Quiet`, `PostQuiet`), each statement is described by its result and by the slot, the two notifier
lists, the NO_NOTIFY flag, the validator ordinal and the log it leaves; the regimes (somebody listens or not,
notifications muted or not, a `post_setattr` hook or none) are the conditions inside. -/

theorem step_set_rejected (E : Env) (t : TraitCore) (s : OSt) (v : Id) (e : Exc) (nv : Nat)
    (hrej : specValidate E t (t.kind == .trait) s.ctx.nval v = (.error e, nv)) :
    step E t s (.set v) = ({ exc := some e }, s.withNval nv) := by
  unfold step traitSetattr
  cases hk : t.kind with
  | trait =>
    simp only [hk, beq_self_eq_true] at hrej
    unfold setattrTrait
    simp only [validateAssigned_spec, hrej]
  | event =>
    have hb : (t.kind == Kind.trait) = false := by rw [hk]; rfl
    rw [hb] at hrej
    unfold setattrEvent
    unfold specValidate at hrej
    cases hv : t.validate with
    | none => simp [hv] at hrej
    | some k =>
      simp only [hv, Bool.false_and, Bool.false_eq_true, if_false] at hrej
      simp only [runValidate, hv]
      injection hrej with h1 h2
      rw [h1, ← h2]
      rfl

theorem step_setq_eq (E : Env) (t : TraitCore) (s : OSt) (v : Id) :
    step E t s (.setq v) =
      ((step E t { s with noNotify := true } (.set v)).1,
       { (step E t { s with noNotify := true } (.set v)).2 with noNotify := false }) := by
  unfold step
  cases traitSetattr E t (some v) { s with noNotify := true }
  rfl

section view
variable {E : Env} {t : TraitCore} {m : CMode} {orig po : Bool} {d : Id}

/-- `obj.x = v` for an accepted value `w` (validator ordinal now `nv`): the handlers hear of it if somebody listens,
notifications are not muted, and the C pre-filter lets the change through. -/
theorem step_set_view (st : StdTrait t m orig po d) (q : Quiet E) (pq : PostQuiet E) (s : OSt) (v w : Id) (nv : Nat)
    (hv : specValidate E t true s.ctx.nval v = (.ok w, nv)) :
    (step E t s (.set v)).1 = {} ∧
    let s' := (step E t s (.set v)).2
    s'.slot = some (if orig then v else w) ∧ s'.tn = s.tn ∧ s'.on = s.on ∧ s'.noNotify = s.noNotify ∧
    s'.self = s.self ∧ s'.ctx.nval = nv ∧
    s'.ctx.log = s.ctx.log ++
      (if hasNotifiers s.tn s.on = true ∧ s.noNotify = false ∧ (m == .none || s.slot.getD d != w) = true then
        fired E.cmp t s.self (s.slot.getD d) (if orig then v else w) (snapshot s.tn s.on) else []) := by
  unfold step traitSetattr setattrTrait
  simp only [st.kind, validateAssigned_spec, hv, st.flags, testFlag_none, testFlag_orig, testFlag_postOrig, withNval_tn,
    withNval_on, fetchOld_nf st pq, postSetattr_quiet pq, callNotifiers_quiet q]
  cases hn : hasNotifiers s.tn s.on
  · -- nobody listens: the old value is fetched only for a `post_setattr` hook, and nobody hears whatever the comparison says
    simp only [Bool.or_false, Bool.false_eq_true, false_and, if_false, List.append_nil]
    cases hp : t.post.isSome <;> simp only [Bool.false_eq_true, if_false, if_true] <;> split <;>
      cases hs : s.slot <;> simp [hs]
  · simp only [Bool.or_true, if_true, true_and]
    cases hnn : s.noNotify <;> cases hc : (m == CMode.none || s.slot.getD d != w) <;> cases hslot : s.slot <;> simp_all

/-- `del obj.x`.  `live`: the delete block gets as far as re-reading the attribute, which materialises the default. -/
theorem step_del_view (st : StdTrait t m orig po d) (q : Quiet E) (pq : PostQuiet E) (s : OSt) :
    (step E t s .del).1 = {} ∧
    let s' := (step E t s .del).2
    let live := s.slot.isSome = true ∧ s.noNotify = false ∧ (s.tn.isSome || s.on.isSome) = true
    s'.slot = (if live then some d else none) ∧ s'.tn = s.tn ∧ s'.on = s.on ∧
    s'.noNotify = s.noNotify ∧ s'.self = s.self ∧ s'.ctx.nval = s.ctx.nval ∧
    s'.ctx.log = s.ctx.log ++
      (if live ∧ hasNotifiers s.tn s.on = true ∧ (m == .none || s.slot.getD d != d) = true then
        fired E.cmp t s.self (s.slot.getD d) d (snapshot s.tn s.on) else []) := by
  unfold step traitSetattr setattrTrait setattrTraitDel traitGetattr
  simp only [st.kind, st.flags, testFlag_none, getattrTrait_nf st pq, postSetattr_quiet pq,
    callNotifiers_quiet q]
  have e1 : ∀ (a : Option Id) (b : Bool), ({ s with slot := a, noNotify := b } : OSt).tn = s.tn := fun _ _ => rfl
  cases hslot : s.slot with
  | none => simp [hslot]
  | some old =>
    cases hnn : s.noNotify <;> cases hex : (s.tn.isSome || s.on.isSome) <;>
      cases hn : hasNotifiers s.tn s.on <;> cases hc : (m == CMode.none || old != d) <;> simp_all

/-- No `Quiet` hypothesis, as for `getattrTrait_nf`. -/
theorem step_get_view (st : StdTrait t m orig po d) (pq : PostQuiet E) (s : OSt) :
    (step E t s .get).1 = { val := some (s.slot.getD d) } ∧
    let s' := (step E t s .get).2
    s'.slot = some (s.slot.getD d) ∧ s'.tn = s.tn ∧ s'.on = s.on ∧ s'.noNotify = s.noNotify ∧
    s'.self = s.self ∧ s'.ctx.nval = s.ctx.nval ∧ s'.ctx.log = s.ctx.log := by
  unfold step getattro traitGetattr
  cases hs : s.slot <;> simp [hs, st.kind, getattrTrait_nf st pq]

end view

/-! ### Event traits -/

theorem step_set_event_view {E : Env} (q : Quiet E) {t : TraitCore} (hk : t.kind = .event) (s : OSt) (v w : Id)
    (nv : Nat) (hv : specValidate E t false s.ctx.nval v = (.ok w, nv)) :
    (step E t s (.set v)).1 = {} ∧
    let s' := (step E t s (.set v)).2
    s'.slot = s.slot ∧ s'.tn = s.tn ∧ s'.on = s.on ∧ s'.noNotify = s.noNotify ∧ s'.self = s.self ∧ s'.ctx.nval = nv ∧
    s'.ctx.log = s.ctx.log ++
      (if hasNotifiers s.tn s.on = true ∧ s.noNotify = false then
        fired E.cmp t s.self undef w (snapshot s.tn s.on) else []) := by
  unfold specValidate at hv
  unfold step traitSetattr setattrEvent runValidate
  simp only [hk, callNotifiers_quiet q]
  cases hval : t.validate with
  | none =>
    simp only [hval] at hv ⊢
    injection hv with h1 h2
    injection h1 with h1
    subst h1 h2
    cases hn : hasNotifiers s.tn s.on <;> cases hnn : s.noNotify <;> simp [hnn]
  | some k =>
    simp only [hval, Bool.false_and, Bool.false_eq_true, if_false] at hv ⊢
    injection hv with h1 h2
    subst h2
    have e1 : ({ s with ctx := { s.ctx with nval := s.ctx.nval + 1 } } : OSt).tn = s.tn := rfl
    simp only [h1, e1]
    cases hn : hasNotifiers s.tn s.on <;> cases hnn : s.noNotify <;> simp

theorem step_del_event {E : Env} {t : TraitCore} (hk : t.kind = .event) (s : OSt) :
    step E t s .del = ({}, s) := by
  simp [step, traitSetattr, hk, setattrEvent]

theorem step_get_event {E : Env} {t : TraitCore} (hk : t.kind = .event) (s : OSt) :
    step E t s .get = (match s.slot with
      | some v => ({ val := some v }, s)
      | none => ({ exc := some .attributeError }, s)) := by
  unfold step getattro traitGetattr
  cases s.slot <;> simp [hk]

end TraitsVerif.Model.Attr
