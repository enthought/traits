/-
`Py.valAll` (Py/Basic.lean: the item validator run over an iterable, ordinal by ordinal, stopping at the first
rejection) is shared by the list, set and sync models; its three facts stand here once.
-/
import TraitsVerif.Py.Basic
namespace TraitsVerif.Py
variable {α β : Type}

theorem valAll_valid {v : Callback α β} {k : Nat} {xs : List α} {ys : List β} (h : valAll v k xs = .ok ys) :
    ys.length = xs.length ∧ ∀ y ∈ ys, ∃ k' x, v k' x = .ok y := by
  fun_induction valAll v k xs generalizing ys with
  | case1 => cases h; exact ⟨rfl, nofun⟩
  | case2 | case3 => cases h                          -- this item or a later one is rejected
  | case4 k x xs y hy ys' hys ih =>
    cases h
    exact ⟨congrArg (· + 1) (ih hys).1, List.forall_mem_cons.mpr ⟨⟨k, x, hy⟩, (ih hys).2⟩⟩

theorem valAll_fixed {v : Callback α α} {xs : List α} (h : ∀ n, ∀ x ∈ xs, v n x = .ok x) (k : Nat) :
    valAll v k xs = .ok xs := by
  induction xs generalizing k with
  | nil => rfl
  | cons x xs ih =>
    simp only [valAll, h k x (List.mem_cons_self ..), ih (fun n y hy => h n y (List.mem_cons_of_mem _ hy))]

theorem valAll_kth_fails (v : Callback α β) (e : Exc) :
    ∀ (pre : List α) (x : α) (post : List α) (j : Nat),
      (∀ i (hi : i < pre.length), ∃ y, v (j + i) pre[i] = .ok y) →
      v (j + pre.length) x = .error e →
      valAll v j (pre ++ x :: post) = .error e := by
  intro pre
  induction pre with
  | nil => intro x post j _ hx; simp only [List.nil_append, valAll]; simp at hx; rw [hx]
  | cons p pre ih =>
    intro x post j hpre hx
    simp only [List.cons_append, valAll]
    obtain ⟨y, hy⟩ := hpre 0 (by simp)
    simp only [Nat.add_zero, List.getElem_cons_zero] at hy
    rw [hy]
    have := ih x post (j + 1)
      (fun i hi => by
        have := hpre (i + 1) (by simp; omega)
        simpa [Nat.add_assoc, Nat.add_comm 1 i] using this)
      (by simpa [Nat.add_assoc, Nat.add_comm 1 pre.length] using hx)
    rw [this]

end TraitsVerif.Py
