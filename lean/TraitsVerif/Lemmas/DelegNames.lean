/-
Naming rules of deferred traits: the attribute a forwarder listens to is the attribute reads and
writes go to (the lemma that finding F5 falsified on the unfixed tree).
-/
import TraitsVerif.Model.Delegate
import TraitsVerif.Lemmas.Common
namespace TraitsVerif.Model.Deleg

/-- Names the rules are stated for: non-empty and not ending in an asterisk (identifiers). -/
def GoodName (n : Name) : Prop := n ≠ [] ∧ n.getLast? ≠ some '*'

theorem getLast?_append_of_ne_nil {α} (a b : List α) (h : b ≠ []) : (a ++ b).getLast? = b.getLast? := by
  rw [List.getLast?_append, List.getLast?_eq_some_getLast h]; rfl

theorem mkDelegate_cases (raw : Name) (m : Bool) :
    (raw = [] ∧ mkDelegate raw m = ⟨raw, raw, .name, m⟩) ∨
    (raw ≠ [] ∧ raw.getLast? ≠ some '*' ∧ mkDelegate raw m = ⟨raw, raw, .prefix, m⟩) ∨
    (raw.getLast? = some '*' ∧ raw.dropLast ≠ [] ∧ mkDelegate raw m = ⟨raw, raw.dropLast, .prefixName, m⟩) ∨
    (raw = ['*'] ∧ mkDelegate raw m = ⟨raw, [], .className, m⟩) := by
  unfold mkDelegate
  by_cases h0 : raw = []
  · left; simp [h0]
  · by_cases h1 : raw.getLast? = some '*'
    · by_cases h2 : raw.dropLast = []
      · right; right; right
        have := Common.dropLast_append_of_getLast? h1
        rw [h2] at this
        simp at this
        subst this
        simp
      · right; right; left
        simp [h0, h1, h2]
    · right; left
      simp [h0, h1]

theorem mkDelegate_raw (raw : Name) (m : Bool) : (mkDelegate raw m).raw = raw := by
  rcases mkDelegate_cases raw m with ⟨_, h⟩ | ⟨_, _, h⟩ | ⟨_, _, h⟩ | ⟨_, h⟩ <;> rw [h]

theorem delegatePattern_ne_nil (n raw : Name) (hn : n ≠ []) : delegatePattern n raw ≠ [] := by
  unfold delegatePattern
  split
  · exact hn
  · split
    · simp [hn]
    · assumption

theorem listenedName_eq_targetName (raw : Name) (m : Bool) (clsPfx : Option Name) (n : Name) (hn : GoodName n) :
    listenedName clsPfx n (mkDelegate raw m) = targetName clsPfx n (mkDelegate raw m) := by
  obtain ⟨hne, hlast⟩ := hn
  rcases mkDelegate_cases raw m with ⟨h0, hd⟩ | ⟨h0, h1, hd⟩ | ⟨h1, h2, hd⟩ | ⟨h0, hd⟩
  · subst h0
    simp [listenedName, targetName, attrName, hd, delegatePattern, traitDelegateName, hlast]
  · simp [listenedName, targetName, attrName, hd, delegatePattern, traitDelegateName, h0, h1]
  · have hlen : raw.length > 1 := by
      have h3 := Common.dropLast_append_of_getLast? h1
      have h4 : raw.dropLast.length > 0 := List.length_pos_iff.mpr h2
      have h5 : (raw.dropLast ++ ['*']).length = raw.length := by rw [h3]
      rw [List.length_append] at h5
      simp only [List.length_cons, List.length_nil] at h5
      omega
    have hne0 : raw ≠ [] := by intro h; simp [h] at h1
    have hl2 : (raw.dropLast ++ n).getLast? ≠ some '*' := by
      rw [getLast?_append_of_ne_nil _ _ hne]; exact hlast
    simp only [listenedName, targetName, attrName, hd, delegatePattern, traitDelegateName, hne0, hlen, h1,
      if_false, and_self, if_true, hl2]
  · subst h0
    simp [listenedName, targetName, attrName, hd, delegatePattern, traitDelegateName]

end TraitsVerif.Model.Deleg
