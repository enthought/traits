/-
The delivery gate that `TraitDictObject.notifier` and `TraitSetObject.notifier`
share (`Model/ContainerObject.lean` `deliver` behind the `name_items` test).
-/
import TraitsVerif.Model.ContainerObject
namespace TraitsVerif.Model.Obj
open TraitsVerif TraitsVerif.Model.PyLO

/-- The left side of `h` is the body of `dictNotifier` / `setNotifier` with `d` their delivery. -/
theorem deliver_gate (σ : OSelf) (d : Delivery) (ds : List Delivery)
    (h : (if !σ.nameItems then .ok [] else deliver σ d) = .ok ds) :
    (ds = [d] ∧ σ.nameItems = true ∧ σ.object = some true ∧ σ.current = true ∧ ∃ t, σ.trait = some (some t)) ∨
      (ds = [] ∧ (σ.nameItems = false ∨ σ.object = some false ∨ σ.current = false)) := by
  cases hn : σ.nameItems
  · rw [hn] at h; cases h; exact .inr ⟨rfl, .inl rfl⟩
  · rw [hn] at h
    simp only [Bool.not_true, Bool.false_eq_true, if_false, deliver] at h
    split at h
    · cases h
    · cases h; exact .inr ⟨rfl, .inr (.inl ‹_›)⟩
    · cases hc : σ.current
      · rw [hc] at h; cases h; exact .inr ⟨rfl, .inr (.inr rfl)⟩
      · simp only [hc, Bool.not_true, Bool.false_eq_true, if_false] at h
        split at h <;> cases h
        exact .inl ⟨rfl, rfl, ‹_›, rfl, _, ‹_›⟩

end TraitsVerif.Model.Obj
