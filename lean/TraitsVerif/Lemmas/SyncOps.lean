/-
The two instances of `cascade` (`applyAssign`, `applyMutate`) are local; what a
command (`finish` of a propagation) leaves and raises; invariants of the tables over
histories (`step_inv`, `run_inv`): the lock table stays empty; the depth budget is never
exhausted.
-/
import TraitsVerif.Lemmas.SyncFrame
namespace TraitsVerif.Model.Sync
open TraitsVerif TraitsVerif.Py TraitsVerif.Model
variable {α π : Type}

theorem upd_same {β : Type} (f : Pair → β) (p : Pair) (b : β) : upd f p b p = b := by simp [upd]

theorem upd_other {β : Type} (f : Pair → β) (p q : Pair) (b : β) (h : q ≠ p) : upd f p b q = f q := by
  simp [upd, h]

/-! ### The two actions -/

/-- What `setattr` does to the trait itself when the value changes: store it, notify. -/
def World.store (w : World α) (p : Pair) (new : AVal α) : World α :=
  { w with val := upd w.val p new, nChg := upd w.nChg p (w.nChg p + 1) }

theorem applyAssign_of_validate [DecidableEq α] {E : Env α} (w : World α) {p : Pair} {v new : AVal α}
    (hv : validate E p v = .ok new) :
    applyAssign E w p v =
      if new = w.val p then .ok (w, none, none)
      else .ok (w.store p new, none, some new) := by
  simp only [applyAssign, hv]; rfl

theorem applyAssign_ok [DecidableEq α] {E : Env α} {w w1 : World α} {p : Pair} {v : AVal α}
    {r : Option α} {y : Option (AVal α)} (h : applyAssign E w p v = .ok (w1, r, y)) :
    ∃ new, validate E p v = .ok new ∧ r = none ∧
      ((new = w.val p ∧ w1 = w ∧ y = none) ∨
       (new ≠ w.val p ∧ y = some new ∧ w1 = w.store p new)) := by
  cases hv : validate E p v with
  | error e => simp [applyAssign, hv] at h
  | ok new =>
    rw [applyAssign_of_validate w hv] at h
    refine ⟨new, rfl, ?_⟩
    split at h <;> cases h
    · exact ⟨rfl, Or.inl ⟨‹_›, rfl, rfl⟩⟩
    · exact ⟨rfl, Or.inr ⟨‹_›, rfl, rfl⟩⟩

theorem applyAssign_val [DecidableEq α] {E : Env α} (w : World α) {p : Pair} {v y : AVal α}
    (hv : validate E p v = .ok y) :
    ∃ w1 pay, applyAssign E w p v = .ok (w1, none, pay) ∧ w1.val p = y := by
  rw [applyAssign_of_validate w hv]
  by_cases h : y = w.val p
  · rw [if_pos h]; exact ⟨_, _, rfl, h.symm⟩
  · rw [if_neg h]; exact ⟨_, _, rfl, upd_same ..⟩

theorem local_assign [DecidableEq α] (E : Env α) : Local (applyAssign E) := by
  constructor <;> intro w p x w1 r y h <;>
    obtain ⟨_, _, _, ⟨_, rfl, _⟩ | ⟨_, _, rfl⟩⟩ := applyAssign_ok h
  -- `w1` is `w`, or `w` with `val` and `nChg` updated at `p`
  case val.inr | nChg.inr => exact fun q hq => upd_other _ _ _ _ hq
  all_goals first | rfl | exact fun _ _ => rfl

theorem applyMutate_of_step {E : Env α} (w : World α) {p : Pair} {op : Op α} {o : Out α}
    (hl : E.isList p = true) (hs : listStep (E.tl p) (w.list p) op = .ok o) :
    applyMutate E w p op =
      match o.event with
      | none => .ok ({ w with val := upd w.val p (.l o.items) }, o.ret, none)
      | some e =>
        .ok ({ w with val := upd w.val p (.l o.items), nItems := upd w.nItems p (w.nItems p + 1) },
             o.ret, if p ∈ w.hooked then some (eventOp e) else none) := by
  unfold applyMutate
  rw [if_pos hl, hs]
  rfl

theorem applyMutate_ok {E : Env α} {w w1 : World α} {p : Pair} {op : Op α}
    {r : Option α} {y : Option (Op α)} (h : applyMutate E w p op = .ok (w1, r, y)) :
    E.isList p = true ∧ ∃ o, listStep (E.tl p) (w.list p) op = .ok o ∧ r = o.ret ∧
      ((o.event = none ∧ y = none ∧ w1 = { w with val := upd w.val p (.l o.items) }) ∨
       (∃ e, o.event = some e ∧ y = (if p ∈ w.hooked then some (eventOp e) else none) ∧
        w1 = { w with val := upd w.val p (.l o.items), nItems := upd w.nItems p (w.nItems p + 1) })) := by
  cases hl : E.isList p with
  | false => simp [applyMutate, hl] at h
  | true =>
    cases hs : listStep (E.tl p) (w.list p) op with
    | error e => simp [applyMutate, hl, hs] at h
    | ok o =>
      rw [applyMutate_of_step w hl hs] at h
      refine ⟨rfl, o, rfl, ?_⟩
      split at h <;> cases h
      · exact ⟨rfl, Or.inl ⟨‹_›, rfl, rfl⟩⟩
      · exact ⟨rfl, Or.inr ⟨_, ‹_›, rfl, rfl⟩⟩

theorem applyMutate_val {E : Env α} (w : World α) {p : Pair} {op : Op α} {o : Out α}
    (hl : E.isList p = true) (hs : listStep (E.tl p) (w.list p) op = .ok o) :
    ∃ w1, applyMutate E w p op =
        .ok (w1, o.ret, o.event.bind fun e => if p ∈ w.hooked then some (eventOp e) else none) ∧
      w1.val p = .l o.items := by
  rw [applyMutate_of_step w hl hs]
  cases o.event <;> exact ⟨_, rfl, upd_same ..⟩

theorem local_mutate (E : Env α) : Local (applyMutate E) := by
  constructor <;> intro w p x w1 r y h <;>
    obtain ⟨_, o, _, _, ⟨_, _, rfl⟩ | ⟨e, _, _, rfl⟩⟩ := applyMutate_ok h
  -- `w1` is `w` with `val` (and `nItems`) updated at `p`
  case val.inl | val.inr | nItems.inr => exact fun q hq => upd_other _ _ _ _ hq
  all_goals first | rfl | exact fun _ _ => rfl

/-! ### Commands -/

variable {apply : World α → Pair → π → Except Exc (World α × Option α × Option π)}

theorem finish_world_ok {w w' : World α} {r : Option α} :
    (finish w (.ok (w', r))).world = w' := rfl

/-- A command whose propagation, if it succeeds, respects a reflexive relation
leaves a related world (a failed command leaves the world as it was). -/
theorem finish_rel (R : World α → World α → Prop) (hrefl : ∀ a, R a a) {w : World α}
    {c : Except Exc (World α × Option α)} (h : ∀ w' r, c = .ok (w', r) → R w w') : R w (finish w c).world := by
  cases c with
  | error e => exact hrefl w
  | ok res => exact h res.1 res.2 rfl

theorem finish_error_world {w : World α} {c : Except Exc (World α × Option α)} {e : Exc}
    (h : (finish w c).exc = some e) : (finish w c).world = w := by
  cases c with
  | error e => rfl
  | ok res => cases h

theorem finish_exc (w : World α) (p : Pair) (x : π) (d : Nat) :
    (finish w (cascade apply (d + 1) w p x)).exc =
      (match apply w p x with | .ok _ => none | .error e => some e) := by
  rw [cascade_succ]
  cases apply w p x <;> rfl

theorem finish_frame (hl : Local apply) (d : Nat) {w : World α} {p : Pair} (x : π) (hp : p ∉ w.locked) :
    SameTabs w (finish w (cascade apply d w p x)).world :=
  finish_rel SameTabs SameTabs.refl fun w' r h => cascade_frame hl d w p x w' r hp h

theorem finish_no_partners (hl : Local apply) {w w1 : World α} {r : Pair} {x : π} {ret : Option α}
    {y : Option π} (d : Nat) (hr : w.partners r = []) (happ : apply w r x = .ok (w1, ret, y)) :
    finish w (cascade apply (d + 1) w r x) = { world := w1, ret := ret } := by
  rw [cascade_of_apply happ, handle_no_partners _ ((partners_congr (hl.edges happ) r).trans hr)]; rfl

/-! ### Commands keep the tables -/

theorem assign_sameTabs [DecidableEq α] (E : Env α) (w : World α) (p : Pair) (v : AVal α)
    (hp : p ∉ w.locked) : SameTabs w (w.assign E p v).world :=
  finish_frame (local_assign E) _ v hp

theorem mutate_sameTabs (E : Env α) (w : World α) (p : Pair) (op : Op α)
    (hp : p ∉ w.locked) : SameTabs w (w.mutate E p op).world :=
  finish_frame (local_mutate E) _ op hp

theorem unlinkOne_locked (E : Env α) (w : World α) (p q : Pair) :
    (w.unlinkOne E p q).locked = w.locked := by
  unfold World.unlinkOne; split <;> rfl

theorem unlink_locked (E : Env α) (w : World α) (p q : Pair) (b : Bool) :
    (w.unlink E p q b).locked = w.locked := by
  unfold World.unlink; split <;> simp [unlinkOne_locked]

/-! ### Histories -/

/-- A command is made of four kinds of elementary steps: `register` of an entry that is not there,
a propagation started on an unlocked trait (it keeps the tables, `cascade_frame`), `unlinkOne`,
`kill`.  So a property of the tables that implies an empty lock table and that these steps keep is
kept by every command. -/
theorem step_inv [DecidableEq α] {E : Env α} {I : World α → Prop} (hL : ∀ w, I w → w.locked = [])
    (htabs : ∀ w w', I w → SameTabs w w' → I w')
    (hreg : ∀ w p q, I w → (⟨p, q⟩ : Edge) ∉ w.edges → I (w.register E p q))
    (hunl : ∀ w p q, I w → I (w.unlinkOne E p q))
    (hkill : ∀ w o, I w → I (w.kill o)) (w : World α) (c : Cmd α) (h : I w) : I (w.step E c).world := by
  have hone : ∀ w p q, I w → I (w.linkOne E p q).world := fun w p q h => by
    unfold World.linkOne
    split
    · exact h
    · have hr := hreg w p q h ‹_›
      exact htabs _ _ hr (assign_sameTabs E _ q (w.val p) (by simp [hL _ hr]))
  cases c with
  | assign p v => exact htabs _ _ h (assign_sameTabs E w p v (by simp [hL w h]))
  | mutate p op => exact htabs _ _ h (mutate_sameTabs E w p op (by simp [hL w h]))
  | link p q b =>
    have h1 := hone w p q h
    show I (w.link E p q b).world
    unfold World.link
    simp only
    split
    · exact h1
    · split
      · exact hone _ q p h1
      · exact h1
  | unlink p q b =>
    show I (w.unlink E p q b)
    unfold World.unlink
    split
    · exact hunl _ q p (hunl w p q h)
    · exact hunl w p q h
  | kill o => exact hkill w o h

theorem run_inv [DecidableEq α] {E : Env α} {I : World α → Prop} (cs : List (Cmd α))
    (hstep : ∀ w, ∀ c ∈ cs, I w → I (w.step E c).world) : ∀ w, I w → I (World.run E w cs) := by
  induction cs with
  | nil => exact fun _ h => h
  | cons c cs ih =>
    exact fun w h => ih (fun w c hc => hstep w c (List.mem_cons_of_mem _ hc)) _ (hstep w c (List.mem_cons_self ..) h)

/-- **Lock released.** Every history started with an empty lock table ends with an empty lock table. -/
theorem run_locked [DecidableEq α] (E : Env α) (w : World α) (cs : List (Cmd α)) (h : w.locked = []) :
    (World.run E w cs).locked = [] :=
  run_inv cs (fun w c _ => step_inv (I := fun w => w.locked = []) (fun _ h => h) (fun _ _ h ht => ht.2.1.trans h)
    (fun _ _ _ h _ => h) (fun w p q h => (unlinkOne_locked E w p q).trans h) (fun w o h => by simp [World.kill, h]) w c) w h

/-- Every depth budget above the number of edges gives what the commands' `w.budget` gives. -/
theorem budget_fuel (hl : Local apply) (w : World α) (p : Pair) (x : π) (hp : p ∉ w.locked) (d : Nat)
    (hd : w.edges.length < d) : cascade apply d w p x = cascade apply w.budget w p x :=
  cascade_fuel hl d w.budget w p x hp (Nat.lt_of_le_of_lt (free_le_edges w) hd)
    (Nat.lt_succ_of_le (free_le_edges w))

/-- A world with a table entry has a budget of at least two. -/
theorem budget_of_edge {w : World α} {e : Edge} (he : e ∈ w.edges) : ∃ d, w.budget = d + 2 :=
  ⟨w.edges.length - 1, by have := List.length_pos_of_mem he; simp only [World.budget]; omega⟩

end TraitsVerif.Model.Sync
