/-
Lemmas about the raw-`CTrait` reference machine of `Model.RefLedger.Raw`
(events `incref` / `decref` / `store`, checkpoints after each `decref`).
Every entry point is, up to the order of an INCREF and a store, of one form:
take references to some values, store into pairwise different slots and INCREF
what was stored, release what the slots held, release the values taken
(`bracket`).  That form is safe and neutral; the entry points are instances.
-/
import TraitsVerif.Model.RefLedger
namespace TraitsVerif.Lemmas.Raw
open TraitsVerif.Model.RefLedger.Raw

/-- `[x points to o]` as a number. -/
def hit (x : Option Nat) (o : Nat) : Int := if x = some o then 1 else 0

theorem count_cons_hit (x : Option Nat) (l : List (Option Nat)) (o : Nat) :
    ((x :: l).count (some o) : Int) = (l.count (some o) : Int) + hit x o := by
  by_cases h : x = some o <;> simp [hit, h]

/-- Storing `v` into slot `i` of the array: the slots that point to `o` lose the old content of the slot and
gain `v`. -/
theorem count_set_eq (l : List (Option Nat)) (i : Nat) (v : Option Nat) (o : Nat) (h : i < l.length) :
    ((l.set i v).count (some o) : Int) + hit (l.getD i none) o = (l.count (some o) : Int) + hit v o := by
  have hget : l.getD i none = l[i] := by simp [List.getD, h]
  rw [List.count_set h, hget]
  unfold hit
  by_cases h1 : l[i] = some o
  · have hpos : 0 < l.count (some o) := List.count_pos_iff.mpr (h1 ▸ List.getElem_mem h)
    by_cases h2 : v = some o <;> simp [h1, h2] <;> omega
  · by_cases h2 : v = some o <;> simp [h1, h2]

/-- The same for any index (`≤`: an index beyond the array stores nothing). -/
theorem count_set_le (l : List (Option Nat)) (i : Nat) (v : Option Nat) (o : Nat) :
    ((l.set i v).count (some o) : Int) + hit (l.getD i none) o ≤ (l.count (some o) : Int) + hit v o := by
  by_cases h : i < l.length
  · exact Int.le_of_eq (count_set_eq l i v o h)
  · have hle : l.length ≤ i := Nat.le_of_not_lt h
    have hget : l.getD i none = none := by simp [List.getD, hle]
    rw [List.set_eq_of_length_le hle, hget]
    unfold hit
    by_cases h2 : v = some o <;> simp [h2] <;> omega

@[simp] theorem run_nil (s : MS) : run [] s = s := rfl
@[simp] theorem run_cons (e : Ev) (es : List Ev) (s : MS) : run (e :: es) s = run es (ev s e) := rfl

theorem run_append (a b : List Ev) (s : MS) : run (a ++ b) s = run b (run a s) := by
  simp [run, List.foldl_append]

theorem checkpoints_append (a b : List Ev) (s : MS) :
    checkpoints (a ++ b) s = checkpoints a s ++ checkpoints b (run a s) := by
  induction a generalizing s with
  | nil => simp [checkpoints]
  | cons e es ih => cases e <;> simp [checkpoints, ih]

/-! ### `incs`, `stores`, `decs` -/

/-- A run of INCREFs (`d = 1`) or DECREFs (`d = -1`) of the non-NULL values of a list. -/
theorem run_refs (mk : Nat → Ev) (d : Int) (hmk : ∀ s p, ev s (mk p) = { s with rc := bump s.rc p d })
    (vs : List (Option Nat)) (s : MS) :
    (run (vs.filterMap fun v => v.map mk) s).ptr = s.ptr ∧
      ∀ o, (run (vs.filterMap fun v => v.map mk) s).rc o = s.rc o + d * (vs.count (some o) : Int) := by
  induction vs generalizing s with
  | nil => simp
  | cons v vs ih =>
    cases v with
    | none => simpa using ih s
    | some p =>
      simp only [List.filterMap_cons, Option.map_some, run_cons, hmk]
      refine ⟨(ih _).1, fun o => ?_⟩
      rw [(ih _).2 o, List.count_cons]
      by_cases h : p = o
      · subst h; simp [bump, Int.mul_add]; omega
      · simp [bump, h, Ne.symm h]

theorem run_incs (vs : List (Option Nat)) (s : MS) :
    (run (incs vs) s).ptr = s.ptr ∧ ∀ o, (run (incs vs) s).rc o = s.rc o + (vs.count (some o) : Int) := by
  simpa [incs] using run_refs .incref 1 (fun _ _ => rfl) vs s

theorem run_decs (vs : List (Option Nat)) (s : MS) :
    (run (decs vs) s).ptr = s.ptr ∧ ∀ o, (run (decs vs) s).rc o = s.rc o - (vs.count (some o) : Int) := by
  have := run_refs .decref (-1) (fun _ _ => rfl) vs s
  refine ⟨this.1, fun o => ?_⟩
  have := this.2 o
  simp only [decs]
  omega

theorem checkpoints_incs (vs : List (Option Nat)) (s : MS) : checkpoints (incs vs) s = [] := by
  induction vs generalizing s with
  | nil => rfl
  | cons v vs ih => cases v <;> simp [incs, checkpoints] <;> exact ih _

/-- Releasing a list of references: if every pointer is backed at the end, it was at every step. -/
theorem checkpoints_decs (vs : List (Option Nat)) (s : MS) (h : (run (decs vs) s).Inv) :
    ∀ c ∈ checkpoints (decs vs) s, c.Inv := by
  induction vs generalizing s with
  | nil => simp [decs, checkpoints]
  | cons v vs ih =>
    cases v with
    | none => exact ih s h
    | some p =>
      have e : decs (some p :: vs) = .decref p :: decs vs := by simp [decs]
      rw [e] at h ⊢
      rw [run_cons] at h
      intro c hc
      simp only [checkpoints, List.mem_cons] at hc
      rcases hc with hc | hc
      · subst hc
        intro o
        have h1 := h o
        have h2 := (run_decs vs (ev s (.decref p))).2 o
        have h3 := (run_decs vs (ev s (.decref p))).1
        simp only [MS.held] at h1 ⊢
        rw [h3] at h1
        omega
      · exact ih _ h c hc

theorem stores_cons (w : Nat × Option Nat) (ws : List (Nat × Option Nat)) :
    stores (w :: ws) = .store w.1 w.2 :: stores ws := rfl

theorem checkpoints_stores (ws : List (Nat × Option Nat)) (s : MS) : checkpoints (stores ws) s = [] := by
  induction ws generalizing s with
  | nil => rfl
  | cons w ws ih => rw [stores_cons]; simp [checkpoints, ih]

theorem run_stores_rc (ws : List (Nat × Option Nat)) (s : MS) : (run (stores ws) s).rc = s.rc := by
  induction ws generalizing s with
  | nil => rfl
  | cons w ws ih => rw [stores_cons, run_cons, ih]; rfl

theorem run_stores_len (ws : List (Nat × Option Nat)) (s : MS) : (run (stores ws) s).ptr.length = s.ptr.length := by
  induction ws generalizing s with
  | nil => simp [stores]
  | cons w ws ih => rw [stores_cons, run_cons, ih]; simp [ev]

theorem at_store_ne (s : MS) (i j : Nat) (v : Option Nat) (h : i ≠ j) : (ev s (.store i v)).at j = s.at j := by
  simp [MS.at, ev, List.getD_eq_getElem?_getD, List.getElem?_set_ne h]

/-- Storing what a slot holds changes nothing - also for a slot that does not exist, which reads as NULL. -/
theorem set_at_self (s : MS) (i : Nat) : s.ptr.set i (s.at i) = s.ptr := by
  unfold MS.at
  by_cases h : i < s.ptr.length
  · simp [List.getD, h]
  · exact List.set_eq_of_length_le (Nat.le_of_not_lt h)

/-- Stores into pairwise different slots: the pointers to `o` lose what those slots held BEFORE and gain what
was stored - exactly, when the slots exist. -/
theorem run_stores_olds (ws : List (Nat × Option Nat)) (s : MS) (hnd : (ws.map (·.1)).Nodup) (o : Nat) :
    ((run (stores ws) s).held o : Int) + ((ws.map (fun w => s.at w.1)).count (some o) : Int)
      ≤ (s.held o : Int) + ((ws.map (·.2)).count (some o) : Int) ∧
    ((∀ w ∈ ws, w.1 < s.ptr.length) →
      ((run (stores ws) s).held o : Int) + ((ws.map (fun w => s.at w.1)).count (some o) : Int)
        = (s.held o : Int) + ((ws.map (·.2)).count (some o) : Int)) := by
  induction ws generalizing s with
  | nil => simp [stores]
  | cons w ws ih =>
    obtain ⟨i, v⟩ := w
    simp only [List.map_cons, List.nodup_cons] at hnd
    have h1 := ih (ev s (.store i v)) hnd.2
    have hsame : ws.map (fun w => (ev s (.store i v)).at w.1) = ws.map (fun w => s.at w.1) :=
      List.map_congr_left fun w hw =>
        at_store_ne s i w.1 v fun hi => hnd.1 (hi ▸ List.mem_map_of_mem (f := (·.1)) hw)
    rw [hsame] at h1
    have hle := count_set_le s.ptr i v o
    have heq := count_set_eq s.ptr i v o
    rw [stores_cons, run_cons]
    simp only [List.map_cons, count_cons_hit]
    simp only [MS.held, ev, MS.at] at h1 hle heq ⊢
    refine ⟨by omega, fun hr => ?_⟩
    have := heq (hr (i, v) List.mem_cons_self)
    have := h1.2 fun w hw => by simpa using hr w (List.mem_cons_of_mem _ hw)
    omega

/-- Accounting of `putEvents` run from a state `t` that has the pointers of `s` (the state the old contents
were read from): the count of `o` gains what was stored and loses what was remembered; the pointers to `o` plus
what was remembered are at most - exactly, when the slots exist - the pointers before plus what was stored. -/
theorem putEvents_account (ws : List (Nat × Option Nat)) (s t : MS) (hpt : t.ptr = s.ptr)
    (hnd : (ws.map (·.1)).Nodup) (o : Nat) :
    (run (putEvents s ws) t).rc o
        = t.rc o + ((ws.map (·.2)).count (some o) : Int) - ((ws.map (fun w => s.at w.1)).count (some o) : Int) ∧
    ((run (putEvents s ws) t).held o : Int) + ((ws.map (fun w => s.at w.1)).count (some o) : Int)
        ≤ (t.held o : Int) + ((ws.map (·.2)).count (some o) : Int) ∧
    ((∀ w ∈ ws, w.1 < s.ptr.length) →
      ((run (putEvents s ws) t).held o : Int) + ((ws.map (fun w => s.at w.1)).count (some o) : Int)
        = (t.held o : Int) + ((ws.map (·.2)).count (some o) : Int)) := by
  have h2 := run_incs (ws.map (·.2)) (run (stores ws) t)
  have h3 := run_decs (ws.map (fun w => s.at w.1)) (run (incs (ws.map (·.2))) (run (stores ws) t))
  have h4 := run_stores_olds ws t hnd o
  have hat : ws.map (fun w => t.at w.1) = ws.map (fun w => s.at w.1) :=
    List.map_congr_left fun w _ => by simp only [MS.at, hpt]
  rw [hat, hpt] at h4
  simp only [putEvents, run_append, MS.held] at h4 ⊢
  rw [h3.1, h3.2 o, h2.1, h2.2 o, run_stores_rc]
  exact ⟨by omega, h4⟩

/-! ### The common form of the entry points -/

/-- Take references to `extra`; store `ws`, INCREF what was stored, release what the slots held; release `extra`. -/
def bracket (s : MS) (extra : List (Option Nat)) (ws : List (Nat × Option Nat)) : List Ev :=
  incs extra ++ putEvents s ws ++ decs extra

theorem decs_append (a b : List (Option Nat)) : decs (a ++ b) = decs a ++ decs b := by
  simp [decs, List.filterMap_append]

theorem bracket_account (s : MS) (extra : List (Option Nat)) (ws : List (Nat × Option Nat))
    (hnd : (ws.map (·.1)).Nodup) (o : Nat) :
    (run (bracket s extra ws) s).rc o
        = s.rc o + ((ws.map (·.2)).count (some o) : Int) - ((ws.map (fun w => s.at w.1)).count (some o) : Int) ∧
    ((run (bracket s extra ws) s).held o : Int) + ((ws.map (fun w => s.at w.1)).count (some o) : Int)
        ≤ (s.held o : Int) + ((ws.map (·.2)).count (some o) : Int) ∧
    ((∀ w ∈ ws, w.1 < s.ptr.length) →
      ((run (bracket s extra ws) s).held o : Int) + ((ws.map (fun w => s.at w.1)).count (some o) : Int)
        = (s.held o : Int) + ((ws.map (·.2)).count (some o) : Int)) := by
  have h0 := run_incs extra s
  have h1 := putEvents_account ws s (run (incs extra) s) h0.1 hnd o
  have h4 := run_decs extra (run (putEvents s ws) (run (incs extra) s))
  simp only [bracket, run_append, MS.held] at h1 ⊢
  rw [h4.1, h4.2 o]
  rw [h0.1, h0.2 o] at h1
  exact ⟨by omega, h1.2⟩

/-- The remembered contents and the references taken are released only after the new contents are stored and
INCREF'ed: every pointer is backed by a reference whenever foreign code can run. -/
theorem safe_bracket (s : MS) (h : s.Inv) (extra : List (Option Nat)) (ws : List (Nat × Option Nat))
    (hnd : (ws.map (·.1)).Nodup) : Safe (bracket s extra ws) s := by
  have hfin : (run (bracket s extra ws) s).Inv := fun o => by
    have := bracket_account s extra ws hnd o
    have := h o
    omega
  refine ⟨fun c hc => ?_, hfin⟩
  -- the two releasing runs are one: `decs (olds ++ extra)`
  refine checkpoints_decs (ws.map (fun w => s.at w.1) ++ extra)
    (run (incs (ws.map (·.2))) (run (stores ws) (run (incs extra) s)))
    (by simpa [bracket, putEvents, run_append, decs_append] using hfin) c ?_
  simpa [bracket, putEvents, checkpoints_append, checkpoints_incs, checkpoints_stores, run_append, decs_append]
    using hc

theorem neutral_bracket (s : MS) (extra : List (Option Nat)) (ws : List (Nat × Option Nat))
    (hnd : (ws.map (·.1)).Nodup) (hr : ∀ w ∈ ws, w.1 < s.ptr.length) (o : Nat) :
    (run (bracket s extra ws) s).slack o = s.slack o := by
  have := bracket_account s extra ws hnd o
  have := this.2.2 hr
  simp only [MS.slack]
  omega

theorem zip_fst_nodup (dst : List Nat) (vs : List (Option Nat)) (h : dst.Nodup) :
    ((dst.zip vs).map (·.1)).Nodup := by
  induction dst generalizing vs with
  | nil => simp
  | cons d ds ih =>
    cases vs with
    | nil => simp
    | cons v vs =>
      simp only [List.nodup_cons] at h
      simp only [List.zip_cons_cons, List.map_cons, List.nodup_cons]
      refine ⟨fun hm => h.1 ?_, ih vs h.2⟩
      obtain ⟨w, hw, rfl⟩ := List.mem_map.mp hm
      exact (List.of_mem_zip hw).1

/-- What an entry point takes references to and what it stores. -/
def extraOf (s : MS) : Op → List (Option Nat)
  | .restate _ src => src.map s.at
  | .read is => is.map s.at
  | .reset i => [s.at i]
  | _ => []

def writesOf (s : MS) : Op → List (Nat × Option Nat)
  | .set i new => [(i, some new)]
  | .clear i => [(i, none)]
  | .put ws => ws
  | .copy dst src => dst.zip (src.map s.at)
  | .restate dst src => dst.zip (src.map s.at)
  | .reset i => [(i, s.at i)]
  | .read _ => []

theorem writesOf_nodup (s : MS) (op : Op) (hwf : op.WF) : ((writesOf s op).map (·.1)).Nodup := by
  cases op with
  | put ws => exact hwf
  | copy dst src => exact zip_fst_nodup dst _ hwf.1
  | restate dst src => exact zip_fst_nodup dst _ hwf.1
  | _ => simp [writesOf]

/-- Every entry point runs as its bracket does: the same checkpoints, the same state at the end (`set` INCREFs
before it stores, `reset` takes its second reference before it stores: the two events do not see each other). -/
theorem compile_bracket (s : MS) (op : Op) :
    checkpoints (compile s op) s = checkpoints (bracket s (extraOf s op) (writesOf s op)) s ∧
      run (compile s op) s = run (bracket s (extraOf s op) (writesOf s op)) s := by
  cases op with
  | reset i =>
    cases hold : s.at i with
    | none =>
      -- nothing is emitted, and the bracket's one event stores the NULL that is there
      have : s.ptr.set i none = s.ptr := hold ▸ set_at_self s i
      simp [compile, bracket, putEvents, extraOf, writesOf, hold, incs, decs, stores, checkpoints, ev, this]
    | some p => simp [compile, bracket, putEvents, extraOf, writesOf, hold, incs, decs, stores, checkpoints, ev]
  | _ => simp [compile, bracket, putEvents, extraOf, writesOf, incs, decs, stores, checkpoints, ev]

theorem safe_compile (s : MS) (h : s.Inv) (op : Op) (hwf : op.WF) : Safe (compile s op) s := by
  have := safe_bracket s h (extraOf s op) (writesOf s op) (writesOf_nodup s op hwf)
  rwa [Safe, ← (compile_bracket s op).1, ← (compile_bracket s op).2] at this

theorem neutral_compile (s : MS) (op : Op) (hwf : op.WF) (hr : op.InRange s) (o : Nat) :
    (run (compile s op) s).slack o = s.slack o := by
  have key : (∀ w ∈ writesOf s op, w.1 < s.ptr.length) → (run (compile s op) s).slack o = s.slack o := fun hr' => by
    rw [(compile_bracket s op).2]
    exact neutral_bracket s _ _ (writesOf_nodup s op hwf) hr' o
  cases op with
  | set i new => exact key (by simpa [writesOf, Op.InRange] using hr)
  | clear i => exact key (by simpa [writesOf, Op.InRange] using hr)
  | put ws => exact key hr
  | copy dst src => exact key fun w hw => hr _ (List.of_mem_zip hw).1
  | restate dst src => exact key fun w hw => hr _ (List.of_mem_zip hw).1
  | read is => exact key (by simp [writesOf])
  | reset i =>
    -- a slot that does not exist reads as NULL: nothing happens
    by_cases hi : i < s.ptr.length
    · exact key (by simpa [writesOf] using hi)
    · simp [compile, MS.at, List.getD, Nat.le_of_not_lt hi]

/-- Why the order matters: a trait that owns the only reference to object 1 in its slot; releasing it BEFORE
storing the new value (`_trait_set_validate` before d96fc77) leaves, at the moment the finalizer of 1 runs, a
slot that points to an object without a reference. -/
def soleValidator : MS := { ptr := [some 1], rc := fun o => if o = 1 then 1 else 0 }

theorem soleValidator_inv : soleValidator.Inv := by
  intro o
  by_cases h : o = 1
  · subst h; simp [soleValidator, MS.held]
  · have h' : ¬ (1 : Nat) = o := fun e => h e.symm
    simp [soleValidator, MS.held, h, h']

theorem release_before_store_unsafe :
    ¬ Safe [.incref 2, .decref 1, .store 0 (some 2)] soleValidator := by
  intro hs
  have := hs.1 (ev (ev soleValidator (.incref 2)) (.decref 1)) (by simp [checkpoints])
  have h1 := this 1
  simp [ev, bump, soleValidator, MS.held] at h1

end TraitsVerif.Lemmas.Raw
