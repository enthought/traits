/-
The `…_src` lemma for `get_trait` (every `instance` argument).
-/
import TraitsVerif.Lemmas.ResolveSource2
namespace TraitsVerif.Model.ResL
open TraitsVerif TraitsVerif.Model.Resolve TraitsVerif.Generated

section get_trait
variable (E : Env) (w : World) (oi : Nat) (o : Obj) (c : Cls) (nI nO : Bool) (fr : Option DictId)
  (er : Option Exc) (env e : List (Var × V)) (name : Name) (inst : Int)
  (ho : envGet env .obj = .obj) (hn : envGet env .name = .name name) (hin : envGet env .instance_ = .int inst)
include ho hn hin

/-- From `if (instance <= 0) return trait` on, once `trait` has been assigned: for `instance > 0` the
trait is cloned into the instance-trait dictionary, which is created when the pointer is NULL. -/
theorem get_trait_clone (t : Trait) (hI : nI = true → o.itraits = []) (hw : w.objs[oi]? = some o) :
    asGetTrait (leave e false (execs ⟨E, user6 E⟩ false (ResolveC.get_trait.body.drop 5)
        (St.mk w oi o c nI nO fr er ((.trait, .trait t) :: env)))) =
      some (if inst ≤ 0 then (w, .ok (.trait (some t)))
        else ({ w with objs := w.objs.modify oi (fun o => { o with itraits := o.itraits.set name t }) },
          .ok (.trait (some t)))) := by
  simp only [ResolveC.get_trait, List.drop_succ_cons, List.drop_zero, modify_eq_set _ hw]
  resl_eval [hin]
  by_cases hle : inst ≤ 0
  · resl_eval [hle]; rfl
  · cases nI with
    | true => resl_eval [ho, hn, hle, hI rfl]; rfl
    | false => resl_eval [ho, hn, hle]; rfl

/-- The class-trait lookup with the fallback to `get_prefix_trait(obj, name, 0)`, for a name without
instance trait, given what the statements after it return once `trait` is found. -/
theorem get_trait_class (hI : nI = true → o.itraits = []) (hstar : NoStar c) (hw : w.objs[oi]? = some o)
    (hi : o.itraits.get name = none) (ss : List Stmt)
    (hss : ∀ w' o' nI', (nI' = true → o'.itraits = []) → w'.objs[oi]? = some o' → ∀ c' fr' er' env' t,
      envGet env' .obj = .obj → envGet env' .name = .name name → envGet env' .instance_ = .int inst →
      asGetTrait (leave e false (execs ⟨E, user6 E⟩ false ss
        (St.mk w' oi o' c' nI' nO fr' er' ((.trait, .trait t) :: env')))) =
      some (if inst ≤ 0 then (w', .ok (.trait (some t)))
        else ({ w' with objs := w'.objs.modify oi (fun o => { o with itraits := o.itraits.set name t }) },
          .ok (.trait (some t))))) :
    asGetTrait (leave e false (execs ⟨E, user6 E⟩ false
        (ResolveC.get_trait.stmt 2 :: ResolveC.get_trait.stmt 3 :: ResolveC.get_trait.stmt 4 :: ss)
        (St.mk w oi o c nI nO fr er env))) = some (getTrait w oi o c name inst) := by
  simp only [Fun.stmt, ResolveC.get_trait, List.getD_cons_succ, List.getD_cons_zero, getTrait, hi]
  resl_eval [hin]
  by_cases h1 : inst = 1
  · resl_eval [h1]; rfl
  · resl_eval [ho, hn, h1]
    cases hc : c.ctraits.get name with
    | some t => resl_eval [ho, hn, hin, hc, hss w o nI hI hw]
    | none =>
      resl_eval [hin, hc]
      by_cases h0 : inst = 0
      · resl_eval [h0]; rfl
      · cases hpt : prefixTrait c o name false with
        | error x =>
          obtain ⟨hm, hr⟩ := get_prefix_trait_error E w oi o c nI nO name false 0 rfl hI hstar hpt
          rw [hm]
          resl_eval [ho, hn, h0, hr]
          rfl
        | ok t =>
          obtain ⟨tt, hm, hr⟩ := get_prefix_trait_ok E w oi o c nI nO name false 0 rfl hI hstar hpt
          rw [hm]
          resl_eval [ho, hn, hin, h0, hr, hss ⟨w.classes.set o.cls { c with ctraits := c.ctraits.set name t }, _⟩
            (fireTraitAdded o name) (nI && (fireTraitAdded o name).itraits.isEmpty)
            (by simp only [Bool.and_eq_true, List.isEmpty_iff]; exact fun h => h.2) (getElem?_set_self' hw)]

/-- The instance-trait lookup, given what the statements after it return when there is none. -/
theorem get_trait_instance (hI : nI = true → o.itraits = []) (ss : List Stmt)
    (hss : o.itraits.get name = none → ∀ env', envGet env' .obj = .obj → envGet env' .name = .name name →
      envGet env' .instance_ = .int inst →
      asGetTrait (leave e false (execs ⟨E, user6 E⟩ false ss (St.mk w oi o c nI nO fr er env'))) =
        some (getTrait w oi o c name inst)) :
    asGetTrait (leave e false (execs ⟨E, user6 E⟩ false (ResolveC.get_trait.stmt 0 :: ResolveC.get_trait.stmt 1 :: ss)
        (St.mk w oi o c nI nO fr er env))) = some (getTrait w oi o c name inst) := by
  simp only [Fun.stmt, ResolveC.get_trait, List.getD_cons_succ, List.getD_cons_zero]
  cases nI with
  | true => resl_eval [ho, hn, hin, hss (by rw [hI rfl]; rfl)]
  | false =>
    cases hi : o.itraits.get name with
    | some t => resl_eval [ho, hn, hin, hi, getTrait]; rfl
    | none => resl_eval [ho, hn, hin, hi, hss hi]

end get_trait

theorem get_trait_src (E : Env) (st : St) (name : Name) (inst : Int)
    (hI : st.nullI = true → st.o.itraits = []) (hstar : NoStar st.c) (hw : st.w.objs[st.oi]? = some st.o) :
    asGetTrait (user7 E .get_trait [.obj, .name name, .int inst] st)
      = some (getTrait st.w st.oi st.o st.c name inst) := by
  obtain ⟨w, oi, o, c, nI, nO, fr, er, env⟩ := st
  simp only [user7, runFun_mk]
  exact get_trait_instance E w oi o c nI nO fr er _ env name inst rfl rfl rfl hI _ fun hi env' ho hn hin =>
    get_trait_class E w oi o c nI nO fr er env' env name inst ho hn hin hI hstar hw hi _
      fun w' o' nI' hI' hw' c' fr' er' env'' t ho hn hin =>
        get_trait_clone E w' oi o' c' nI' nO fr' er' env'' env name inst ho hn hin t hI' hw'

end TraitsVerif.Model.ResL
