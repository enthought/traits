/-
Facts about the `TraitDict` model: what the `update` loop accumulates, the
reconstruction law for each shape of notification, `dict_event_factory`.
-/
import TraitsVerif.Model.TraitDict
import TraitsVerif.Lemmas.MapDict
namespace TraitsVerif.Model.Map
open TraitsVerif TraitsVerif.Py
open TraitsVerif.Py.Dict
variable {K V : Type} [DecidableEq K]

/-! #### the update loop -/

/-! The arms of `updLoop`: no pair left; the key is in `d` (goes to `changed`); it is not (goes to `added`). -/

theorem updLoop_validated (d : Dict K V) (ps : List (K × V)) (acc : UpdAcc K V) :
    (updLoop d ps acc).validated = update acc.validated ps := by
  fun_induction updLoop d ps acc <;> simp [update, *]

theorem updLoop_added (d : Dict K V) (ps : List (K × V)) (acc : UpdAcc K V) (k : K) :
    get? (updLoop d ps acc).added k =
      match get? d k, lastVal ps k with
      | none, some x => some x
      | _, _ => get? acc.added k := by
  fun_induction updLoop d ps acc <;> simp only [lastVal, *] <;> grind [get?_set]

theorem updLoop_changed (d : Dict K V) (ps : List (K × V)) (acc : UpdAcc K V) (k : K) :
    get? (updLoop d ps acc).changed k =
      match get? d k, lastVal ps k with
      | some old, some _ => some old
      | _, _ => get? acc.changed k := by
  fun_induction updLoop d ps acc <;> simp only [lastVal, *] <;> grind [get?_set]

/-! #### the reconstruction law, shape by shape -/

theorem reconstructs_removed {d : Dict K V} {k : K} {x : V} (h : get? d k = some x) :
    Reconstructs d (erase d k) ⟨[(k, x)], [], []⟩ := by
  constructor <;> intros <;> simp_all [rebuildGet, get?_erase, get?_cons, contains_eq] <;> grind

theorem reconstructs_clear (d : Dict K V) : Reconstructs d [] ⟨d, [], []⟩ := by
  constructor <;> intros <;> simp_all [rebuildGet, contains_eq]
  split <;> simp_all

theorem reconstructs_popitem {d : Dict K V} (hwf : WF d) {k : K} {x : V} (h : d.getLast? = some (k, x)) :
    Reconstructs d d.dropLast ⟨[(k, x)], [], []⟩ := by
  rw [(popitem_eq_erase hwf h).2]; exact reconstructs_removed (popitem_eq_erase hwf h).1

theorem updLoop_validated_nil (d : Dict K V) (ps : List (K × V)) :
    (updLoop d ps {}).validated = ofPairs ps := by
  rw [updLoop_validated]; rfl

theorem reconstructs_update (d : Dict K V) (ps : List (K × V)) :
    Reconstructs d (update d ps) ⟨[], (updLoop d ps {}).added, (updLoop d ps {}).changed⟩ := by
  constructor
  · intro k v h
    simp only [updLoop_added] at h
    simp only [get?_update]
    grind [get?_nil]
  · intro k v h
    simp only [updLoop_changed] at h
    simp only [contains_eq, get?_update]
    grind [get?_nil]
  · intro k v h; simp at h
  · intro k
    simp only [rebuildGet, get?_nil, contains_eq, updLoop_changed, updLoop_added, get?_update]
    cases hd : get? d k <;> cases hl : lastVal ps k <;> simp

/-- What the loop has put into `added` or `changed` stays there. -/
theorem updLoop_ne_nil (d : Dict K V) (ps : List (K × V)) (acc : UpdAcc K V)
    (h : acc.added ≠ [] ∨ acc.changed ≠ []) :
    (updLoop d ps acc).added ≠ [] ∨ (updLoop d ps acc).changed ≠ [] := by
  fun_induction updLoop d ps acc
  · exact h
  · rename_i ih; exact ih (.inr (set_ne_nil _ _ _))
  · rename_i ih; exact ih (.inl (set_ne_nil _ _ _))

theorem updLoop_silent_iff (d : Dict K V) (ps : List (K × V)) :
    ((updLoop d ps {}).added.isEmpty && (updLoop d ps {}).changed.isEmpty) = true ↔ ps = [] := by
  refine ⟨fun h => ?_, fun h => by subst h; rfl⟩
  cases ps with
  | nil => rfl
  | cons p ps =>
    simp only [Bool.and_eq_true, List.isEmpty_iff, updLoop] at h
    split at h
    · exact (updLoop_ne_nil d ps _ (.inr (set_ne_nil _ _ _))).elim (absurd h.1) (absurd h.2)
    · exact (updLoop_ne_nil d ps _ (.inl (set_ne_nil _ _ _))).elim (absurd h.1) (absurd h.2)

/-! #### dict_event_factory -/

theorem mergeAdded_spec (post : Dict K V) (cs : List (K × V)) (a : Dict K V)
    (hc : ∀ k, (get? cs k).isSome = true → (get? post k).isSome = true) :
    ∃ a', mergeAdded post cs a = some a' ∧
      ∀ k, get? a' k = if (get? cs k).isSome then get? post k else get? a k := by
  fun_induction mergeAdded post cs a with
  | case1 a => exact ⟨a, rfl, by simp⟩
  | case2 k1 _ cs a hg => simpa [get?_cons, hg] using hc k1          -- `trait_dict[key]` raises
  | case3 k1 _ cs a w hg ih =>
    obtain ⟨a', ha, hs⟩ := ih fun k hk => hc k (by rw [get?_cons]; split <;> simp [hk])
    refine ⟨a', ha, fun k => ?_⟩
    rw [hs, get?_set, get?_cons]
    by_cases h : k1 = k
    · subst h; simp [hg]
    · simp [h]

theorem lastVal_eq_get? {ps : Dict K V} (hwf : WF ps) (k : K) : lastVal ps k = get? ps k := by
  induction ps with
  | nil => rfl
  | cons p ps ih =>
    obtain ⟨k', v⟩ := p
    have hwf' : k' ∉ keys ps ∧ WF ps := by simpa [WF, keys] using hwf
    simp only [lastVal, get?_cons, ih hwf'.2]
    by_cases h : k' = k
    · subst h; simp [get?_eq_none_iff.mpr hwf'.1]
    · simp only [h, if_false]; cases get? ps k <;> rfl

theorem updLoop_wf (d : Dict K V) (ps : List (K × V)) (acc : UpdAcc K V)
    (h : WF acc.added ∧ WF acc.changed) :
    WF (updLoop d ps acc).added ∧ WF (updLoop d ps acc).changed := by
  fun_induction updLoop d ps acc
  · exact h
  · rename_i ih; exact ih ⟨h.1, wf_set h.2 _ _⟩
  · rename_i ih; exact ih ⟨wf_set h.1 _ _, h.2⟩

/-! #### the reconstruction as a dict -/

theorem get?_reconstruct (post : Dict K V) (t : Triple K V) (k : K) :
    get? (reconstruct post t) k =
      match get? t.removed k with
      | some v => some v
      | none => if contains t.added k then none else (get? post k).map (fun v => (get? t.changed k).getD v) := by
  unfold reconstruct
  rw [get?_append, get?_map fun k v => (get? t.changed k).getD v, get?_filter fun k => !contains t.added k]
  cases get? t.removed k <;> cases contains t.added k <;> rfl

theorem reconstruct_equiv {pre post : Dict K V} {t : Triple K V} (h : Reconstructs pre post t) :
    Dict.Equiv (reconstruct post t) pre := by
  intro k
  rw [get?_reconstruct, h.pre_eq k]
  simp only [rebuildGet]
  cases hr : get? t.removed k with
  | some v => rfl
  | none =>
    simp only []
    cases hc : get? t.changed k with
    | none => cases get? post k <;> simp
    | some old =>
      have h1 := h.changed_old k old hc
      cases ha : get? t.added k with
      | some w => have := h.added_new k w ha; rw [this.1] at h1; cases h1.1
      | none =>
        simp only [contains_eq, ha, Option.isSome_none, Bool.false_eq_true, if_false]
        have := h1.2
        rw [contains_eq] at this
        cases hp : get? post k with
        | none => rw [hp] at this; cases this
        | some w => simp

/-! #### the observers' merged view -/

theorem observer_view {pre post : Dict K V} {t : Triple K V} (h : Reconstructs pre post t)
    (hwf : WF t.changed) :
    ∃ ev, dictEventFactory post t = .ok (ev, t) ∧ ObserverView pre post ev ∧
      ∀ k, get? ev.removed k = match get? t.changed k with | some x => some x | none => get? t.removed k := by
  obtain ⟨a', ha, hs⟩ := mergeAdded_spec post t.changed t.added fun k hk => by
    obtain ⟨v, hv⟩ := Option.isSome_iff_exists.mp hk
    exact (h.changed_old k v hv).2
  have hrem : ∀ k, get? (update t.removed t.changed) k =
      match get? t.changed k with | some x => some x | none => get? t.removed k := by
    intro k; rw [get?_update, lastVal_eq_get? hwf]
    cases get? t.changed k <;> rfl
  refine ⟨⟨update t.removed t.changed, a'⟩, by simp [dictEventFactory, ha], ?_, hrem⟩
  -- At a changed key the observers see the old value removed and the current one added; at any other key what
  -- the raw triple says.
  have hview : ∀ k, (get? t.changed k = none ∧ get? (update t.removed t.changed) k = get? t.removed k ∧
        get? a' k = get? t.added k) ∨
      ∃ x w, get? (update t.removed t.changed) k = some x ∧ get? a' k = some w ∧ get? pre k = some x ∧
        get? post k = some w := fun k => by
    rw [hrem, hs]
    cases hc : get? t.changed k with
    | none => exact .inl ⟨rfl, rfl, rfl⟩
    | some x =>
      obtain ⟨hp, hq⟩ := h.changed_old k x hc
      obtain ⟨w, hw⟩ := Option.isSome_iff_exists.mp (contains_eq post k ▸ hq)
      exact .inr ⟨x, w, rfl, by simpa using hw, hp, hw⟩
  constructor <;> intro k <;> rcases hview k with ⟨hc, e1, e2⟩ | ⟨x, w, e1, e2, hp, hq⟩ <;>
    simp only [contains_eq, e1, e2]
  -- the five clauses, each at an unchanged and at a changed key
  · exact fun v hv => (h.added_new k v hv).2
  · simp [hq]
  · exact fun v hv => (h.removed_gone k v hv).1
  · simp [hp]
  · intro hr _; obtain ⟨v, hv⟩ := Option.isSome_iff_exists.mp hr; exact (h.removed_gone k v hv).2
  · simp
  · intro hd _; obtain ⟨v, hv⟩ := Option.isSome_iff_exists.mp hd; exact (h.added_new k v hv).1
  · simp
  · rw [h.pre_eq k, rebuildGet, hc, contains_eq]
  · simp [hp]

theorem notifyAll_faithful {pre post : Dict K V} {t : Triple K V} (h : Reconstructs pre post t)
    (hwf : WF t.changed) (ns : List NotifierKind) :
    (notifyAll post ns t).length = ns.length ∧ ∀ s ∈ notifyAll post ns t, s.Faithful pre post := by
  induction ns with
  | nil => simp [notifyAll]
  | cons n ns ih =>
    cases n with
    | raw =>
      simp only [notifyAll, List.length_cons, List.forall_mem_cons, ih.1]
      exact ⟨trivial, h, ih.2⟩
    | observer =>
      obtain ⟨ev, he, hv, _⟩ := observer_view h hwf
      simp only [notifyAll, he, List.length_cons, List.forall_mem_cons, ih.1]
      exact ⟨trivial, hv, ih.2⟩

/-! #### the factory as a program -/

theorem dictEventFactoryProg_body (post : Dict K V) (t : Triple K V) :
    dictEventFactoryProg factoryBody post t = dictEventFactory post t := by
  simp only [dictEventFactoryProg, factoryBody, execF, dictEventFactory, FState.removedVal, FState.addedVal,
    FState.setRemoved, FState.setAdded, Option.getD_some, Option.getD_none]
  cases mergeAdded post t.changed t.added <;> rfl

theorem notifyAllProg_body (post : Dict K V) (ns : List NotifierKind) (t : Triple K V) :
    notifyAllProg factoryBody post ns t = notifyAll post ns t := by
  induction ns generalizing t with
  | nil => rfl
  | cons n ns ih =>
    cases n with
    | raw => simp only [notifyAllProg, notifyAll, ih]
    | observer =>
      simp only [notifyAllProg, notifyAll, dictEventFactoryProg_body]
      cases dictEventFactory post t with
      | error e => rfl
      | ok r => simp only [ih]

end TraitsVerif.Model.Map
