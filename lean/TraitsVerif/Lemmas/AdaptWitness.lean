/-
Concrete configurations used by the negation witnesses and the non-vacuity examples
of `Props/C17.lean`.  Each one is replayed on the real code by the C17 harness
(corpus of `harness/props/c17.py`).
-/
import TraitsVerif.Lemmas.AdaptExtra
namespace TraitsVerif.Lemmas.Adapt
open TraitsVerif TraitsVerif.Model.Adapt

/-- issubclass table from a list of strict pairs (reflexive closure added). -/
def providesOf (pairs : List (Nat × Nat)) (t p : Nat) : Bool := t == p || pairs.contains (t, p)

def okFactory : Factory Unit := fun _ _ a => .adapter a

def refusing (ids : List Nat) : Factory Unit := fun _ o a => if ids.contains o.id then .none else .adapter a

/-- F14.  0 = IBase, 1 = IChild(IBase), 2 = IOther, 3 = Foo (provides IChild and IOther
by registration, so every distance is 0), 4 = T.  Offers registered in the order
IBase→T, IOther→T, IChild→T. -/
def specCfg : Cfg :=
  { provides := providesOf [(1, 0), (3, 0), (3, 1), (3, 2)]
    supers := fun _ => []
    groups := [[⟨0, 0, 4, 0⟩], [⟨1, 2, 4, 2⟩], [⟨2, 1, 4, 1⟩]] }

/-- F16.  0 = A.P, 1 = B.P (same `__name__`, same module: one bucket, key 0), 2 = T, 3 = U.
Registered: A.P→U, then B.P→T. -/
def collideCfg : Cfg :=
  { provides := providesOf []
    supers := fun _ => []
    groups := [[⟨0, 0, 3, 0⟩, ⟨1, 1, 2, 0⟩]] }

/-- Offers 0→2 (direct; id 0, the one `refusing [0]` declines), 0→1, 1→2, and 2→0 closing a cycle;
type 3 is a subclass of 0 (distance 1). -/
def chainCfg : Cfg :=
  { provides := providesOf [(3, 0)]
    supers := fun t => if t == 3 then [0] else []
    groups := [[⟨0, 0, 2, 0⟩, ⟨1, 0, 1, 0⟩], [⟨2, 1, 2, 1⟩], [⟨3, 2, 0, 2⟩]] }

/-- 0 = Base, 1 = Sub(Base), 2 = T; the Base offer is registered before the Sub offer. -/
def distCfg : Cfg :=
  { provides := providesOf [(1, 0)]
    supers := fun t => if t == 1 then [0] else []
    groups := [[⟨0, 0, 2, 0⟩], [⟨1, 1, 2, 1⟩]] }

/-- Two one-step offers 0→1 in one bucket. -/
def twoCfg : Cfg :=
  { provides := providesOf []
    supers := fun _ => []
    groups := [[⟨0, 0, 1, 0⟩, ⟨1, 0, 1, 0⟩]] }

/-- A factory whose answer depends on *when* it is called: only the very first
factory call of the `adapt` call is accepted, and only for offer 1. -/
def firstCallOnly : Factory Unit := fun k o a => if k == 0 && o.id == 1 then .adapter a else .none

theorem distCfg_homogeneous : Homogeneous distCfg := homogeneous_of_all rfl

theorem twoCfg_homogeneous : Homogeneous twoCfg := homogeneous_of_all rfl

/-- Late registration.  0 = Printable (ABC), 1 = Legacy, 2 = LegacyChild(Legacy), 3 = Page; one offer
Printable→Page.  `late = false`: before `Printable.register(Legacy)`; `late = true`: after. -/
def lateCfg (late : Bool) : Cfg :=
  { provides := providesOf (if late then [(2, 1), (1, 0), (2, 0)] else [(2, 1)])
    supers := fun t => if t == 2 then [1] else []
    groups := [[⟨0, 0, 3, 0⟩]] }

theorem specCfg_homogeneous : Homogeneous specCfg := homogeneous_of_all rfl

theorem chainCfg_homogeneous : Homogeneous chainCfg := homogeneous_of_all rfl

theorem okFactory_det : Deterministic okFactory := fun _ _ _ _ => rfl
theorem refusing_det (ids : List Nat) : Deterministic (refusing ids) := fun _ _ _ _ => rfl
theorem okFactory_noRaise : NoRaise okFactory := by intro k o a e h; simp [okFactory] at h
theorem refusing_noRaise (ids : List Nat) : NoRaise (refusing ids) := by
  intro k o a e h
  simp only [refusing] at h
  split at h <;> cases h

end TraitsVerif.Lemmas.Adapt
