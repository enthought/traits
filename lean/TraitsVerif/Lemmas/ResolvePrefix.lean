/-
The prefix (wildcard) table: the sort of `update_traits_class_dict`, the search
of `__prefix_trait__`, and what `mkClass` puts into the tables of a class.
-/
import TraitsVerif.Lemmas.ResolveMap
namespace TraitsVerif.Model.Resolve
open TraitsVerif

/-! ### the sort -/

/-- Longest first. -/
def Sorted (l : List (Name × Trait)) : Prop :=
  l.Pairwise (fun a b => a.1.length ≥ b.1.length)

theorem insertDesc_perm (e : Name × Trait) (l : List (Name × Trait)) : (insertDesc e l).Perm (e :: l) := by
  induction l with
  | nil => exact List.Perm.refl _
  | cons x xs ih =>
    unfold insertDesc
    split
    · exact (List.Perm.cons x ih).trans (List.Perm.swap e x xs)
    · exact List.Perm.refl _

theorem sortPrefixes_perm (l : List (Name × Trait)) : (sortPrefixes l).Perm l := by
  induction l with
  | nil => exact List.Perm.refl _
  | cons e es ih =>
    unfold sortPrefixes
    exact (insertDesc_perm e _).trans (List.Perm.cons e ih)

theorem mem_sortPrefixes {l : List (Name × Trait)} {e : Name × Trait} : e ∈ sortPrefixes l ↔ e ∈ l :=
  (sortPrefixes_perm l).mem_iff

theorem insertDesc_sorted (e : Name × Trait) {l : List (Name × Trait)} (h : Sorted l) :
    Sorted (insertDesc e l) := by
  induction l with
  | nil => simp [insertDesc, Sorted]
  | cons x xs ih =>
    unfold Sorted at h ih ⊢
    rw [List.pairwise_cons] at h
    unfold insertDesc
    split
    · rename_i hlt
      rw [List.pairwise_cons]
      refine ⟨?_, ih h.2⟩
      intro y hy
      rcases List.mem_cons.mp ((insertDesc_perm e xs).mem_iff.mp hy) with hy | hy
      · subst hy; omega
      · exact h.1 y hy
    · rename_i hnlt
      rw [List.pairwise_cons, List.pairwise_cons]
      refine ⟨?_, h.1, h.2⟩
      intro y hy
      rcases List.mem_cons.mp hy with hy | hy
      · subst hy; omega
      · have := h.1 y hy; omega

theorem sortPrefixes_sorted (l : List (Name × Trait)) : Sorted (sortPrefixes l) := by
  induction l with
  | nil => simp [sortPrefixes, Sorted]
  | cons e es ih => unfold sortPrefixes; exact insertDesc_sorted e ih

/-- The sort is stable: entries of equal length keep their relative order
(`list.sort` with `reverse=True` preserves stability). -/
theorem insertDesc_filter_len (e : Name × Trait) (l : List (Name × Trait)) (n : Nat) :
    (insertDesc e l).filter (fun x => x.1.length = n) = (e :: l).filter (fun x => x.1.length = n) := by
  induction l with
  | nil => rfl
  | cons x xs ih =>
    unfold insertDesc
    split
    · rename_i hlt
      simp only [List.filter_cons] at ih ⊢
      by_cases hx : x.1.length = n
      · have he : ¬ e.1.length = n := by omega
        simp [hx, he] at ih ⊢
        exact ih
      · simp [hx] at ih ⊢
        exact ih
    · rfl

theorem sortPrefixes_stable (l : List (Name × Trait)) (n : Nat) :
    (sortPrefixes l).filter (fun x => x.1.length = n) = l.filter (fun x => x.1.length = n) := by
  induction l with
  | nil => rfl
  | cons e es ih =>
    unfold sortPrefixes
    rw [insertDesc_filter_len]
    simp only [List.filter_cons]
    rw [ih]

/-! ### the search -/

theorem prefixMatches_iff {p n : Name} : prefixMatches p n = true ↔ p <+: n := by
  unfold prefixMatches
  rw [List.prefix_iff_eq_take]
  simp

theorem prefix_eq_of_length_eq {p q n : Name} (hp : p <+: n) (hq : q <+: n) (h : p.length = q.length) :
    p = q := by
  rw [List.prefix_iff_eq_take] at hp hq
  rw [hp, hq, h]

theorem firstMatch_some {ps : List (Name × Trait)} {name : Name} {e : Name × Trait}
    (h : firstMatch ps name = some e) : e ∈ ps ∧ e.1 <+: name := by
  unfold firstMatch at h
  have h2 := List.find?_some h
  exact ⟨List.mem_of_find?_eq_some h, prefixMatches_iff.mp h2⟩

theorem firstMatch_none {ps : List (Name × Trait)} {name : Name}
    (h : firstMatch ps name = none) : ∀ e ∈ ps, ¬ e.1 <+: name := by
  unfold firstMatch at h
  intro e he hp
  have := List.find?_eq_none.mp h e he
  exact this (prefixMatches_iff.mpr hp)

theorem firstMatch_cons (x : Name × Trait) (xs : List (Name × Trait)) (name : Name) :
    firstMatch (x :: xs) name = if prefixMatches x.1 name then some x else firstMatch xs name := by
  unfold firstMatch; rw [List.find?_cons]; cases prefixMatches x.1 name <;> rfl

/-- The first match is the entry a lookup of its own prefix finds: an earlier entry with the same prefix
would have matched before it. -/
theorem firstMatch_get {ps : List (Name × Trait)} {name : Name} {e : Name × Trait}
    (h : firstMatch ps name = some e) : Map.get ps e.1 = some e.2 := by
  induction ps with
  | nil => cases h
  | cons x xs ih =>
    rw [firstMatch_cons] at h
    rw [Map.get_cons]
    cases hm : prefixMatches x.1 name with
    | true => rw [hm, if_pos rfl] at h; cases h; rw [if_pos rfl]
    | false =>
      rw [hm, if_neg Bool.false_ne_true] at h
      rw [if_neg, ih h]
      intro hx
      rw [hx, prefixMatches_iff.mpr (firstMatch_some h).2] at hm
      cases hm

theorem firstMatch_longest {ps : List (Name × Trait)} (hs : Sorted ps) {name : Name} {e : Name × Trait}
    (h : firstMatch ps name = some e) : ∀ e' ∈ ps, e'.1 <+: name → e'.1.length ≤ e.1.length := by
  induction ps with
  | nil => simp [firstMatch] at h
  | cons x xs ih =>
    unfold Sorted at hs
    rw [List.pairwise_cons] at hs
    unfold firstMatch at h
    rw [List.find?_cons] at h
    intro e' he' hp'
    cases hx : prefixMatches x.1 name with
    | true =>
      rw [hx] at h
      cases h
      rcases List.mem_cons.mp he' with he' | he'
      · subst he'; exact Nat.le_refl _
      · exact hs.1 e' he'
    | false =>
      rw [hx] at h
      rcases List.mem_cons.mp he' with he' | he'
      · subst he'
        rw [prefixMatches_iff.mpr hp'] at hx; cases hx
      · exact ih hs.2 h e' he' hp'

theorem firstMatch_total {ps : List (Name × Trait)} (h : ∃ t, ([], t) ∈ ps) (name : Name) :
    ∃ e, firstMatch ps name = some e := by
  cases hf : firstMatch ps name with
  | some e => exact ⟨e, rfl⟩
  | none =>
    obtain ⟨t, ht⟩ := h
    exact absurd (List.nil_prefix) (firstMatch_none hf ([], t) ht)

/-- With distinct keys the first match is determined by the *set* of entries:
any entry that is a longest match is the one returned. -/
theorem firstMatch_unique {ps : List (Name × Trait)} (hs : Sorted ps) (hn : NodupKeys ps) {name : Name}
    {e e' : Name × Trait} (h : firstMatch ps name = some e) (he' : e' ∈ ps) (hp' : e'.1 <+: name)
    (hmax : ∀ x ∈ ps, x.1 <+: name → x.1.length ≤ e'.1.length) : e' = e := by
  obtain ⟨hmem, hp⟩ := firstMatch_some h
  have h1 := firstMatch_longest hs h e' he' hp'
  have h2 := hmax e hmem hp
  have hk : e'.1 = e.1 := prefix_eq_of_length_eq hp' hp (by omega)
  have g1 := hn.get_of_mem (k := e'.1) (v := e'.2) he'
  have g2 := hn.get_of_mem (k := e.1) (v := e.2) hmem
  rw [hk] at g1
  rw [g1] at g2
  cases e; cases e'; simp_all

/-! ### the tables of a class built by `mkClass` -/

theorem ensureDefault_mem {pl : List (Name × Trait)} : ∃ t, ([], t) ∈ ensureDefault pl := by
  unfold ensureDefault
  cases h : Map.get pl [] with
  | some t => exact ⟨t, Map.mem_of_get h⟩
  | none => exact ⟨pythonDefault, by simp⟩

theorem ensureDefault_get (pl : List (Name × Trait)) (k : Name) :
    Map.get (ensureDefault pl) k = match Map.get pl k with
      | some v => some v
      | none => if k = [] then some pythonDefault else none := by
  unfold ensureDefault
  cases h : Map.get pl [] with
  | some t =>
    cases hk : Map.get pl k with
    | some v => rfl
    | none =>
      have : k ≠ [] := by intro hk'; subst hk'; rw [h] at hk; cases hk
      simp [this]
  | none =>
    simp only [Map.get_append, Map.get_cons, Map.get_nil]
    cases hk : Map.get pl k with
    | some v => rfl
    | none =>
      by_cases hk' : k = []
      · subst hk'; simp
      · have : ¬ ([] : Name) = k := fun h => hk' h.symm
        simp [hk', this]

theorem ensureDefault_nodup {pl : List (Name × Trait)} (h : NodupKeys pl) : NodupKeys (ensureDefault pl) := by
  unfold ensureDefault
  cases hg : Map.get pl [] with
  | some t => exact h
  | none => exact h.snoc hg

theorem ensureDefault_mem_cases {pl : List (Name × Trait)} {e : Name × Trait} (h : e ∈ ensureDefault pl) :
    e ∈ pl ∨ e = ([], pythonDefault) := by
  unfold ensureDefault at h
  cases hg : Map.get pl [] with
  | some t => rw [hg] at h; exact Or.inl h
  | none =>
    rw [hg] at h
    rcases List.mem_append.mp h with h | h
    · exact Or.inl h
    · simp at h; exact Or.inr h

theorem mkClass_sorted (bases : List Cls) (decls : List (Name × Trait)) :
    Sorted (mkClass bases decls).prefixes := sortPrefixes_sorted _

theorem mkClass_hasDefault (bases : List Cls) (decls : List (Name × Trait)) :
    ∃ t, ([], t) ∈ (mkClass bases decls).prefixes := by
  obtain ⟨t, ht⟩ := ensureDefault_mem
    (pl := bases.foldl (fun acc b => mergePrefixes acc b.prefixes) (ownPrefixes decls))
  exact ⟨t, mem_sortPrefixes.mpr ht⟩

theorem mkClass_nodup {bases : List Cls} {decls : List (Name × Trait)}
    (h : NodupKeys (ownPrefixes decls)) : NodupKeys (mkClass bases decls).prefixes := by
  unfold mkClass
  exact (ensureDefault_nodup (foldl_mergePrefixes_nodup _ h)).perm (sortPrefixes_perm _).symm

theorem mkClass_prefix_mem {bases : List Cls} {decls : List (Name × Trait)} {e : Name × Trait}
    (h : e ∈ (mkClass bases decls).prefixes) :
    e ∈ ownPrefixes decls ∨ (∃ b ∈ bases, e ∈ b.prefixes) ∨ e = ([], pythonDefault) := by
  unfold mkClass at h
  rcases ensureDefault_mem_cases (mem_sortPrefixes.mp h) with h | h
  · rcases foldl_mergePrefixes_mem _ h with h | h
    · exact Or.inl h
    · exact Or.inr (Or.inl h)
  · exact Or.inr (Or.inr h)

theorem mkClass_prefix_get {bases : List Cls} {decls : List (Name × Trait)}
    (h : NodupKeys (ownPrefixes decls)) (p : Name) :
    Map.get (mkClass bases decls).prefixes p = match Map.get (ownPrefixes decls) p with
      | some t => some t
      | none => match firstSome (bases.map (fun b => Map.get b.prefixes p)) with
        | some t => some t
        | none => if p = [] then some pythonDefault else none := by
  have hn := ensureDefault_nodup (foldl_mergePrefixes_nodup (fun b : Cls => b.prefixes) (bases := bases) h)
  unfold mkClass
  simp only
  rw [← Map.get_perm hn (sortPrefixes_perm _).symm, ensureDefault_get, foldl_mergePrefixes_get]
  cases Map.get (ownPrefixes decls) p with
  | some t => rfl
  | none => rfl

theorem mkClass_ctraits_get (bases : List Cls) (decls : List (Name × Trait)) (n : Name) :
    (mkClass bases decls).ctraits.get n = match (ownTraits decls).get n with
      | some t => some t
      | none => firstSome (bases.map (fun b => b.ctraits.get n)) :=
  foldl_mergeMap_get (fun b : Cls => b.ctraits) bases _ n

theorem mkClass_decl_get (bases : List Cls) (decls : List (Name × Trait)) (n : Name) :
    (mkClass bases decls).decl.get n = match (ownTraits decls).get n with
      | some t => some t
      | none => firstSome (bases.map (fun b => b.decl.get n)) :=
  foldl_mergeMap_get (fun b : Cls => b.decl) bases _ n

theorem ownTraits_mem {decls : List (Name × Trait)} {e : Name × Trait} (h : e ∈ ownTraits decls) :
    e ∈ decls := (List.mem_filter.mp h).1

theorem ownPrefixes_mem {decls : List (Name × Trait)} {e : Name × Trait} (h : e ∈ ownPrefixes decls) :
    ∃ d ∈ decls, e.2 = d.2 := by
  unfold ownPrefixes at h
  obtain ⟨d, hd, rfl⟩ := List.mem_map.mp h
  exact ⟨d, (List.mem_filter.mp hd).1, rfl⟩

end TraitsVerif.Model.Resolve
