/-
The copy operation of C11 (`Pool.restore`: pickle round trip of the pool / `copy.copy` of one object, both
through `HasTraits.__setstate__`): it preserves every invariant the C11 theorems are proved from, reads,
and the link state — so every theorem stated "in every pool satisfying `Inv`" continues to hold on copies.
-/
import TraitsVerif.Lemmas.DelegInv
namespace TraitsVerif.Model.Deleg
open TraitsVerif

theorem restore_cls (p : Pool) (w : Option ObjId) (j : ObjId) : ((p.restore w).obj j).cls = (p.obj j).cls := by
  unfold Pool.restore; simp only; split <;> rfl

theorem restore_dict (p : Pool) (w : Option ObjId) (j : ObjId) : ((p.restore w).obj j).dict = (p.obj j).dict := by
  unfold Pool.restore; simp only; split <;> rfl

theorem restore_deleg (p : Pool) (w : Option ObjId) (j : ObjId) : ((p.restore w).obj j).deleg = (p.obj j).deleg := by
  unfold Pool.restore; simp only; split <;> rfl

theorem restore_fwd (p : Pool) (w : Option ObjId) (j : ObjId) (n : Name) :
    ((p.restore w).obj j).fwd n =
      if w = none ∨ w = some j then
        (match (p.obj j).cls.trait n with
         | .defer _ => (match (p.obj j).dict n with | some _ => none | none => some (p.obj j).deleg)
         | _ => none)
      else (p.obj j).fwd n := by
  unfold Pool.restore; simp only; split <;> rfl

theorem read_restore (p : Pool) (w : Option ObjId) (f : Nat) (o : ObjId) (n : Name) :
    read (p.restore w) f o n = read p f o n := by
  fun_induction read p f o n <;> simp only [read, restore_dict, restore_cls, restore_deleg, *]

theorem restore_inv (p : Pool) (w : Option ObjId) (I : Inv p) : Inv (p.restore w) := by
  refine ⟨fun o => by rw [restore_cls]; exact I.wf o, ?_, ?_, ?_⟩
  · intro o n d htd hm
    rw [restore_cls] at htd; rw [restore_dict]; exact I.noLocal o n d htd hm
  · intro o n
    rw [restore_cls, restore_dict, restore_fwd]
    split
    · refine ⟨?_, ?_⟩
      · intro h
        cases ht : (p.obj o).cls.trait n with
        | defer d => exact ⟨d, rfl⟩
        | plain a b c => simp [ht] at h
        | python => simp [ht] at h
      · intro d htd hd
        simp only [htd]
        cases hdn : (p.obj o).dict n with
        | none => exact absurd hdn hd
        | some v => rfl
    · exact I.fwd o n
  · intro o n h hf
    rw [restore_deleg]
    rw [restore_fwd] at hf
    split at hf
    · cases ht : (p.obj o).cls.trait n with
      | defer d =>
        simp only [ht] at hf
        cases hdn : (p.obj o).dict n with
        | none => simp only [hdn, Option.some.injEq] at hf; exact hf
        | some v => simp [hdn] at hf
      | plain a b c => simp [ht] at hf
      | python => simp [ht] at hf
    · exact I.hook o n h hf

end TraitsVerif.Model.Deleg
