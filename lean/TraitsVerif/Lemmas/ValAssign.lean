/-
Assignment histories (Model/Assign.lean): store / lookup algebra, the readable
invariant and the shadow invariant of mapped traits.
-/
import TraitsVerif.Lemmas.ValSound
import TraitsVerif.Model.Assign
namespace TraitsVerif.Model.Val.Assign
open TraitsVerif TraitsVerif.Py.Value TraitsVerif.Model.Val

theorem lookup_cons (p : String × Val) (st : State) (m : String) :
    lookup (p :: st) m = if p.1 == m then some p.2 else lookup st m := by
  unfold lookup; rw [List.find?_cons]; cases p.1 == m <;> rfl

/-- `store` is a dictionary update, wherever the key goes in the order. -/
theorem lookup_store (st : State) (n m : String) (v : Val) :
    lookup (store st n v) m = if n == m then some v else lookup st m := by
  induction st with
  | nil => rw [store, lookup_cons]
  | cons p rest ih =>
    rw [store]
    split
    · rename_i h1
      rw [lookup_cons, lookup_cons, ← beq_iff_eq.mp h1]
      cases n == m <;> rfl
    · split
      · rw [lookup_cons]
      · rename_i h1 _
        rw [lookup_cons, lookup_cons, ih]
        by_cases hp : (p.1 == m) = true
        · rw [if_pos hp, if_neg (beq_iff_eq.mp hp ▸ h1), if_pos hp]
        · rw [if_neg hp, if_neg hp]

theorem lookup_store_same (st : State) (n : String) (v : Val) : lookup (store st n v) n = some v := by
  rw [lookup_store, if_pos (beq_self_eq_true n)]

theorem lookup_store_other (st : State) (n m : String) (v : Val) (h : m ≠ n) :
    lookup (store st n v) m = lookup st m := by
  rw [lookup_store, if_neg fun hb => h (beq_iff_eq.mp hb).symm]

theorem shadow_ne (n : String) : n ++ "_" ≠ n := by
  intro h
  have := congrArg String.length h
  simp [String.length_append] at this


variable (E : Env)

/-- Every declared trait is one whose validators are proved sound. -/
def ClassClean (cls : ClassDef) : Prop := ∀ n tt, traitOf cls n = some tt → tt.soundClean = true

/-- The shadow name of a mapped trait is not itself a declared trait. -/
def NoShadowClash (cls : ClassDef) : Prop :=
  ∀ n tt, traitOf cls n = some tt → isMapped tt = true → traitOf cls (n ++ "_") = none

/-- A mapped trait has a value for every key (the two lists come from one dict). -/
def mapWF : TraitType → Bool
  | .map keys vals => decide (keys.length ≤ vals.length)
  | .mapH keys vals => decide (keys.length ≤ vals.length)
  | .prefixMap keys vals => decide (keys.length ≤ vals.length)
  | _ => true

def ClassWF (cls : ClassDef) : Prop := ∀ n tt, traitOf cls n = some tt → mapWF tt = true

/-- Everything stored under a declared name lies in that trait's domain. -/
def Readable (cls : ClassDef) (st : State) : Prop :=
  ∀ n tt w, traitOf cls n = some tt → lookup st n = some w → inDomain E tt w = true

/-- The shadow attribute of every mapped trait holds `map[value]`. -/
def ShadowOK (cls : ClassDef) (st : State) : Prop :=
  ∀ n tt w, traitOf cls n = some tt → isMapped tt = true → lookup st n = some w →
    ∃ s, mappedValue tt w = some s ∧ lookup st (n ++ "_") = some s

theorem mapped_some (tt : TraitType) (v w : Val) (hm : isMapped tt = true) (hwf : mapWF tt = true)
    (h : validate E tt v = .ok w) : ∃ s, mappedValue tt w = some s := by
  cases tt <;> cases hm
  case map keys vals | mapH keys vals =>
    obtain ⟨⟨i, hi⟩, rfl⟩ := fast_map_ok E _ v w h
    have hl := (dictFind_some keys _ i hi).2
    have : i < vals.length := Nat.lt_of_lt_of_le hl (of_decide_eq_true hwf)
    exact ⟨vals[i], by simp [mappedValue, hi, this]⟩
  case prefixMap keys vals =>
    obtain ⟨hd, _⟩ := py_prefix_ok E keys v w h
    cases hs : strOf w with
    | none => rw [hs] at hd; cases hd
    | some s =>
      rw [hs] at hd
      have hsome : (keys.findIdx? (· == s)).isSome := by
        rw [List.findIdx?_isSome, List.any_eq_true]
        exact ⟨s, List.contains_iff_mem.mp hd, beq_self_eq_true s⟩
      obtain ⟨j, hj⟩ := Option.isSome_iff_exists.mp hsome
      have hjl := (List.findIdx?_eq_some_iff_getElem.mp hj).1
      have : j < vals.length := Nat.lt_of_lt_of_le hjl (of_decide_eq_true hwf)
      exact ⟨vals[j], by simp [mappedValue, hs, hj, this]⟩


/-- The shapes of a step on a declared trait: the validator's exception and no
write; or the validated value written, and — for a mapped trait whose value
changed — the shadow attribute written after it, or KeyError after the write
when the value has no mapped value. -/
theorem step_cases (cls : ClassDef) (st : State) (name : String) (v : Val) (tt : TraitType)
    (ht : traitOf cls name = some tt) :
    (∃ e, ((validate E tt v = .traitError ∧ e = .traitError) ∨ validate E tt v = .raised e) ∧
      step E cls st name v = (st, some e)) ∨
    (∃ w, validate E tt v = .ok w ∧
      ((isMapped tt = false ∧ step E cls st name v = (store st name w, none)) ∨
       (isMapped tt = true ∧ lookup st name = some w ∧ step E cls st name v = (store st name w, none)) ∨
       (isMapped tt = true ∧ lookup st name ≠ some w ∧ ∃ s, mappedValue tt w = some s ∧
          step E cls st name v = (store (store st name w) (name ++ "_") s, none)) ∨
       (isMapped tt = true ∧ mappedValue tt w = none ∧ step E cls st name v = (store st name w, some .keyError)))) := by
  simp only [step, ht]
  cases hv : validate E tt v with
  | traitError => exact Or.inl ⟨.traitError, Or.inl ⟨rfl, rfl⟩, rfl⟩
  | raised e => exact Or.inl ⟨e, Or.inr rfl, rfl⟩
  | ok w =>
    refine Or.inr ⟨w, rfl, ?_⟩
    by_cases hm : isMapped tt = true
    · simp only [hm, if_true]
      by_cases hl : lookup st name = some w
      · simp [hl]
      · have : (lookup st name == some w) = false := by simpa using hl
        simp only [this, Bool.false_eq_true, if_false]
        cases hmv : mappedValue tt w <;> simp [hl]
    · simp [hm]

theorem run_induction {P : State → Prop} (cls : ClassDef) (ops : List (String × Val))
    (hstep : ∀ op ∈ ops, ∀ st, P st → P (step E cls st op.1 op.2).1) (st : State) (h : P st) :
    P (run E cls st ops) := by
  induction ops generalizing st with
  | nil => exact h
  | cons op ops ih =>
    exact ih (fun o ho => hstep o (List.mem_cons_of_mem _ ho)) _ (hstep op (List.mem_cons_self ..) st h)

theorem Readable.store {cls : ClassDef} {st : State} (hr : Readable E cls st) (n : String) (w : Val)
    (h : ∀ tt, traitOf cls n = some tt → inDomain E tt w = true) : Readable E cls (store st n w) := by
  intro m tt w' hm hl
  rw [lookup_store] at hl
  split at hl
  · rename_i hb
    cases hl
    exact h tt (beq_iff_eq.mp hb ▸ hm)
  · exact hr m tt w' hm hl

theorem readable_step (hE : EnvOK E) (cls : ClassDef) (hc : ClassClean cls) (hs : NoShadowClash cls)
    (st : State) (name : String) (v : Val) (hr : Readable E cls st) :
    Readable E cls (step E cls st name v).1 := by
  cases ht : traitOf cls name with
  | none =>
    simp only [step, ht]
    exact hr.store E name v fun tt h => nomatch ht.symm.trans h
  | some tt =>
    have key : ∀ w, validate E tt v = .ok w → Readable E cls (store st name w) := fun w hv =>
      hr.store E name w fun tt' h => by
        cases ht.symm.trans h
        exact ((soundP_all E hE tt).1 (hc name tt ht) v w hv).1
    rcases step_cases E cls st name v tt ht with ⟨e, _, h⟩ | ⟨w, hv, h⟩
    · rw [h]; exact hr
    · rcases h with ⟨_, h⟩ | ⟨_, _, h⟩ | ⟨hm, _, s, _, h⟩ | ⟨_, _, h⟩ <;> rw [h]
      · exact key w hv
      · exact key w hv
      · exact (key w hv).store E _ s fun tt' h' => nomatch (hs name tt ht hm).symm.trans h'
      · exact key w hv

/-- A step that assigns to the declared trait `name` leaves every other mapped trait and its
shadow alone — all it touches is `name` and, if that is mapped, `name_`, which is no trait and
nobody else's shadow — so only `name` itself is to be looked at. -/
theorem ShadowOK.frame {cls : ClassDef} {st st' : State} {name : String} {tt : TraitType} (hr : ShadowOK cls st)
    (hs : NoShadowClash cls) (ht : traitOf cls name = some tt)
    (hother : ∀ m, m ≠ name → (isMapped tt = true → m ≠ name ++ "_") → lookup st' m = lookup st m)
    (hname : isMapped tt = true → ∀ w, lookup st' name = some w →
      ∃ s, mappedValue tt w = some s ∧ lookup st' (name ++ "_") = some s) : ShadowOK cls st' := by
  intro n tt' w' hn hm' hl
  by_cases hne : n = name
  · subst hne
    cases hn.symm.trans ht
    exact hname hm' w' hl
  · have h1 : isMapped tt = true → n ≠ name ++ "_" := fun hm heq => nomatch (heq ▸ hn).symm.trans (hs name tt ht hm)
    have h2 : n ++ "_" ≠ name := fun heq => nomatch (heq ▸ hs n tt' hn hm').symm.trans ht
    rw [hother n hne h1] at hl
    rw [hother _ h2 fun _ heq => hne ((String.append_left_inj "_").mp heq)]
    exact hr n tt' w' hn hm' hl

theorem shadow_step (cls : ClassDef) (hw : ClassWF cls) (hs : NoShadowClash cls)
    (st : State) (name : String) (v : Val) (hd : (traitOf cls name).isSome = true)
    (hr : ShadowOK cls st) : ShadowOK cls (step E cls st name v).1 := by
  obtain ⟨tt, ht⟩ := Option.isSome_iff_exists.mp hd
  rcases step_cases E cls st name v tt ht with ⟨e, _, h⟩ | ⟨w, hv, h⟩
  · rw [h]; exact hr
  · rcases h with ⟨hnm, h⟩ | ⟨hm, hl0, h⟩ | ⟨hm, _, s, hmv, h⟩ | ⟨hm, hmv, h⟩
    -- not mapped
    · rw [h]
      exact hr.frame hs ht (fun m hne _ => lookup_store_other _ _ _ _ hne) fun hm => nomatch hnm.symm.trans hm
    -- mapped, the value already there: the shadow is as it was
    · rw [h]
      refine hr.frame hs ht (fun m hne _ => lookup_store_other _ _ _ _ hne) fun _ w' hl => ?_
      rw [lookup_store_same] at hl; cases hl
      rw [lookup_store_other _ _ _ _ (shadow_ne name)]
      exact hr name tt w ht hm hl0
    -- mapped, a new value: the shadow is written after it
    · rw [h]
      refine hr.frame hs ht (fun m hne hne' => ?_) fun _ w' hl => ?_
      · rw [lookup_store_other _ _ _ _ (hne' hm), lookup_store_other _ _ _ _ hne]
      · rw [lookup_store_other _ _ _ _ (Ne.symm (shadow_ne name)), lookup_store_same] at hl; cases hl
        exact ⟨s, hmv, lookup_store_same _ _ _⟩
    · obtain ⟨s, hs'⟩ := mapped_some E tt v w hm (hw name tt ht) hv
      rw [hs'] at hmv; cases hmv

/-- A step that ends in an exception: the exception is the validator's, and
nothing was written. -/
theorem step_error (cls : ClassDef) (st : State) (name : String) (v : Val) (tt : TraitType) (e : Exc)
    (ht : traitOf cls name = some tt) (hwf : mapWF tt = true)
    (h : (step E cls st name v).2 = some e) :
    ((validate E tt v = .traitError ∧ e = .traitError) ∨ validate E tt v = .raised e) ∧
    (step E cls st name v).1 = st := by
  rcases step_cases E cls st name v tt ht with
    ⟨e', he, hs⟩ | ⟨w, hv, ⟨_, hs⟩ | ⟨_, _, hs⟩ | ⟨_, _, s, _, hs⟩ | ⟨hm, hmv, hs⟩⟩
  · rw [hs] at h ⊢
    cases h
    exact ⟨he, rfl⟩
  -- a successful step raises nothing: a validated value of a mapped trait has a mapped value
  · rw [hs] at h; cases h
  · rw [hs] at h; cases h
  · rw [hs] at h; cases h
  · obtain ⟨s, hs'⟩ := mapped_some E tt v w hm hwf hv
    rw [hs'] at hmv; cases hmv

end TraitsVerif.Model.Val.Assign
