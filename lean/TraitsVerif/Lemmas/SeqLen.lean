/-
Membership and length after list operations: what the builtin list holds after
an operation was there before or was passed in (`pyStep_mem`), and its length is
the one the `TraitListObject` guard computed beforehand (`pyStep_length`); both
carried to `TraitList.step` through the refinement (used by C04's invariant).
-/
import TraitsVerif.Lemmas.SeqRefine
import TraitsVerif.Lemmas.PyBasic
import TraitsVerif.Model.TraitListObject
namespace TraitsVerif.Model
open TraitsVerif TraitsVerif.Py
variable {α : Type}

/-! ### validated items -/

/-- `x` is an output of the item validator: it "satisfies the inner trait after
its documented conversion". -/
def Valid (E : Env α) (x : α) : Prop := ∃ k y, E.v k y = .ok x

/-- The items an operation carries into the list. -/
def Op.items : Op α → List α
  | .setIdx _ x => [x]
  | .setSlice _ xs => xs
  | .append x => [x]
  | .extend xs => xs
  | .iadd xs => xs
  | .insert _ x => [x]
  | _ => []

theorem validateOp_items (E : Env α) (op op' : Op α) (h : validateOp E op = .ok op') :
    op'.items.length = op.items.length ∧ ∀ y ∈ op'.items, Valid E y := by
  cases op with
  | setIdx i x | append x | insert i x =>
    obtain ⟨y, hy, rfl⟩ := Except.map_eq_ok h
    exact ⟨rfl, fun z hz => by cases List.mem_singleton.mp hz; exact ⟨0, x, hy⟩⟩
  | setSlice s xs | extend xs | iadd xs => obtain ⟨ys, hy, rfl⟩ := Except.map_eq_ok h; exact valAll_valid hy
  | _ => cases h; exact ⟨rfl, nofun⟩

/-! ### what a successful builtin operation did -/

theorem setIdx_ok {l l' : List α} {i : Int} {x : α} (h : Py.setIdx l i x = .ok l') :
    ∃ j, j < l.length ∧ l' = l.set j x := by
  unfold Py.setIdx at h
  cases hn : normIdx l.length i with
  | none => simp [hn] at h
  | some j => simp only [hn, Except.ok.injEq] at h; exact ⟨j, normIdx_some_lt hn, h.symm⟩

theorem delIdx_ok {l l' : List α} {i : Int} (h : Py.delIdx l i = .ok l') :
    ∃ j, j < l.length ∧ l' = l.eraseIdx j := by
  unfold Py.delIdx at h
  cases hn : normIdx l.length i with
  | none => simp [hn] at h
  | some j => simp only [hn, Except.ok.injEq] at h; exact ⟨j, normIdx_some_lt hn, h.symm⟩

theorem pop_ok {l l' : List α} {i : Int} {x : α} (h : Py.pop l i = .ok (x, l')) :
    ∃ j, j < l.length ∧ l' = l.eraseIdx j := by
  unfold Py.pop at h
  cases hn : normIdx l.length i with
  | none => simp [hn] at h
  | some j =>
    have hj := normIdx_some_lt hn
    simp only [hn, List.getElem?_eq_getElem hj, Except.ok.injEq, Prod.mk.injEq] at h
    exact ⟨j, hj, h.2.symm⟩

theorem remove_ok {eq : α → α → Bool} {l l' : List α} {x : α} (h : Py.remove eq l x = .ok l') :
    ∃ j, j < l.length ∧ l' = l.eraseIdx j := by
  unfold Py.remove at h
  cases hi : Py.index eq l x with
  | none => simp [hi] at h
  | some j => simp only [hi, Except.ok.injEq] at h; exact ⟨j, findIdx?_lt hi, h.symm⟩

theorem setSlice_ok {l l' ys : List α} {s : Slice} (h : Py.setSlice l s ys = .ok l') :
    ∃ a b k, s.indices l.length = some (a, b, k) ∧
      ((k = 1 ∧ l' = splice l a b ys) ∨
        (k ≠ 1 ∧ ys.length = sliceLen a b k ∧ l' = setPositions l (positions a k (sliceLen a b k)) ys)) := by
  unfold Py.setSlice at h
  rcases hidx : s.indices l.length with _ | ⟨a, b, k⟩
  · simp [hidx] at h
  · refine ⟨a, b, k, rfl, ?_⟩
    by_cases hk : k = 1
    · simp only [hidx, hk, if_true, Except.ok.injEq] at h; exact .inl ⟨hk, h.symm⟩
    · by_cases hl : ys.length = sliceLen a b k
      · simp only [hidx, hk, hl, ne_eq, not_true, if_false, Except.ok.injEq] at h; exact .inr ⟨hk, hl, h.symm⟩
      · simp [hidx, hk, hl] at h

theorem delSlice_ok {l l' : List α} {s : Slice} (h : Py.delSlice l s = .ok l') :
    ∃ a b k, s.indices l.length = some (a, b, k) ∧
      ((k = 1 ∧ l' = splice l a b []) ∨ (k ≠ 1 ∧ l' = delPositions l (positions a k (sliceLen a b k)))) := by
  unfold Py.delSlice at h
  rcases hidx : s.indices l.length with _ | ⟨a, b, k⟩
  · simp [hidx] at h
  · refine ⟨a, b, k, rfl, ?_⟩
    by_cases hk : k = 1
    · simp only [hidx, hk, if_true, Except.ok.injEq] at h; exact .inl ⟨hk, h.symm⟩
    · simp only [hidx, hk, if_false, Except.ok.injEq] at h; exact .inr ⟨hk, h.symm⟩

theorem pyStep_mem (E : Env α) (hs : SortOk E) (l : List α) (op : Op α) (l' : List α)
    (r : Option α) (h : pyStep E l op = .ok (l', r)) : ∀ x ∈ l', x ∈ l ∨ x ∈ op.items := by
  intro x hx
  cases op with
  | setIdx i y =>
    obtain ⟨_, h', e⟩ := Except.map_eq_ok h; cases e
    obtain ⟨j, _, rfl⟩ := setIdx_ok h'
    exact (List.mem_or_eq_of_mem_set hx).imp id fun h => by simp [Op.items, h]
  | setSlice s ys =>
    obtain ⟨_, h', e⟩ := Except.map_eq_ok h; cases e
    obtain ⟨a, b, k, _, ⟨_, rfl⟩ | ⟨_, _, rfl⟩⟩ := setSlice_ok h'
    · exact splice_mem _ _ _ _ _ hx
    · exact setPositions_mem _ _ _ _ hx
  | delIdx i =>
    obtain ⟨_, h', e⟩ := Except.map_eq_ok h; cases e
    obtain ⟨j, _, rfl⟩ := delIdx_ok h'
    exact .inl (List.mem_of_mem_eraseIdx hx)
  | delSlice s =>
    obtain ⟨_, h', e⟩ := Except.map_eq_ok h; cases e
    obtain ⟨a, b, k, _, ⟨_, rfl⟩ | ⟨_, rfl⟩⟩ := delSlice_ok h'
    · exact (splice_mem _ _ _ _ _ hx).imp id (by simp)
    · exact .inl (delPositionsAux_mem _ _ _ _ hx)
  | pop i =>
    obtain ⟨⟨_, _⟩, h', e⟩ := Except.map_eq_ok h; cases e
    obtain ⟨j, _, rfl⟩ := pop_ok h'
    exact .inl (List.mem_of_mem_eraseIdx hx)
  | remove y =>
    obtain ⟨_, h', e⟩ := Except.map_eq_ok h; cases e
    obtain ⟨j, _, rfl⟩ := remove_ok h'
    exact .inl (List.mem_of_mem_eraseIdx hx)
  | append y | extend ys | iadd ys => cases h; simpa [Op.items] using hx
  | imul n =>
    cases h
    simp only [Py.imul] at hx
    split at hx
    · simp at hx
    · obtain ⟨l'', h1, h2⟩ := List.mem_flatten.mp hx
      rw [(List.mem_replicate.mp h1).2] at h2; exact .inl h2
  | insert i y =>
    cases h
    simp only [Py.insert, List.mem_append, List.mem_cons] at hx
    rcases hx with h | h | h
    · exact .inl (List.mem_of_mem_take h)
    · exact .inr (by simp [Op.items, h])
    · exact .inl (List.mem_of_mem_drop h)
  | clear => cases h; simp at hx
  | reverse => cases h; exact .inl (by simpa using hx)
  | sort sp => cases h; exact .inl ((hs sp l).mem_iff.mp hx)

/-! ### lengths -/

/-- The length the builtin list has after an operation is the one the
`TraitListObject` guard predicted (`none`: the length does not change; of the unguarded operations only `sort`
needs to be told that it permutes). -/
theorem pyStep_length (E : Env α) (l : List α) (op : Op α) (l' : List α)
    (r : Option α) (h : pyStep E l op = .ok (l', r)) :
    match guardLen l op with
    | .ok (some n) => (l'.length : Int) = n
    | .ok none => SortOk E → l'.length = l.length
    | .error _ => False := by
  have herase {j : Nat} (hj : j < l.length) : ((l.eraseIdx j).length : Int) = max ((l.length : Int) - 1) 0 := by
    rw [List.length_eraseIdx, if_pos hj]; omega
  cases op with
  | setIdx i y =>
    obtain ⟨_, h', e⟩ := Except.map_eq_ok h; cases e
    obtain ⟨j, _, rfl⟩ := setIdx_ok h'
    exact fun _ => List.length_set
  | setSlice s ys =>
    obtain ⟨_, h', e⟩ := Except.map_eq_ok h; cases e
    obtain ⟨a, b, k, hidx, ⟨rfl, rfl⟩ | ⟨hk, hl, rfl⟩⟩ := setSlice_ok h'
    · simp only [guardLen, (step_is_one_iff hidx).mpr rfl, if_true, Py.getSlice, hidx, selected_length hidx]
      exact splice_length ys hidx
    · simp only [guardLen, mt (step_is_one_iff hidx).mp hk, if_false, Py.getSlice, hidx, selected_length hidx, hl,
        ne_eq, not_true]
      exact fun _ => setPositions_length _ _ _
  | delIdx i =>
    obtain ⟨_, h', e⟩ := Except.map_eq_ok h; cases e
    obtain ⟨j, hj, rfl⟩ := delIdx_ok h'
    exact herase hj
  | delSlice s =>
    obtain ⟨_, h', e⟩ := Except.map_eq_ok h; cases e
    obtain ⟨a, b, k, hidx, ⟨rfl, rfl⟩ | ⟨hk, rfl⟩⟩ := delSlice_ok h'
    · simp only [guardLen, Py.getSlice, hidx, selected_length hidx]
      have := splice_length ([] : List α) hidx
      simp only [List.length_nil] at this
      omega
    · simp only [guardLen, Py.getSlice, hidx, selected_length hidx]
      have := delPositions_length l _ (positions_nodup (indices_some hidx).1 (sliceLen a b k))
        (positions_in_range hidx)
      rw [positions_length] at this
      omega
  | pop i =>
    obtain ⟨⟨_, _⟩, h', e⟩ := Except.map_eq_ok h; cases e
    obtain ⟨j, hj, rfl⟩ := pop_ok h'
    exact herase hj
  | remove y =>
    obtain ⟨_, h', e⟩ := Except.map_eq_ok h; cases e
    obtain ⟨j, hj, rfl⟩ := remove_ok h'
    exact herase hj
  | append y | extend ys | iadd ys | clear => cases h; simp [guardLen]
  | reverse => cases h; exact fun _ => List.length_reverse
  | imul n =>
    cases h
    simp only [guardLen, Py.imul]
    split
    · rename_i hn
      have : (l.length : Int) * n ≤ 0 := Int.mul_nonpos_of_nonneg_of_nonpos (by omega) (by omega)
      simp only [List.length_nil]
      omega
    · rename_i hn
      have hcast : ((n.toNat : Nat) : Int) = n := Int.toNat_of_nonneg (by omega)
      have : (0 : Int) ≤ (l.length : Int) * n := Int.mul_nonneg (by omega) (by omega)
      simp only [List.length_flatten, List.map_replicate, List.sum_replicate_nat]
      push_cast
      rw [hcast]
      have e : n * (l.length : Int) = (l.length : Int) * n := Int.mul_comm _ _
      omega
  | insert i y =>
    cases h
    obtain ⟨h0, h1, hp⟩ := insertPos_eq l.length i
    simp only [guardLen, Py.insert, List.length_append, List.length_take, List.length_cons,
      List.length_drop]
    omega
  | sort sp => cases h; exact fun hs => (hs sp l).length_eq

/-- The guard only looks at the number of items carried, which validation preserves. -/
theorem guardLen_validated (E : Env α) (l : List α) (op op' : Op α)
    (h : validateOp E op = .ok op') : guardLen l op' = guardLen l op := by
  have hl := (validateOp_items E op op' h).1
  cases op with
  | setIdx i x | append x | insert i x => obtain ⟨y, _, rfl⟩ := Except.map_eq_ok h; rfl
  | setSlice s xs | extend xs | iadd xs =>
    obtain ⟨ys, _, rfl⟩ := Except.map_eq_ok h
    simp only [Op.items] at hl
    simp only [guardLen, hl]
  | _ => cases h; rfl

/-! ### the same two facts for `TraitList`, through the refinement -/

theorem step_length (E : Env α) (l : List α) (op : Op α) (o : Out α) (h : TraitList.step E l op = .ok o) :
    match guardLen l op with
    | .ok (some n) => (o.items.length : Int) = n
    | .ok none => SortOk E → o.items.length = l.length
    | .error _ => False := by
  obtain ⟨op', hv, hp⟩ := step_refines_ok E l op o h
  rw [← guardLen_validated E l op op' hv]
  exact pyStep_length E l op' o.items o.ret hp

theorem step_mem (E : Env α) (hs : SortOk E) (l : List α) (op : Op α) (o : Out α)
    (h : TraitList.step E l op = .ok o) : ∀ x ∈ o.items, x ∈ l ∨ Valid E x := by
  obtain ⟨op', hv, hp⟩ := step_refines_ok E l op o h
  exact fun x hx => (pyStep_mem E hs l op' o.items o.ret hp x hx).imp_right ((validateOp_items E op op' hv).2 x)

/-! ### where the items come from

After any mutator call every item of the list, and every added item of the event, was in the list before or is
an output of the item validator: the new contents are what the builtin list makes of the validated items
(`pyStep_mem`), and the added items of the event are among them, since the event replays to the new contents
(`added_sub_replay`).  The sync model uses this to show that lists of linked traits only ever hold items both
item validators store unchanged. -/

theorem toOption_some {ε β : Type} {x : Except ε β} {b : β} (h : x.toOption = some b) : x = .ok b := by
  cases x with
  | error e => cases h
  | ok a => cases h; rfl

/-- An extended-slice assignment to distinct positions inside the list puts every assigned item there. -/
theorem mem_setPositions_self : ∀ (ps : List Int) (l vs : List α), ps.Nodup →
    (∀ p ∈ ps, 0 ≤ p ∧ p < l.length) → ∀ v ∈ vs.take ps.length, v ∈ setPositions l ps vs := by
  intro ps
  induction ps with
  | nil => intro l vs _ _ v hv; simp at hv
  | cons p ps ih =>
    intro l vs hnd hr v hv
    cases vs with
    | nil => simp at hv
    | cons u us =>
      obtain ⟨hp, hnd'⟩ := List.nodup_cons.mp hnd
      simp only [setPositions]
      rw [List.length_cons, List.take_succ_cons, List.mem_cons] at hv
      rcases hv with rfl | hv
      · -- `v` goes to position `p`, which the remaining assignments do not touch
        have hpr := hr p (List.mem_cons_self ..)
        rw [setPositions_set_comm l ps us p.toNat v fun q hq e => hp (by
          have := (hr q (List.mem_cons_of_mem _ hq)).1
          exact (show q = p by omega) ▸ hq)]
        exact List.mem_set (by rw [setPositions_length]; omega) v
      · exact ih _ us hnd' (fun p' h' => by simpa using hr p' (List.mem_cons_of_mem _ h')) v hv

theorem added_sub_replay {l l' : List α} {e : Event α} (h : replay l e = some l') : ∀ x ∈ e.added, x ∈ l' := by
  intro x hx
  obtain ⟨ix, removed, added⟩ := e
  cases ix with
  | idx n =>
    simp only [replay] at h
    split at h <;> cases h
    simp [show x ∈ added from hx]
  | slc a b k =>
    simp only [replay, show added.isEmpty = false by simpa using List.ne_nil_of_mem hx] at h
    obtain ⟨a', b', k', hidx, ⟨-, rfl⟩ | ⟨-, hl, rfl⟩⟩ := setSlice_ok (toOption_some h)
    · simp [splice, show x ∈ added from hx]
    · -- an extended slice: as many items as positions, the positions distinct and inside the list
      refine mem_setPositions_self _ l added (positions_nodup (indices_some hidx).1 _) (positions_in_range hidx) x ?_
      rw [positions_length, ← hl, List.take_length]; exact hx

/-- **Provenance.** After a successful mutator call, every item of the list
and every added item of the event was in the list before, or is an output of
the item validator. -/
theorem step_src (E : Env α) (hs : SortOk E) (l : List α) (op : Op α) (o : Out α)
    (h : TraitList.step E l op = .ok o) :
    (∀ x ∈ o.items, x ∈ l ∨ Valid E x) ∧ (∀ e, o.event = some e → ∀ x ∈ e.added, x ∈ l ∨ Valid E x) := by
  have hitems := step_mem E hs l op o h
  exact ⟨hitems, fun e he x hx => hitems x (added_sub_replay (step_event_ok E l op o e h he).1 x hx)⟩

end TraitsVerif.Model
