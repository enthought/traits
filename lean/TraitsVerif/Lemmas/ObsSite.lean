/-
Cluster `obs`: how a from-scratch walk depends on ONE cell of the heap.

Fix a cell — a trait `o.n`, or a container — and call a node of a graph *hitting* when,
standing where it stands, it reads the cell: it then leaves one maintainer per child on
the cell's observable `tgt` and hands the content of the cell (next to other objects,
`rest`, that the mutation leaves alone) to its children.  `Cell.visits` collects the
child graphs of the hitting nodes a walk meets above the content of the cell,
`Cell.stable` everything the walk owes outside the sub-walks below that content.  For
every heap `h'` that differs from `h` only in the content `new` of the cell (`Cell.Rel`)

  hookList h' g x  =  stable h g x  +  Σ_{c ∈ visits h g x} Σ_{w ∈ new} hookList h' c w      (`Cell.dec`),

a walk that leaves nothing on `tgt` is the same in both heaps (`Cell.locality`), and the
maintainers `stable` leaves on `tgt` are the visits (`Cell.stable_at_target`).
`A` restricts the observers the two heaps are compared for (all of them, or all but the
`filtered` ones).

`Gen.Site` is the special case of a cell read by one kind of node that hands on nothing
else (`rd`), where the read may be ineffective (`act`: the trait may be missing).
-/
import TraitsVerif.Lemmas.ObsInv
namespace TraitsVerif.Model.Obs
open TraitsVerif

/-! ### counting below a list of objects -/

/-- the items of the walks of sub-graph `g` (key `k`) from the objects `ws`, in heap `h'`, that sit on `o'` and
equal `q` -/
def blockW (h' : Heap) (ws : List W) (o' : Observable) (q : NKey) (g : Graph) (k : HKey) : Nat :=
  cntItems (ws.flatMap (fun w => hookList h' k true g w)) o' q

theorem blockW_split (h' : Heap) {ys a b : List W} (hsp : ys.Perm (a ++ b)) (o' : Observable) (q : NKey)
    (g : Graph) (k : HKey) : blockW h' ys o' q g k = blockW h' a o' q g k + blockW h' b o' q g k := by
  simp only [blockW, cntItems_flatMap]
  exact sum_map_of_perm hsp _

namespace Gen

/-- `blockW` summed over a list of sub-graphs -/
def blocks (h' : Heap) (k : HKey) (newObjs : List W) (vs : List Graph) (o' : Observable) (q : NKey) : Nat :=
  (vs.map (fun c => cntItems (newObjs.flatMap (fun w => hookList h' k true c w)) o' q)).sum

theorem blocks_eq_blockW (h' : Heap) (k : HKey) (ws : List W) (vs : List Graph) (o' : Observable) (q : NKey) :
    blocks h' k ws vs o' q = (vs.map (fun c => blockW h' ws o' q c k)).sum := rfl

theorem blocks_append (h' : Heap) (k : HKey) (no : List W) (a b : List Graph) (o' : Observable) (q : NKey) :
    blocks h' k no (a ++ b) o' q = blocks h' k no a o' q + blocks h' k no b o' q := by
  simp [blocks, List.map_append, List.sum_append]

theorem blocks_flatMap {α} (h' : Heap) (k : HKey) (no : List W) (l : List α) (f : α → List Graph)
    (o' : Observable) (q : NKey) :
    blocks h' k no (l.flatMap f) o' q = (l.map (fun a => blocks h' k no (f a) o' q)).sum :=
  sum_map_flatMap l f _

end Gen

/-- A cell of the heap as the walks see it. -/
structure Cell where
  /-- the node reads the cell when standing here -/
  hits : Observer → W → Bool
  /-- what a hitting node hands on besides the content of the cell -/
  rest : Observer → W → List W
  /-- the observable whose notifiers a mutation of the cell calls -/
  tgt : Observable
  /-- kind of the maintainers a hitting node leaves there -/
  kind : MKind

namespace Cell
variable (C : Cell)

/-- the objects a node hands on that do not come from the cell -/
def below (h : Heap) (ob : Observer) (x : W) : List W :=
  if C.hits ob x then C.rest ob x else okOr [] (objects h ob x)

mutual
def visits (h : Heap) : Graph → W → List Graph
  | .node ob cs, x => (if C.hits ob x then cs else []) ++ visitsCs h ob x cs
def visitsCs (h : Heap) (ob : Observer) (x : W) : List Graph → List Graph
  | [] => []
  | c :: cs => (C.below h ob x).flatMap (fun y => visits h c y) ++ visitsCs h ob x cs
end

mutual
def stable (h : Heap) (k : HKey) (extra : Bool) : Graph → W → List Item
  | .node ob cs, x =>
    ownItems h k ob cs x ++ stableCs h k ob x cs ++
    (if extra then extraItems (.node ob cs) k (okOr [] (extraObservables h ob x)) else [])
def stableCs (h : Heap) (k : HKey) (ob : Observer) (x : W) : List Graph → List Item
  | [] => []
  | c :: cs => (C.below h ob x).flatMap (fun y => stable h k true c y) ++ stableCs h k ob x cs
end

/-- what the cell looks like in heap `h`: exactly the hitting nodes yield `tgt`, once -/
structure OK (A : Observer → Prop) (h : Heap) : Prop where
  kind : ∀ ob x, A ob → C.hits ob x = true → ob.mkind = C.kind
  count : ∀ ob x, A ob →
    (okOr [] (observables h ob x) : List Observable).count C.tgt = if C.hits ob x then 1 else 0

/-- `h'` differs from `h` only in the content of the cell, which is `new` in `h'`
(up to order: the order in which a hitting node hands its objects on is immaterial) -/
structure Rel (A : Observer → Prop) (h h' : Heap) (new : List W) : Prop where
  obs : ∀ ob x, A ob → observables h' ob x = observables h ob x
  ext : ∀ ob x, A ob → extraObservables h' ob x = extraObservables h ob x
  objs : ∀ ob x, A ob → C.hits ob x = false → objects h' ob x = objects h ob x
  objsR : ∀ ob x, A ob → C.hits ob x = true → (okOr [] (objects h' ob x) : List W).Perm (C.rest ob x ++ new)

variable {C} {A : Observer → Prop} {h h' : Heap} {new : List W}

/-- `visits` is determined by its equations -/
theorem visits_unique (h : Heap) (v : Graph → W → List Graph) (vcs : Observer → W → List Graph → List Graph)
    (hnode : ∀ ob cs x, v (.node ob cs) x = (if C.hits ob x then cs else []) ++ vcs ob x cs)
    (hnil : ∀ ob x, vcs ob x [] = [])
    (hcons : ∀ ob x c cs, vcs ob x (c :: cs) = (C.below h ob x).flatMap (fun y => v c y) ++ vcs ob x cs) :
    ∀ g x, v g x = C.visits h g x := by
  apply Graph.ind
  intro ob cs ih x
  have hC : ∀ cs' : List Graph, (∀ c ∈ cs', c ∈ cs) → vcs ob x cs' = C.visitsCs h ob x cs' := by
    intro cs'
    induction cs' with
    | nil => intro _; rw [hnil]; rfl
    | cons c cs' ihc =>
      intro hsub
      rw [hcons, ihc (fun c' hc' => hsub c' (List.mem_cons_of_mem _ hc')), visitsCs]
      congr 1
      exact Common.flatMap_congr (fun y _ => ih c (hsub c (List.mem_cons_self ..)) y)
  rw [hnode, hC cs (fun c hc => hc), visits]

theorem ownItems_rel (R : C.Rel A h h' new) (k : HKey) (ob : Observer) (cs : List Graph) (x : W) (hA : A ob) :
    ownItems h' k ob cs x = ownItems h k ob cs x := by
  simp [ownItems, R.obs ob x hA]

theorem visitsCs_flat (h : Heap) (ob : Observer) (x : W) (cs : List Graph) :
    C.visitsCs h ob x cs = cs.flatMap (fun c => (C.below h ob x).flatMap (fun y => C.visits h c y)) := by
  induction cs with
  | nil => rfl
  | cons c cs ih => rw [visitsCs, ih, List.flatMap_cons]

theorem stableCs_flat (h : Heap) (k : HKey) (ob : Observer) (x : W) (cs : List Graph) :
    C.stableCs h k ob x cs = cs.flatMap (fun c => (C.below h ob x).flatMap (fun y => C.stable h k true c y)) := by
  induction cs with
  | nil => rfl
  | cons c cs ih => rw [stableCs, ih, List.flatMap_cons]

theorem visits_all (h : Heap) : ∀ g : Graph, g.All A → ∀ x, ∀ c ∈ C.visits h g x, c.All A := by
  apply Graph.ind
  intro ob cs ih hall x c hc
  obtain ⟨_, hcs⟩ := hall.inv
  rw [visits, visitsCs_flat] at hc
  simp only [List.mem_append, List.mem_flatMap] at hc
  rcases hc with h1 | ⟨c', hc', y, _, hy⟩
  · split at h1
    · exact hcs c h1
    · cases h1
  · exact ih c' hc' (hcs c' hc') y c hy

/-- L4 (decomposition): the equation at the head of the file. -/
theorem dec (R : C.Rel A h h' new) (k : HKey) :
    ∀ g : Graph, g.All A → ∀ (e : Bool) (x : W) (o' : Observable) (q : NKey),
      cntItems (hookList h' k e g x) o' q =
        cntItems (C.stable h k e g x) o' q + Gen.blocks h' k new (C.visits h g x) o' q := by
  apply Graph.ind
  intro ob cs ih hall e x o' q
  obtain ⟨hA, hcs⟩ := hall.inv
  -- below one child: the sub-walks from `below`, and at a hitting node those from the content of the cell
  have child : ∀ c ∈ cs, ((okOr [] (objects h' ob x) : List W).map (fun y => cntItems (hookList h' k true c y) o' q)).sum =
      ((C.below h ob x).map (fun y => cntItems (C.stable h k true c y) o' q)).sum +
      (((C.below h ob x).map (fun y => Gen.blocks h' k new (C.visits h c y) o' q)).sum +
        Gen.blocks h' k new (if C.hits ob x then [c] else []) o' q) := by
    intro c hc
    have hrec := fun y => ih c hc (hcs c hc) true y o' q
    by_cases hr : C.hits ob x = true
    · rw [sum_map_of_perm (R.objsR ob x hA hr)]
      simp only [below, hr, if_true, hrec, sum_map_add, Gen.blocks, List.map_cons, List.map_nil, List.sum_cons,
        List.sum_nil, cntItems_flatMap]
      omega
    · have hr' : C.hits ob x = false := by simpa using hr
      have hnil : Gen.blocks h' k new [] o' q = 0 := rfl
      simp only [below, hr', Bool.false_eq_true, if_false, R.objs ob x hA hr', hrec, sum_map_add, hnil]
      omega
  have hvis : Gen.blocks h' k new (if C.hits ob x then cs else []) o' q =
      (cs.map (fun c => Gen.blocks h' k new (if C.hits ob x then [c] else []) o' q)).sum := by
    by_cases hr : C.hits ob x = true
    · simp [hr, Gen.blocks]
    · simp [hr, Gen.blocks, sum_map_zero]
  rw [hookList_node, stable, visits, hookListCs_flat, stableCs_flat, visitsCs_flat]
  simp only [cntItems_append, Gen.blocks_append, cntItems_flatMap, Gen.blocks_flatMap, ownItems_rel R k ob cs x hA,
    R.ext ob x hA, sum_map_congr _ _ _ child, sum_map_add, hvis]
  omega

theorem visit_item (ok : C.OK A h) (k : HKey) (ob : Observer) (cs : List Graph) (x : W) (hA : A ob)
    (hr : C.hits ob x = true) (c : Graph) (hc : c ∈ cs) :
    (C.tgt, NKey.maint C.kind c k) ∈ ownItems h k ob cs x := by
  have hm : C.tgt ∈ (okOr [] (observables h ob x) : List Observable) := by
    apply List.count_pos_iff.1
    rw [ok.count ob x hA, hr]; simp
  simp only [ownItems, List.mem_append, List.mem_flatMap, List.mem_map]
  exact Or.inr ⟨C.tgt, hm, c, hc, by rw [ok.kind ob x hA hr]⟩

/-- L3 (locality). -/
theorem locality (ok : C.OK A h) (R : C.Rel A h h' new) (k : HKey) :
    ∀ g : Graph, g.All A → ∀ (e : Bool) (x : W), (∀ it ∈ hookList h k e g x, it.1 ≠ C.tgt) →
      hookList h' k e g x = hookList h k e g x := by
  apply Graph.ind
  intro ob cs ih hall e x hno
  obtain ⟨hA, hcs⟩ := hall.inv
  rw [hookList_node, hookList_node, hookListCs_flat, hookListCs_flat, ownItems_rel R k ob cs x hA, R.ext ob x hA]
  congr 2
  apply Common.flatMap_congr
  intro c hc
  -- with a child, the node does not hit (else its maintainer sits on the target)
  have hobj : objects h' ob x = objects h ob x := by
    by_cases hr : C.hits ob x = true
    · exact absurd rfl (hno _ (mem_hookList_own h k e ob cs x _ (visit_item ok k ob cs x hA hr c hc)))
    · exact R.objs ob x hA (by simpa using hr)
  rw [hobj]
  exact Common.flatMap_congr (fun y hy =>
    ih c hc (hcs c hc) true y (fun it hit => hno it (mem_hookList_child h k e ob cs x it c hc y hy hit)))

theorem stable_at_target (ok : C.OK A h) (hmk : C.kind ≠ .added) (k : HKey) :
    ∀ g : Graph, g.All A → ∀ (e : Bool) (x : W) (c0 : Graph) (k0 : HKey),
      cntItems (C.stable h k e g x) C.tgt (.maint C.kind c0 k0) =
        visitHits C.kind k (C.visits h g x) (.maint C.kind c0 k0) := by
  apply Graph.ind
  intro ob cs ih hall e x c0 k0
  obtain ⟨hA, hcs⟩ := hall.inv
  have hown : cntItems (ownItems h k ob cs x) C.tgt (.maint C.kind c0 k0) =
      visitHits C.kind k (if C.hits ob x then cs else []) (.maint C.kind c0 k0) := by
    rw [cntItems_ownItems_maint, ok.count ob x hA]
    by_cases hr : C.hits ob x = true
    · simp [hr, ok.kind ob x hA hr]
    · simp [hr, visitHits]
  have hext : cntItems (if e then extraItems (.node ob cs) k (okOr [] (extraObservables h ob x)) else [])
      C.tgt (.maint C.kind c0 k0) = 0 := by
    split
    · exact cntItems_map_ne (NKey.equals_maint_ne (Ne.symm hmk) ..) _ _
    · rfl
  rw [stable, visits, stableCs_flat, visitsCs_flat]
  simp only [cntItems_append, visitHits_append, cntItems_flatMap, visitHits_flatMap, hown, hext, Nat.add_zero]
  congr 1
  exact sum_map_congr _ _ _ (fun c hc => sum_map_congr _ _ _ (fun y _ => ih c hc (hcs c hc) true y c0 k0))

end Cell


/-! ### sites as cells -/

namespace Gen

/-- A mutated cell as the walks see it. -/
structure Site where
  /-- the node reads the cell when standing here (and has children) -/
  rd : Observer → W → Bool
  /-- the observable whose notifiers the mutation calls -/
  tgt : Observable
  /-- kind of the maintainers a reading node leaves there -/
  kind : MKind

variable (S : Site) (act : Observer → W → Bool)

mutual
def visits (h : Heap) : Graph → W → List Graph
  | .node ob cs, x => (if S.rd ob x && act ob x then cs else []) ++ visitsCs h ob x cs
def visitsCs (h : Heap) (ob : Observer) (x : W) : List Graph → List Graph
  | [] => []
  | c :: cs =>
    (if S.rd ob x then [] else (okOr [] (objects h ob x)).flatMap (fun y => visits h c y)) ++ visitsCs h ob x cs
end

/-- what the site looks like in heap `h` (`act` = the read is effective there) -/
structure SiteOK (h : Heap) : Prop where
  own : ∀ ob x, S.rd ob x = true → act ob x = true → observables h ob x = .ok [S.tgt] ∧ ob.mkind = S.kind
  inactive : ∀ ob x, S.rd ob x = true → act ob x = false →
    (okOr [] (objects h ob x) : List W) = [] ∧ S.tgt ∉ (okOr [] (observables h ob x) : List Observable)
  other : ∀ ob x, ob.isFiltered = false → S.rd ob x = false →
    S.tgt ∉ (okOr [] (observables h ob x) : List Observable)

/-- `h'` differs from `h` only in the cell, whose content is `newObjs` in `h'`. -/
structure Rel (h h' : Heap) (newObjs : List W) : Prop where
  obs : ∀ ob x, ob.isFiltered = false → observables h' ob x = observables h ob x
  ext : ∀ ob x, ob.isFiltered = false → extraObservables h' ob x = extraObservables h ob x
  objs : ∀ ob x, ob.isFiltered = false → S.rd ob x = false → objects h' ob x = objects h ob x
  objsR : ∀ ob x, S.rd ob x = true → act ob x = true → objects h' ob x = .ok newObjs
  objsN : ∀ ob x, S.rd ob x = true → act ob x = false → objects h' ob x = objects h ob x

theorem blocks_nil (h' : Heap) (k : HKey) (no : List W) (o' : Observable) (q : NKey) :
    blocks h' k no [] o' q = 0 := rfl

/-- the site as a cell: the hitting nodes are those whose read is effective -/
def Site.cell : Cell :=
  ⟨fun ob x => S.rd ob x && act ob x, fun _ _ => [], S.tgt, S.kind⟩

variable {S act}

theorem SiteOK.cell {h : Heap} (ok : SiteOK S act h) : (S.cell act).OK (fun ob => ob.isFiltered = false) h where
  kind := by
    intro ob x _ hh
    simp only [Site.cell, Bool.and_eq_true] at hh
    exact (ok.own ob x hh.1 hh.2).2
  count := by
    intro ob x hf
    simp only [Site.cell]
    by_cases hr : S.rd ob x = true
    · by_cases ha : act ob x = true
      · simp [hr, ha, (ok.own ob x hr ha).1, okOr]
      · have ha' : act ob x = false := by simpa using ha
        simp [hr, ha', List.count_eq_zero.2 (ok.inactive ob x hr ha').2]
    · have hr' : S.rd ob x = false := by simpa using hr
      simp [hr', List.count_eq_zero.2 (ok.other ob x hf hr')]

theorem Rel.cell {h h' : Heap} {no : List W} (R : Rel S act h h' no) : (S.cell act).Rel (fun ob => ob.isFiltered = false) h h' no where
  obs := R.obs
  ext := R.ext
  objs := by
    intro ob x hf hh
    by_cases hr : S.rd ob x = true
    · exact R.objsN ob x hr (by simpa [Site.cell, hr] using hh)
    · exact R.objs ob x hf (by simpa using hr)
  objsR := by
    intro ob x _ hh
    simp only [Site.cell, Bool.and_eq_true] at hh
    simp [R.objsR ob x hh.1 hh.2, okOr, Site.cell]

theorem locality {h h' : Heap} {no : List W} (ok : SiteOK S act h) (R : Rel S act h h' no) (k : HKey) :
    ∀ g : Graph, g.noFiltered = true → ∀ (e : Bool) (x : W), (∀ it ∈ hookList h k e g x, it.1 ≠ S.tgt) →
      hookList h' k e g x = hookList h k e g x :=
  fun g hnf => Cell.locality ok.cell R.cell k g (.of_noFiltered g hnf)

end Gen

end TraitsVerif.Model.Obs
