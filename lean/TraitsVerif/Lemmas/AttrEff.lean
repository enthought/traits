/-
What one statement on one (object, attribute) pair can do, for EVERY environment: `Attr.step` is a composition of
three kinds of effect —
  `Book`          bookkeeping (notifier lists, the NO_NOTIFY flag, validator ordinal, `post_setattr` log, handler
                  calls about this object): slot, heap, allocation counter and factory calls untouched;
  a write         of the slot, with a value the operation itself determines (`Op.writes`);
  `materialise`   from an empty slot: the default is computed, stored and `post_setattr`'d.
`Eff` is the closure of these under composition; `step_eff` is the one walk through `setattr_trait`,
`getattr_trait`, `setattr_event` and the registration functions.  A reflexive, transitive relation on states that
contains the three effects therefore contains every step: the frame (`SFrame`), freshness (`OGrow`) and
at-most-once (`Once`) properties are obtained that way.
-/
import TraitsVerif.Lemmas.AttrFrame
namespace TraitsVerif.Model.Attr
open TraitsVerif

/-! ### Materialising the default -/

/-- `default_value_for`, `PyDict_SetItem`, `post_setattr`: the C source has this sequence in `getattr_trait` and, for
the old value of a never-assigned attribute, in `setattr_trait`; the model has it in `getattrTrait` and `fetchOld`. -/
def OSt.materialise (E : Env) (t : TraitCore) (s : OSt) : Except Exc Id × OSt :=
  match s.defaultValueFor E t with
  | (.error e, s1) => (.error e, s1)
  | (.ok v, s1) =>
    match postSetattr E t v { s1 with slot := some v } with
    | (some e, s3) => (.error e, s3)
    | (none, s3) => (.ok v, s3)

theorem materialise_snd (E : Env) (t : TraitCore) (s : OSt) :
    (s.materialise E t).2 =
      match s.defaultValueFor E t with
      | (.error _, s1) => s1
      | (.ok v, s1) => (postSetattr E t v { s1 with slot := some v }).2 := by
  unfold OSt.materialise
  rcases s.defaultValueFor E t with ⟨e | v, s1⟩
  · rfl
  · simp only []
    rcases postSetattr E t v { s1 with slot := some v } with ⟨_ | e, s3⟩ <;> rfl

/-- `getattr_trait` is the materialisation: its notification `(Uninitialized, default)` reaches nobody. -/
theorem getattrTrait_eq (E : Env) (t : TraitCore) (s : OSt) : getattrTrait E t s = s.materialise E t := by
  unfold getattrTrait OSt.materialise
  rcases s.defaultValueFor E t with ⟨e | v, s1⟩
  · rfl
  · simp only []
    rcases postSetattr E t v { s1 with slot := some v } with ⟨_ | e, s3⟩
    · simp only [callNotifiers_uninit]
      split <;> rfl
    · rfl

theorem getattro_eq (E : Env) (t : TraitCore) (s : OSt) :
    getattro E t s =
      match s.slot, t.kind with
      | some v, _ => (.ok v, s)
      | none, .trait => s.materialise E t
      | none, .event => (.error .attributeError, s) := by
  unfold getattro traitGetattr
  rw [getattrTrait_eq]
  cases s.slot <;> cases t.kind <;> rfl

theorem fetchOld_eq (E : Env) (t : TraitCore) (c0 dn : Bool) (w : Id) (s : OSt) :
    s.fetchOld E t c0 dn w =
      if t.post.isSome || dn then
        match s.slot with
        | some old => (.ok (some old, c0 || (old != w)), s)
        | none =>
          match s.materialise E t with
          | (.error e, s2) => (.error e, s2)
          | (.ok old, s2) => (.ok (some old, c0 || (old != w)), s2)
      else (.ok (none, c0), s) := by
  unfold OSt.fetchOld OSt.materialise
  split
  · cases s.slot with
    | some old => rfl
    | none =>
      simp only []
      rcases s.defaultValueFor E t with ⟨e | v, s1⟩
      · rfl
      · simp only []
        rcases postSetattr E t v { s1 with slot := some v } with ⟨_ | e, s3⟩ <;> rfl
  · rfl

/-! ### Bookkeeping -/

/-- `s'` differs from `s` at most in the notifier lists, the NO_NOTIFY flag, the validator ordinal, the
`post_setattr` log, and by new log entries about this very object. -/
structure Book (s s' : OSt) : Prop where
  self : s'.self = s.self
  name : s'.name = s.name
  cn : s'.cn = s.cn
  slot : s'.slot = s.slot
  alloc : s'.ctx.alloc = s.ctx.alloc
  heap : s'.ctx.heap = s.ctx.heap
  fcalls : s'.ctx.fcalls = s.ctx.fcalls
  log : ∃ l, s'.ctx.log = s.ctx.log ++ l ∧ ∀ c ∈ l, c.obj = s.self

theorem NFrame.book {s s' : OSt} (h : NFrame s s') : Book s s' :=
  ⟨h.self, h.name, h.cn, h.slot, h.alloc, h.heap, h.fcalls, h.log⟩

/-- nothing but the lists, the flag, the ordinal and the `post_setattr` log differs -/
theorem Book.ofEq {s s' : OSt}
    (h : s' = { s with it := s'.it, on := s'.on, noNotify := s'.noNotify,
                       ctx := { s.ctx with nval := s'.ctx.nval, postLog := s'.ctx.postLog } }) : Book s s' := by
  rw [h]
  exact ⟨rfl, rfl, rfl, rfl, rfl, rfl, rfl, [], by simp, by simp⟩

theorem postSetattr_book (E : Env) (t : TraitCore) (v : Id) (s : OSt) : Book s (postSetattr E t v s).2 := by
  unfold postSetattr
  cases t.post with
  | none => exact Book.ofEq (by rfl)
  | some p => simp only []; split <;> exact Book.ofEq (by rfl)

theorem materialise_ok {E : Env} {t : TraitCore} {s : OSt} {v : Id} (h : (s.materialise E t).1 = .ok v) :
    (s.materialise E t).2.slot = some v := by
  revert h
  unfold OSt.materialise
  rcases s.defaultValueFor E t with ⟨e | d, s1⟩
  · exact fun h => nomatch h
  · have hp : _ = some d := (postSetattr_book E t d { s1 with slot := some d }).slot
    simp only []
    generalize postSetattr E t d { s1 with slot := some d } = r at hp
    rcases r with ⟨_ | e, s3⟩
    · exact fun h => by injection h with h; exact h ▸ hp
    · exact fun h => nomatch h

theorem runValidate_book (E : Env) (t : TraitCore) (v : Id) (s : OSt) :
    Book s { s with ctx := (runValidate E t v s.ctx).2 } := by
  unfold runValidate
  cases t.validate <;> exact Book.ofEq (by rfl)

/-! ### The closure -/

/-- What the validator may turn the assigned value `v` into. -/
def Validated (E : Env) (t : TraitCore) (v u : Id) : Prop :=
  u = v ∨ ∃ k n, t.validate = some k ∧ E.validate k n v = .ok u

def Op.assigned : Op → Option Id
  | .set v | .setq v => some v
  | _ => none

/-- What an operation may write into the slot (other than by materialising the default). -/
def Op.writes (E : Env) (t : TraitCore) : Op → Option Id → Prop
  | .set v, x | .setq v, x => ∃ u, x = some u ∧ Validated E t v u
  | .del, x => x = none
  | _, _ => False

inductive Eff (E : Env) (t : TraitCore) (W : Option Id → Prop) : OSt → OSt → Prop
  | refl (s : OSt) : Eff E t W s s
  | trans {a b c : OSt} : Eff E t W a b → Eff E t W b c → Eff E t W a c
  | book {s s' : OSt} : Book s s' → Eff E t W s s'
  | write (s : OSt) (x : Option Id) : W x → Eff E t W s { s with slot := x }
  | mat {s : OSt} : s.slot = none → Eff E t W s (s.materialise E t).2

namespace Eff
variable {E : Env} {t : TraitCore} {W : Option Id → Prop}

/-- the effect of a computation, read off the pair it returned -/
theorem snd {α : Type} {s s1 : OSt} {x : α × OSt} {r : α} (h : Eff E t W s x.2) (hx : x = (r, s1)) :
    Eff E t W s s1 := by
  subst hx; exact h

end Eff

/-! ### Every function of the step -/

section walk
variable (E : Env) (t : TraitCore) {W : Option Id → Prop}

theorem callNotifiers_eff (tn on : Option (List Notifier)) (old new : Id) (s : OSt) :
    Eff E t W s (callNotifiers E t tn on old new s).2 :=
  .book (callNotifiers_frame E t tn on old new s).book

theorem postSetattr_eff (v : Id) (s : OSt) : Eff E t W s (postSetattr E t v s).2 :=
  .book (postSetattr_book E t v s)

theorem traitGetattr_eff (s : OSt) (hs : s.slot = none) : Eff E t W s (traitGetattr E t s).2 := by
  unfold traitGetattr
  cases t.kind
  · rw [getattrTrait_eq]; exact .mat hs
  · exact .refl s

theorem getattro_eff (s : OSt) : Eff E t W s (getattro E t s).2 := by
  unfold getattro
  cases hs : s.slot
  · exact traitGetattr_eff E t s hs
  · exact .refl s

theorem fetchOld_eff (c0 dn : Bool) (w : Id) (s : OSt) : Eff E t W s (s.fetchOld E t c0 dn w).2 := by
  rw [fetchOld_eq]
  split
  · cases hs : s.slot with
    | some old => exact .refl s
    | none =>
      simp only []
      rcases hm : s.materialise E t with ⟨e | old, s2⟩ <;> exact (Eff.mat hs).snd hm
  · exact .refl s

theorem validateAssigned_eff (v : Id) (s : OSt) :
    Eff E t W s (s.validateAssigned E t v).2 ∧ ∀ u, (s.validateAssigned E t v).1 = .ok u → Validated E t v u := by
  unfold OSt.validateAssigned
  split
  · refine ⟨.book (runValidate_book E t v s), fun u hu => ?_⟩
    unfold runValidate at hu
    cases hk : t.validate with
    | none => rw [hk] at hu; injection hu with hu; exact Or.inl hu.symm
    | some k => rw [hk] at hu; exact Or.inr ⟨k, _, hk, hu⟩
  · exact ⟨.refl s, fun u hu => by injection hu with hu; exact Or.inl hu.symm⟩

theorem setattrTraitDel_eff (hW : W none) (c0 : Bool) (s : OSt) : Eff E t W s (setattrTraitDel E t c0 s).2 := by
  unfold setattrTraitDel
  cases hs : s.slot with
  | none => exact .refl s
  | some old =>
    simp only []
    have h0 : Eff E t W s { s with slot := none } := .write s none hW
    split
    · exact h0
    · split
      · rcases hg : traitGetattr E t { s with slot := none } with ⟨e | v, s2⟩ <;>
          have h1 := h0.trans ((traitGetattr_eff E t _ rfl).snd hg)
        · exact h1
        · simp only []
          split
          · rcases hp : postSetattr E t v s2 with ⟨_ | e, s3⟩ <;>
              have h2 := h1.trans ((postSetattr_eff E t v s2).snd hp)
            · simp only []
              split
              · exact h2.trans (callNotifiers_eff E t _ _ old v s3)
              · exact h2
            · exact h2
          · exact h1
      · exact h0

theorem setattrTrait_eff (v : Id) (hW : ∀ u, Validated E t v u → W (some u)) (s : OSt) :
    Eff E t W s (setattrTrait E t (some v) s).2 := by
  unfold setattrTrait
  simp only []
  obtain ⟨hv1, hv2⟩ := validateAssigned_eff (W := W) E t v s
  rcases hv : s.validateAssigned E t v with ⟨e | value, s1⟩ <;> rw [hv] at hv1 hv2
  · exact hv1
  · simp only []
    rcases hf : s1.fetchOld E t (testFlag t.flags Generated.TRAIT_COMPARISON_MODE_NONE)
        (hasNotifiers s1.tn s1.on) value with ⟨e | ⟨oldOpt, changed⟩, s2⟩ <;>
      have h2 := hv1.trans ((fetchOld_eff E t _ _ value s1).snd hf)
    · exact h2
    · simp only []
      have h3 := h2.trans (.write s2 (some (if testFlag t.flags Generated.TRAIT_SETATTR_ORIGINAL_VALUE = true
        then v else value)) (hW _ (by split; exact Or.inl rfl; exact hv2 value rfl)))
      split
      · rcases hp : postSetattr E t
            (if testFlag t.flags Generated.TRAIT_POST_SETATTR_ORIGINAL_VALUE = true then v else value)
            { s2 with slot := some (if testFlag t.flags Generated.TRAIT_SETATTR_ORIGINAL_VALUE = true
              then v else value) } with ⟨_ | e, s4⟩ <;>
          have h4 := h3.trans ((postSetattr_eff E t _ _).snd hp)
        · simp only []
          split
          · exact h4.trans (callNotifiers_eff E t _ _ _ _ s4)
          · exact h4
        · exact h4
      · exact h3

theorem setattrEvent_eff (v : Option Id) (s : OSt) : Eff E t W s (setattrEvent E t v s).2 := by
  unfold setattrEvent
  cases v with
  | none => exact .refl s
  | some v =>
    simp only []
    cases hv : t.validate with
    | none =>
      simp only []
      split
      · exact callNotifiers_eff E t _ _ _ _ s
      · exact .refl s
    | some k =>
      simp only []
      have h1 : Eff E t W s { s with ctx := (runValidate E t v s.ctx).2 } := .book (runValidate_book E t v s)
      rcases hr : runValidate E t v s.ctx with ⟨e | w, c⟩ <;> rw [hr] at h1
      · exact h1
      · simp only []
        split
        · exact h1.trans (callNotifiers_eff E t _ _ _ _ _)
        · exact h1

theorem traitSetattr_eff (v : Option Id)
    (hW : match v with | some v => ∀ u, Validated E t v u → W (some u) | none => W none) (s : OSt) :
    Eff E t W s (traitSetattr E t v s).2 := by
  unfold traitSetattr
  cases t.kind
  · cases v with
    | none => exact setattrTraitDel_eff E t hW _ s
    | some v => exact setattrTrait_eff E t v hW s
  · exact setattrEvent_eff E t v s

theorem reg_book (s : OSt) :
    (∀ h p, Book s (s.regDynamic h p)) ∧ (∀ h, Book s (s.unregDynamic h)) ∧ (∀ h p, Book s (s.regAny h p)) ∧
    (∀ h, Book s (s.unregAny h)) ∧ (∀ h, Book s (s.regObserve h)) ∧ (∀ h, Book s (s.unregObserve h).2) := by
  have e := (NFrame.ensureItrait s).book
  have it : ∀ x, Book s { s.ensureItrait with it := x } := fun x =>
    ⟨e.self, e.name, e.cn, e.slot, e.alloc, e.heap, e.fcalls, e.log⟩
  refine ⟨fun h p => ?_, fun h => ?_, fun h p => ?_, fun h => ?_, fun h => ?_, fun h => ?_⟩
  · unfold OSt.regDynamic; simp only []; split <;> exact it _
  · unfold OSt.unregDynamic; split <;> exact Book.ofEq (by rfl)
  · unfold OSt.regAny; simp only []; split <;> exact Book.ofEq (by rfl)
  · unfold OSt.unregAny; cases s.on <;> exact Book.ofEq (by rfl)
  · unfold OSt.regObserve; simp only []; split <;> exact it _
  · unfold OSt.unregObserve
    split
    · split <;> exact Book.ofEq (by rfl)
    · exact Book.ofEq (by rfl)

theorem step_eff (s : OSt) (op : Op) : Eff E t (op.writes E t) s (step E t s op).2 := by
  have hset : ∀ v (o : Op), (o = .set v ∨ o = .setq v) → ∀ u, Validated E t v u → o.writes E t (some u) := by
    rintro v o (rfl | rfl) u hu <;> exact ⟨u, rfl, hu⟩
  obtain ⟨r1, r2, r3, r4, r5, r6⟩ := reg_book s
  cases op with
  | set v => exact traitSetattr_eff E t (some v) (hset v _ (Or.inl rfl)) s
  | del => exact traitSetattr_eff (W := Op.writes E t .del) E t none rfl s
  | get =>
    show Eff E t _ s (match getattro E t s with
      | (.ok v, s') => (({ val := some v } : Res), s')
      | (.error e, s') => ({ exc := some e }, s')).2
    rcases hg : getattro E t s with ⟨e | v, s'⟩ <;> exact (getattro_eff E t s).snd hg
  | setq v =>
    have flag : ∀ (u : OSt) (b : Bool), Eff E t (Op.writes E t (.setq v)) u { u with noNotify := b } := fun u b =>
      .book (Book.ofEq (by rfl))
    exact ((flag s true).trans (traitSetattr_eff E t (some v) (hset v _ (Or.inr rfl)) _)).trans (flag _ false)
  | regDyn h p => exact .book (r1 h p)
  | unregDyn h => exact .book (r2 h)
  | regAny h p => exact .book (r3 h p)
  | unregAny h => exact .book (r4 h)
  | regObs h => exact .book (r5 h)
  | unregObs h => exact .book (r6 h)

end walk

end TraitsVerif.Model.Attr
