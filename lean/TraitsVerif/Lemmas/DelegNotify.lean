/-
Notification forwarding of the `deleg` model: who is in `forwarders`, which events a cascade
`notify` contains, and that it contains the event of a linked deferring attribute exactly once when
the hooking graph is acyclic.
-/
import TraitsVerif.Lemmas.DelegInv
import TraitsVerif.Lemmas.DelegNames
namespace TraitsVerif.Model.Deleg

/-! ### membership in `forwarders` -/

theorem mem_forwarders {p : Pool} {x : ObjId} {t : Name} {o : ObjId} {n : Name} :
    (o, n) ∈ forwarders p x t ↔
      o < p.size ∧ ∃ d, (n, d) ∈ (p.obj o).cls.deferNames ∧ (p.obj o).fwd n = some (some x) ∧
        listenedName (p.obj o).cls.pfx n d = t := by
  unfold forwarders
  simp only [List.mem_flatMap, List.mem_range, List.mem_filterMap]
  constructor
  · rintro ⟨o', ho', ⟨n', d⟩, hmem, hsome⟩
    split at hsome
    · rename_i hc
      simp only [Option.some.injEq, Prod.mk.injEq] at hsome
      obtain ⟨rfl, rfl⟩ := hsome
      exact ⟨ho', d, hmem, hc.1, hc.2⟩
    · simp at hsome
  · rintro ⟨ho, d, hmem, hf, hl⟩
    exact ⟨o, ho, (n, d), hmem, by simp [hf, hl]⟩

theorem forwarders_congr {p p' : Pool} (hs : p'.size = p.size)
    (h : ∀ j, (p'.obj j).cls = (p.obj j).cls ∧ (p'.obj j).fwd = (p.obj j).fwd) (x : ObjId) (t : Name) :
    forwarders p' x t = forwarders p x t := by
  simp only [forwarders, hs, h]

/-- Classes as `DelegatesTo` / `PrototypedFrom` build them: distinct identifier-like names, every
deferring trait made by `Delegate.__init__`. -/
def ClsOK (c : Cls) : Prop :=
  ClsWF c ∧ ∀ n d, c.trait n = .defer d → GoodName n ∧ ∃ raw m, d = mkDelegate raw m

/-- The check for a concrete class: distinct identifier-like names, every deferring trait what
`Delegate.__init__` makes of its own prefix. -/
def Cls.check (c : Cls) : Bool :=
  decide (ClsWF c) && c.traits.all fun ntd =>
    match ntd.2 with
    | .defer d => decide (ntd.1 ≠ [] ∧ ntd.1.getLast? ≠ some '*') && decide (d = mkDelegate d.raw d.modify)
    | _ => true

theorem clsOK_of_check {c : Cls} (h : c.check = true) : ClsOK c := by
  simp only [Cls.check, Bool.and_eq_true, decide_eq_true_eq, List.all_eq_true] at h
  refine ⟨h.1, fun n d htd => ?_⟩
  have := h.2 _ (trait_mem htd)
  simp only [Bool.and_eq_true, decide_eq_true_eq] at this
  exact ⟨this.1, _, _, this.2⟩

theorem clsOK_empty : ClsOK ⟨none, []⟩ := clsOK_of_check rfl

theorem forwarder_of_linked {p : Pool} (L : Linked p) {o : ObjId} (ho : o < p.size) (hc : ClsOK (p.obj o).cls)
    {n : Name} {d : DelegInfo} (htd : (p.obj o).cls.trait n = .defer d) (hd : (p.obj o).dict n = none)
    {y : ObjId} (hy : (p.obj o).deleg = some y) :
    (o, n) ∈ forwarders p y (targetName (p.obj o).cls.pfx n d) := by
  rw [mem_forwarders]
  refine ⟨ho, d, deferNames_mem _ _ _ htd, ?_, ?_⟩
  · rw [L o n d htd hd, hy]
  · obtain ⟨hg, raw, m, rfl⟩ := hc.2 n d htd
    exact listenedName_eq_targetName raw m _ n hg

/-! ### what a cascade contains -/

theorem notify_succ (p : Pool) (f : Nat) (x : ObjId) (t : Name) (a b : Val) :
    notify p (f + 1) x t a b =
      ⟨x, t, a, b⟩ :: (forwarders p x t).flatMap fun on => notify p f on.1 on.2 a b := rfl

theorem notify_congr {p p' : Pool} (hs : p'.size = p.size)
    (h : ∀ j, (p'.obj j).cls = (p.obj j).cls ∧ (p'.obj j).fwd = (p.obj j).fwd) (a b : Val) :
    ∀ (f : Nat) (x : ObjId) (t : Name), notify p' f x t a b = notify p f x t a b
  | 0, _, _ => rfl
  | f + 1, x, t => by simp only [notify, forwarders_congr hs h, notify_congr hs h a b f]

theorem notify_mem {p : Pool} {a b : Val} : ∀ (f : Nat) (x : ObjId) (t : Name) (e : Event),
    e ∈ notify p f x t a b →
      e.old = a ∧ e.new = b ∧ ((e.obj = x ∧ e.name = t) ∨ ∃ h, (p.obj e.obj).fwd e.name = some (some h)) := by
  intro f
  induction f with
  | zero => intro x t e h; simp [notify] at h
  | succ f ih =>
    intro x t e h
    rw [notify_succ] at h
    rcases List.mem_cons.mp h with rfl | h
    · exact ⟨rfl, rfl, Or.inl ⟨rfl, rfl⟩⟩
    · obtain ⟨⟨o, n⟩, hon, he⟩ := List.mem_flatMap.mp h
      obtain ⟨h1, h2, h3⟩ := ih o n e he
      refine ⟨h1, h2, Or.inr ?_⟩
      rcases h3 with ⟨ho, hn⟩ | h3
      · rw [ho, hn]
        obtain ⟨_, d, _, hf, _⟩ := mem_forwarders.mp hon
        exact ⟨x, hf⟩
      · exact h3

theorem notify_not_unlinked {p : Pool} {o : ObjId} {n : Name} (hf : (p.obj o).fwd n = none) (f : Nat) (x : ObjId)
    (t : Name) (a b : Val) (hne : ¬(x = o ∧ t = n)) : ∀ e ∈ notify p f x t a b, ¬(e.obj = o ∧ e.name = n) := by
  rintro e he ⟨ho, hn⟩
  obtain ⟨_, _, ⟨h1, h2⟩ | ⟨h, hh⟩⟩ := notify_mem f x t e he
  · exact hne ⟨by rw [← h1, ho], by rw [← h2, hn]⟩
  · rw [ho, hn, hf] at hh; cases hh

theorem notify_contains {p : Pool} {o : ObjId} {n : Name} {y : ObjId} {t : Name}
    (h : (o, n) ∈ forwarders p y t) (f : Nat) (a b : Val) : ⟨o, n, a, b⟩ ∈ notify p (f + 2) y t a b := by
  rw [notify_succ]
  refine List.mem_cons_of_mem _ (List.mem_flatMap.mpr ⟨(o, n), h, ?_⟩)
  rw [notify_succ]
  exact List.mem_cons_self ..

/-! ### exactly once -/

theorem sum_map_single {α : Type} [DecidableEq α] (g : α → Nat) (a : α) (l : List α) (hnd : l.Nodup) (hm : a ∈ l)
    (hz : ∀ b ∈ l, b ≠ a → g b = 0) : (l.map g).sum = g a := by
  have h0 : ((l.erase a).map g).sum = 0 := List.sum_eq_zero_iff_forall_eq_nat.mpr fun x hx => by
    obtain ⟨b, hb, rfl⟩ := List.mem_map.mp hx
    exact hz b (List.mem_of_mem_erase hb) (hnd.mem_erase_iff.mp hb).1
  rw [((List.perm_cons_erase hm).map g).sum_nat, List.map_cons, List.sum_cons, h0]; rfl

theorem forwarders_nodup {p : Pool} (hwf : PoolWF p) (x : ObjId) (t : Name) : (forwarders p x t).Nodup := by
  unfold forwarders
  -- the entry made for object `o` and declared name `n` is `(o, n)`
  have key : ∀ (o : ObjId) (nd : Name × DelegInfo) (b : ObjId × Name),
      (match nd with
        | (n, d) => if (p.obj o).fwd n = some (some x) ∧ listenedName (p.obj o).cls.pfx n d = t then some (o, n) else none)
        = some b → b = (o, nd.1) := by
    rintro o ⟨n, d⟩ b hb
    simp only [] at hb
    split at hb
    · exact (Option.some.inj hb).symm
    · cases hb
  rw [List.Nodup, List.pairwise_flatMap]
  refine ⟨fun o _ => ?_, List.nodup_range.imp fun hne b hb b' hb' => ?_⟩
  · have hn := deferNames_nodup _ (hwf o)
    rw [List.Nodup, List.pairwise_map] at hn
    exact hn.filterMap _ fun nd nd' hne b hb b' hb' => by
      rw [key o nd b hb, key o nd' b' hb']
      exact fun h => hne (congrArg Prod.snd h)
  · obtain ⟨nd, _, h⟩ := List.mem_filterMap.mp hb
    obtain ⟨nd', _, h'⟩ := List.mem_filterMap.mp hb'
    rw [key _ nd b h, key _ nd' b' h']
    exact fun h => hne (congrArg Prod.fst h)

/-- The hooking graph is acyclic: some rank decreases along every hook. -/
def Acyclic (p : Pool) (rank : ObjId → Nat) : Prop :=
  ∀ o n h, (p.obj o).fwd n = some (some h) → rank h < rank o

theorem acyclic_of_deleg {p : Pool} (H : HookInv p) (rank : ObjId → Nat)
    (h : ∀ o y, (p.obj o).deleg = some y → rank y < rank o) : Acyclic p rank :=
  fun o n y hf => h o y (H o n y hf)

theorem notify_tail_rank {p : Pool} {rank : ObjId → Nat} (hac : Acyclic p rank) {a b : Val} :
    ∀ (f : Nat) (x : ObjId) (t : Name) (e : Event),
      e ∈ (forwarders p x t).flatMap (fun on => notify p f on.1 on.2 a b) →
      ∃ z, (p.obj e.obj).fwd e.name = some (some z) ∧ rank x ≤ rank z := by
  intro f
  induction f with
  | zero =>
    intro x t e h
    obtain ⟨on, _, he⟩ := List.mem_flatMap.mp h
    simp [notify] at he
  | succ f ih =>
    intro x t e h
    obtain ⟨⟨o', n'⟩, hon, he⟩ := List.mem_flatMap.mp h
    obtain ⟨_, d, _, hf, _⟩ := mem_forwarders.mp hon
    rw [notify_succ] at he
    rcases List.mem_cons.mp he with rfl | he
    · exact ⟨x, hf, Nat.le_refl _⟩
    · obtain ⟨z, h2, h3⟩ := ih o' n' e he
      exact ⟨z, h2, Nat.le_trans (Nat.le_of_lt (hac o' n' x hf)) h3⟩

theorem notify_count_one {p : Pool} (hwf : PoolWF p) {rank : ObjId → Nat} (hac : Acyclic p rank)
    {o : ObjId} {n : Name} {y : ObjId} {t : Name} (h : (o, n) ∈ forwarders p y t) (f : Nat) (a b : Val) :
    (notify p (f + 2) y t a b).countP (fun e => decide (e.obj = o ∧ e.name = n)) = 1 := by
  obtain ⟨_, d, _, hf, _⟩ := mem_forwarders.mp h
  -- The cascade of a forwarder `(o', n')` of `(y, t)` contains `(o, n)` as its head or not at all: below the
  -- head it would have to pass `y` again, on which `(o, n)` is hooked, and `y` lies strictly below `o'`.
  have hsub : ∀ on ∈ forwarders p y t,
      (notify p (f + 1) on.1 on.2 a b).countP (fun e => decide (e.obj = o ∧ e.name = n)) = if on = (o, n) then 1 else 0 := by
    rintro ⟨o', n'⟩ hon
    have htail : ((forwarders p o' n').flatMap fun on => notify p f on.1 on.2 a b).countP
        (fun e => decide (e.obj = o ∧ e.name = n)) = 0 := by
      rw [List.countP_eq_zero]
      intro e he
      simp only [decide_eq_true_eq]
      rintro ⟨ho, hn⟩
      obtain ⟨z, h2, h3⟩ := notify_tail_rank hac f o' n' e he
      obtain ⟨_, _, _, hf', _⟩ := mem_forwarders.mp hon
      have := hac o' n' y hf'
      rw [ho, hn, hf] at h2
      cases h2
      omega
    rw [notify_succ, List.countP_cons, htail]
    simp only [Prod.mk.injEq, Nat.zero_add, decide_eq_true_eq]
  have hhead : ¬((⟨y, t, a, b⟩ : Event).obj = o ∧ (⟨y, t, a, b⟩ : Event).name = n) := by
    rintro ⟨rfl, _⟩
    exact Nat.lt_irrefl _ (hac _ n _ hf)
  rw [notify_succ, List.countP_cons, if_neg (by simpa using hhead), List.countP_flatMap,
    sum_map_single _ (o, n) _ (forwarders_nodup hwf y t) h]
  · exact (hsub _ h).trans (if_pos rfl)
  · exact fun on hon hne => (hsub on hon).trans (if_neg hne)

end TraitsVerif.Model.Deleg
