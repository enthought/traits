/-
Consequences of the footprint lemma: a trait no link leads to is never touched
(one-way links, removed links, dead partners); which exceptions escape a
command; a propagation notifies each trait at most as often as `visit` lists it,
so an in-place mutation notifies each trait at most once when no trait is
reached twice.
-/
import TraitsVerif.Lemmas.SyncMutate
import TraitsVerif.Lemmas.SyncAssign
namespace TraitsVerif.Model.Sync
open TraitsVerif TraitsVerif.Py TraitsVerif.Model
variable {α π : Type} {apply : World α → Pair → π → Except Exc (World α × Option α × Option π)}

/-- A trait that is not the destination of any table entry is visited only if
the propagation starts on it. -/
theorem not_mem_visit (es : List Edge) (r : Pair) (hr : ∀ e ∈ es, e.dst ≠ r) (d : Nat) :
    ∀ (L : List Pair) (p : Pair), r ≠ p → r ∉ visit es d L p := by
  induction d with
  | zero => intro L p _; simp [visit]
  | succ d ih =>
    intro L p hrp
    rw [visit_succ, List.mem_cons, not_or]
    refine ⟨hrp, fun hmem => ?_⟩
    obtain ⟨q, hq, hin⟩ := List.mem_flatMap.mp hmem
    split at hin
    · cases hin
    · obtain ⟨e, he, rfl⟩ := List.mem_map.mp hq
      exact ih _ _ (hr e (List.mem_filter.mp he).1).symm hin

theorem finish_untouched (hl : Local apply) (d : Nat) (w : World α) (p r : Pair) (x : π)
    (hL : w.locked = []) (hr : ∀ e ∈ w.edges, e.dst ≠ r) (hrp : r ≠ p) :
    SameAt r w (finish w (cascade apply d w p x)).world :=
  finish_rel (SameAt r) (SameAt.refl r) fun w' ret h =>
    cascade_footprint hl r d w p x w' ret (by simp [hL]) (not_mem_visit _ r hr _ _ p hrp) h

/-! ### Which exceptions escape -/

theorem assign_exc [DecidableEq α] (E : Env α) (w : World α) (p : Pair) (v : AVal α) :
    (w.assign E p v).exc = (match validate E p v with | .ok _ => none | .error e => some e) := by
  refine (finish_exc w p v _).trans ?_
  cases hv : validate E p v with
  | error e => simp [applyAssign, hv]
  | ok y => obtain ⟨w1, pay, happ, -⟩ := applyAssign_val w hv; rw [happ]

/-- An in-place mutation raises exactly what the same call raises on an
unlinked list trait. -/
theorem mutate_exc (E : Env α) (w : World α) (p : Pair) (op : Op α) (hl : E.isList p = true) :
    (w.mutate E p op).exc =
      (match listStep (E.tl p) (w.list p) op with | .ok _ => none | .error e => some e) := by
  refine (finish_exc w p op _).trans ?_
  cases hs : listStep (E.tl p) (w.list p) op with
  | error e => simp [applyMutate, hl, hs]
  | ok o => obtain ⟨w1, happ, -⟩ := applyMutate_val w hl hs; rw [happ]

/-! ### At most one `name_items` notification per trait -/

/-- **Notification count.** If `apply` notifies its own trait's `name_items`
handler at most once, a propagation notifies each trait's at most as often as
`visit` lists the trait — in any network. -/
theorem cascade_count (hl : Local apply)
    (hb : ∀ {w p x w1 r y}, apply w p x = .ok (w1, r, y) → w1.nItems p ≤ w.nItems p + 1) (r : Pair) (d : Nat) :
    ∀ (w : World α) (p : Pair) (x : π) (w' : World α) (ret : Option α),
      p ∉ w.locked → cascade apply d w p x = .ok (w', ret) →
      w'.nItems r ≤ w.nItems r + (visit w.edges d w.locked p).count r := by
  induction d with
  | zero => intro w p x w' ret _ h; simp [cascade] at h
  | succ d ih =>
    intro w p x w' ret hp h
    obtain ⟨w1, y, happ, rfl⟩ := cascade_succ_ok h
    have h1 := hl.sameTabs happ
    have hfirst : w1.nItems r ≤ w.nItems r + if (p == r) = true then 1 else 0 := by
      by_cases hrp : r = p
      · subst hrp; simpa using hb happ
      · rw [hl.nItems happ r hrp]; exact Nat.le_add_right ..
    -- the loop: each round adds at most the count of its own visit list
    have hloop : ∀ (y : π) (ps : List Pair) (acc : World α), SameTabs (w1.lock p) acc →
        (ps.foldl (visitPartner (cascade apply d) y) acc).nItems r ≤ acc.nItems r +
          (ps.flatMap fun q => if q ∈ p :: w.locked then [] else visit w.edges d (p :: w.locked) q).count r := by
      intro y ps
      induction ps with
      | nil => exact fun _ _ => Nat.le_refl _
      | cons q qs ihq =>
        intro acc hacc
        rw [List.foldl_cons, List.flatMap_cons, List.count_append]
        have he : acc.edges = w.edges := hacc.1.trans h1.1
        have hL : acc.locked = p :: w.locked := hacc.2.1.trans (congrArg (p :: ·) h1.2.1)
        rcases visitPartner_cases (cascade apply d) y acc q with hv | ⟨hq, r', hv⟩
        · rw [hv]; exact Nat.le_trans (ihq acc hacc) (by omega)
        · have := ih acc q _ _ r' hq hv
          rw [he, hL] at this
          rw [if_neg (hL ▸ hq)]
          exact Nat.le_trans (ihq _ (hacc.trans (cascade_frame hl d acc q _ _ r' hq hv))) (by omega)
    rw [visit_succ, List.count_cons]
    refine Nat.le_trans ?_ (by omega : w1.nItems r + (visitLoop w.edges d w.locked p).count r ≤ _)
    cases y with
    | none => exact Nat.le_add_right ..
    | some y =>
      rw [handle_some]
      split
      · exact Nat.le_add_right ..
      · rw [partners_congr h1.1 p]; exact hloop y (w.partners p) _ (SameTabs.refl _)

theorem applyMutate_nItems {E : Env α} {w w1 : World α} {p : Pair} {op : Op α}
    {ret : Option α} {y : Option (Op α)} (h : applyMutate E w p op = .ok (w1, ret, y)) :
    w1.nItems p ≤ w.nItems p + 1 := by
  obtain ⟨_, o, _, _, ⟨_, _, rfl⟩ | ⟨e, _, _, rfl⟩⟩ := applyMutate_ok h
  · exact Nat.le_succ _
  · exact Nat.le_of_eq (upd_same ..)

/-- An in-place mutation calls no whole-trait handler anywhere. -/
theorem mutate_nChg (E : Env α) (d : Nat) :
    ∀ (w : World α) (p : Pair) (op : Op α) (w' : World α) (ret : Option α),
      cascade (applyMutate E) d w p op = .ok (w', ret) → w'.nChg = w.nChg := by
  induction d with
  | zero => intro w p op w' ret h; simp [cascade] at h
  | succ d ih =>
    intro w p op w' ret h
    obtain ⟨w1, y, happ, rfl⟩ := cascade_succ_ok h
    have h1 : w1.nChg = w.nChg := by
      obtain ⟨_, o, _, _, ⟨_, _, rfl⟩ | ⟨e, _, _, rfl⟩⟩ := applyMutate_ok happ <;> rfl
    cases y with
    | none => exact h1
    | some y =>
      exact (handle_rel (local_mutate E) d (fun a b => b.nChg = a.nChg) (fun _ => rfl)
        (fun _ _ _ h1 h2 => h2.trans h1) (fun _ h => h) fun acc q acc' r _ _ _ hc => ih acc q y acc' r hc).trans h1

end TraitsVerif.Model.Sync
