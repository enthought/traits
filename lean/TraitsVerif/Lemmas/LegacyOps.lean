/-
What `mutate` returns for every operation of a history (helper lemmas for C16): `MutKind`, either
a probe of a final attribute (heap and listener untouched) or a `Change` of one link attribute
together with the shape of the handler's script and what a suppressed notification means;
`mutate_spec` says every applicable operation is of one of these two kinds, by one lemma per
operation.
-/
import TraitsVerif.Lemmas.LegacyChange
import TraitsVerif.Lemmas.Common
namespace TraitsVerif.Model.Legacy
open List

/-! ### scripts -/

/-- The two projections of a script are `filterMap`s, so the list lemmas apply. -/
theorem scUnregs_eq (sc : List Act) :
    scUnregs sc = sc.filterMap (fun | .unreg x => some x | .reg _ => none) := by
  induction sc with
  | nil => rfl
  | cons a sc ih => cases a <;> simp [scUnregs, ih]

theorem scRegs_eq (sc : List Act) :
    scRegs sc = sc.filterMap (fun | .reg x => some x | .unreg _ => none) := by
  induction sc with
  | nil => rfl
  | cons a sc ih => cases a <;> simp [scRegs, ih]

@[simp] theorem scUnregs_append (a b : List Act) : scUnregs (a ++ b) = scUnregs a ++ scUnregs b := by
  simp [scUnregs_eq]
@[simp] theorem scRegs_append (a b : List Act) : scRegs (a ++ b) = scRegs a ++ scRegs b := by
  simp [scRegs_eq]
@[simp] theorem scUnregs_unregAll (xs : List Nat) : scUnregs (unregAll xs) = xs := by
  simp [scUnregs_eq, unregAll, filterMap_map, Function.comp_def]
@[simp] theorem scRegs_unregAll (xs : List Nat) : scRegs (unregAll xs) = [] := by
  simp [scRegs_eq, unregAll, filterMap_map, Function.comp_def]
@[simp] theorem scUnregs_regAll (xs : List Nat) : scUnregs (regAll xs) = [] := by
  simp [scUnregs_eq, regAll, filterMap_map, Function.comp_def]
@[simp] theorem scRegs_regAll (xs : List Nat) : scRegs (regAll xs) = xs := by
  simp [scRegs_eq, regAll, filterMap_map, Function.comp_def]

/-! ### fresh identifiers -/

theorem mem_freshIds {h : Heap} {n c : Nat} : c ∈ freshIds h n ↔ h.next ≤ c ∧ c < h.next + n := by
  simp only [freshIds, mem_map, mem_range]
  constructor
  · rintro ⟨i, hi, rfl⟩; omega
  · rintro ⟨h1, h2⟩; exact ⟨c - h.next, by omega, by omega⟩

theorem freshIds_nodup (h : Heap) (n : Nat) : (freshIds h n).Nodup := by
  unfold freshIds Nodup
  rw [pairwise_map]
  exact (nodup_range (n := n)).imp (fun hab => by omega)

theorem freshIds_disjoint {h : Heap} (ht : TreeShaped h) (o : Nat) (a : Attr) (n : Nat) :
    ∀ c ∈ freshIds h n, c ∉ targets h a o := by
  intro c hc hin
  have := ht.bound o a c hin
  have := (mem_freshIds.mp hc).1
  omega

/-! ### objects -/

def Obj.targets (x : Obj) : Attr → List Nat
  | .child => x.child.toList
  | .kids => x.kids
  | .byname => x.byname.map (·.2)
  | .group => x.group

theorem targets_eq (h : Heap) (a : Attr) (o : Nat) : targets h a o = (h.obj o).targets a := by
  cases a <;> rfl

theorem targets_set_self (h : Heap) (o : Nat) (x : Obj) (n : Nat) (a : Attr) :
    targets ((h.setObj o x).bump n) a o = x.targets a := by
  cases a <;> simp [targets, Heap.setObj, Heap.bump, Obj.targets]

theorem targets_set_ne (h : Heap) (o : Nat) (x : Obj) (n : Nat) (a : Attr) {p : Nat} (hp : p ≠ o) :
    targets ((h.setObj o x).bump n) a p = targets h a p := by
  cases a <;> simp [targets, Heap.setObj, Heap.bump, hp]

theorem Obj.targets_child (x : Obj) (v : Option Nat) (a : Attr) :
    ({ x with child := v } : Obj).targets a = if a = .child then v.toList else x.targets a := by
  cases a <;> rfl
theorem Obj.targets_kids (x : Obj) (v : List Nat) (a : Attr) :
    ({ x with kids := v } : Obj).targets a = if a = .kids then v else x.targets a := by
  cases a <;> rfl
theorem Obj.targets_byname (x : Obj) (v : List (Nat × Nat)) (a : Attr) :
    ({ x with byname := v } : Obj).targets a = if a = .byname then v.map (·.2) else x.targets a := by
  cases a <;> rfl
theorem Obj.targets_group (x : Obj) (v : List Nat) (a : Attr) :
    ({ x with group := v } : Obj).targets a = if a = .group then v else x.targets a := by
  cases a <;> rfl

/-- Building a `Change` from an update of one attribute of one object: the object becomes `x`,
whose attribute `a` holds `ts`. -/
theorem Change.ofSet {h : Heap} (ht : TreeShaped h) {o : Nat} (ho : o < h.next) (x : Obj) (n : Nat)
    {a : Attr} {ts : List Nat} (olds news : List Nat)
    (hx : ∀ a', x.targets a' = if a' = a then ts else (h.obj o).targets a')
    (hmem : ∀ c, c ∈ ts ↔ (c ∈ targets h a o ∧ c ∉ olds) ∨ c ∈ news)
    (holds : ∀ c ∈ olds, c ∈ targets h a o)
    (hnews : ∀ c ∈ news, (h.next ≤ c ∧ c < h.next + n) ∨ c ∈ olds)
    (hnd : ts.Nodup) (hond : olds.Nodup) (hnnd : news.Nodup)
    (hkeys : (x.byname.map (·.1)).Nodup) :
    Change h ((h.setObj o x).bump n) o a olds news := by
  have hxa : x.targets a = ts := by rw [hx, if_pos rfl]
  refine ⟨ho, by simp [Heap.bump, Heap.setObj], ?_, ?_, holds, hnews, ?_, hond, hnnd, ?_⟩
  · intro p a' hpa
    by_cases hp : p = o
    · subst hp
      rw [targets_set_self, targets_eq, hx, if_neg (hpa.resolve_left (fun h => h rfl))]
    · exact targets_set_ne _ _ _ _ _ hp
  · intro c; rw [targets_set_self, hxa]; exact hmem c
  · rw [targets_set_self, hxa]; exact hnd
  · intro p
    by_cases hp : p = o
    · subst hp; simpa [Heap.setObj, Heap.bump] using hkeys
    · simpa [Heap.setObj, Heap.bump, hp] using ht.keys p

/-- The same from a multiset description of the update: the attribute held `olds` and `rest`,
it now holds `rest` and `news`. -/
theorem Change.ofPerm {h : Heap} (ht : TreeShaped h) {o : Nat} (ho : o < h.next) (x : Obj) (n : Nat)
    {a : Attr} {ts olds news : List Nat} (rest : List Nat)
    (hx : ∀ a', x.targets a' = if a' = a then ts else (h.obj o).targets a')
    (hold : (targets h a o).Perm (olds ++ rest)) (hts : ts.Perm (rest ++ news))
    (hnews : ∀ c ∈ news, (h.next ≤ c ∧ c < h.next + n) ∨ c ∈ olds) (hnnd : news.Nodup)
    (hkeys : (x.byname.map (·.1)).Nodup) :
    Change h ((h.setObj o x).bump n) o a olds news := by
  obtain ⟨hond, hrnd, hdisj⟩ := nodup_append.mp (hold.nodup_iff.mp (ht.nodup o a))
  refine .ofSet ht ho x n olds news hx (fun c => ?_) (fun c hc => hold.mem_iff.mpr (mem_append_left _ hc))
    hnews (hts.nodup_iff.mpr (nodup_append.mpr ⟨hrnd, hnnd, fun c hcr _ hcn e => ?_⟩)) hond hnnd hkeys
  · rw [hts.mem_iff, hold.mem_iff, mem_append, mem_append]
    exact or_congr_left ⟨fun hr => ⟨Or.inr hr, fun ho => hdisj c ho c hr rfl⟩, fun ⟨h1, h2⟩ => h1.resolve_left h2⟩
  · -- a gained object is fresh or was lost: in neither case is it kept
    subst e
    rcases hnews c hcn with hf | hco
    · have := ht.bound o a c (hold.mem_iff.mpr (mem_append_right _ hcr)); omega
    · exact hdisj c hco c hcr rfl

/-! ### association lists -/

/-- An association list with distinct keys, split at the entry found under `key`, which is the only
one there: what deleting the key and overwriting its value make of it. -/
theorem assoc_split {d : List (Nat × Nat)} (hk : (d.map (·.1)).Nodup) {key : Nat} {e : Nat × Nat}
    (hf : d.find? (·.1 = key) = some e) :
    ∃ as bs, d = as ++ e :: bs ∧ e.1 = key ∧ d.filter (·.1 ≠ key) = as ++ bs ∧
      ∀ new, d.map (fun x => if x.1 = key then (key, new) else x) = as ++ (key, new) :: bs := by
  obtain ⟨he, as, bs, rfl, has⟩ := find?_eq_some_iff_append.mp hf
  have he : e.1 = key := by simpa using he
  have has : ∀ x ∈ as, x.1 ≠ key := fun x hx => by simpa using has x hx
  have hbs : ∀ x ∈ bs, x.1 ≠ key := fun x hx hxk => by
    simp only [map_append, map_cons, nodup_append, nodup_cons, mem_map] at hk
    exact hk.2.1.1 ⟨x, hx, hxk.trans he.symm⟩
  refine ⟨as, bs, rfl, he, ?_, fun new => ?_⟩
  · rw [filter_append, filter_cons_of_neg (by simpa), filter_eq_self.mpr (by simpa using has),
      filter_eq_self.mpr (by simpa using hbs)]
  · rw [map_append, map_cons, if_pos he, map_congr_left (g := fun x => x) (fun x hx => if_neg (has x hx)),
      map_congr_left (g := fun x => x) (fun x hx => if_neg (hbs x hx)), map_id', map_id']

/-- `d[key] = new` for an existing key -/
theorem assoc_replace {d : List (Nat × Nat)} (hk : (d.map (·.1)).Nodup) (hv : (d.map (·.2)).Nodup)
    {key new : Nat} {e : Nat × Nat} (hf : d.find? (·.1 = key) = some e) (hnew : new ∉ d.map (·.2)) :
    (d.map (fun e => if e.1 = key then (key, new) else e)).map (·.1) = d.map (·.1) ∧
    ((d.map (fun e => if e.1 = key then (key, new) else e)).map (·.2)).Nodup ∧
    ∀ c, c ∈ (d.map (fun e => if e.1 = key then (key, new) else e)).map (·.2) ↔
      (c ∈ d.map (·.2) ∧ c ≠ e.2) ∨ c = new := by
  obtain ⟨as, bs, rfl, rfl, -, hd'⟩ := assoc_split hk hf
  rw [hd']
  simp only [map_append, map_cons, perm_middle.nodup_iff, nodup_cons, mem_append, mem_cons] at hv hnew ⊢
  obtain ⟨hA, hB⟩ := not_or.mp hv.1
  refine ⟨trivial, ⟨fun h => hnew (h.imp_right Or.inr), hv.2⟩, fun c => ?_⟩
  by_cases hc : c = e.2
  · simp [hc, hA, hB]
  · simp [hc, or_comm, or_left_comm]

theorem dedupKeys_nodup (ks : List Nat) : (dedupKeys ks).Nodup := by
  induction ks with
  | nil => simp [dedupKeys]
  | cons k ks ih =>
    simp only [dedupKeys, nodup_cons, mem_filter, decide_eq_true_eq, ne_eq, not_true_eq_false,
      and_false, not_false_eq_true, true_and]
    exact (filter_sublist).nodup ih

/-! ### `dict.update` with several keys -/

theorem assoc_replace_other {d : List (Nat × Nat)} {key new : Nat} {e : Nat × Nat} (hne : e.1 ≠ key) :
    e ∈ d.map (fun e => if e.1 = key then (key, new) else e) ↔ e ∈ d := by
  simp only [mem_map]
  constructor
  · rintro ⟨e', he', rfl⟩
    by_cases h : e'.1 = key
    · simp [h] at hne
    · simpa [h] using he'
  · intro he; exact ⟨e, he, by simp [hne]⟩

@[simp] theorem scUnregs_changed (ch : List (Nat × Nat)) :
    scUnregs (ch.flatMap (fun c => [Act.unreg c.1, Act.reg c.2])) = ch.map (·.1) := by
  induction ch with
  | nil => rfl
  | cons c ch ih => simp [scUnregs, ih]

@[simp] theorem scRegs_changed (ch : List (Nat × Nat)) :
    scRegs (ch.flatMap (fun c => [Act.unreg c.1, Act.reg c.2])) = ch.map (·.2) := by
  induction ch with
  | nil => rfl
  | cons c ch ih => simp [scRegs, ih]

/-- Every value written is reported exactly once, as added or as the new value of an overwritten key:
whatever `d` and `kvs` are. -/
theorem dictUpd_values (kvs d : List (Nat × Nat)) :
    ((dictUpd d kvs).2.1 ++ (dictUpd d kvs).2.2.map (·.2)).Perm (kvs.map (·.2)) := by
  fun_induction dictUpd d kvs with
  | case1 d => exact .refl _
  | case2 d k v kvs e hf r ih => exact perm_middle.trans (ih.cons v)   -- `k` is in `d`
  | case3 d k v kvs hf r ih => exact ih.cons v                         -- `k` is new

/-- `dictUpd d kvs` (`TraitDict.update`, Model/Legacy.lean) returns three components: `.1` the new
association list, `.2.1` the values added under new keys, `.2.2` the `(old value, new value)` pairs
of the keys that were overwritten.  For `d` with distinct keys and distinct values and `kvs` with
distinct keys and distinct values not in `d`: the new list again has distinct keys and distinct
values; its values are those of `d` without the overwritten ones, plus the added and the
overwriting ones; every overwritten value sat in `d` under a key of `kvs`, and they are distinct;
the added and the overwriting values together are exactly the values of `kvs`, without repetition. -/
theorem dictUpd_spec : ∀ (kvs d : List (Nat × Nat)),
    (d.map (·.1)).Nodup → (d.map (·.2)).Nodup → (kvs.map (·.1)).Nodup → (kvs.map (·.2)).Nodup →
    (∀ v ∈ kvs.map (·.2), v ∉ d.map (·.2)) →
    ((dictUpd d kvs).1.map (·.1)).Nodup ∧ ((dictUpd d kvs).1.map (·.2)).Nodup ∧
    (∀ c, c ∈ (dictUpd d kvs).1.map (·.2) ↔
      (c ∈ d.map (·.2) ∧ c ∉ (dictUpd d kvs).2.2.map (·.1)) ∨ c ∈ (dictUpd d kvs).2.1 ∨
        c ∈ (dictUpd d kvs).2.2.map (·.2)) ∧
    (∀ c ∈ (dictUpd d kvs).2.2.map (·.1), ∃ key ∈ kvs.map (·.1), (key, c) ∈ d) ∧
    ((dictUpd d kvs).2.2.map (·.1)).Nodup ∧
    (∀ c, (c ∈ (dictUpd d kvs).2.1 ∨ c ∈ (dictUpd d kvs).2.2.map (·.2)) ↔ c ∈ kvs.map (·.2)) ∧
    ((dictUpd d kvs).2.1 ++ (dictUpd d kvs).2.2.map (·.2)).Nodup := by
  intro kvs d
  fun_induction dictUpd d kvs with
  | case1 d => intro hk hv _ _ _; simp [hk, hv]
  | case2 d k v kvs e hf r ih =>
    -- `k` is in `d`: its value `e.2` is overwritten by `v`
    intro hk hv hkk hvv hfresh
    -- the last two clauses need the distinctness of the written values only
    have hw := dictUpd_values ((k, v) :: kvs) d
    simp only [dictUpd, hf] at hw
    have h67 := And.intro (fun c => mem_append.symm.trans (hw.mem_iff (a := c))) (hw.nodup_iff.mpr hvv)
    simp only [map_cons, nodup_cons] at hkk hvv
    have hvd : v ∉ d.map (·.2) := hfresh v (by simp)
    have hed : e ∈ d := mem_of_find?_eq_some hf
    have hek : e.1 = k := by simpa using find?_some hf
    have hmem : (k, e.2) ∈ d := by rw [← hek]; exact hed
    obtain ⟨r1, r2, r3⟩ := assoc_replace hk hv hf hvd
    have hold : e.2 ∈ d.map (·.2) := mem_map.mpr ⟨_, hed, rfl⟩
    obtain ⟨i1, i2, i3, i4, i5, _⟩ := ih (by rw [r1]; exact hk) r2 hkk.2 hvv.2 (by
      intro v' hv' hin
      rcases (r3 v').mp hin with ⟨h1, _⟩ | h1
      · exact hfresh v' (by simp [hv']) h1
      · exact hvv.1 (h1 ▸ hv'))
    rw [show dictUpd (d.map (fun e => if e.1 = k then (k, v) else e)) kvs = r from rfl] at i1 i2 i3 i4 i5 h67
    clear_value r
    have hvch : v ∉ r.2.2.map (·.1) := by
      intro hin
      obtain ⟨key, hkey, hkv⟩ := i4 v hin
      have hne : key ≠ k := fun e' => hkk.1 (e' ▸ hkey)
      have := (assoc_replace_other (e := (key, v)) hne).mp hkv
      exact hvd (mem_map.mpr ⟨_, this, rfl⟩)
    refine ⟨i1, i2, ?_, ?_, ?_, h67⟩
    · intro c
      simp only [map_cons, mem_cons, not_or]
      rw [i3, r3]
      by_cases hcv : c = v
      · subst hcv; simp [hvch]
      · simp [hcv, and_assoc]
    · intro c hc
      simp only [map_cons, mem_cons] at hc ⊢
      rcases hc with rfl | hc
      · exact ⟨k, Or.inl rfl, hmem⟩
      · obtain ⟨key, hkey, hkc⟩ := i4 c hc
        have hne : key ≠ k := fun e' => hkk.1 (e' ▸ hkey)
        exact ⟨key, Or.inr hkey, (assoc_replace_other (e := (key, c)) hne).mp hkc⟩
    · simp only [map_cons, nodup_cons]
      refine ⟨?_, i5⟩
      intro hin
      obtain ⟨key, _, hkc⟩ := i4 _ hin
      have : e.2 ∈ (d.map (fun e => if e.1 = k then (k, v) else e)).map (·.2) :=
        mem_map.mpr ⟨_, hkc, rfl⟩
      rcases (r3 _).mp this with ⟨_, h2⟩ | h2
      · exact h2 rfl
      · exact hvd (h2 ▸ hold)
  | case3 d k v kvs hf r ih =>
    -- `k` is new: `(k, v)` is appended
    intro hk hv hkk hvv hfresh
    have hw := dictUpd_values ((k, v) :: kvs) d
    simp only [dictUpd, hf] at hw
    have h67 := And.intro (fun c => mem_append.symm.trans (hw.mem_iff (a := c))) (hw.nodup_iff.mpr hvv)
    simp only [map_cons, nodup_cons] at hkk hvv
    have hvd : v ∉ d.map (·.2) := hfresh v (by simp)
    have hkd : k ∉ d.map (·.1) := by
      intro hin
      obtain ⟨e, he, rfl⟩ := mem_map.mp hin
      exact find?_eq_none.mp hf e he (by simp)
    obtain ⟨i1, i2, i3, i4, i5, _⟩ := ih (Common.nodup_map_concat hk hkd) (Common.nodup_map_concat hv hvd)
      hkk.2 hvv.2 (by
        intro v' hv' hin
        rw [map_append, mem_append] at hin
        rcases hin with h1 | h1
        · exact hfresh v' (by simp [hv']) h1
        · simp at h1; exact hvv.1 (h1 ▸ hv'))
    rw [show dictUpd (d ++ [(k, v)]) kvs = r from rfl] at i1 i2 i3 i4 i5 h67
    clear_value r
    have hin_d : ∀ key c, key ∈ kvs.map (·.1) → (key, c) ∈ d ++ [(k, v)] → (key, c) ∈ d := by
      intro key c hkey hkc
      rcases mem_append.mp hkc with h1 | h1
      · exact h1
      · simp at h1
        exact (hkk.1 (h1.1 ▸ hkey)).elim
    have hvch : v ∉ r.2.2.map (·.1) := by
      intro hin
      obtain ⟨key, hkey, hkv⟩ := i4 v hin
      exact hvd (mem_map.mpr ⟨_, hin_d key v hkey hkv, rfl⟩)
    refine ⟨i1, i2, ?_, ?_, i5, h67⟩
    · intro c
      rw [i3]
      simp only [map_append, mem_append, map_cons, map_nil, mem_cons, not_mem_nil, or_false]
      by_cases hcv : c = v
      · subst hcv; simp [hvch]
      · simp [hcv]
    · intro c hc
      obtain ⟨key, hkey, hkc⟩ := i4 c hc
      exact ⟨key, by simp [hkey], hin_d key c hkey hkc⟩

/-! ### reorderings -/

theorem permute_perm (p : Nat) (l : List Nat) : (permute p l).Perm l := by
  unfold permute
  split
  · exact .refl _
  · exact reverse_perm l
  · exact perm_append_comm.trans (.of_eq (take_append_drop 1 l))

/-! ### what `mutate` returns -/

inductive MutKind (h : Heap) (m : Mut) : Prop
  | final (f : Final) (ho : m.o < h.next) (hh : m.h' = h) (htr : m.trait = .final f)
      (hs : m.script = []) (hf : m.fires = true)
  | change (a : Attr) (htr : m.trait = .link a ∨ (m.trait = .items a ∧ isContainer a = true))
      (hc : Change h m.h' m.o a (scUnregs m.script) (scRegs m.script))
      -- no notification ⇒ the handler registers what it unregisters: no attribute holds other objects
      -- than before (`Change.same_targets`)
      (hquiet : m.fires = false → (scRegs m.script).Perm (scUnregs m.script))
      -- the handler either registers fresh objects only, or unregisters everything removed
      -- before it registers anything
      (hshape : (∀ c ∈ scRegs m.script, h.next ≤ c) ∨
        m.script = unregAll (scUnregs m.script) ++ regAll (scRegs m.script))

theorem perm_of_isEmpty {α} {l₁ l₂ : List α}
    (hf : (!(l₁.isEmpty && l₂.isEmpty)) = false) : l₂.Perm l₁ := by
  cases l₁ <;> cases l₂ <;> simp_all

/-- The handlers of a reassignment / an `_items` event (`handle_list(olds, news)` and its kin). -/
theorem MutKind.of_lists {h h' : Heap} {o : Nat} {t : Trait}
    {olds news : List Nat} {f : Bool} (a : Attr) (htr : t = .link a ∨ (t = .items a ∧ isContainer a = true))
    (hc : Change h h' o a olds news) (hf : f = false → news.Perm olds) :
    MutKind h ⟨h', o, t, unregAll olds ++ regAll news, f⟩ :=
  .change a htr (by simpa using hc) (by simpa using hf) (Or.inr (by simp))

theorem Change.replaceAll {h : Heap} (ht : TreeShaped h) {o : Nat} (ho : o < h.next) (x : Obj) (n : Nat)
    {a : Attr} {news : List Nat}
    (hx : ∀ a', x.targets a' = if a' = a then news else (h.obj o).targets a')
    (hnews : ∀ c ∈ news, (h.next ≤ c ∧ c < h.next + n) ∨ c ∈ targets h a o) (hnnd : news.Nodup)
    (hkeys : (x.byname.map (·.1)).Nodup) :
    Change h ((h.setObj o x).bump n) o a (targets h a o) news :=
  .ofPerm ht ho x n [] hx (by rw [append_nil]) (.refl _) hnews hnnd hkeys

/-- `d[key] = N()` is `d.update({key: N()})`: the same heap, the same event, the same script. -/
theorem mutate_dictSet_eq (h : Heap) (o key : Nat) :
    mutate h (.dictSet o key) = mutate h (.dictUpdate o [key]) := by
  simp only [mutate, dedupKeys, filter_nil, length_cons, length_nil, freshIds]
  split
  · cases hf : (h.obj o).byname.find? (·.1 = key) <;> simp [dictUpd, hf, regAll, Heap.bump] <;> rfl
  · rfl

section
variable {h : Heap} (ht : TreeShaped h) {m : Mut}
include ht

theorem mutate_setKids {o n : Nat}
    (hm : mutate h (.setKids o n) = some m) : MutKind h m := by
  -- `mutate` guards every operation by `if … then … else none`
  obtain ⟨ho, ⟨⟩⟩ := Option.ite_none_right_eq_some.mp hm
  exact .of_lists .kids (Or.inl rfl)
    (.replaceAll ht ho _ n (Obj.targets_kids _ _) (fun _ hc => Or.inl (mem_freshIds.mp hc)) (freshIds_nodup _ _) (ht.keys o))
    perm_of_isEmpty

theorem mutate_setChild {o : Nat} {fresh : Bool}
    (hm : mutate h (.setChild o fresh) = some m) : MutKind h m := by
  obtain ⟨ho, ⟨⟩⟩ := Option.ite_none_right_eq_some.mp hm
  cases fresh
  · exact .of_lists .child (Or.inl rfl)
      (.replaceAll ht ho _ 0 (Obj.targets_child _ _) (by simp) nodup_nil (ht.keys o)) perm_of_isEmpty
  · exact .of_lists .child (Or.inl rfl)
      (.replaceAll ht ho _ 1 (Obj.targets_child _ _) (by simp) (by simp) (ht.keys o)) perm_of_isEmpty

theorem mutate_setGroup {o n : Nat}
    (hm : mutate h (.setGroup o n) = some m) : MutKind h m := by
  obtain ⟨ho, ⟨⟩⟩ := Option.ite_none_right_eq_some.mp hm
  exact .of_lists .group (Or.inl rfl)
    (.replaceAll ht ho _ n (Obj.targets_group _ _) (fun _ hc => Or.inl (mem_freshIds.mp hc)) (freshIds_nodup _ _) (ht.keys o))
    perm_of_isEmpty

theorem mutate_setDict {o : Nat} {keys : List Nat}
    (hm : mutate h (.setDict o keys) = some m) : MutKind h m := by
  obtain ⟨ho, ⟨⟩⟩ := Option.ite_none_right_eq_some.mp hm
  have hlen : (dedupKeys keys).length = (freshIds h (dedupKeys keys).length).length := by simp [freshIds]
  refine .of_lists .byname (Or.inl rfl)
    (.replaceAll ht ho _ _ (fun a' => ?_) (fun _ hc => Or.inl (mem_freshIds.mp hc)) (freshIds_nodup _ _) ?_) perm_of_isEmpty
  · rw [Obj.targets_byname, map_snd_zip (by omega)]
  · show (map (·.1) ((dedupKeys keys).zip _)).Nodup
    rw [map_fst_zip (by omega)]; exact dedupKeys_nodup _

/-- `l[i:j] = fresh objects` on a list-valued attribute. -/
theorem Change.splice {o : Nat} (ho : o < h.next) (x : Obj) (n : Nat)
    {a : Attr} {i j : Nat} (hij : i ≤ j)
    (hx : ∀ a', x.targets a' =
      if a' = a then (targets h a o).take i ++ freshIds h n ++ (targets h a o).drop j else (h.obj o).targets a')
    (hkeys : (x.byname.map (·.1)).Nodup) :
    Change h ((h.setObj o x).bump n) o a (((targets h a o).drop i).take (j - i)) (freshIds h n) :=
  .ofPerm ht ho x n _ hx (Common.perm_slice _ hij) (by rw [append_assoc, append_assoc]; exact perm_append_comm.append_left _)
    (fun _ hc => Or.inl (mem_freshIds.mp hc)) (freshIds_nodup _ _) hkeys

theorem mutate_splice {o i j n : Nat}
    (hm : mutate h (.splice o i j n) = some m) : MutKind h m := by
  obtain ⟨hg, ⟨⟩⟩ := Option.ite_none_right_eq_some.mp hm
  exact .of_lists .kids (Or.inr ⟨rfl, rfl⟩)
    (.splice ht hg.1 _ n hg.2.1 (Obj.targets_kids _ _) (ht.keys o)) perm_of_isEmpty

theorem mutate_gsplice {o i j n : Nat}
    (hm : mutate h (.gsplice o i j n) = some m) : MutKind h m := by
  obtain ⟨hg, ⟨⟩⟩ := Option.ite_none_right_eq_some.mp hm
  exact .of_lists .group (Or.inr ⟨rfl, rfl⟩)
    (.splice ht hg.1 _ n hg.2.1 (Obj.targets_group _ _) (ht.keys o)) perm_of_isEmpty

theorem mutate_dictUpdate {o : Nat} {keys : List Nat}
    (hm : mutate h (.dictUpdate o keys) = some m) : MutKind h m := by
  obtain ⟨ho, ⟨⟩⟩ := Option.ite_none_right_eq_some.mp hm
  have hlen : (dedupKeys keys).length = (freshIds h (dedupKeys keys).length).length := by simp [freshIds]
  have hkeys : map (·.1) ((dedupKeys keys).zip (freshIds h (dedupKeys keys).length)) = dedupKeys keys :=
    map_fst_zip (by omega)
  have hvals : map (·.2) ((dedupKeys keys).zip (freshIds h (dedupKeys keys).length)) =
      freshIds h (dedupKeys keys).length := map_snd_zip (by omega)
  obtain ⟨u1, u2, u3, u4, u5, u6, u7⟩ := dictUpd_spec
    ((dedupKeys keys).zip (freshIds h (dedupKeys keys).length)) (h.obj o).byname
    (ht.keys o) (ht.nodup o .byname) (by rw [hkeys]; exact dedupKeys_nodup _)
    (by rw [hvals]; exact freshIds_nodup _ _)
    (fun v hv => by rw [hvals] at hv; exact freshIds_disjoint ht o .byname _ v hv)
  -- everything the event registers is fresh
  have hnew : ∀ c ∈ (dictUpd (h.obj o).byname ((dedupKeys keys).zip (freshIds h (dedupKeys keys).length))).2.1 ++
      (dictUpd (h.obj o).byname ((dedupKeys keys).zip (freshIds h (dedupKeys keys).length))).2.2.map (·.2),
      h.next ≤ c ∧ c < h.next + (dedupKeys keys).length :=
    fun c hc => mem_freshIds.mp (hvals ▸ (u6 c).mp (mem_append.mp hc))
  refine .change .byname (Or.inr ⟨rfl, rfl⟩) ?_ (fun hf => ?_) (Or.inl ?_)
  · simp only [scUnregs_append, scUnregs_regAll, scUnregs_changed, nil_append, scRegs_append,
      scRegs_regAll, scRegs_changed]
    refine .ofSet ht ho _ _ _ _ (Obj.targets_byname _ _) (fun c => ?_) (fun c hc => ?_)
      (fun c hc => Or.inl (hnew c hc)) u2 u5 u7 u1
    · simpa [targets, or_assoc] using u3 c
    · obtain ⟨key, _, hkc⟩ := u4 c hc
      exact mem_map.mpr ⟨_, hkc, rfl⟩
  · have hk : dedupKeys keys = [] := by
      cases hd : dedupKeys keys with
      | nil => rfl
      | cons a l => simp [hd] at hf
    simp [hk, dictUpd, regAll, scUnregs, scRegs]
  · intro c hc
    simp only [scRegs_append, scRegs_regAll, scRegs_changed] at hc
    exact (hnew c hc).1

theorem mutate_dictSet {o key : Nat}
    (hm : mutate h (.dictSet o key) = some m) : MutKind h m :=
  mutate_dictUpdate ht (mutate_dictSet_eq h o key ▸ hm)

theorem mutate_dictDel {o key : Nat}
    (hm : mutate h (.dictDel o key) = some m) : MutKind h m := by
  obtain ⟨ho, hm⟩ := Option.ite_none_right_eq_some.mp hm
  split at hm
  · rename_i k' old hf
    cases hm
    obtain ⟨as, bs, hd, _, hdel, _⟩ := assoc_split (ht.keys o) hf
    refine .of_lists (olds := [old]) (news := []) .byname (Or.inr ⟨rfl, rfl⟩) ?_ (fun hf => nomatch hf)
    refine .ofPerm ht ho _ 0 ((as ++ bs).map (·.2)) (Obj.targets_byname _ _) ?_ (by rw [hdel, append_nil])
      (fun _ hc => nomatch hc) nodup_nil ((filter_sublist.map _).nodup (ht.keys o))
    show ((h.obj o).byname.map (·.2)).Perm _
    rw [hd]; simp [perm_middle]
  · cases hm

theorem mutate_dictClear {o : Nat}
    (hm : mutate h (.dictClear o) = some m) : MutKind h m := by
  obtain ⟨ho, ⟨⟩⟩ := Option.ite_none_right_eq_some.mp hm
  rw [← append_nil (unregAll _)]
  exact .of_lists (news := []) .byname (Or.inr ⟨rfl, rfl⟩)
    (.replaceAll ht ho _ 0 (Obj.targets_byname _ _) (by simp) nodup_nil (by simp))
    (fun hf => .of_eq (isEmpty_iff.mp (by simpa using hf)).symm)

theorem mutate_rearrange {o d p n : Nat} {inplace : Bool}
    (hm : mutate h (.rearrange o d p n inplace) = some m) : MutKind h m := by
  obtain ⟨ho, ⟨⟩⟩ := Option.ite_none_right_eq_some.mp hm
  have hsub : ∀ c, c ∈ permute p ((h.obj o).kids.drop d) → c ∈ targets h .kids o :=
    fun c hc => mem_of_mem_drop ((permute_perm _ _).mem_iff.mp hc)
  refine .of_lists .kids (by cases inplace <;> simp [isContainer])
    (.replaceAll ht ho _ n (Obj.targets_kids _ _) (fun c hc => ?_) ?_ (ht.keys o)) (fun hf => ?_)
  · exact (mem_append.mp hc).elim (fun h1 => Or.inr (hsub c h1)) (fun h1 => Or.inl (mem_freshIds.mp h1))
  · rw [nodup_append]
    exact ⟨(permute_perm _ _).nodup_iff.mpr ((drop_sublist d _).nodup (ht.nodup o .kids)), freshIds_nodup _ _,
      fun x hx y hy hxy => freshIds_disjoint ht o .kids n y hy (hxy ▸ hsub x hx)⟩
  · cases inplace
    · exact .of_eq (Eq.symm (by simpa using hf))
    · exact perm_of_isEmpty hf

theorem mutate_dictCarry {o d : Nat}
    (hm : mutate h (.dictCarry o d) = some m) : MutKind h m := by
  obtain ⟨ho, ⟨⟩⟩ := Option.ite_none_right_eq_some.mp hm
  have hsubl : ((h.obj o).byname.drop d).Sublist (h.obj o).byname := drop_sublist d _
  refine .of_lists .byname (Or.inl rfl)
    (.replaceAll ht ho _ 0 (Obj.targets_byname _ _) (fun c hc => ?_) ?_ ?_) (fun hf => ?_)
  · obtain ⟨e, he, rfl⟩ := mem_map.mp hc
    exact Or.inr (mem_map.mpr ⟨e, mem_of_mem_drop (mem_reverse.mp he), rfl⟩)
  · rw [map_reverse, (reverse_perm _).nodup_iff]
    exact (hsubl.map _).nodup (ht.nodup o .byname)
  · dsimp only
    rw [map_reverse, (reverse_perm _).nodup_iff]
    exact (hsubl.map _).nodup (ht.keys o)
  · -- nothing was dropped: the same entries, reversed
    have h0 : ¬ (0 < min d (h.obj o).byname.length) := by simpa using hf
    have hd : (h.obj o).byname.drop d = (h.obj o).byname := by
      rcases Nat.eq_zero_or_pos d with rfl | hdpos
      · rfl
      · rw [length_eq_zero_iff.mp (by omega : (h.obj o).byname.length = 0)]; simp
    rw [hd, map_reverse]; exact reverse_perm _

theorem mutate_stray {n : Nat}
    (hm : mutate h (.stray n) = some m) : MutKind h m := by
  cases hm
  refine .of_lists (olds := []) (news := []) .child (Or.inl rfl) ?_ (fun _ => .refl _)
  exact .ofPerm ht (o := root) (ts := targets h .child root) ht.pos (h.obj root) n (targets h .child root)
    (fun a' => by split <;> simp [*, targets_eq]) (.refl _) (by simp) (by simp) nodup_nil (ht.keys root)

theorem mutate_spec {op : Op}
    (hm : mutate h op = some m) : MutKind h m := by
  cases op with
  | setChild o fresh => exact mutate_setChild ht hm
  | setKids o n => exact mutate_setKids ht hm
  | splice o i j n => exact mutate_splice ht hm
  | setDict o keys => exact mutate_setDict ht hm
  | dictSet o key => exact mutate_dictSet ht hm
  | dictUpdate o keys => exact mutate_dictUpdate ht hm
  | dictDel o key => exact mutate_dictDel ht hm
  | dictClear o => exact mutate_dictClear ht hm
  | rearrange o d p n inplace => exact mutate_rearrange ht hm
  | dictCarry o d => exact mutate_dictCarry ht hm
  | setGroup o n => exact mutate_setGroup ht hm
  | gsplice o i j n => exact mutate_gsplice ht hm
  | stray n => exact mutate_stray ht hm
  | probe o f =>
    obtain ⟨ho, ⟨⟩⟩ := Option.ite_none_right_eq_some.mp hm
    exact .final f ho rfl rfl rfl rfl
  | reg => cases hm
  | unreg => cases hm

end

end TraitsVerif.Model.Legacy
