/-
The hand-written models `TraitList.step` and `TraitListObject.step` are the
interpretation of the translated source (`Generated/ListProg.lean`): one lemma
per operation.  A method is looked up in its table once (`runTLM_eq`,
`runTLOM_eq`); its body is then run by the defining equations of `exec` and
`eval` (a local simp set).  Sequencing keeps the rest of the body as program
text (`exec_seq`, `thenExec`), so a body with several exits is run up to the
point where the model makes a case split and only what follows runs once per
case; a body with one or two exits is run whole after the split.  The
overrides of `TraitListObject` all have the shape "check the new length, then
the `TraitList` method" and follow from `tlo_of_guard`.
-/
import TraitsVerif.Generated.ListProg
import TraitsVerif.Lemmas.SeqList
import TraitsVerif.Lemmas.SeqSlice
import TraitsVerif.Lemmas.SeqRefine
namespace TraitsVerif.Lemmas.PyL
open TraitsVerif TraitsVerif.Py TraitsVerif.Model TraitsVerif.Model.PyL
variable {α : Type}

/-- `a; b` where `a` has ended in `r`.  `b` is kept as program text, so that nothing of it is run before `r`
is known: a body runs up to the point where the model makes a case split, and only what follows runs once per case. -/
def thenExec (C : Ctx α) (r : St α × Flow α) (b : Stmt) : St α × Flow α :=
  match r with
  | (st', .next) => exec C b st'
  | r => r

theorem exec_seq {C : Ctx α} {a b : Stmt} {st : St α} : exec C (.seq a b) st = thenExec C (exec C a st) b :=
  id rfl
theorem thenExec_next {C : Ctx α} {st : St α} {b : Stmt} : thenExec C (st, .next) b = exec C b st := rfl
theorem thenExec_raised {C : Ctx α} {st : St α} {e : Exc} {b : Stmt} :
    thenExec C (st, .raised e) b = (st, .raised e) := rfl
theorem thenExec_returned {C : Ctx α} {st : St α} {vs : List (Val α)} {b : Stmt} :
    thenExec C (st, .returned vs) b = (st, .returned vs) := rfl

attribute [local simp] exec eval evalAll aliasSelf bindArgs setVar setVars truthy intOp thenExec_next thenExec_raised
  thenExec_returned
attribute [local simp ↓] exec_seq

/-- Conditional expressions (`x if c else y`) evaluate without a case split on the condition. -/
theorem ite_ok {ε β : Type} {c : Prop} [Decidable c] {a b : β} :
    (if c then (Except.ok a : Except ε β) else .ok b) = .ok (if c then a else b) :=
  (apply_ite _ _ _ _).symm
theorem ite_int {c : Prop} [Decidable c] {a b : Int} :
    (if c then (Val.int a : Val α) else .int b) = .int (if c then a else b) :=
  (apply_ite _ _ _ _).symm

attribute [local simp] ite_ok ite_int

/-! ### The helpers -/

def valOfNIdx : NIdx → Val α
  | .idx k => .int k
  | .slc a b c => .slice ⟨some a, some b, some c⟩

theorem toNIdx_int (n : Int) : toNIdx (.int n : Val α) = some (.idx n) := rfl
theorem toNIdx_valOfNIdx (n : NIdx) : toNIdx (valOfNIdx (α := α) n) = some n := by
  cases n <;> rfl

theorem callHelper_eq {E : Env α} {f : String} {fn : Func} {args : List (Val α)}
    (h : lookupFn f Generated.listHelpers = some fn := by rfl) (ha : args.length = fn.nparams := by rfl) :
    callHelper Generated.listHelpers E f args =
      match exec (helperCtx E) fn.body { self := [], vars := bindArgs 0 args } with
      | (_, .returned vs) => .ok vs
      | (_, .raised x) => .error x
      | (_, .next) => .ok [.none] := by
  unfold callHelper
  rw [h]
  exact if_neg fun h => h ha

theorem normalize_idx (E : Env α) (i : Int) (n : Nat) :
    callHelper Generated.listHelpers E "_normalize_slice_or_index" [.int i, .int n]
      = .ok [.bool false, .int (if i < 0 then i + n else i)] := by
  refine (callHelper_eq).trans ?_
  simp

/-- The last statement of `_normalize_slice_or_index`: an index if the slice has step 1 or selects at most
one position, else the slice. -/
theorem exec_normalize_ret {C : Ctx α} {st : St α} {x y z : Int} {rev : Bool}
    (h2 : st.vars 2 = some (.int x)) (h3 : st.vars 3 = some (.int y)) (h4 : st.vars 4 = some (.int z))
    (h5 : st.vars 5 = some (.bool rev)) :
    exec C (.ifS (.or (.eq (.var 4) (.intLit 1)) (.le (.sub (.var 3) (.var 2)) (.var 4)))
        (.ret [.var 5, .var 2]) (.ret [.var 5, .mkSlice (.var 2) (.var 3) (.var 4)])) st =
      (st, .returned [.bool rev, valOfNIdx (if z = 1 ∨ y - x ≤ z then .idx x else .slc x y z)]) := by
  by_cases h1 : z = 1
  · simp [h2, h4, h5, h1, valOfNIdx]
  · by_cases hle : y - x ≤ z <;> simp [h2, h3, h4, h5, h1, hle, valOfNIdx]

theorem normalize_slice (E : Env α) (s : Slice) (n : Nat) :
    callHelper Generated.listHelpers E "_normalize_slice_or_index" [.slice s, .int n]
      = match normalizeSlice n s with
        | none => .error .valueError
        | some (rev, idx) => .ok [.bool rev, valOfNIdx idx] := by
  refine (callHelper_eq).trans ?_
  have hn : ¬ ((n : Int) < 0) := by omega
  rw [normalizeSlice]
  generalize hT : Stmt.ifS (.or _ _) _ _ = T
  cases hi : s.indices n with
  | none => simp [hi, hn]
  | some t =>
    obtain ⟨a, b, k⟩ := t
    by_cases hk : k < 0
    · simp [hi, hn, hk]
      subst hT
      rw [exec_normalize_ret rfl rfl rfl rfl]
      simp only [normalizeCore, hk, decide_true, if_true, apply_ite Prod.fst, apply_ite Prod.snd, ite_self]
    · simp [hi, hn, hk]
      subst hT
      rw [exec_normalize_ret rfl rfl rfl rfl]
      simp only [normalizeCore, hk, decide_false, Bool.false_eq_true, if_false, apply_ite Prod.fst, apply_ite Prod.snd,
        ite_self]

theorem removed_items_slice (E : Env α) (l : List α) (s : Slice) :
    callHelper Generated.listHelpers E "_removed_items" [.list l, .slice s, .none]
      = match Py.getSlice l s with
        | .error e => .error e
        | .ok r => .ok [.list r] := by
  refine (callHelper_eq).trans ?_
  cases h : Py.getSlice l s <;> simp [h, Except.map]

theorem removed_items_idx (E : Env α) (l : List α) (i : Int) :
    callHelper Generated.listHelpers E "_removed_items" [.list l, .int i, .none]
      = .ok [match normIdx l.length i with
             | none => .none
             | some j => match l[j]? with | some x => .list [x] | none => .none] := by
  refine (callHelper_eq).trans ?_
  cases h : normIdx l.length i with
  | none => simp [h]
  | some j => cases h2 : l[j]? <;> simp [h, h2]

/-! ### `TraitList` -/

/-- What `super()` and the helpers are for a method of `TraitList`. -/
def tlCtx (E : Env α) : Ctx α :=
  { E := E, call := callHelper Generated.listHelpers E, sup := builtinSup E, lenOk := fun _ => true }

theorem runTLM_eq {m : String} {fn : Func} {args : List (Val α)} (E : Env α) (l : List α)
    (h : lookupFn m Generated.traitListProg = some fn := by rfl) (ha : args.length = fn.nparams := by rfl) :
    runTraitListM Generated.listHelpers Generated.traitListProg E m args l =
      summarize (exec (tlCtx E) fn.body { self := l, vars := bindArgs 0 args }) := by
  unfold runTraitListM
  rw [h]
  exact if_neg fun h => h ha

section TraitList
attribute [local simp] summarize summaryOfStep tlCtx builtinSup TraitList.step normalize_idx normalize_slice
  removed_items_slice removed_items_idx toNIdx_int toNIdx_valOfNIdx

theorem tl_clear (E : Env α) (l : List α) : runTraitListM Generated.listHelpers Generated.traitListProg E "clear" [] l = summaryOfStep l (TraitList.step E l .clear) := by
  refine (runTLM_eq E l).trans ?_
  simp
  cases l <;> simp

theorem tl_reverse (E : Env α) (l : List α) : runTraitListM Generated.listHelpers Generated.traitListProg E "reverse" [] l = summaryOfStep l (TraitList.step E l .reverse) := by
  refine (runTLM_eq E l).trans ?_
  simp
  cases l <;> simp

theorem tl_sort (E : Env α) (l : List α) (sp : Nat) :
    runTraitListM Generated.listHelpers Generated.traitListProg E "sort" [.int sp, .none] l = summaryOfStep l (TraitList.step E l (.sort sp)) := by
  refine (runTLM_eq E l).trans ?_
  have hsp : ¬ ((sp : Int) < 0) := by omega
  simp [hsp]
  cases l <;> simp

theorem tl_append (E : Env α) (l : List α) (x : α) :
    runTraitListM Generated.listHelpers Generated.traitListProg E "append" [.item x] l = summaryOfStep l (TraitList.step E l (.append x)) := by
  refine (runTLM_eq E l).trans ?_
  cases h : E.v 0 x with
  | error e => simp [h]
  | ok y => simp [h, getSlice_from (l ++ [y]) l.length (by simp), Except.map]

theorem tl_extend (E : Env α) (l : List α) (xs : List α) :
    runTraitListM Generated.listHelpers Generated.traitListProg E "extend" [.list xs] l = summaryOfStep l (TraitList.step E l (.extend xs)) := by
  refine (runTLM_eq E l).trans ?_
  cases h : valAll E.v 0 xs with
  | error e => simp [h]
  | ok ys => cases ys <;> simp [h]

theorem tl_iadd (E : Env α) (l : List α) (xs : List α) :
    runTraitListM Generated.listHelpers Generated.traitListProg E "__iadd__" [.list xs] l = summaryOfStep l (TraitList.step E l (.iadd xs)) := by
  refine (runTLM_eq E l).trans ?_
  cases h : valAll E.v 0 xs with
  | error e => simp [h]
  | ok ys => cases ys <;> simp [h]

theorem tl_imul (E : Env α) (l : List α) (n : Int) :
    runTraitListM Generated.listHelpers Generated.traitListProg E "__imul__" [.int n] l = summaryOfStep l (TraitList.step E l (.imul n)) := by
  refine (runTLM_eq E l).trans ?_
  by_cases hn : n < 1
  · simp [hn]
    cases l <;> simp
  · have hs := getSlice_from (Py.imul l n) l.length (by rw [imul_eq_append hn, List.length_append]; omega)
    simp [hn, hs, Except.map]
    by_cases hd : l.length < (Py.imul l n).length
    · simp [hd, Nat.not_le_of_lt hd]
    · simp [hd, Nat.le_of_not_lt hd]

theorem tl_insert (E : Env α) (l : List α) (i : Int) (x : α) :
    runTraitListM Generated.listHelpers Generated.traitListProg E "insert" [.int i, .item x] l = summaryOfStep l (TraitList.step E l (.insert i x)) := by
  refine (runTLM_eq E l).trans ?_
  by_cases hi : i < 0 <;> cases h : E.v 0 x <;> simp [hi, h]

theorem tl_pop (E : Env α) (l : List α) (i : Int) :
    runTraitListM Generated.listHelpers Generated.traitListProg E "pop" [.int i] l = summaryOfStep l (TraitList.step E l (.pop i)) := by
  refine (runTLM_eq E l).trans ?_
  simp
  cases Py.pop l i <;> simp

theorem tl_remove (E : Env α) (l : List α) (x : α) :
    runTraitListM Generated.listHelpers Generated.traitListProg E "remove" [.item x] l = summaryOfStep l (TraitList.step E l (.remove x)) := by
  refine (runTLM_eq E l).trans ?_
  cases h : Py.index E.eq l x with
  | none => simp [h, Py.remove]
  | some j =>
    have hj : j < l.length := findIdx?_lt h
    have hn := normIdx_natCast hj
    have hg : l[j]? = some l[j] := List.getElem?_eq_getElem hj
    simp [h, Py.remove, hn, hg]

theorem tl_delIdx (E : Env α) (l : List α) (i : Int) :
    runTraitListM Generated.listHelpers Generated.traitListProg E "__delitem__" [.int i] l = summaryOfStep l (TraitList.step E l (.delIdx i)) := by
  refine (runTLM_eq E l).trans ?_
  cases h : normIdx l.length i with
  | none => simp [h, Py.delIdx]
  | some j =>
    have hj : j < l.length := normIdx_some_lt h
    have hg : l[j]? = some l[j] := List.getElem?_eq_getElem hj
    simp [h, Py.delIdx, hg, normalizeIdx]

theorem tl_setIdx (E : Env α) (l : List α) (i : Int) (x : α) :
    runTraitListM Generated.listHelpers Generated.traitListProg E "__setitem__" [.int i, .item x] l = summaryOfStep l (TraitList.step E l (.setIdx i x)) := by
  refine (runTLM_eq E l).trans ?_
  simp
  cases E.v 0 x with
  | error e => simp
  | ok y =>
    simp
    cases h : normIdx l.length i with
    | none => simp [h, Py.setIdx]
    | some j =>
      have hj : j < l.length := normIdx_some_lt h
      have hg : l[j]? = some l[j] := List.getElem?_eq_getElem hj
      simp [h, Py.setIdx, hg, normalizeIdx]

theorem tl_delSlice (E : Env α) (l : List α) (s : Slice) :
    runTraitListM Generated.listHelpers Generated.traitListProg E "__delitem__" [.slice s] l = summaryOfStep l (TraitList.step E l (.delSlice s)) := by
  refine (runTLM_eq E l).trans ?_
  cases h : Py.getSlice l s with
  | error e => simp [h]
  | ok removed =>
    obtain ⟨rev, n, hn⟩ := normalizeSlice_of_getSlice h
    simp [h]
    cases Py.delSlice l s with
    | error e => simp
    | ok l' =>
      rcases removed with _ | ⟨r, rs⟩
      · simp
      · cases rev <;> simp [hn]

theorem tl_setSlice (E : Env α) (l : List α) (s : Slice) (xs : List α) :
    runTraitListM Generated.listHelpers Generated.traitListProg E "__setitem__" [.slice s, .list xs] l = summaryOfStep l (TraitList.step E l (.setSlice s xs)) := by
  refine (runTLM_eq E l).trans ?_
  cases h : Py.getSlice l s with
  | error e => simp [h]
  | ok removed =>
    obtain ⟨rev, n, hn⟩ := normalizeSlice_of_getSlice h
    simp [h]
    cases valAll E.v 0 xs with
    | error e => simp
    | ok ys =>
      simp
      cases Py.setSlice l s ys with
      | error e => simp
      | ok l' =>
        rcases ys with _ | ⟨y, ys⟩
        · rcases removed with _ | ⟨r, rs⟩
          · simp
          · cases rev <;> simp [hn]
        · cases rev <;> simp [hn]

end TraitList

theorem tl_step_is_source (E : Env α) (l : List α) (op : Op α) :
    runTraitListOp Generated.listHelpers Generated.traitListProg E l op
      = summaryOfStep l (TraitList.step E l op) := by
  cases op with
  | setIdx i x => exact tl_setIdx E l i x
  | setSlice s xs => exact tl_setSlice E l s xs
  | delIdx i => exact tl_delIdx E l i
  | delSlice s => exact tl_delSlice E l s
  | append x => exact tl_append E l x
  | extend xs => exact tl_extend E l xs
  | iadd xs => exact tl_iadd E l xs
  | imul n => exact tl_imul E l n
  | insert i x => exact tl_insert E l i x
  | pop i => exact tl_pop E l i
  | remove x => exact tl_remove E l x
  | clear => exact tl_clear E l
  | reverse => exact tl_reverse E l
  | sort sp => exact tl_sort E l sp

/-! ### `TraitListObject`: the overrides, with `super()` = the translated `TraitList` method -/

/-- What `super()`, the helpers and `_validate_length` are for a method of `TraitListObject`. -/
def tloCtx (c : LenCfg) (E : Env α) : Ctx α :=
  { E := E, call := callHelper Generated.listHelpers E,
    sup := runTraitListM Generated.listHelpers Generated.traitListProg E, lenOk := c.ok }

theorem tloCtx_lenOk (c : LenCfg) (E : Env α) : (tloCtx c E).lenOk = c.ok := rfl

attribute [local simp] summarize summaryOfStep Except.map tloCtx_lenOk

theorem runTLOM_eq {m : String} {fn : Func} {args : List (Val α)}
    (c : LenCfg) (E : Env α) (l : List α) (h : lookupFn m Generated.traitListObjectProg = some fn := by rfl)
    (ha : args.length = fn.nparams := by rfl) :
    runTraitListObjectM Generated.listHelpers Generated.traitListProg Generated.traitListObjectProg c E m args l =
      summarize (exec (tloCtx c E) fn.body { self := l, vars := bindArgs 0 args }) := by
  unfold runTraitListObjectM
  rw [h]
  exact if_neg fun h => h ha

/-- Where an override computes something before it calls `_validate_length` (`a; (check; T)`), the guard `G` of
`tlo_of_guard` below is `a; check`. -/
theorem exec_seq_assoc {C : Ctx α} {a b c : Stmt} {st : St α} :
    exec C (.seq a (.seq b c)) st = exec C (.seq (.seq a b) c) st := by
  simp only [exec]
  rcases exec C a st with ⟨st', _ | _ | _⟩ <;> rfl

/-- `super().m(args)` as the last statement of an override that returns nothing. -/
theorem tlo_super (c : LenCfg) (E : Env α) {l : List α} {st : St α} {m : String} {args : List Expr}
    {vs : List (Val α)} {r : Except Exc (Out α)} (hst : st.self = l ∧ st.events = [])
    (hargs : evalAll E l st.vars args = .ok vs)
    (hsup : runTraitListM Generated.listHelpers Generated.traitListProg E m vs l = summaryOfStep l r)
    (hret : ∀ o, r = .ok o → o.ret = none) :
    summarize (exec (tloCtx c E) (.super none m args) st) = summaryOfStep l r := by
  obtain ⟨rfl, hev⟩ := hst
  rcases r with e | o
  · simp [tloCtx, hargs, hsup, hev]
  · simp [tloCtx, hargs, hsup, hev, hret o rfl]

/-- How a statement ends that hands `g` to `_validate_length` (`none`: no check; an exception raised while
computing it passes through). -/
def guardExit (c : LenCfg) (st' : St α) : Except Exc (Option Int) → St α × Flow α
  | .error e => (st', .raised e)
  | .ok none => (st', .next)
  | .ok (some n) => if c.ok n then (st', .next) else (st', .raised .traitError)

attribute [local simp] guardExit

/-- Every override of `TraitListObject`: a statement `G` that hands `guardLen` to `_validate_length` (or
raises while computing it), then the `TraitList` method. -/
theorem tlo_of_guard (c : LenCfg) (E : Env α) (l : List α) (op : Op α) {G T : Stmt} {st st' : St α}
    (hG : exec (tloCtx c E) G st = guardExit c st' (guardLen l op))
    (hst' : st'.self = l ∧ st'.events = [])
    (hT : summarize (exec (tloCtx c E) T st') = summaryOfStep l (TraitList.step E l op)) :
    summarize (exec (tloCtx c E) (.seq G T) st) = summaryOfStep l (TraitListObject.step c E l op) := by
  rw [exec, hG, TraitListObject.step]
  rcases guardLen l op with e | _ | n
  · simp [hst']
  · exact hT
  · by_cases hn : c.ok n
    · simpa only [guardExit, hn, if_true] using hT
    · simp [hn, hst']

theorem tlo_guard_super (c : LenCfg) (E : Env α) (l : List α) (op : Op α) {G : Stmt} {m : String}
    {args : List Expr} {st st' : St α} {vs : List (Val α)}
    (hsup : runTraitListM Generated.listHelpers Generated.traitListProg E m vs l =
      summaryOfStep l (TraitList.step E l op))
    (hret : ∀ i, op ≠ .pop i)
    (hG : exec (tloCtx c E) G st = guardExit c st' (guardLen l op) := by rfl)
    (hst' : st'.self = l ∧ st'.events = [] := by exact ⟨rfl, rfl⟩)
    (hargs : evalAll E l st'.vars args = .ok vs := by rfl) :
    summarize (exec (tloCtx c E) (.seq G (.super none m args)) st) =
      summaryOfStep l (TraitListObject.step c E l op) := by
  exact tlo_of_guard c E l op hG hst' (tlo_super c E hst' hargs hsup fun o h => step_ret_none E l op o h hret)

theorem tlo_guard_super_ret (c : LenCfg) (E : Env α) (l : List α) (op : Op α) {G : Stmt} {m : String}
    {args : List Expr} {st st' : St α} {vs : List (Val α)} {j : Nat}
    (hsup : runTraitListM Generated.listHelpers Generated.traitListProg E m vs l =
      summaryOfStep l (TraitList.step E l op))
    (hG : exec (tloCtx c E) G st = guardExit c st' (guardLen l op) := by rfl)
    (hst' : st'.self = l ∧ st'.events = [] := by exact ⟨rfl, rfl⟩)
    (hargs : evalAll E l st'.vars args = .ok vs := by rfl) :
    summarize (exec (tloCtx c E) (.seq G (.seq (.super (some j) m args) (.ret [.var j]))) st) =
      summaryOfStep l (TraitListObject.step c E l op) := by
  refine tlo_of_guard c E l op hG hst' ?_
  obtain ⟨rfl, hev⟩ := hst'
  rcases hr : TraitList.step E st'.self op with e | ⟨items, _ | x, ev⟩ <;>
    simp [tloCtx, hargs, hsup, hr, hev]

theorem tlo_delSlice (c : LenCfg) (E : Env α) (l : List α) (s : Slice) :
    runTraitListObjectM Generated.listHelpers Generated.traitListProg Generated.traitListObjectProg c E "__delitem__" [.slice s] l = summaryOfStep l (TraitListObject.step c E l (.delSlice s)) := by
  refine ((runTLOM_eq c E l).trans (congrArg summarize exec_seq_assoc)).trans ?_
  -- `removed_count = len(self[key])` is assigned only if `self[key]` does not raise
  cases hg : Py.getSlice l s with
  | error e =>
    exact tlo_guard_super c E l _ (tl_delSlice E l s) (fun _ => nofun)
      (st' := { self := l, vars := bindArgs 0 [.slice s] }) (by simp [guardLen, hg])
  | ok r =>
    exact tlo_guard_super c E l _ (tl_delSlice E l s) (fun _ => nofun)
      (st' := { self := l, vars := setVar (bindArgs 0 [.slice s]) 1 (.int r.length) })
      (by by_cases hc : c.ok (max ((l.length : Int) - r.length) 0) <;>
        simp [guardLen, hg, hc])

theorem tlo_setSlice (c : LenCfg) (E : Env α) (l : List α) (s : Slice) (xs : List α) :
    runTraitListObjectM Generated.listHelpers Generated.traitListProg Generated.traitListObjectProg c E "__setitem__" [.slice s, .list xs] l
      = summaryOfStep l (TraitListObject.step c E l (.setSlice s xs)) := by
  refine (runTLOM_eq c E l).trans ?_
  refine tlo_guard_super c E l _ (tl_setSlice E l s xs) (fun _ => nofun)
    (st' := { self := l, vars := setVar (bindArgs 0 [.slice s, .list xs]) 1 (.list xs) }) ?_
  -- the guard: `value = list(value)`, then one of the three paths of `guardLen`
  rw [guardLen]
  rcases hst : s.step with _ | k
  · cases hg : Py.getSlice l s with
    | error e => simp [hg, hst]
    | ok r =>
      by_cases hc : c.ok ((l.length : Int) - r.length + xs.length) <;>
        simp [hg, hst, hc]
  · by_cases hk : k = 1
    · cases hg : Py.getSlice l s with
      | error e => simp [hg, hst, hk]
      | ok r =>
        by_cases hc : c.ok ((l.length : Int) - r.length + xs.length) <;>
          simp [hg, hst, hk, hc]
    · cases hg : Py.getSlice l s with
      | error e => simp [hg, hst, hk]
      | ok r => by_cases hl : xs.length = r.length <;> simp [hg, hst, hk, hl, Int.natCast_inj]

/-- `_validate_length` cannot fail on one writing of the new length and pass on an equal one. -/
theorem guard_contra {c : LenCfg} {a b : Int} (h1 : c.ok a = false) (h2 : c.ok b = true) (hab : a = b) :
    False := by
  subst hab
  rw [h1] at h2
  cases h2

theorem tlo_step_is_source (c : LenCfg) (E : Env α) (l : List α) (op : Op α) :
    runTraitListObjectOp Generated.listHelpers Generated.traitListProg Generated.traitListObjectProg c E l op
      = summaryOfStep l (TraitListObject.step c E l op) := by
  cases op with
  | setIdx i x =>
    refine (runTLOM_eq c E l).trans ?_
    exact tlo_guard_super c E l _ (tl_setIdx E l i x) fun _ => nofun
  | setSlice s xs => exact tlo_setSlice c E l s xs
  | delIdx i =>
    refine ((runTLOM_eq c E l).trans (congrArg summarize exec_seq_assoc)).trans ?_
    exact tlo_guard_super c E l _ (tl_delIdx E l i) fun _ => nofun
  | delSlice s => exact tlo_delSlice c E l s
  | append x =>
    refine (runTLOM_eq c E l).trans ?_
    exact tlo_guard_super c E l _ (tl_append E l x) fun _ => nofun
  | extend xs =>
    refine ((runTLOM_eq c E l).trans (congrArg summarize exec_seq_assoc)).trans ?_
    exact tlo_guard_super c E l _ (tl_extend E l xs) fun _ => nofun
  | iadd xs =>
    refine ((runTLOM_eq c E l).trans (congrArg summarize exec_seq_assoc)).trans ?_
    exact tlo_guard_super_ret c E l _ (tl_iadd E l xs)
  | imul n =>
    refine ((runTLOM_eq c E l).trans (congrArg summarize exec_seq_assoc)).trans ?_
    exact tlo_guard_super_ret c E l _ (tl_imul E l n)
  | insert i x =>
    refine (runTLOM_eq c E l).trans ?_
    exact tlo_guard_super c E l _ (tl_insert E l i x) fun _ => nofun
  | pop i =>
    refine (runTLOM_eq c E l).trans ?_
    exact tlo_guard_super_ret c E l _ (tl_pop E l i)
  | remove x =>
    refine (runTLOM_eq c E l).trans ?_
    exact tlo_guard_super c E l _ (tl_remove E l x) fun _ => nofun
  | clear =>
    refine (runTLOM_eq c E l).trans ?_
    exact tlo_guard_super c E l _ (tl_clear E l) fun _ => nofun
  -- not overridden by `TraitListObject`
  | reverse => exact tl_reverse E l
  | sort sp => exact tl_sort E l sp

end TraitsVerif.Lemmas.PyL
