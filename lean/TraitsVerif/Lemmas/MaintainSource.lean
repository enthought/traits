/-
Cluster `obs`: the maintainer of a named / filtered link — `observer_change_handler`
(traits/observation/_has_traits_helpers.py), translated by harness/translate/obsl.py into
Generated/ObsProg.lean — is `Model.Obs.maintTrait … .trait` (Model/Maintain.lean: `removeOld`, then `addNew`), and
the `_observer_change_handler` of the three item observers is `maintCont` (`run_cont_handler`).
-/
import TraitsVerif.Lemmas.ObsSource
import TraitsVerif.Model.Maintain
namespace TraitsVerif.Model.ObsL
open TraitsVerif TraitsVerif.Model.Obs TraitsVerif.Generated

section eqns2
variable (h : Heap) (Q : Prog) (call : Callee → G → G × Flow) (self : Option Frame) (st : Sto)
theorem exec_ifObservable (e : Ex) (body : St) : exec h Q call self (.ifObservable e body) st =
    (match eval self st.vars st.logs.length e with
     | some (.val v) =>
       if Q.unobservable.all (fun nm => !isNamedValue nm v) then exec h Q call self body st else (st, .next)
     | _ => (st, .stuck)) := rfl
theorem exec_tryOnly (body : St) (exc : Exc) (handler : St) : exec h Q call self (.tryOnly body exc handler) st =
    (match exec h Q call self body st with
     | (st', .raised e) => if e = exc then exec h Q call self handler { st' with exc := some e } else (st', .raised e)
     | r => r) := rfl
end eqns2

/-- an outermost call whose `object` is a trait value (`event.old` / `event.new`) -/
def ownArgsV (v : Val) (gv : GV) (k : HKey) (rm : Bool) : List (Option PV) :=
  [some (.val v), some (.graph gv), some (.handler k.handler), some (.obj (some k.target)), some .disp,
    some (.bool rm), none]

theorem run_arn_ownerV (h : Heap) (n : Nat) (v : Val) (gv : GV) (k : HKey) (rm : Bool) (H : Hooks) :
    run h P (n + 1) (.fn "add_or_remove_notifiers" (ownArgsV v gv k rm)) (H, []) =
      run h P n (.meth "__call__" (mkFr (valW v) gv k rm true)) (H, [[]]) :=
  run_arn h n _ [.val v, .graph gv, .handler k.handler, .obj (some k.target), .disp, .bool rm, .none] _ H []
    rfl rfl rfl rfl rfl

/-- an outermost call — on a trait value or on an object — as a statement of a function that holds no undo log is
`addRemove`: the log the call allocated is dropped -/
theorem exec_owner_call (h : Heap) (n : Nat) (k : HKey) (g : Graph) (rm : Bool) (x : W) (oargs : List (Option PV))
    (args : List (Option Ex)) (st : Sto) (hl : st.logs = []) (hw : WF st.H) (hn : need g ≤ n)
    (hargs : ∀ n H, run h P (n + 1) (.fn "add_or_remove_notifiers" oargs) (H, []) =
      run h P n (.meth "__call__" (mkFr x (.plain g) k rm true)) (H, [[]]))
    (hev : evalAllO none st.vars 0 args = some oargs) :
    exec h P (run h P n) none (.callFn "add_or_remove_notifiers" args) st =
      ({ st with H := (addRemove h k rm true g x st.H).H }, flowOf (addRemove h k rm true g x st.H).err) := by
  rw [exec_callFn]
  simp only [hl, List.length_nil, hev]
  unfold viaCallT viaCall
  simp only [hl]
  rw [run_owner_addRemove h k g rm true x st.H hw oargs (fun n => hargs n st.H) n hn]
  cases (addRemove h k rm true g x st.H).err <;> simp [flowOf]

theorem observable_iff (v : Val) :
    P.unobservable.all (fun nm => !isNamedValue nm v) = !(valObjects v).isEmpty := by
  cases v <;> rfl

theorem valObjects_head (v : Val) (w : W) (ws : List W) (hv : valObjects v = w :: ws) : w = valW v := by
  cases v <;> simp [valObjects] at hv <;> simp [valW, hv.1]

/-- the arguments the C layer / `ObserverChangeNotifier.__call__` passes to the maintainer -/
def handlerArgs (old new : Val) (g : Graph) (k : HKey) : List (Option PV) :=
  [some (.event old new), some (.graph (.plain g)), some (.handler k.handler), some (.obj (some k.target)), some .disp]

/-- the first half: `if event.old is observable: try: remove … except NotifierNotFound: pass` is `removeOld` -/
theorem exec_remove_old (h : Heap) (n : Nat) (k : HKey) (g : Graph) (old : Val) (e : Ex) (args : List (Option Ex))
    (st : Sto) (hl : st.logs = []) (hw : WF st.H) (hn : need g ≤ n)
    (he : eval none st.vars 0 e = some (.val old))
    (hev : evalAllO none st.vars 0 args = some (ownArgsV old (.plain g) k true)) :
    ∃ ex, exec h P (run h P n) none
        (.ifObservable e (.tryOnly (.callFn "add_or_remove_notifiers" args) .notifierNotFound .skip)) st =
      ({ st with H := (removeOld h k g old st.H).H, exc := ex }, flowOf (removeOld h k g old st.H).err) := by
  rw [exec_ifObservable]
  have hlen : st.logs.length = 0 := by rw [hl]; rfl
  simp only [hlen, he, observable_iff]
  unfold removeOld
  cases hvo : valObjects old with
  | nil => exact ⟨st.exc, by simp [flowOf]⟩
  | cons w ws =>
    have hwv := valObjects_head old w ws hvo
    subst hwv
    simp only [List.isEmpty_cons, Bool.not_false, if_true]
    rw [exec_tryOnly, exec_owner_call h n k g true (valW old) _ args st hl hw hn (fun n H => run_arn_ownerV h n old _ k true H) hev]
    cases hx : (addRemove h k true true g (valW old) st.H).err with
    | none => exact ⟨st.exc, by simp [flowOf, hx]⟩
    | some ex =>
      by_cases hnn : ex = .notifierNotFound
      · subst hnn
        exact ⟨some .notifierNotFound, by simp [flowOf, exec_skip]⟩
      · refine ⟨st.exc, ?_⟩
        simp only [flowOf, hnn, if_false]
        cases ex <;> simp_all

/-- the second half: `if event.new is observable: add …` is `addNew` -/
theorem exec_add_new (h : Heap) (n : Nat) (k : HKey) (g : Graph) (new : Val) (e : Ex) (args : List (Option Ex))
    (st : Sto) (hl : st.logs = []) (hw : WF st.H) (hn : need g ≤ n)
    (he : eval none st.vars 0 e = some (.val new))
    (hev : evalAllO none st.vars 0 args = some (ownArgsV new (.plain g) k false)) :
    exec h P (run h P n) none (.ifObservable e (.callFn "add_or_remove_notifiers" args)) st =
      ({ st with H := (addNew h k g new st.H).H }, flowOf (addNew h k g new st.H).err) := by
  rw [exec_ifObservable]
  have hlen : st.logs.length = 0 := by rw [hl]; rfl
  simp only [hlen, he, observable_iff]
  unfold addNew
  cases hvo : valObjects new with
  | nil => simp [flowOf]
  | cons w ws =>
    have hwv := valObjects_head new w ws hvo
    subst hwv
    simp only [List.isEmpty_cons, Bool.not_false, if_true]
    rw [exec_owner_call h n k g false (valW new) _ args st hl hw hn (fun n H => run_arn_ownerV h n new _ k false H) hev]

theorem removeOld_WF (h : Heap) (k : HKey) (g : Graph) (old : Val) (H : Hooks) (hw : WF H) :
    WF (removeOld h k g old H).H := by
  unfold removeOld
  cases valObjects old with
  | nil => exact hw
  | cons w ws =>
    have := addRemove_WF h k g true true w H hw
    simp only
    split <;> exact this

/-- SOURCE TIE.  `observer_change_handler(event, graph, handler, target, dispatcher)` as translated from the source
— remove the graph below `event.old` unless it is Undefined / Uninitialized / None, swallowing NotifierNotFound; then
add it below `event.new` under the same test — is `maintTrait … .trait`. -/
theorem run_change_handler (h : Heap) (k : HKey) (g : Graph) (o : Id) (old new : Val) (H : Hooks) (hw : WF H)
    (n : Nat) (hn : need g ≤ n) :
    run h P (n + 1) (.fn "observer_change_handler" (handlerArgs old new g k)) (H, []) =
      (((maintTrait h .trait g k o old new H).H, []), flowOf (maintTrait h .trait g k o old new H).err) := by
  rw [run_fn h P n _ _ _ _ [.event old new, .graph (.plain g), .handler k.handler, .obj (some k.target), .disp]
    (fn_at 3 rfl) (by rfl) (by rfl)]
  dsimp only
  rw [exec_seq]
  obtain ⟨ex, h1⟩ := exec_remove_old h n k g old (.evOld (.var 0))
    [(some (.evOld (.var 0))), (some (.var 1)), (some (.var 2)), (some (.var 3)), (some (.var 4)), (some (.boolLit true)), none]
    ⟨H, [], ofArgs [.event old new, .graph (.plain g), .handler k.handler, .obj (some k.target), .disp], none⟩
    rfl hw hn (by simp [eval, ofArgs]) (by simp [evalAllO, eval, ofArgs, ownArgsV])
  rw [h1]
  unfold maintTrait
  simp only
  cases hx : (removeOld h k g old H).err with
  | some e1 => simp [flowOf, endCall]
  | none =>
    simp only [flowOf]
    rw [exec_add_new h n k g new (.evNew (.var 0))
      [(some (.evNew (.var 0))), (some (.var 1)), (some (.var 2)), (some (.var 3)), (some (.var 4)), (some (.boolLit false)), none] _ rfl (removeOld_WF h k g old H hw) hn (by simp [eval, ofArgs])
      (by simp [evalAllO, eval, ofArgs, ownArgsV])]
    cases (addNew h k g new (removeOld h k g old H).H).err <;> simp [flowOf, endCall]


/-! ### the maintainers of list / dict / set items -/

/-- the parameters of a container handler (`c` the event), which its loops leave alone -/
def Params (c : PV) (g : Graph) (k : HKey) (vars : Vars) : Prop :=
  vars 0 = c ∧ vars 1 = .graph (.plain g) ∧ vars 2 = .handler k.handler ∧ vars 3 = .obj (some k.target) ∧ vars 4 = .disp

/-- `for item in …: add_or_remove_notifiers(item, graph, handler, target, dispatcher, remove=rm)`, `item` a local
(slot `i`), is `walkAll` -/
theorem owner_loop (h : Heap) (n : Nat) (k : HKey) (g : Graph) (rm : Bool) (i : Nat) (hi : 5 ≤ i) (c : PV)
    (hn : need g ≤ n) :
    ∀ (ys : List Id) (st : Sto), st.logs = [] → WF st.H → Params c g k st.vars →
      ∃ vars, Params c g k vars ∧
        forLoop i (fun s => exec h P (run h P n) none (.callFn "add_or_remove_notifiers" [(some (.var i)), (some (.var 1)),
            (some (.var 2)), (some (.var 3)), (some (.var 4)), (some (.boolLit rm)), none]) s)
          (ys.map (fun y => PV.obj (some y))) st =
        ({ st with H := (walkAll h k rm g ys st.H).H, vars := vars }, flowOf (walkAll h k rm g ys st.H).err) := by
  have hne : ∀ j, j < 5 → ¬ j = i := fun j hj => by omega
  have hI : ∀ vars v, Params c g k vars → Params c g k (setVar vars i v) := fun vars v hv => by
    simpa [Params, setVar, hne] using hv
  intro ys
  induction ys with
  | nil => intro st _ _ hI; exact ⟨_, hI, rfl⟩
  | cons y ys ih =>
    intro st hl hw hp
    simp only [List.map_cons, forLoop, walkAll, foldRes]
    rw [exec_owner_call h n k g rm (some y) _ _ { st with vars := setVar st.vars i (.obj (some y)) } hl hw hn
      (fun n H => run_arn_owner h n (some y) _ k rm H)
      (by obtain ⟨_, v1, v2, v3, v4⟩ := hp; simp [evalAllO, eval, setVar, hne, v1, v2, v3, v4, ownArgs])]
    cases hx : (addRemove h k rm true g (some y) st.H).err with
    | some e => exact ⟨_, hI _ _ hp, rfl⟩
    | none =>
      exact ih { st with H := (addRemove h k rm true g (some y) st.H).H, vars := setVar st.vars i (.obj (some y)) }
        hl (addRemove_WF h k g rm true (some y) st.H hw) (hI _ _ hp)

theorem walkAll_WF (h : Heap) (k : HKey) (rm : Bool) (g : Graph) (ys : List Id) (H : Hooks) (hw : WF H) :
    WF (walkAll h k rm g ys H).H := by
  induction ys generalizing H with
  | nil => exact hw
  | cons y ys ih =>
    simp only [walkAll, List.map_cons, foldRes]
    have := addRemove_WF h k g rm true (some y) H hw
    cases (addRemove h k rm true g (some y) H).err with
    | some e => exact this
    | none => exact ih _ this

/-- the change event a container hands to its maintainers -/
def ceventPV (ev : CEvent) : PV :=
  match ev with
  | .list _ r a => .cevent .list r a
  | .dict r a => .cevent .dict (r.map (·.2)) (a.map (·.2))
  | .set r a => .cevent .set r a

def contHandlerName : CEvent → String
  | .list .. => "list_observer_change_handler"
  | .dict .. => "dict_observer_change_handler"
  | .set .. => "set_observer_change_handler"

def contHandlerArgs (ev : CEvent) (g : Graph) (k : HKey) : List (Option PV) :=
  [some (ceventPV ev), some (.graph (.plain g)), some (.handler k.handler), some (.obj (some k.target)), some .disp]


/-- the text the three container handlers share: `for item in <removed>: add_or_remove_notifiers(item, …, remove=True)`,
then the same over `<added>` with `remove=False`; the first exception propagates.  `c` is the event, `e1` / `e2` the
expressions for the removed and the added items. -/
theorem cont_body (h : Heap) (n : Nat) (k : HKey) (g : Graph) (c : PV) (e1 e2 : Ex) (rem add : List Id) (H : Hooks)
    (hw : WF H) (hn : need g ≤ n)
    (he1 : ∀ vars : Vars, vars 0 = c → eval none vars 0 e1 = some (.ids rem))
    (he2 : ∀ vars : Vars, vars 0 = c → eval none vars 0 e2 = some (.ids add))
    (vars0 : Vars) (h0 : Params c g k vars0) :
    endCall (exec h P (run h P n) none
        (.seq (.forIn 5 e1 (.callFn "add_or_remove_notifiers" [(some (.var 5)), (some (.var 1)), (some (.var 2)),
            (some (.var 3)), (some (.var 4)), (some (.boolLit true)), none]))
          (.forIn 6 e2 (.callFn "add_or_remove_notifiers" [(some (.var 6)), (some (.var 1)), (some (.var 2)),
            (some (.var 3)), (some (.var 4)), (some (.boolLit false)), none])))
        ⟨H, [], vars0, none⟩) =
      (let R : Res := match (walkAll h k true g rem H).err with
          | some e => ⟨(walkAll h k true g rem H).H, some e⟩
          | none => walkAll h k false g add (walkAll h k true g rem H).H
       ((R.H, []), flowOf R.err)) := by
  obtain ⟨vars1, hI1, hr1⟩ := owner_loop h n k g true 5 (Nat.le_refl _) c hn rem ⟨H, [], vars0, none⟩ rfl hw h0
  rw [exec_seq, exec_forIn]
  simp only [List.length_nil, he1 _ h0.1, hr1]
  cases hx : (walkAll h k true g rem H).err with
  | some e => simp [endCall, flowOf]
  | none =>
    obtain ⟨vars2, -, hr2⟩ := owner_loop h n k g false 6 (by decide) c hn add
      ⟨(walkAll h k true g rem H).H, [], vars1, none⟩ rfl (walkAll_WF h k true g rem H hw) hI1
    simp only [flowOf, exec_forIn, List.length_nil, he2 _ hI1.1, hr2]
    cases (walkAll h k false g add (walkAll h k true g rem H).H).err <;> simp [endCall]

/-- SOURCE TIE.  The `_observer_change_handler` of ListItemObserver / DictItemObserver / SetItemObserver as translated
from the three modules — `for item in event.removed[.values()]: add_or_remove_notifiers(…, remove=True)`, then the
same over `event.added` with remove=False; the first exception propagates — is `maintCont`. -/
theorem run_cont_handler (h : Heap) (k : HKey) (g : Graph) (ev : CEvent) (H : Hooks) (hw : WF H) (n : Nat)
    (hn : need g ≤ n) :
    run h P (n + 1) (.fn (contHandlerName ev) (contHandlerArgs ev g k)) (H, []) =
      (((maintCont h g k ev H).H, []), flowOf (maintCont h g k ev H).err) := by
  cases ev with
  | list i r a =>
    rw [show contHandlerName (.list i r a) = "list_observer_change_handler" from rfl,
      run_fn h P n _ _ _ _ [.cevent .list r a, .graph (.plain g), .handler k.handler, .obj (some k.target), .disp]
      (fn_at 4 rfl) (by rfl) (by rfl)]
    exact cont_body h n k g (.cevent .list r a) _ _ r a H hw hn (fun vars hv => by simp [eval, hv])
      (fun vars hv => by simp [eval, hv]) (ofArgs _) ⟨rfl, rfl, rfl, rfl, rfl⟩
  | dict r a =>
    rw [show contHandlerName (.dict r a) = "dict_observer_change_handler" from rfl,
      run_fn h P n _ _ _ _ [.cevent .dict (r.map (·.2)) (a.map (·.2)), .graph (.plain g), .handler k.handler,
      .obj (some k.target), .disp] (fn_at 5 rfl) (by rfl) (by rfl)]
    refine cont_body h n k g (.cevent .dict (r.map (·.2)) (a.map (·.2))) (.valuesOf (.evRemoved (.var 0)))
      (.valuesOf (.evAdded (.var 0))) (r.map (·.2)) (a.map (·.2)) H hw hn
      (fun vars hv => by simp [eval, hv]) (fun vars hv => by simp [eval, hv]) _ ?_
    exact ⟨rfl, rfl, rfl, rfl, rfl⟩
  | set r a =>
    rw [show contHandlerName (.set r a) = "set_observer_change_handler" from rfl,
      run_fn h P n _ _ _ _ [.cevent .set r a, .graph (.plain g), .handler k.handler, .obj (some k.target), .disp]
      (fn_at 6 rfl) (by rfl) (by rfl)]
    exact cont_body h n k g (.cevent .set r a) _ _ r a H hw hn (fun vars hv => by simp [eval, hv])
      (fun vars hv => by simp [eval, hv]) (ofArgs _) ⟨rfl, rfl, rfl, rfl, rfl⟩

end TraitsVerif.Model.ObsL
