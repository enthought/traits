/-
The order discipline of `Model/Effects.lean` gives atomicity.  Two facts, kept apart: the failure machine `exec` stops in
front of the first effect whose ordinal fails, in the state the effects before it leave (`exec_eq`); and along an ordered
sequence the phase automaton bounds what that state can show (`ordered_take`): in front of a validator call or guard
nothing has happened yet, in front of the mutation nobody has been notified, and nobody is ever notified twice.
-/
import TraitsVerif.Model.Effects
namespace TraitsVerif.Model.Effects

def after (es : List Eff) (s : St) : St := es.foldl (fun s e => apply e s) s

theorem exec_eq (fails : Nat → Bool) : ∀ (es : List Eff) (i : Nat) (s : St),
    (∃ k, k < es.length ∧ exec fails i es s = (after (es.take k) s, some (i + k))) ∨
      exec fails i es s = (after es s, none)
  | [], _, _ => .inr rfl
  | e :: es, i, s => by
    simp only [exec]
    by_cases hf : fails i = true
    · exact .inl ⟨0, Nat.zero_lt_succ _, by simp [hf, after]⟩
    · rcases exec_eq fails es (i + 1) (apply e s) with ⟨k, hk, h⟩ | h
      · exact .inl ⟨k + 1, Nat.succ_lt_succ hk, by simp [hf, h, after]; omega⟩
      · exact .inr (by simp [hf, h, after])

def PhaseInv (ph : Nat) (s : St) : Prop :=
  (ph = 0 → s.mutated = false) ∧ (ph ≤ 1 → s.notified = 0) ∧ s.notified ≤ 1

/-- The state in front of the `k`-th effect of an ordered sequence (`k = es.length`: at its end).  That a validator call or
guard is only met in phase 0 is part of the statement because the induction needs it once an M or N has been passed. -/
theorem ordered_take : ∀ (es : List Eff) (ph : Nat) (s : St), ordered ph es = true → PhaseInv ph s → ∀ k,
    (after (es.take k) s).notified ≤ 1 ∧
    ((es[k]? = some .V ∨ es[k]? = some .G) → ph = 0 ∧ after (es.take k) s = s) ∧
    (es[k]? = some .M → (after (es.take k) s).notified = 0)
  | [], _, s, _, hi, k => by simp [after, hi.2.2]
  | e :: es, ph, s, ho, hi, 0 => by
    simp only [List.getElem?_cons_zero, Option.some.injEq]
    refine ⟨hi.2.2, fun he => ⟨?_, rfl⟩, fun he => ?_⟩
    · rcases he with rfl | rfl <;> (simp only [ordered, Bool.and_eq_true, beq_iff_eq] at ho; exact ho.1)
    · subst he
      simp only [ordered, Bool.and_eq_true, decide_eq_true_eq] at ho
      exact hi.2.1 ho.1
  | e :: es, ph, s, ho, hi, k + 1 => by
    simp only [List.take_succ_cons, List.getElem?_cons_succ]
    change (after (es.take k) (apply e s)).notified ≤ 1 ∧ (_ → _ ∧ after (es.take k) (apply e s) = s) ∧ _
    cases e with
    | V | G =>
      simp only [ordered, Bool.and_eq_true, beq_iff_eq] at ho
      have h := ordered_take es 0 s ho.2 (ho.1 ▸ hi) k
      exact ⟨h.1, fun he => ⟨ho.1, (h.2.1 he).2⟩, h.2.2⟩
    | M =>
      simp only [ordered, Bool.and_eq_true, decide_eq_true_eq] at ho
      have h := ordered_take es 1 (apply .M s) ho.2 ⟨fun h => by omega, fun _ => hi.2.1 ho.1, hi.2.2⟩ k
      exact ⟨h.1, fun he => by have := (h.2.1 he).1; omega, h.2.2⟩
    | N =>
      simp only [ordered, Bool.and_eq_true, beq_iff_eq] at ho
      have h0 : s.notified = 0 := hi.2.1 (by omega)
      have h := ordered_take es 2 (apply .N s) ho.2
        ⟨fun h => by omega, fun h => by omega, by simp [apply, h0]⟩ k
      exact ⟨h.1, fun he => by have := (h.2.1 he).1; omega, h.2.2⟩
    | D => simp [ordered] at ho

end TraitsVerif.Model.Effects
