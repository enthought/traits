/-
Source tie of the Python-level validate methods (C03_py_is_source), groundwork: the equations
of the interpreter of Model/PyVSrc.lean (one per form of expression, statement, builtin and
handler), what the constructors store on `self` (`selfCfg`), and the method dispatch of
Model/PyVRun.lean.  `pyv_eval` runs a translated method by `simp only` on these equations (the set `pyv`).
-/
import TraitsVerif.Model.PyVRun
import TraitsVerif.Lemmas.ValAgree
import TraitsVerif.Lemmas.Common
import TraitsVerif.Lemmas.SimpAttr
namespace TraitsVerif.Model.PyVSrc
open TraitsVerif TraitsVerif.Py.Value TraitsVerif.Model.Val TraitsVerif.Generated.PyValidators

section cfg
variable (lo hi : Option F) (ilo ihi : Option Int) (exLo exHi an : Bool) (vals keys : List Val) (cls : Ty) (mode : Nat) (dflt : Val)
theorem cfg_rf_low : selfCfg (.rangeF lo hi exLo exHi) "_low" = optFloat lo := rfl
theorem cfg_rf_high : selfCfg (.rangeF lo hi exLo exHi) "_high" = optFloat hi := rfl
theorem cfg_rf_el : selfCfg (.rangeF lo hi exLo exHi) "_exclude_low" = .bool exLo := rfl
theorem cfg_rf_eh : selfCfg (.rangeF lo hi exLo exHi) "_exclude_high" = .bool exHi := rfl
theorem cfg_rf_v : selfCfg (.rangeF lo hi exLo exHi) "_validate" = .str "float_validate" := rfl
theorem cfg_ri_low : selfCfg (.rangeI ilo ihi exLo exHi) "_low" = optInt ilo := rfl
theorem cfg_ri_high : selfCfg (.rangeI ilo ihi exLo exHi) "_high" = optInt ihi := rfl
theorem cfg_ri_el : selfCfg (.rangeI ilo ihi exLo exHi) "_exclude_low" = .bool exLo := rfl
theorem cfg_ri_eh : selfCfg (.rangeI ilo ihi exLo exHi) "_exclude_high" = .bool exHi := rfl
theorem cfg_ri_v : selfCfg (.rangeI ilo ihi exLo exHi) "_validate" = .str "int_validate" := rfl
theorem cfg_enum : selfCfg (.enum vals) "values" = .seq vals := rfl
theorem cfg_map : selfCfg (.map keys vals) "map" = .dict keys := rfl
theorem cfg_callable : selfCfg (.callable an) "fast_validate" = .tup [.int 22, .bool an] := rfl
theorem cfg_in_an : selfCfg (.instance cls an mode dflt) "_allow_none" = .bool an := rfl
theorem cfg_in_klass : selfCfg (.instance cls an mode dflt) "klass" = .ty cls := rfl
theorem cfg_in_adapt : selfCfg (.instance cls an mode dflt) "adapt" = .int mode := rfl
theorem cfg_in_dv : selfCfg (.instance cls an mode dflt) "default_value" = .val dflt := rfl
theorem cfg_in_dvt : selfCfg (.instance cls an mode dflt) "default_value_type" = .int 0 := rfl
theorem cfg_ty_an : selfCfg (.type_ cls an) "_allow_none" = .bool an := rfl
theorem cfg_ty_klass : selfCfg (.type_ cls an) "klass" = .ty cls := rfl
end cfg

theorem cfg_coerceH (ty : Ty) : selfCfg (.coerceH ty) "fast_validate" =
    .tup (.int 11 :: .ty ty :: (coerceRest ty).map (fun t => match t with | none => .val Val.none | some t => .ty t)) := rfl
theorem cfg_castH (ty : Ty) : selfCfg (.castH ty) "aType" = .ty ty := rfl
theorem cfg_instanceH_an (cls : Ty) (an : Bool) : selfCfg (.instanceH cls an) "_allow_none" = .bool an := rfl
theorem cfg_instanceH_class (cls : Ty) (an : Bool) : selfCfg (.instanceH cls an) "aClass" = .ty cls := rfl
theorem cfg_enumH (vals : List Val) : selfCfg (.enumH vals) "values" = .seq vals := rfl
theorem cfg_mapH (keys vals : List Val) : selfCfg (.mapH keys vals) "map" = .dict keys := rfl

section cfgE
variable (E : Env) (items : List TraitType)
theorem cfgE_tuple_types : selfCfgE E (.tuple items) "types" = .fns (items.map (fun t => ctraitValidate E t)) := rfl
theorem cfgE_tuple_ntc : selfCfgE E (.tuple items) "no_type_check" = .bool false := rfl
theorem cfgE_baseTuple_types :
    selfCfgE E (.baseTuple items) "types" = .fns (items.map (fun t => ctraitValidate E t)) := rfl
theorem cfgE_baseTuple_ntc : selfCfgE E (.baseTuple items) "no_type_check" = .bool false := rfl
theorem cfgE_union :
    selfCfgE E (.union items) "list_ctrait_instances" = .fns (items.map (fun t => ctraitValidate E t)) := rfl
theorem cfgE_functionH (f : Nat) : selfCfgE E (.functionH f) "aFunc" =
    .fnv (fun v => match E.fn f v with | .ok w => .ok w | .error .traitError => .traitError | .error e => .raised e) := rfl
theorem cfgE_validates : selfCfgE E (.compoundH items) "validates" =
    .fns ((items.filter (fun t => (descOf E t).isSome)).map (fun t => pyValidate E t)) := rfl
theorem cfgE_slow_validates : selfCfgE E (.compoundH items) "slow_validates" =
    .fns ((items.filter (fun t => !(descOf E t).isSome)).map (fun t x => if hasPy t then pyValidate E t x else .ok x)) := rfl
end cfgE

/-! ## Results of methods -/

def resToM : Res → MRes
  | .ok w => .ret (.val w)
  | .traitError => .exc .te
  | .raised e => .exc (.ex e)
@[simp] theorem resToM_ok (w : Val) : resToM (.ok w) = .ret (.val w) := rfl
@[simp] theorem resToM_te : resToM .traitError = .exc .te := rfl
theorem toRes_resToM (r : Res) : toRes (resToM r) = some r := by cases r <;> rfl

/-! ## The interpreter, form by form -/

section eqns
variable {R : Type} (C : Ctx) (σ : List PV) (k : PV → R) (kl : List PV → R) (kn : List PV → R) (kr : PV → R)
  (ke : PExc → R) (a b e : Expr) (es : List Expr) (i j n : Nat) (s : String)

theorem evalE_loc : evalE C (.loc i) σ k ke = k (σ.getD i .undef) := rfl
theorem evalE_glob : evalE C (.glob s) σ k ke = k (globOf s) := rfl
theorem evalE_none : evalE C .none σ k ke = k (.val Val.none) := rfl
theorem evalE_intLit (z : Int) : evalE C (.intLit z) σ k ke = k (.int z) := rfl
theorem evalE_self : evalE C .self_ σ k ke = k .self_ := rfl
theorem evalE_selfAttr : evalE C (.selfAttr s) σ k ke = k (C.cfg s) := rfl
theorem evalE_attr : evalE C (.attr e s) σ k ke = evalE C e σ (fun x => k (attrOf x s)) ke := rfl
theorem evalE_call : evalE C (.call s es) σ k ke = evalArgs C es σ (fun xs => builtin C s xs k ke) ke := rfl
theorem evalE_selfCall : evalE C (.selfCall s es) σ k ke =
    evalArgs C es σ (fun xs =>
      if s = "error" ∨ s = "validate_failed" then ke .te else selfApply C (C.cfg s) xs k ke) ke := rfl
theorem evalE_method : evalE C (.method s es) σ k ke = evalArgs C es σ (fun xs => callOut C s xs k ke) ke := rfl
theorem evalE_dynMethod : evalE C (.dynMethod s e es) σ k ke =
    evalE C e σ (fun x =>
      match x with
      | .str m => evalArgs C es σ (fun xs => callOut C (s ++ "." ++ m) xs k ke) ke
      | _ => k .undef) ke := rfl
theorem evalE_is : evalE C (.is a b) σ k ke =
    evalE C a σ (fun x => evalE C b σ (fun y => k (.bool (pvIs x y))) ke) ke := rfl
theorem evalE_isNot : evalE C (.isNot a b) σ k ke =
    evalE C a σ (fun x => evalE C b σ (fun y => k (.bool (!pvIs x y))) ke) ke := rfl
theorem evalE_not : evalE C (.not a) σ k ke = evalE C a σ (fun x => k (.bool (!x.truthy))) ke := rfl
theorem evalE_and : evalE C (.and a b) σ k ke =
    evalE C a σ (fun x =>
      if x.truthy then evalE C b σ (fun y => k (.bool y.truthy)) ke else k (.bool false)) ke := rfl
theorem evalE_or : evalE C (.or a b) σ k ke =
    evalE C a σ (fun x =>
      if x.truthy then k (.bool true) else evalE C b σ (fun y => k (.bool y.truthy)) ke) ke := rfl
theorem evalE_eq : evalE C (.eq a b) σ k ke =
    evalE C a σ (fun x => evalE C b σ (fun y => k (.bool (pvEq x y))) ke) ke := rfl
theorem evalE_in : evalE C (.in_ a b) σ k ke =
    evalE C a σ (fun x => evalE C b σ (fun y => pvIn x y k ke) ke) ke := rfl
theorem evalE_index : evalE C (.index e n) σ k ke =
    evalE C e σ (fun x => match x with | .tup xs => k (xs.getD n .undef) | _ => k .undef) ke := rfl
theorem evalE_sliceFrom : evalE C (.sliceFrom e n) σ k ke =
    evalE C e σ (fun x => match x with | .tup xs => k (.tup (xs.drop n)) | _ => k .undef) ke := rfl
theorem evalE_callVal : evalE C (.callVal e es) σ k ke =
    evalE C e σ (fun fv => evalArgs C es σ (fun xs =>
      match fv with
      | .ty _ => selfApply C fv xs k ke
      | _ => callFn fv xs k ke) ke) ke := rfl
theorem evalE_attrCall : evalE C (.attrCall e s es) σ k ke =
    evalE C e σ (fun fv => evalArgs C es σ (fun xs =>
      if s = "validate" then callFn fv xs k ke else k .undef) ke) ke := rfl
theorem evalE_tupleZip : evalE C (.tupleZip i j a b e) σ k ke =
    evalE C a σ (fun x => evalE C b σ (fun y =>
      match x, y with
      | .fns gs, .val (.tuple _ vs) =>
        zipEval (fun g w k' ke' => evalE C e ((σ.set i (.fnv g)).set j (.val w)) k' ke') gs vs
          (fun ws => k (.val (.tuple false (ws.map pvToVal)))) ke
      | _, _ => k .undef) ke) ke := rfl
theorem evalE_emptyList : evalE C .emptyList σ k ke = k (.lst []) := rfl
theorem evalE_subscript : evalE C (.subscript a b) σ k ke =
    evalE C a σ (fun x => evalE C b σ (fun y =>
      match x, y with
      | .val (.tuple _ vs), .int z => k (.val (vs.getD z.toNat Val.none))
      | _, _ => k .undef) ke) ke := rfl
theorem evalE_unsupported : evalE C (.unsupported s) σ k ke = k .undef := rfl
theorem evalArgs_nil : evalArgs C [] σ kl ke = kl [] := rfl
theorem evalArgs_cons : evalArgs C (e :: es) σ kl ke =
    evalE C e σ (fun x => evalArgs C es σ (fun xs => kl (x :: xs)) ke) ke := rfl

variable (p q : Stmt) (hs : Handlers) (spec : ExcSpec) (x : PExc)

theorem exec_ret : exec C (.ret e) σ kn kr ke = evalE C e σ kr ke := rfl
theorem exec_expr : exec C (.expr e) σ kn kr ke = evalE C e σ (fun _ => kn σ) ke := rfl
theorem exec_assign : exec C (.assign i e) σ kn kr ke = evalE C e σ (fun x => kn (σ.set i x)) ke := rfl
theorem exec_ite : exec C (.ite e p q) σ kn kr ke =
    evalE C e σ (fun x => if x.truthy then exec C p σ kn kr ke else exec C q σ kn kr ke) ke := rfl
theorem exec_try : exec C (.try_ p hs) σ kn kr ke =
    exec C p σ kn kr (fun x => handle C hs x σ kn kr ke) := rfl
theorem exec_pass : exec C .pass σ kn kr ke = kn σ := rfl
theorem exec_seq : exec C (.seq p q) σ kn kr ke = exec C p σ (fun σ' => exec C q σ' kn kr ke) kr ke := rfl
theorem exec_forIn : exec C (.forIn i e p) σ kn kr ke =
    evalE C e σ (fun x =>
      match x with
      | .fns gs => forEach (fun g σ' kn' => exec C p (σ'.set i (.fnv g)) kn' kr ke) gs σ kn
      | .tup xs => forEachPV (fun x σ' kn' => exec C p (σ'.set i x) kn' kr ke) xs σ kn
      | _ => kr .undef) ke := rfl
theorem exec_forEnum : exec C (.forEnum i j e p) σ kn kr ke =
    evalE C e σ (fun x =>
      match x with
      | .fns gs =>
        forEachI (fun n g σ' kn' => exec C p ((σ'.set i (.int n)).set j (.fnv g)) kn' kr ke) 0 gs σ kn
      | _ => kr .undef) ke := rfl
theorem exec_append : exec C (.append i e) σ kn kr ke =
    evalE C e σ (fun x =>
      match σ.getD i .undef with
      | .lst xs => kn (σ.set i (.lst (xs ++ [x])))
      | _ => kn σ) ke := rfl
theorem handle_nil : handle C .nil x σ kn kr ke = ke x := rfl
theorem handle_cons : handle C (.cons spec p hs) x σ kn kr ke =
    if specMatches spec x then exec C p σ kn kr ke else handle C hs x σ kn kr ke := rfl

theorem truthy_bool (c : Bool) : (PV.bool c).truthy = c := rfl

end eqns

attribute [pyv] runMethod evalE_loc evalE_glob evalE_none evalE_intLit evalE_self evalE_selfAttr evalE_attr evalE_call
  evalE_selfCall evalE_method evalE_dynMethod evalE_is evalE_isNot evalE_not evalE_and evalE_or evalE_eq evalE_in evalE_index
  evalE_sliceFrom evalE_callVal evalE_attrCall evalE_tupleZip evalE_emptyList evalE_subscript evalE_unsupported evalArgs_nil
  evalArgs_cons exec_ret exec_expr exec_assign exec_ite exec_try exec_pass exec_seq exec_forIn exec_forEnum exec_append
  handle_nil handle_cons truthy_bool

section builtin
variable {R : Type} (C : Ctx) (k : PV → R) (ke : PExc → R) (v : Val) (t : Ty)

theorem builtin_isinstance : builtin C "isinstance" [.val v, .ty t] k ke = k (.bool (Val.isInst t v)) := rfl
theorem builtin_isinstance_tys (ts : List Ty) :
    builtin C "isinstance" [.val v, .tys ts] k ke = k (.bool (ts.any (fun t => Val.isInst t v))) := rfl
theorem builtin_isinstance_selfCls :
    builtin C "isinstance" [.val v, .selfCls] k ke = k (.bool (Val.isInst (.user C.E.selfCls) v)) := rfl
theorem builtin_isinstance_ty_ty (s : Ty) : builtin C "isinstance" [.ty s, .ty t] k ke = k (.bool false) := rfl
theorem builtin_type : builtin C "type" [.val v] k ke = k (.tyOf v) := rfl
theorem builtin_int_int (n : Int) : builtin C "int" [.int n] k ke = k (.val (Val.ofInt n)) := rfl
theorem builtin_int : builtin C "int" [.val v] k ke = ofExcept (C.E.cast .int v) k ke := rfl
theorem builtin_float : builtin C "float" [.val v] k ke = ofExcept (C.E.cast .float v) k ke := rfl
theorem builtin_complex : builtin C "complex" [.val v] k ke = ofExcept (C.E.cast .complex v) k ke := rfl
theorem builtin_str : builtin C "str" [.val v] k ke = ofExcept (C.E.cast .str v) k ke := rfl
theorem builtin_bytes : builtin C "bytes" [.val v] k ke = ofExcept (C.E.cast .bytes v) k ke := rfl
theorem builtin_bool : builtin C "bool" [.val v] k ke = ofExcept (C.E.cast .bool v) k ke := rfl
theorem builtin_index : builtin C "operator.index" [.val v] k ke =
    match index v with | .ok n => k (.int n) | .error e => ke (.ex e) := rfl
theorem builtin_validate_float : builtin C "_validate_float" [.val v] k ke = ofExcept (validateFloat v) k ke := rfl
theorem builtin_validate_complex :
    builtin C "_validate_complex_number" [.val v] k ke = ofExcept (validateComplexNumber v) k ke := rfl
theorem builtin_callable : builtin C "callable" [.val v] k ke = k (.bool v.callable) := rfl
theorem builtin_len_tuple (s : Bool) (vs : List Val) : builtin C "len" [.val (.tuple s vs)] k ke = k (.int vs.length) := rfl
theorem builtin_len_fns (gs : List (Val → Res)) : builtin C "len" [.fns gs] k ke = k (.int gs.length) := rfl
theorem builtin_tuple_list (vs : List Val) : builtin C "tuple" [.val (.list vs)] k ke = k (.val (.tuple false vs)) := rfl
theorem builtin_tuple_lst (xs : List PV) : builtin C "tuple" [.lst xs] k ke =
    k (.val (.tuple false (xs.map (fun x => match x with | .val v => v | _ => Val.none)))) := rfl
theorem builtin_issubclass : builtin C "issubclass" [.val v, .ty t] k ke =
    match isSubclass v t with | some b => k (.bool b) | none => ke (.ex .typeError) := rfl
theorem builtin_adapt : builtin C "adapt" [.val v, .ty t, .val Val.none] k ke =
    match C.E.adapt v t with
    | .ok (some r) => k (.val r)
    | .ok none => k (.val Val.none)
    | .error e => ke (.ex e) := rfl

end builtin

attribute [pyv] builtin_isinstance builtin_isinstance_tys builtin_isinstance_selfCls builtin_isinstance_ty_ty builtin_type
  builtin_int_int builtin_int builtin_float builtin_complex builtin_str builtin_bytes builtin_bool builtin_index
  builtin_validate_float builtin_validate_complex builtin_callable builtin_len_tuple builtin_len_fns builtin_tuple_list
  builtin_tuple_lst builtin_issubclass builtin_adapt

theorem globOf_int : globOf "int" = .ty .int := rfl
theorem globOf_str : globOf "str" = .ty .str := rfl
theorem globOf_bytes : globOf "bytes" = .ty .bytes := rfl
theorem globOf_tuple : globOf "tuple" = .ty .tuple := rfl
theorem globOf_list : globOf "list" = .ty .list := rfl
theorem globOf_BOOL_TYPES : globOf "_BOOL_TYPES" = .tys [.bool, .npBool] := rfl
theorem globOf_DefaultValue : globOf "DefaultValue" = .undef := rfl
theorem attrOf_class : attrOf .hobj "__class__" = .selfCls := rfl
theorem attrOf_undef (s : String) : attrOf .undef s = .undef := rfl

theorem pvIs_val (a b : Val) : pvIs (.val a) (.val b) = decide (a = b) := rfl
theorem pvIs_tyOf (v : Val) (t : Ty) : pvIs (.tyOf v) (.ty t) = Val.exactTy t v := rfl
theorem pvEq_int (a b : Int) : pvEq (.int a) (.int b) = decide (a = b) := rfl
theorem pvEq_undef (x : PV) : pvEq x .undef = false := by cases x <;> rfl

theorem pvIs_none (v : Val) : pvIs (.val v) (.val Val.none) = v.isNone := by
  rw [pvIs_val, Bool.eq_iff_iff, decide_eq_true_iff, isNone_iff]

attribute [pyv] globOf_int globOf_str globOf_bytes globOf_tuple globOf_list globOf_BOOL_TYPES globOf_DefaultValue
  attrOf_class attrOf_undef pvIs_none pvIs_tyOf pvEq_int pvEq_undef

/-! ## Exception classes of the handlers -/

theorem specMatches_bare (x : PExc) : specMatches .bare x = true := rfl
theorem specMatches_exception (x : PExc) : specMatches (.names ["Exception"]) x = true := by
  cases x <;> rfl
theorem specMatches_typeError (e : Exc) :
    specMatches (.names ["TypeError"]) (.ex e) = decide (e = .typeError) := by cases e <;> decide
theorem specMatches_valueTypeError (e : Exc) :
    specMatches (.names ["ValueError", "TypeError"]) (.ex e) = decide (e = .valueError ∨ e = .typeError) := by
  cases e <;> decide
theorem specMatches_traitError (e : Exc) :
    specMatches (.names ["TraitError"]) (.ex e) = decide (e = .traitError) := by cases e <;> decide
theorem specMatches_traitError_te : specMatches (.names ["TraitError"]) .te = true := rfl

attribute [pyv] specMatches_bare specMatches_exception specMatches_traitError_te

/-! ## Calls -/

section calls
variable {R : Type} (C : Ctx) (k : PV → R) (ke : PExc → R) (s : String) (xs : List PV)

/-- A callee that returns or raises what `r` says. -/
theorem callOut_ofExcept (r : Except Exc Val) (h : C.callM s xs = ofExcept r MRes.ret MRes.exc) :
    callOut C s xs k ke = ofExcept r k ke := by
  unfold callOut; rw [h]; cases r <;> rfl

/-- A callee that behaves like the validator result `r`, called in tail position. -/
theorem callOut_resToM (r : Res) (h : C.callM s xs = resToM r) :
    callOut C s xs MRes.ret MRes.exc = resToM r := by
  unfold callOut; rw [h]; cases r <;> rfl

theorem callFn_fnv (g : Val → Res) (v : Val) : callFn (.fnv g) [.hobj, .name, .val v] k ke =
    match g v with
    | .ok w => k (.val w)
    | .traitError => ke .te
    | .raised e => ke (.ex e) := rfl

theorem pvIn_seq (vals : List Val) (v : Val) : pvIn (.val v) (.seq vals) k ke =
    match seqContains vals v with
    | .yes => k (.bool true)
    | .no => k (.bool false)
    | .raises e => ke (.ex e) := rfl
theorem pvIn_dict (keys : List Val) (v : Val) : pvIn (.val v) (.dict keys) k ke =
    match dictFind keys v with
    | .ok (some _) => k (.bool true)
    | .ok none => k (.bool false)
    | .error e => ke (.ex e) := rfl

theorem selfApply_ty (t : Ty) (v : Val) : selfApply C (.ty t) [.val v] k ke = ofExcept (C.E.cast t v) k ke := rfl
theorem selfApply_fnv (g : Val → Res) : selfApply C (.fnv g) xs k ke = callFn (.fnv g) xs k ke := rfl

end calls

attribute [pyv] pvIn_seq pvIn_dict selfApply_ty selfApply_fnv

/-! ## Expressions without calls

A condition such as `low is None or (exclude_low and low < value) or …` has a value; evaluating
it with the short-circuit equations above instead copies the continuation into every leaf. -/

/-- The value of an expression built from variables, attributes of `self`, literals,
comparisons, `is`, `not`, `and`, `or` and indexing (`undef` for the other forms). -/
def Expr.val (C : Ctx) (σ : List PV) : Expr → PV
  | .loc i => σ.getD i .undef
  | .glob s => globOf s
  | .none => .val Val.none
  | .intLit z => .int z
  | .boolLit c => .bool c
  | .self_ => .self_
  | .selfAttr s => C.cfg s
  | .attr e s => attrOf (e.val C σ) s
  | .is a b => .bool (pvIs (a.val C σ) (b.val C σ))
  | .isNot a b => .bool (!pvIs (a.val C σ) (b.val C σ))
  | .not a => .bool (!(a.val C σ).truthy)
  | .and a b => .bool ((a.val C σ).truthy && (b.val C σ).truthy)
  | .or a b => .bool ((a.val C σ).truthy || (b.val C σ).truthy)
  | .lt a b => .bool (pvLt (a.val C σ) (b.val C σ))
  | .le a b => .bool (pvLe (a.val C σ) (b.val C σ))
  | .gt a b => .bool (pvLt (b.val C σ) (a.val C σ))
  | .ge a b => .bool (pvLe (b.val C σ) (a.val C σ))
  | .eq a b => .bool (pvEq (a.val C σ) (b.val C σ))
  | .index e n => match e.val C σ with | .tup xs => xs.getD n .undef | _ => .undef
  | .sliceFrom e n => match e.val C σ with | .tup xs => .tup (xs.drop n) | _ => .undef
  | _ => .undef

/-- The expressions `Expr.val` is meant for. -/
def Expr.pure : Expr → Bool
  | .loc _ | .glob _ | .none | .intLit _ | .boolLit _ | .self_ | .selfAttr _ => true
  | .attr e _ | .not e | .index e _ | .sliceFrom e _ => e.pure
  | .is a b | .isNot a b | .and a b | .or a b | .lt a b | .le a b | .gt a b | .ge a b | .eq a b => a.pure && b.pure
  | _ => false

theorem evalE_pure {R : Type} (C : Ctx) (σ : List PV) (ke : PExc → R) :
    ∀ (e : Expr) (k : PV → R), e.pure = true → evalE C e σ k ke = k (e.val C σ)
  | .loc _, _, _ | .glob _, _, _ | .none, _, _ | .intLit _, _, _ | .boolLit _, _, _ | .self_, _, _
  | .selfAttr _, _, _ => rfl
  | .attr e _, _, h | .not e, _, h => evalE_pure C σ ke e _ h
  | .index e n, k, h => by
    rw [evalE_index, evalE_pure C σ ke e _ h]
    show _ = k (match e.val C σ with | .tup xs => xs.getD n .undef | _ => .undef)
    cases e.val C σ <;> rfl
  | .sliceFrom e n, k, h => by
    rw [evalE_sliceFrom, evalE_pure C σ ke e _ h]
    show _ = k (match e.val C σ with | .tup xs => .tup (xs.drop n) | _ => .undef)
    cases e.val C σ <;> rfl
  | .is a b, _, h | .isNot a b, _, h | .lt a b, _, h | .le a b, _, h | .gt a b, _, h | .ge a b, _, h
  | .eq a b, _, h =>
    have h := Bool.and_eq_true_iff.mp h
    (evalE_pure C σ ke a _ h.1).trans (evalE_pure C σ ke b _ h.2)
  | .and a b, k, h => by
    have h := Bool.and_eq_true_iff.mp h
    rw [evalE_and, evalE_pure C σ ke a _ h.1, evalE_pure C σ ke b _ h.2]
    show _ = k (.bool ((a.val C σ).truthy && (b.val C σ).truthy))
    cases (a.val C σ).truthy <;> rfl
  | .or a b, k, h => by
    have h := Bool.and_eq_true_iff.mp h
    rw [evalE_or, evalE_pure C σ ke a _ h.1, evalE_pure C σ ke b _ h.2]
    show _ = k (.bool ((a.val C σ).truthy || (b.val C σ).truthy))
    cases (a.val C σ).truthy <;> rfl

-- What a run needs besides the interpreter's own equations: frames and argument lists are list literals, tests are
-- decided booleans.
attribute [pyv] List.replicate List.cons_append List.nil_append List.append_nil List.getD_cons_zero List.getD_cons_succ
  List.set_cons_zero List.set_cons_succ true_or or_true or_self if_true if_false Bool.false_eq_true Bool.true_eq_false
  Bool.not_true Bool.not_false

-- With `↓evalE_pure` in a run, a call-free condition is replaced by its value:
attribute [pyv] Expr.val Expr.pure Bool.and_self

/-- Runs a translated method on the interpreter's equations (the set `pyv`) and `ls`: the result is what is left of
the method once everything that does not depend on the value has been computed. -/
macro "pyv_eval" "[" ls:Lean.Parser.Tactic.simpLemma,* "]" : tactic => `(tactic|
  simp -implicitDefEqProofs only [pyv, String.reduceEq, String.reduceAppend, Nat.reduceSub, $ls,*])

/-! ## Dispatch -/

theorem table_nodup : (table.map Prod.fst).Nodup := by decide +kernel

theorem runL_succ (E : Env) (cfg : String → PV) (n : Nat) (name : String) (args : List PV) :
    runL E cfg (n + 1) name args =
      match table.lookup name with
      | some m => runMethod ⟨E, cfg, runL E cfg n⟩ m args
      | none => .stuck := rfl

macro "py_start" m:ident l:term : tactic => `(tactic|
  (have hl : table.lookup $l = some $m := by rfl
   simp only [srcPy, pyMethodOf]
   rw [runL_succ]
   simp only [hl, $m:ident]))

theorem runL_of_mem {name : String} {m : Method} (h : (name, m) ∈ table) (E : Env) (cfg : String → PV) (n : Nat)
    (args : List PV) : runL E cfg (n + 1) name args = runMethod ⟨E, cfg, runL E cfg n⟩ m args := by
  rw [runL_succ, Common.lookup_of_mem_nodup table_nodup h]

end TraitsVerif.Model.PyVSrc
