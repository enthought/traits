/-
Cluster `obs`: the refinement invariant is preserved by `o.add_trait(n, …)` for a NEW
trait name (fragments `AddCoreF`, and `AddCore`: the same with no `filtered` node in the
registrations).

The new field is absent from `__dict__` (`.unset`), so nothing below it is reachable
yet: in the new heap the from-scratch hooks grow, per path that reaches `o` at a node
that gains the observable `o.n` — a `named n` node, or a `filtered` node whose filter
matches the new field (always for `*`, iff `tagged` for `+tag`) — by exactly the own
items of that node on `o.n` (`add_dec`).  On the hooks side every such path has left a
`trait_added` maintainer on `o.trait_added` (`added_at`), and that maintainer, called
with `new = n`, walks the restricted graph from `o`, i.e. adds exactly those items
(`addG_gains`).
-/
import TraitsVerif.Lemmas.ObsInvSet
namespace TraitsVerif.Model.Obs
open TraitsVerif

/-! ### the heap after `add_trait` -/

def addH (h : Heap) (o : Id) (fs : List Field) (n : Name) (tagged : Bool) (d : Dflt) : Heap :=
  h.upd o (.inst (fs ++ [⟨n, tagged, d, .unset, .equality⟩]))

def isNamed (n : Name) : Observer → Bool
  | .named m _ _ => m == n
  | _ => false

def isNamedAny : Observer → Bool
  | .named .. => true
  | _ => false

theorem findField_append (fs : List Field) (nf : Field) (m : Name) :
    findField (fs ++ [nf]) m = (findField fs m).or (if nf.name == m then some nf else none) := by
  simp only [findField, List.find?_append, List.find?_cons, List.find?_nil]
  cases hb : (nf.name == m) <;> simp

section heap
variable {h : Heap} {o : Id} {fs : List Field} {n : Name} (tagged : Bool) (d : Dflt)

theorem addH_at_ne (x : W) (hx : x ≠ some o) : (addH h o fs n tagged d).at x = h.at x :=
  Heap.at_upd_ne _ _ _ x hx

theorem addH_get_o : (addH h o fs n tagged d).get o = .inst (fs ++ [⟨n, tagged, d, .unset, .equality⟩]) := by
  simp [addH, Heap.get_upd]

theorem addH_hasTrait (ho : h.get o = .inst fs) (x : W) (m : Name) (hne : ¬(m = n ∧ x = some o)) :
    hasTrait (addH h o fs n tagged d) x m = hasTrait h x m := by
  by_cases hx : x = some o
  · subst hx
    have hm : (n == m) = false := by
      have : n ≠ m := fun e => hne ⟨e.symm, rfl⟩
      simpa using this
    simp [hasTrait, Heap.at, addH_get_o, ho, findField_append, hm]
  · simp [hasTrait, addH_at_ne tagged d x hx]

theorem addH_hasTrait_new : hasTrait (addH h o fs n tagged d) (some o) n = true := by
  simp [hasTrait, Heap.at, addH_get_o, findField_append]

theorem addH_fieldVal (ho : h.get o = .inst fs) (x : W) (m : Name) :
    fieldVal (addH h o fs n tagged d) x m = fieldVal h x m := by
  by_cases hx : x = some o
  · subst hx
    simp only [fieldVal, Heap.at, addH_get_o, ho, findField_append]
    cases hf : findField fs m with
    | some f => simp
    | none =>
      by_cases hm : (n == m) = true
      · simp [hm]
      · simp [hm]
  · simp [fieldVal, addH_at_ne tagged d x hx]

theorem hasTrait_old (ho : h.get o = .inst fs) (hn : findField fs n = none) : hasTrait h (some o) n = false := by
  simp [hasTrait, Heap.at, ho, hn]

theorem fieldVal_old (ho : h.get o = .inst fs) (hn : findField fs n = none) : fieldVal h (some o) n = .unset := by
  simp [fieldVal, Heap.at, ho, hn]

end heap

/-! ### the nodes that gain the new observable -/

/-- the node, standing on `o`, gains the observable `o.n` when the field `nf` is added -/
def gainsF (n : Name) (nf : Field) : Observer → Bool
  | .named m _ _ => m == n
  | .filtered fl _ => fl.matches nf
  | _ => false

/-- observers that contribute an extra `trait_added` graph -/
def hasExtra : Observer → Bool
  | .named .. => true
  | .filtered .. => true
  | _ => false

theorem hasExtra_of_gains {n : Name} {nf : Field} {ob : Observer} (h : gainsF n nf ob = true) : hasExtra ob = true := by
  cases ob <;> simp_all [gainsF, hasExtra]

/-- what a gaining node owes on the new observable -/
def newItems (o : Id) (n : Name) (k : HKey) (ob : Observer) (cs : List Graph) : List Item :=
  (if ob.notify then [(Observable.trait o n, NKey.user k)] else []) ++
    cs.map (fun c => (Observable.trait o n, NKey.maint .trait c k))

/-- how the two heaps are related, as the walks see them -/
structure AddRel (h h' : Heap) (o : Id) (n : Name) (nf : Field) : Prop where
  obs : ∀ ob x, (gainsF n nf ob && x == some o) = false → observables h' ob x = observables h ob x
  own : ∀ ob, gainsF n nf ob = true → ∀ (k : HKey) (cs : List Graph) (o' : Observable) (q : NKey),
    cntItems (ownItems h' k ob cs (some o)) o' q =
      cntItems (ownItems h k ob cs (some o)) o' q + cntItems (newItems o n k ob cs) o' q
  objs : ∀ ob x, (okOr [] (objects h' ob x) : List W) = okOr [] (objects h ob x)
  ext : ∀ ob x, extraObservables h' ob x = extraObservables h ob x
  newObs : ∀ nt opt, observables h' (.named n nt opt) (some o) = .ok [.trait o n]
  newObjs : ∀ nt opt, objects h' (.named n nt opt) (some o) = .ok []
  find : ∀ fl nt cs, addedMatches h' (.node (.filtered fl nt) cs) o (.name n) = fl.matches nf

theorem AddRel.mk' {h : Heap} {o : Id} {fs : List Field} {n : Name} (tagged : Bool) (d : Dflt)
    (ho : h.get o = .inst fs) (hn : findField fs n = none) :
    AddRel h (addH h o fs n tagged d) o n ⟨n, tagged, d, .unset, .equality⟩ := by
  have hne := fun ob (x : W) (hx : x ≠ some o) => iter_congr_at (h := h) ob x (addH_at_ne (fs := fs) (n := n) tagged d x hx)
  have hnew : ∀ nt opt, observables (addH h o fs n tagged d) (.named n nt opt) (some o) = .ok [.trait o n] := by
    intro nt opt; simp [observables, addH_hasTrait_new]
  have hold : ∀ nt opt, (okOr [] (observables h (.named n nt opt) (some o)) : List Observable) = [] := by
    intro nt opt
    simp only [observables, hasTrait_old ho hn]
    cases opt <;> simp [okOr]
  refine ⟨?_, ?_, ?_, ?_, hnew, ?_, ?_⟩
  · intro ob x hc
    by_cases hx : x = some o
    · subst hx
      cases ob with
      | filtered fl nt =>
        have hm : fl.matches ⟨n, tagged, d, .unset, .equality⟩ = false := by simpa [gainsF] using hc
        simp [observables, Heap.at, addH_get_o, ho, List.filter_append, hm]
      | named m nt opt =>
        have hne : ¬(m = n ∧ some o = some o) := by
          intro ⟨e1, _⟩
          simp [gainsF, e1] at hc
        simp only [observables, addH_hasTrait tagged d ho _ m hne]
      | _ => simp [observables, Heap.at, addH_get_o, ho]
    · exact (hne ob x hx).1
  · intro ob hg k cs o' q
    cases ob with
    | named m nt opt =>
      simp only [gainsF, beq_iff_eq] at hg
      subst hg
      have hown0 : ownItems h k (.named m nt opt) cs (some o) = [] := by simp [ownItems, hold nt opt]
      have hown1 : ownItems (addH h o fs m tagged d) k (.named m nt opt) cs (some o) =
          newItems o m k (.named m nt opt) cs := by
        cases nt <;> simp [ownItems, hnew, okOr, newItems, Observer.notify, Observer.mkind]
      rw [hown0, hown1, cntItems_nil, Nat.zero_add]
    | filtered fl nt =>
      have hm : fl.matches ⟨n, tagged, d, .unset, .equality⟩ = true := by simpa [gainsF] using hg
      cases nt <;>
        simp [ownItems, observables, Heap.at, addH_get_o, ho, okOr, List.filter_append, hm,
          List.map_append, List.flatMap_append, cntItems_append, newItems, Observer.notify, Observer.mkind,
          cntItems_cons] <;> omega
    | listItems nt opt => simp [gainsF] at hg
    | dictItems nt opt => simp [gainsF] at hg
    | setItems nt opt => simp [gainsF] at hg
  · intro ob x
    by_cases hx : x = some o
    · subst hx
      cases ob with
      | filtered fl nt =>
        cases hm : fl.matches ⟨n, tagged, d, .unset, .equality⟩ <;>
          simp [objects, Heap.at, addH_get_o, ho, List.filter_append, hm, List.flatMap_append, valObjects]
      | named m nt opt =>
        by_cases hne : m = n ∧ some o = some o
        · obtain ⟨rfl, _⟩ := hne
          simp only [objects, addH_hasTrait_new, addH_fieldVal tagged d ho, fieldVal_old ho hn, hasTrait_old ho hn]
          cases opt <;> simp [okOr, valObjects]
        · simp only [objects, addH_hasTrait tagged d ho _ m hne, addH_fieldVal tagged d ho]
      | _ => simp [objects, Heap.at, addH_get_o, ho]
    · rw [(hne ob x hx).2.1]
  · intro ob x
    by_cases hx : x = some o
    · subst hx
      cases ob <;> simp [extraObservables, Heap.at, addH_get_o, ho]
    · exact (hne ob x hx).2.2
  · intro nt opt
    simp [objects, addH_hasTrait_new, addH_fieldVal tagged d ho, fieldVal_old ho hn, valObjects]
  · intro fl nt cs
    simp [addedMatches, Graph.ob, addH_get_o, findField_append, hn]

/-! ### the nodes with an extra graph that a walk reaches standing on `o` -/

mutual
def nodesAtF (h : Heap) (o : Id) : Graph → W → List Graph
  | .node ob cs, x => (if x == some o && hasExtra ob then [.node ob cs] else []) ++ nodesAtFCs h o ob x cs
def nodesAtFCs (h : Heap) (o : Id) (ob : Observer) (x : W) : List Graph → List Graph
  | [] => []
  | c :: cs => (okOr [] (objects h ob x)).flatMap (fun y => nodesAtF h o c y) ++ nodesAtFCs h o ob x cs
end

theorem nodesAtFCs_flat (h : Heap) (o : Id) (ob : Observer) (x : W) (cs : List Graph) :
    nodesAtFCs h o ob x cs = cs.flatMap (fun c => (okOr [] (objects h ob x)).flatMap (fun y => nodesAtF h o c y)) := by
  induction cs with
  | nil => rfl
  | cons c cs ih => rw [nodesAtFCs, ih, List.flatMap_cons]

def newOwnF (o : Id) (n : Name) (nf : Field) (k : HKey) (o' : Observable) (q : NKey) : Graph → Nat
  | .node ob cs => if gainsF n nf ob then cntItems (newItems o n k ob cs) o' q else 0

def deltaF (o : Id) (n : Name) (nf : Field) (k : HKey) (vs : List Graph) (o' : Observable) (q : NKey) : Nat :=
  (vs.map (newOwnF o n nf k o' q)).sum

theorem deltaF_append (o : Id) (n : Name) (nf : Field) (k : HKey) (a b : List Graph) (o' : Observable) (q : NKey) :
    deltaF o n nf k (a ++ b) o' q = deltaF o n nf k a o' q + deltaF o n nf k b o' q := by
  simp [deltaF, List.map_append, List.sum_append]

theorem deltaF_nil (o : Id) (n : Name) (nf : Field) (k : HKey) (o' : Observable) (q : NKey) :
    deltaF o n nf k [] o' q = 0 := rfl

theorem deltaF_flatMap {α} (o : Id) (n : Name) (nf : Field) (k : HKey) (l : List α) (f : α → List Graph)
    (o' : Observable) (q : NKey) :
    deltaF o n nf k (l.flatMap f) o' q = (l.map (fun a => deltaF o n nf k (f a) o' q)).sum :=
  sum_map_flatMap l f _

/-- the from-scratch hooks of the new heap = those of the old one + the new items of the
gaining nodes reached on `o` -/
theorem add_dec {h h' : Heap} {o : Id} {n : Name} {nf : Field} (R : AddRel h h' o n nf) (k : HKey) :
    ∀ g : Graph, ∀ (e : Bool) (x : W) (o' : Observable) (q : NKey),
      cntItems (hookList h' k e g x) o' q =
        cntItems (hookList h k e g x) o' q + deltaF o n nf k (nodesAtF h o g x) o' q := by
  apply Graph.ind
  intro ob cs ih e x o' q
  have hown : cntItems (ownItems h' k ob cs x) o' q = cntItems (ownItems h k ob cs x) o' q +
      deltaF o n nf k (if x == some o && hasExtra ob then [.node ob cs] else []) o' q := by
    by_cases hc : (gainsF n nf ob && x == some o) = true
    · simp only [Bool.and_eq_true, beq_iff_eq] at hc
      obtain ⟨h1, rfl⟩ := hc
      rw [R.own ob h1 k cs o' q]
      simp [hasExtra_of_gains h1, deltaF, newOwnF, h1]
    · have hc' : (gainsF n nf ob && x == some o) = false := by simpa using hc
      have h0 : ownItems h' k ob cs x = ownItems h k ob cs x := by simp [ownItems, R.obs ob x hc']
      rw [h0]
      by_cases hx : (x == some o && hasExtra ob) = true
      · have hnn : gainsF n nf ob = false := by
          simp only [Bool.and_eq_true] at hx
          cases hi : gainsF n nf ob with
          | false => rfl
          | true => simp [hi, hx.1] at hc'
        simp [hx, deltaF, newOwnF, hnn]
      · simp [hx, deltaF_nil]
  rw [hookList_node, hookList_node, nodesAtF, hookListCs_flat, hookListCs_flat, nodesAtFCs_flat, R.objs ob x]
  simp only [cntItems_append, deltaF_append, cntItems_flatMap, deltaF_flatMap, R.ext ob x, hown,
    sum_map_congr _ _ _ (fun c hc => sum_map_congr _ _ _ (fun y _ => ih c hc true y o' q)), sum_map_add]
  omega

/-! ### the `trait_added` maintainers on `o.trait_added` are those nodes -/

theorem extra_at (h : Heap) (o : Id) (fs : List Field) (ho : h.get o = .inst fs) (k : HKey) (ob : Observer)
    (cs : List Graph) (x : W) (q : NKey) :
    cntItems (extraItems (.node ob cs) k (okOr [] (extraObservables h ob x))) (.trait o nTraitAdded) q =
      visitHits .added k (if x == some o && hasExtra ob then [.node ob cs] else []) q := by
  by_cases hx : x = some o
  · subst hx
    cases ob <;>
      simp [extraObservables, Heap.at, ho, okOr, extraItems, cntItems_cons, cntItems_nil, wt, hasExtra, visitHits]
  · have hb : (x == some o) = false := by simpa using hx
    rw [hb, Bool.false_and]
    simp only [Bool.false_eq_true, if_false, visitHits, List.map_nil, List.sum_nil]
    apply cntItems_zero_of_ne
    intro it hit
    obtain ⟨o', ho', rfl⟩ := List.mem_map.1 hit
    intro e
    obtain ⟨i, hxi, hi⟩ := extraObservables_on h ob x o' ho'
    rw [hi] at e
    injection e with e1 _
    exact hx (by rw [hxi, e1])

theorem added_at (h : Heap) (o : Id) (fs : List Field) (ho : h.get o = .inst fs) (k : HKey) :
    ∀ g : Graph, ∀ (x : W) (g0 : Graph) (k0 : HKey),
      cntItems (hookList h k true g x) (.trait o nTraitAdded) (.maint .added g0 k0) =
        visitHits .added k (nodesAtF h o g x) (.maint .added g0 k0) := by
  apply Graph.ind
  intro ob cs ih x g0 k0
  have hown : cntItems (ownItems h k ob cs x) (.trait o nTraitAdded) (.maint .added g0 k0) = 0 := by
    rw [cntItems_ownItems_maint]
    have : visitHits ob.mkind k cs (.maint .added g0 k0) = 0 := by
      apply sum_map_zero
      intro c _
      cases ob <;> simp [hit, NKey.equals, Observer.mkind]
    rw [this, Nat.mul_zero]
  rw [hookList_node, nodesAtF, hookListCs_flat, nodesAtFCs_flat]
  simp only [cntItems_append, visitHits_append, cntItems_flatMap, visitHits_flatMap, hown, if_true,
    extra_at h o fs ho k ob cs x,
    sum_map_congr _ _ _ (fun c hc => sum_map_congr _ _ _ (fun y _ => ih c hc y g0 k0))]
  omega

/-! ### what the copied notifier list of `o.trait_added` does -/

/-- what a `trait_added` maintainer for graph `g` adds when told that `n` was added to `o` -/
def addG (h' : Heap) (o : Id) (n : Name) (o' : Observable) (q : NKey) (g : Graph) (k : HKey) : Nat :=
  if addedMatches h' g o (.name n) then cntItems (hookList h' k false (restrict g n) (some o)) o' q else 0

theorem hookListCs_nil_of_objects (h : Heap) (k : HKey) (ob : Observer) (x : W)
    (hobj : (okOr [] (objects h ob x) : List W) = []) : ∀ cs, hookListCs h k ob x cs = [] := by
  intro cs
  induction cs with
  | nil => rfl
  | cons c cs ih => rw [hookListCs_cons, hobj, ih]; rfl

theorem walkOkCs_of_objects_nil (h : Heap) (ob : Observer) (x : W) (hobj : objects h ob x = .ok []) :
    ∀ cs, walkOkCs h ob x cs = true := by
  intro cs
  induction cs with
  | nil => rfl
  | cons c cs ih => simp [walkOkCs, hobj, ih]

/-- the restricted graph hooks exactly the new items of the gaining node -/
theorem addG_gains {h h' : Heap} {o : Id} {n : Name} {nf : Field} (R : AddRel h h' o n nf) (k : HKey)
    (o' : Observable) (q : NKey) (g' : Graph) : addG h' o n o' q g' k = newOwnF o n nf k o' q g' := by
  cases g' with
  | node ob cs =>
    have hres : ∀ nt, cntItems (hookList h' k false (.node (.named n nt false) cs) (some o)) o' q =
        cntItems (newItems o n k (.named n nt false) cs) o' q := by
      intro nt
      have hobj : (okOr [] (objects h' (.named n nt false) (some o)) : List W) = [] := by
        rw [R.newObjs nt false]; rfl
      rw [hookList_node, hookListCs_nil_of_objects h' k _ _ hobj cs]
      cases nt <;> simp [ownItems, R.newObs, okOr, newItems, Observer.notify, Observer.mkind]
    cases ob with
    | named m nt opt =>
      by_cases hm : m = n
      · subst hm
        simp only [addG, addedMatches, Graph.ob, BEq.rfl, if_true, restrict, Graph.children, Observer.notify,
          newOwnF, gainsF, hres]
        cases nt <;> simp [newItems, Observer.notify]
      · have h1 : (n == m) = false := by simpa using (fun e : n = m => hm e.symm)
        have h2 : (m == n) = false := by simpa using hm
        simp [addG, addedMatches, Graph.ob, h1, newOwnF, gainsF, h2]
    | filtered fl nt =>
      simp only [addG, R.find fl nt cs, newOwnF, gainsF, restrict, Graph.ob, Graph.children, Observer.notify, hres]
      cases nt <;> simp [newItems, Observer.notify]
    | _ => simp [addG, addedMatches, Graph.ob, newOwnF, gainsF]

theorem hookList_none (h : Heap) (k : HKey) : ∀ g : Graph, ∀ e : Bool, hookList h k e g none = [] := by
  apply Graph.ind
  intro ob cs _ e
  have hit : (okOr [] (observables h ob none) : List Observable) = [] ∧ (okOr [] (objects h ob none) : List W) = [] ∧
      (okOr [] (extraObservables h ob none) : List Observable) = [] := by
    cases ob with
    | named m nt opt => cases opt <;> simp [observables, objects, extraObservables, hasTrait, Heap.at, okOr]
    | filtered fl nt => simp [observables, objects, extraObservables, Heap.at, okOr]
    | _ => rename_i nt opt; cases opt <;> simp [observables, objects, extraObservables, Heap.at, okOr]
  rw [hookList_node, hookListCs_nil_of_objects h k ob none hit.2.1 cs, hit.2.2]
  simp [ownItems, hit.1, extraItems]

/-! ### the fragment and the theorem -/

/-- Hypotheses under which `o.add_trait(n, …)` (new name `n`) preserves the invariant; `filtered` nodes
are allowed. -/
structure AddCoreF (E : Env) (st : St) (regs : List Reg) (o : Id) (n : Name) (tagged : Bool) (d : Dflt)
    (fs : List Field) : Prop where
  ho : st.h.get o = .inst fs
  alive : ∀ k, E.dead k = false
  /-- a trait maintainer sitting on `o.trait_added` itself (someone observes `trait_added.xyz`) walks
  its sub-graph from the trait-name string, a non-object: that walk meets no failing `iter_*`
  (i.e. the sub-graph is all-optional); vacuous when nobody observes below `trait_added` -/
  okNone : ∀ c k, Notifier.maint .trait c k ∈ st.H.get (.trait o nTraitAdded) →
    walkOk (addH st.h o fs n tagged d) true c none = true
  /-- graph equality is structural on the graphs involved -/
  eqStruct : ∀ g k, Notifier.maint .added g k ∈ st.H.get (.trait o nTraitAdded) → ∀ r ∈ regs,
    ∀ g' ∈ nodesAtF st.h o r.g (some r.x),
    (NKey.maint .added g k).equals (.maint .added g' r.k) = true → g = g' ∧ k = r.k

/-- the announcement of the new trait `n` to the notifiers of `o.trait_added`, in any heap `h'` related to
`h` as the heap after `add_trait` is -/
theorem AddRel.fire_preserves {E : Env} {h h' : Heap} {H : Hooks} {regs : List Reg} {o : Id} {n : Name} {nf : Field}
    {fs : List Field} (R : AddRel h h' o n nf) (ho : h.get o = .inst fs) (hinv : HooksEqReach h H regs)
    (alive : ∀ k, E.dead k = false)
    (okNone : ∀ c k, Notifier.maint .trait c k ∈ H.get (.trait o nTraitAdded) → walkOk h' true c none = true)
    (eqs : ∀ g k, Notifier.maint .added g k ∈ H.get (.trait o nTraitAdded) → ∀ r ∈ regs,
      ∀ g' ∈ nodesAtF h o r.g (some r.x), (NKey.maint .added g k).equals (.maint .added g' r.k) = true → g = g' ∧ k = r.k) :
    HooksEqReach h' (fire E H h' o nTraitAdded .undef (.name n)).st.H regs ∧
    (fire E H h' o nTraitAdded .undef (.name n)).err = none := by
  have key := runMaints_preserves (fun r => nodesAtF h o r.g (some r.x))
    (fun r o' q => cntItems (hookList h r.k true r.g (some r.x)) o' q) (fun _ _ _ _ => 0)
    (fun o' q g k => newOwnF o n nf k o' q g) hinv
    (fun r _ c0 k0 => added_at h o fs ho r.k r.g (some r.x) c0 k0) eqs
    (fun r _ o' q => by rw [sum_map_zero _ _ (fun _ _ => rfl)]; rfl)
    (fun r _ o' q => add_dec R r.k r.g true (some r.x) o' q)
    E.dead (fun mk g k => maintTrait h' mk g k o .undef (.name n)) (by
      intro mk g k hm
      refine ⟨alive k, ?_⟩
      rcases kind_of_inv hinv hm with h1 | ⟨h1, _⟩
      · -- a trait maintainer (someone observes `trait_added` itself): walks from the non-object `n`
        subst h1
        exact (maintTrait_does h' g k o .undef (.name n) (by intro w hw'; simp [valObjects] at hw')
          (by intro w hw'; simp [valObjects] at hw'; subst hw'; exact okNone g k hm)).congr
          (fun o' q => by simp [maintKind, onKind, blockW, valObjects, cntItems_nil])
          (fun o' q => by simp [maintKind, onKind, blockW, valObjects, hookList_none, cntItems_nil])
      · subst h1
        refine Does.congr (rem := fun _ _ => 0) (add := fun o' q => addG h' o n o' q g k) ?_
          (fun _ _ => if_pos rfl) (fun _ _ => (if_pos rfl).trans (addG_gains R k _ _ g).symm)
        by_cases hma : addedMatches h' g o (.name n) = true
        · -- the restricted walk from `o` succeeds: the new trait exists and nothing is below it
          refine ((addRemove_does_add h' k (restrict g n) false (some o) ?_).of_eq
            (fun H0 => by simp only [maintTrait, hma, if_true])).congr (fun _ _ => rfl) (fun _ _ => by simp [addG, hma])
          cases g with
          | node ob cs =>
            simp [restrict, walkOk, Graph.ob, Graph.children, R.newObs, isOk,
              walkOkCs_of_objects_nil _ _ _ (R.newObjs ob.notify false)]
        · have hma' : addedMatches h' g o (.name n) = false := by simpa using hma
          exact ((Does.refl _).of_eq (fun H0 => by simp [maintTrait, hma'])).congr (fun _ _ => rfl)
            (fun _ _ => by simp [addG, hma']))
  simpa only [fire, (callTrait_run E _ o nTraitAdded .undef (.name n) _ H []).1,
    (callTrait_run E _ o nTraitAdded .undef (.name n) _ H []).2] using key

theorem addTrait_preservesF (E : Env) (st : St) (regs : List Reg) (o : Id) (n : Name) (tagged : Bool) (d : Dflt)
    (fs : List Field) (hinv : HooksEqReach st.h st.H regs) (core : AddCoreF E st regs o n tagged d fs)
    (hn : findField fs n = none) :
    HooksEqReach (mutate E st (.addTrait o n tagged d)).st.h (mutate E st (.addTrait o n tagged d)).st.H regs ∧
    (mutate E st (.addTrait o n tagged d)).err = none := by
  have hm : mutate E st (.addTrait o n tagged d) =
      fire E st.H (addH st.h o fs n tagged d) o nTraitAdded .undef (.name n) := by
    simp only [mutate, core.ho, hn, addH]
  rw [hm]
  exact (AddRel.mk' tagged d core.ho hn).fire_preserves core.ho hinv core.alive core.okNone core.eqStruct

/-- `add_trait` of an EXISTING name replaces the trait in place: no hook changes, nothing is
delivered, nothing raises (has_traits.py copies the notifiers over, no `trait_added` event). -/
theorem addTrait_existing (E : Env) (st : St) (o : Id) (n : Name) (tagged : Bool) (d : Dflt)
    (fs : List Field) (f : Field) (ho : st.h.get o = .inst fs) (hf : findField fs n = some f) :
    (mutate E st (.addTrait o n tagged d)).st.H = st.H ∧ (mutate E st (.addTrait o n tagged d)).delivered = [] ∧
    (mutate E st (.addTrait o n tagged d)).err = none := by
  simp [mutate, ho, hf]

/-! ### registrations without `filtered` nodes: the gaining nodes are the `named` ones -/

mutual
def nodesAt (h : Heap) (o : Id) : Graph → W → List Graph
  | .node ob cs, x => (if x == some o && isNamedAny ob then [.node ob cs] else []) ++ nodesAtCs h o ob x cs
def nodesAtCs (h : Heap) (o : Id) (ob : Observer) (x : W) : List Graph → List Graph
  | [] => []
  | c :: cs => (okOr [] (objects h ob x)).flatMap (fun y => nodesAt h o c y) ++ nodesAtCs h o ob x cs
end

/-- what a `named n` node standing on `o` owes in the new heap (nothing if it is not one) -/
def newOwn (h' : Heap) (o : Id) (n : Name) (k : HKey) (o' : Observable) (q : NKey) : Graph → Nat
  | .node ob cs => if isNamed n ob then cntItems (ownItems h' k ob cs (some o)) o' q else 0

def delta (h' : Heap) (o : Id) (n : Name) (k : HKey) (vs : List Graph) (o' : Observable) (q : NKey) : Nat :=
  (vs.map (newOwn h' o n k o' q)).sum

theorem delta_nil (h' : Heap) (o : Id) (n : Name) (k : HKey) (o' : Observable) (q : NKey) :
    delta h' o n k [] o' q = 0 := rfl

def maKey : Notifier → Option NKey
  | .maint .added g k => some (.maint .added g k)
  | _ => none

@[simp] theorem maKey_user (k : HKey) (rc : Nat) : maKey (.user k rc) = none := rfl
@[simp] theorem maKey_trait (c : Graph) (k : HKey) : maKey (.maint .trait c k) = none := rfl
@[simp] theorem maKey_list (c : Graph) (k : HKey) : maKey (.maint .list c k) = none := rfl
@[simp] theorem maKey_dict (c : Graph) (k : HKey) : maKey (.maint .dict c k) = none := rfl
@[simp] theorem maKey_set (c : Graph) (k : HKey) : maKey (.maint .set c k) = none := rfl
@[simp] theorem maKey_added (c : Graph) (k : HKey) : maKey (.maint .added c k) = some (.maint .added c k) := rfl

theorem nodesAtCs_flat (h : Heap) (o : Id) (ob : Observer) (x : W) (cs : List Graph) :
    nodesAtCs h o ob x cs = cs.flatMap (fun c => (okOr [] (objects h ob x)).flatMap (fun y => nodesAt h o c y)) := by
  induction cs with
  | nil => rfl
  | cons c cs ih => rw [nodesAtCs, ih, List.flatMap_cons]

theorem nodesAtF_eq (h : Heap) (o : Id) : ∀ g : Graph, g.noFiltered = true → ∀ x,
    nodesAtF h o g x = nodesAt h o g x := by
  apply Graph.ind
  intro ob cs ih hnf x
  obtain ⟨hf, hcs⟩ := (Graph.noFiltered_node ob cs).1 hnf
  have he : hasExtra ob = isNamedAny ob := by cases ob <;> simp_all [hasExtra, isNamedAny, Observer.isFiltered]
  rw [nodesAtF, nodesAt, nodesAtFCs_flat, nodesAtCs_flat, he]
  congr 1
  exact Common.flatMap_congr (fun c hc => Common.flatMap_congr (fun y _ => ih c hc (hcs c hc) y))

/-- `AddCoreF` with the premise that no registration contains a `filtered` node, the nodes reached on `o`
then being the `named` ones (`AddCore.toF`). -/
structure AddCore (E : Env) (st : St) (regs : List Reg) (o : Id) (n : Name) (tagged : Bool) (d : Dflt)
    (fs : List Field) : Prop where
  ho : st.h.get o = .inst fs
  /-- no `filtered` (`*`, `+metadata`) node in any active registration -/
  noFiltered : ∀ r ∈ regs, r.g.noFiltered = true
  alive : ∀ k, E.dead k = false
  /-- a trait maintainer sitting on `o.trait_added` itself (someone observes `trait_added.xyz`) walks
  its sub-graph from the trait-name string, a non-object: that walk meets no failing `iter_*`
  (i.e. the sub-graph is all-optional); vacuous when nobody observes below `trait_added` -/
  okNone : ∀ c k, Notifier.maint .trait c k ∈ st.H.get (.trait o nTraitAdded) →
    walkOk (addH st.h o fs n tagged d) true c none = true
  /-- graph equality is structural on the graphs involved -/
  eqStruct : ∀ g k, Notifier.maint .added g k ∈ st.H.get (.trait o nTraitAdded) → ∀ r ∈ regs,
    ∀ g' ∈ nodesAt st.h o r.g (some r.x),
    (NKey.maint .added g k).equals (.maint .added g' r.k) = true → g = g' ∧ k = r.k

theorem AddCore.toF {E : Env} {st : St} {regs : List Reg} {o : Id} {n : Name} {tagged : Bool} {d : Dflt}
    {fs : List Field} (core : AddCore E st regs o n tagged d fs) : AddCoreF E st regs o n tagged d fs :=
  ⟨core.ho, core.alive, core.okNone, fun g k hm r hr g' hg' =>
    core.eqStruct g k hm r hr g' (by rw [← nodesAtF_eq st.h o r.g (core.noFiltered r hr)]; exact hg')⟩

/-! ### non-vacuity witness

`a.child = b`; `b` has no `value` trait; `a.observe(handler, …)` with the graph `child` →
OPTIONAL `value` → optional `child`; then `b.add_trait("value", …)`. -/
namespace AddWitness

def fld (n : Name) (v : Val) : Field := ⟨n, false, .val (if n == nValue then .int 0 else .none), v, .equality⟩

def aKey : HKey := ⟨0, 0⟩

def aHeap : Heap :=
  [(0, .inst [fld nChild (.ref 1), fld nTraitAdded .unset]),
   (1, .inst [fld nChild .none, fld nTraitAdded .unset])]
def aFs : List Field := [fld nChild .none, fld nTraitAdded .unset]
/-- `child.value` with `value` optional, a further link `.child` below it (so that a maintainer is owed too) -/
def aGraph : Graph :=
  .node (.named nChild true false) [.node (.named nValue true true) [.node (.named nChild true true) []]]
def aSt : St := ⟨aHeap, (addRemove aHeap aKey false true aGraph (some 0) Hooks.empty).H⟩
def aRegs : List Reg := [⟨aKey, aGraph, 0⟩]

theorem aInv : HooksEqReach aSt.h aSt.H aRegs := .of_observe aHeap aKey aGraph 0 (by decide)

theorem aHooks : aSt.H.get (.trait 1 nTraitAdded) =
    [.maint .added (.node (.named nValue true true) [.node (.named nChild true true) []]) aKey] := rfl
theorem aNodes : nodesAt aSt.h 1 aGraph (some 0) =
    [.node (.named nValue true true) [.node (.named nChild true true) []]] := rfl

/-- The hypotheses of `addTrait_preservesF` hold for `b.add_trait("value", …)`. -/
theorem aCore : AddCore {} aSt aRegs 1 nValue false (.val (.int 0)) aFs where
  ho := rfl
  noFiltered := by intro r hr; simp [aRegs] at hr; subst hr; decide
  alive := fun _ => rfl
  okNone := by intro c k hm; rw [aHooks] at hm; simp at hm
  eqStruct := by
    intro g k hm r hr g' hg' he
    rw [aHooks] at hm
    simp at hm
    obtain ⟨rfl, rfl⟩ := hm
    simp [aRegs] at hr; subst hr
    rw [aNodes] at hg'
    simp at hg'; subst hg'
    exact ⟨rfl, rfl⟩

/-- … the theorem applies: after `b.add_trait("value")` the hooks are the from-scratch hooks of
the new heap -/
example : HooksEqReach (mutate {} aSt (.addTrait 1 nValue false (.val (.int 0)))).st.h
    (mutate {} aSt (.addTrait 1 nValue false (.val (.int 0)))).st.H aRegs :=
  (addTrait_preservesF {} aSt aRegs 1 nValue false (.val (.int 0)) aFs aInv aCore.toF rfl).1

/-- `b.value` gets the user notifier and the maintainer for the link below it; nothing was there before -/
example : cnt aSt.H (.trait 1 nValue) (.user aKey) = 0 ∧
    cnt (mutate {} aSt (.addTrait 1 nValue false (.val (.int 0)))).st.H (.trait 1 nValue) (.user aKey) = 1 ∧
    cnt (mutate {} aSt (.addTrait 1 nValue false (.val (.int 0)))).st.H (.trait 1 nValue)
      (.maint .trait (.node (.named nChild true true) []) aKey) = 1 ∧
    (mutate {} aSt (.addTrait 1 nValue false (.val (.int 0)))).err = none := by decide

end AddWitness

/-! ### … with a `filtered` node

`a.child = b`; `a.observe(handler, "child.*")`: a notifying `filtered anyTrait` node on `b`;
then `b.add_trait("value", …)`: the new trait matches `*` and gets the user notifier. -/
namespace FilteredAddWitness

def fld (n : Name) (v : Val) : Field := ⟨n, false, .val (if n == nValue then .int 0 else .none), v, .equality⟩
def aKey : HKey := ⟨0, 0⟩
def aFs : List Field := [fld nChild .none, fld nTraitAdded .unset]
def aHeap : Heap := [(0, .inst [fld nChild (.ref 1), fld nTraitAdded .unset]), (1, .inst aFs)]
def aGraph : Graph := .node (.named nChild true false) [.node (.filtered .anyTrait true) []]
def aSt : St := ⟨aHeap, (addRemove aHeap aKey false true aGraph (some 0) Hooks.empty).H⟩
def aRegs : List Reg := [⟨aKey, aGraph, 0⟩]

theorem aInv : HooksEqReach aSt.h aSt.H aRegs := .of_observe aHeap aKey aGraph 0 (by decide)

theorem aHooks : aSt.H.get (.trait 1 nTraitAdded) =
    [.user aKey 1, .maint .added (.node (.filtered .anyTrait true) []) aKey] := rfl
theorem aNodes : nodesAtF aSt.h 1 aGraph (some 0) = [.node (.filtered .anyTrait true) []] := rfl

theorem aCore : AddCoreF {} aSt aRegs 1 nValue false (.val (.int 0)) aFs where
  ho := rfl
  alive := fun _ => rfl
  okNone := by intro c k hm; rw [aHooks] at hm; simp at hm
  eqStruct := by
    intro g k hm r hr g' hg' he
    rw [aHooks] at hm
    simp at hm
    obtain ⟨rfl, rfl⟩ := hm
    simp [aRegs] at hr; subst hr
    rw [aNodes] at hg'
    simp at hg'; subst hg'
    exact ⟨rfl, rfl⟩

example : HooksEqReach (mutate {} aSt (.addTrait 1 nValue false (.val (.int 0)))).st.h
    (mutate {} aSt (.addTrait 1 nValue false (.val (.int 0)))).st.H aRegs :=
  (addTrait_preservesF {} aSt aRegs 1 nValue false (.val (.int 0)) aFs aInv aCore rfl).1

/-- the new trait is hooked by the `*` node, and a later `b.value = 4` is delivered once -/
example : cnt aSt.H (.trait 1 nValue) (.user aKey) = 0 ∧
    cnt (mutate {} aSt (.addTrait 1 nValue false (.val (.int 0)))).st.H (.trait 1 nValue) (.user aKey) = 1 ∧
    ((mutate {} (mutate {} aSt (.addTrait 1 nValue false (.val (.int 0)))).st
      (.setField 1 nValue (.int 4) 0)).delivered.filter (fun d => d.key == aKey)).length = 1 := by decide

end FilteredAddWitness

end TraitsVerif.Model.Obs
