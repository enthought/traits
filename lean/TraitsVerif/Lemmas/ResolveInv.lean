/-
Invariants of the `resolve` world and their preservation by every step and along
histories (`run_invariant`): no delegate traits (`NoDeleg`), class-level coherence
of the resolution cache (`ClsInv`, `Inv`).  Each is a property of every class /
every object, carried through a step by the views `Effect.forall_classes` /
`Effect.forall_objs`.
-/
import TraitsVerif.Lemmas.ResolveStep
namespace TraitsVerif.Model.Resolve
open TraitsVerif

/-! ### `NoDeleg` is preserved -/

theorem ClsPlain.cache {c : Cls} (hc : ClsPlain c) {t : Trait} (ht : t.Plain) (name : Name) :
    ClsPlain { c with ctraits := c.ctraits.set name t } :=
  ⟨fun e he => (List.mem_cons.mp he).elim (fun h => h ▸ ht) (hc.ct e), hc.pf⟩

theorem mkClass_plain {bs : List Cls} {decls : List (Name × Trait)} (hb : ∀ b ∈ bs, ClsPlain b)
    (hd : ∀ d ∈ decls, d.2.Plain) : ClsPlain (mkClass bs decls) := by
  constructor
  · intro e he
    rcases foldl_mergeMap_mem (fun b : Cls => b.ctraits) he with he | ⟨b, hbm, he⟩
    · exact hd e (ownTraits_mem he)
    · exact (hb b hbm).ct e he
  · intro e he
    rcases mkClass_prefix_mem he with he | ⟨b, hbm, he⟩ | he
    · obtain ⟨d, hdm, hed⟩ := ownPrefixes_mem he
      rw [hed]; exact hd d hdm
    · exact (hb b hbm).pf e he
    · subst he; decide

theorem Touch.plain {E : Env} {oi : Nat} {name : Name} {c : Cls} {o o' : Obj} {op : Op}
    (h : Touch E oi name c o op o') (hop : op.Plain) (hc : ClsPlain c) (ho : ObjPlain o) (hh : o.hooks = []) :
    ObjPlain o' ∧ o'.hooks = [] := by
  have hset : ∀ t : Trait, t.Plain → ObjPlain { o with itraits := o.itraits.set name t } := by
    intro t ht e he
    rcases List.mem_cons.mp he with he | he
    · subst he; exact ht
    · exact ho e he
  cases h with
  | hook => exact hop.elim
  | add t => exact ⟨hset t hop, hh⟩
  | clone _ hd => exact ⟨hset _ (hd.plain hc ho), hh⟩
  | remove => exact ⟨fun e he => ho e (Map.mem_erase he), hh⟩
  | set | get => exact ⟨ho, hh⟩

theorem NoDeleg_step (E : Env) {w : World} (hw : NoDeleg w) {op : Op} (hop : op.Plain) :
    NoDeleg (step E w op).1 := by
  have he := step_effect E w hw.hooks op
  have hobjs := he.forall_objs (Q := fun o => ObjPlain o ∧ o.hooks = [])
    (fun o ho => ⟨hw.obj o ho, hw.hooks o ho⟩) (fun _ => ⟨fun _ he => (List.not_mem_nil he).elim, rfl⟩)
    (fun ho hc ht => ht.plain hop (hw.cls _ (List.mem_of_getElem? hc)) (hw.obj _ (List.mem_of_getElem? ho))
      (hw.hooks _ (List.mem_of_getElem? ho)))
  refine ⟨he.forall_classes hw.cls ?_ ?_, fun o ho => (hobjs o ho).1, fun o ho => (hobjs o ho).2⟩
  · rintro bases decls bs rfl h
    refine mkClass_plain (fun b hb => ?_) hop
    obtain ⟨i, _, hi⟩ := h b hb
    exact hw.cls b (List.mem_of_getElem? hi)
  · intro o ho c hc name b t _ hp
    exact (hw.cls c hc).cache (prefixTrait_plain (hw.cls c hc) (hw.obj o ho) hp) name

theorem run_invariant (E : Env) {I : World → Prop} {ok : Op → Prop}
    (hstep : ∀ w op, I w → ok op → I (step E w op).1) {w : World} (hw : I w) {ops : List Op}
    (hops : ∀ op ∈ ops, ok op) : I (run E w ops).1 := by
  induction ops generalizing w with
  | nil => exact hw
  | cons op ops ih =>
    exact ih (hstep w op hw (hops op List.mem_cons_self)) fun op' h => hops op' (List.mem_cons_of_mem _ h)

theorem NoDeleg_run (E : Env) {w : World} (hw : NoDeleg w) {ops : List Op} (hops : ∀ op ∈ ops, op.Plain) :
    NoDeleg (run E w ops).1 :=
  run_invariant E (I := NoDeleg) (fun _ _ hw hop => NoDeleg_step E hw hop) hw hops

/-! ### coherence of the class-level cache -/

/-- The class dictionary of `c` holds the declared class traits, and every other
entry is what an uncached resolution against `c`'s wildcard table returns. -/
structure ClsInv (c : Cls) : Prop where
  sorted : Sorted c.prefixes
  hasDefault : ∃ t, ([], t) ∈ c.prefixes
  declSub : ∀ n t, c.decl.get n = some t → c.ctraits.get n = some t
  coherent : ∀ n t, c.ctraits.get n = some t → c.decl.get n = none →
    ∃ b, resolve₀ c.prefixes n b = .ok t

/-- No resolved prefix trait has been cached in the class yet. -/
def Clean (c : Cls) : Prop := ∀ n, c.ctraits.get n = c.decl.get n

theorem mkClass_clean {bs : List Cls} (decls : List (Name × Trait)) (hb : ∀ b ∈ bs, Clean b) :
    Clean (mkClass bs decls) := by
  intro n
  rw [mkClass_ctraits_get, mkClass_decl_get]
  rw [List.map_congr_left fun b hbm => hb b hbm n]

theorem mkClass_inv {bs : List Cls} (decls : List (Name × Trait)) (hb : ∀ b ∈ bs, Clean b) :
    ClsInv (mkClass bs decls) := by
  have hc := mkClass_clean decls hb
  refine ⟨mkClass_sorted _ _, mkClass_hasDefault _ _, ?_, ?_⟩
  · intro n t h; rw [hc n]; exact h
  · intro n t h hn; rw [hc n, hn] at h; cases h

theorem ClsInv.cache {c : Cls} (hc : ClsInv c) {name : Name} {t : Trait} (hct : c.ctraits.get name = none)
    (ht : ∃ b, resolve₀ c.prefixes name b = .ok t) :
    ClsInv { c with ctraits := c.ctraits.set name t } := by
  refine ⟨hc.sorted, hc.hasDefault, ?_, ?_⟩
  · intro n t' h
    have := hc.declSub n t' h
    have hne : name ≠ n := by intro hh; subst hh; rw [hct] at this; cases this
    simp only [Map.get_set_ne _ _ hne]; exact this
  · intro n t' h hn
    by_cases hne : name = n
    · subst hne
      simp only [Map.get_set_same] at h
      cases h; exact ht
    · simp only [Map.get_set_ne _ _ hne] at h
      exact hc.coherent n t' h hn

def SafeOp (w : World) : Op → Prop
  | .mkClass bases _ => ∀ b ∈ bases, ∀ c, w.classes[b]? = some c → Clean c
  | _ => True

structure Inv (w : World) : Prop where
  nd : NoDeleg w
  cls : ∀ c ∈ w.classes, ClsInv c

theorem Inv_step (E : Env) {w : World} (hw : Inv w) {op : Op} (hop : op.Plain) (hs : SafeOp w op) :
    Inv (step E w op).1 := by
  refine ⟨NoDeleg_step E hw.nd hop, (step_effect E w hw.nd.hooks op).forall_classes hw.cls ?_ ?_⟩
  · rintro bases decls bs rfl h
    refine mkClass_inv _ fun b hb => ?_
    obtain ⟨i, hi, hib⟩ := h b hb
    exact hs i hi b hib
  · intro o ho c hc name b t hct hp
    rw [prefixTrait_plain_eq (hw.nd.cls c hc) (hw.nd.obj o ho)] at hp
    exact (hw.cls c hc).cache hct ⟨b, hp⟩

/-- Every class definition in the history derives from classes whose cache is
still empty at that moment. -/
def SafeHist (E : Env) : World → List Op → Prop
  | _, [] => True
  | w, op :: ops => SafeOp w op ∧ SafeHist E (step E w op).1 ops

theorem Inv_run (E : Env) {w : World} (hw : Inv w) {ops : List Op} (hops : ∀ op ∈ ops, op.Plain)
    (hs : SafeHist E w ops) : Inv (run E w ops).1 := by
  induction ops generalizing w with
  | nil => exact hw
  | cons op ops ih =>
    simp only [run]
    exact ih (Inv_step E hw (hops op List.mem_cons_self) hs.1)
      (fun op' h => hops op' (List.mem_cons_of_mem _ h)) hs.2

/-! ### all classes clean: definitions before use -/

def AllClean (w : World) : Prop := ∀ c ∈ w.classes, Clean c

def Op.isDef : Op → Bool
  | .mkClass _ _ => true
  | .new _ => true
  | _ => false

def Op.isMkClass : Op → Bool
  | .mkClass _ _ => true
  | _ => false

theorem AllClean_step_def (E : Env) {w : World} (hw : AllClean w) {op : Op} (hd : op.isDef = true) :
    AllClean (step E w op).1 := by
  cases op with
  | mkClass bases decls =>
    simp only [step]
    cases h : bases.mapM (fun b => w.classes[b]?) with
    | none => exact hw
    | some bs =>
      intro c hc
      rcases List.mem_append.mp hc with hc | hc
      · exact hw c hc
      · simp at hc; subst hc
        apply mkClass_clean
        intro b hb
        obtain ⟨i, _, hib⟩ := mapM_getElem?_mem h b hb
        exact hw b (List.mem_of_getElem? hib)
  | new ci =>
    simp only [step]
    cases h : w.classes[ci]? with
    | none => exact hw
    | some c => exact hw
  | _ => cases hd

theorem SafeOp_of_allClean {w : World} (hw : AllClean w) (op : Op) : SafeOp w op := by
  cases op <;> simp only [SafeOp]
  intro b _ c hc
  exact hw c (List.mem_of_getElem? hc)

theorem SafeOp_of_not_mkClass {w : World} {op : Op} (h : op.isMkClass = false) : SafeOp w op := by
  cases op <;> simp only [SafeOp]
  cases h

theorem SafeHist_defs_then_use (E : Env) {w : World} (hw : AllClean w) (defs uses : List Op)
    (hd : ∀ op ∈ defs, op.isDef = true) (hu : ∀ op ∈ uses, op.isMkClass = false) :
    SafeHist E w (defs ++ uses) := by
  induction defs generalizing w with
  | nil =>
    simp only [List.nil_append]
    clear hw
    induction uses generalizing w with
    | nil => trivial
    | cons op ops ih =>
      exact ⟨SafeOp_of_not_mkClass (hu op List.mem_cons_self),
        ih (fun op' h => hu op' (List.mem_cons_of_mem _ h))⟩
  | cons op defs ih =>
    simp only [List.cons_append]
    exact ⟨SafeOp_of_allClean hw op,
      ih (AllClean_step_def E hw (hd op List.mem_cons_self)) (fun op' h => hd op' (List.mem_cons_of_mem _ h))⟩

end TraitsVerif.Model.Resolve
