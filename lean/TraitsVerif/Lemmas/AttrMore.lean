/-
C02: the Event analogue of `exactly_once_run`; every call a statement logs carries the attribute's readable value
before and after it (`step_truthful`); and under `Quiet` nothing a handler does, returning or raising, reaches the
state (its call is logged before it runs): a run is the run with handlers that do nothing (`run_silence`).
-/
import TraitsVerif.Lemmas.AttrRun
namespace TraitsVerif.Model.Attr
open TraitsVerif

/-! ### Event traits -/

theorem wrapperFires_event (c : Cmp) (flags : Nat) (k : NKind) (new : Id) :
    wrapperFires c .event flags k undef new = true := by
  unfold wrapperFires changeAccepted changeAcceptedCmp preventEvent eqMode
  cases k <;> simp [undef, uninit]

section event
variable {E : Env} {t : TraitCore}

theorem exactly_once_event_run (hk : t.kind = .event) (q : Quiet E) {k : Nat} {kind : NKind} :
    ∀ (h : List Op) (s : OSt), (∀ op ∈ h, op.isValue = true) → s.noNotify = false →
      UniqueIn k kind (snapshot s.tn s.on) →
      callsOf k (run E t s h).ctx.log = callsOf k s.ctx.log ++ realChangesEvent E t s.ctx.nval h
  | [], s, _, _, _ => by simp [run, realChangesEvent]
  | op :: h, s, H, hnn, u => by
    have Hop := H op (List.mem_cons_self)
    have hn := u.hasNotifiers
    have ih := exactly_once_event_run hk q (k := k) (kind := kind) h (step E t s op).2
      (fun o ho => H o (List.mem_cons_of_mem _ ho))
    have hb : (t.kind == Kind.trait) = false := by rw [hk]; rfl
    rw [run]
    cases op with
    | set v =>
      rw [realChangesEvent]
      rcases hsv : specValidate E t false s.ctx.nval v with ⟨e | w, nv⟩
      · rw [step_set_rejected E t s v e nv (by rw [hb]; exact hsv)] at ih ⊢
        exact ih hnn u
      · obtain ⟨-, -, p2, p3, p4, -, p6, p7⟩ := step_set_event_view q hk s v w nv hsv
        simp only [hn, hnn, and_self, if_true] at p7
        rw [ih (p4.trans hnn) (by rw [p2, p3]; exact u), p6, p7]
        simp [callsOf_fired u, hk, wrapperFires_event]
    | setq v =>
      rw [realChangesEvent]
      rw [step_setq_eq] at ih ⊢
      rcases hsv : specValidate E t false s.ctx.nval v with ⟨e | w, nv⟩
      · rw [step_set_rejected E t { s with noNotify := true } v e nv (by rw [hb]; exact hsv)] at ih ⊢
        exact ih rfl u
      · obtain ⟨-, -, p2, p3, -, -, p6, p7⟩ := step_set_event_view q hk { s with noNotify := true } v w nv hsv
        rw [ih rfl (by
          show UniqueIn k kind (snapshot (step E t _ _).2.tn (step E t _ _).2.on)
          rw [p2, p3]; exact u)]
        show callsOf k (step E t _ _).2.ctx.log ++ realChangesEvent E t (step E t _ _).2.ctx.nval h = _
        rw [p6, p7]
        simp
    | del =>
      rw [step_del_event hk] at ih ⊢
      exact ih hnn u
    | get =>
      rw [step_get_event hk] at ih ⊢
      cases hs : s.slot <;> rw [hs] at ih <;> exact ih hnn u
    | _ => exact absurd Hop (by simp [Op.isValue])

end event

/-! ### Truthful old / new -/

theorem mem_fired {c : Cmp} {t : TraitCore} {self old new : Id} {ns : List (Notifier × Loc)} {x : Call}
    (h : x ∈ fired c t self old new ns) : x.old = old ∧ x.new = new := by
  unfold fired at h
  simp only [List.mem_map, List.mem_filter] at h
  obtain ⟨p, -, rfl⟩ := h
  exact ⟨rfl, rfl⟩

section truthful
variable {E : Env} {t : TraitCore} {m : CMode} {orig po : Bool} {d : Id}

theorem step_truthful (st : StdTrait t m orig po d) (q : Quiet E) (pq : PostQuiet E) (s : OSt) (op : Op)
    (hv : op.isValue = true) (hnn : s.noNotify = false) :
    (step E t s op).2.noNotify = false ∧
    ∀ x ∈ (step E t s op).2.ctx.log.drop s.ctx.log.length,
      x.old = readable d s.slot ∧ x.new = readable d (step E t s op).2.slot := by
  -- the handlers called are those of one round about `(old, new)`, or none
  have round : ∀ (s' : OSt) (c : Prop) [Decidable c] (old new : Id) ns, s'.noNotify = s.noNotify →
      s'.ctx.log = s.ctx.log ++ (if c then fired E.cmp t s.self old new ns else []) →
      (c → old = readable d s.slot ∧ new = readable d s'.slot) →
      s'.noNotify = false ∧ ∀ x ∈ s'.ctx.log.drop s.ctx.log.length,
        x.old = readable d s.slot ∧ x.new = readable d s'.slot := by
    intro s' c _ old new ns h1 h2 h3
    refine ⟨h1.trans hnn, fun x hx => ?_⟩
    rw [h2, List.drop_left] at hx
    split at hx
    · rename_i hc
      obtain ⟨e1, e2⟩ := h3 hc
      rw [← e1, ← e2]
      exact mem_fired hx
    · cases hx
  cases op with
  | set v =>
    rcases hsv : specValidate E t true s.ctx.nval v with ⟨e | w, nv⟩
    · rw [step_set_rejected E t s v e nv (by rw [st.kind]; exact hsv)]
      simp [hnn]
    · obtain ⟨-, p1, -, -, p4, -, -, p7⟩ := step_set_view st q pq s v w nv hsv
      exact round _ _ _ _ _ p4 p7 (fun _ => ⟨rfl, by rw [p1]; rfl⟩)
  | setq v =>
    rw [step_setq_eq]
    rcases hsv : specValidate E t true s.ctx.nval v with ⟨e | w, nv⟩
    · rw [step_set_rejected E t { s with noNotify := true } v e nv (by rw [st.kind]; exact hsv)]
      simp
    · obtain ⟨-, -, -, -, -, -, -, p7⟩ := step_set_view st q pq { s with noNotify := true } v w nv hsv
      exact round _ _ _ _ _ hnn.symm p7 (fun h => absurd h.2.1 Bool.noConfusion)
  | del =>
    obtain ⟨-, p1, -, -, p4, -, -, p7⟩ := step_del_view st q pq s
    exact round _ _ _ _ _ p4 p7 (fun h => ⟨rfl, by rw [p1, if_pos h.1]; rfl⟩)
  | get =>
    obtain ⟨-, -, -, -, p4, -, -, p7⟩ := step_get_view (E := E) st pq s
    exact round _ False 0 0 [] p4 (by simpa using p7) False.elim
  | _ => exact absurd hv (by simp [Op.isValue])

theorem run_noNotify (st : StdTrait t m orig po d) (q : Quiet E) (pq : PostQuiet E) :
    ∀ (h : List Op) (s : OSt), (∀ op ∈ h, op.isValue = true) → s.noNotify = false →
      (run E t s h).noNotify = false
  | [], _, _, hnn => hnn
  | op :: h, s, H, hnn => by
    rw [run]
    exact run_noNotify st q pq h _ (fun o ho => H o (List.mem_cons_of_mem _ ho))
      (step_truthful st q pq s op (H op List.mem_cons_self) hnn).1

end truthful

/-! ### Handler exceptions -/

section silence
variable {E : Env}

theorem callNotifiers_silence (q : Quiet E) (t : TraitCore) (tn on : Option (List Notifier)) (old new : Id)
    (s : OSt) : callNotifiers E t tn on old new s = callNotifiers E.silence t tn on old new s := by
  rw [callNotifiers_quiet q, callNotifiers_quiet q.silence]
  rfl

/-- a read calls no handler at all -/
theorem traitGetattr_silence (E : Env) (t : TraitCore) (s : OSt) :
    traitGetattr E t s = traitGetattr E.silence t s := by
  unfold traitGetattr
  rw [getattrTrait_eq, getattrTrait_eq]
  rfl

theorem traitSetattr_silence (q : Quiet E) (t : TraitCore) (v : Option Id) (s : OSt) :
    traitSetattr E t v s = traitSetattr E.silence t v s := by
  unfold traitSetattr setattrTrait setattrEvent setattrTraitDel
  simp only [callNotifiers_silence q, traitGetattr_silence E]
  rfl

theorem step_silence (q : Quiet E) (t : TraitCore) (s : OSt) (op : Op) :
    step E t s op = step E.silence t s op := by
  unfold step getattro
  simp only [traitSetattr_silence q, traitGetattr_silence E]

theorem run_silence (q : Quiet E) (t : TraitCore) : ∀ (h : List Op) (s : OSt),
    run E t s h = run E.silence t s h
  | [], _ => rfl
  | op :: h, s => by
    rw [run, run, step_silence q, run_silence q t h]

end silence

end TraitsVerif.Model.Attr
