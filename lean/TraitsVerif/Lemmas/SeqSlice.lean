/-
Arithmetic of `slice.indices`, `sliceLen` and `_normalize_slice_or_index`; what
`indices` can return and which positions a slice then selects.
-/
import TraitsVerif.Model.TraitList
import TraitsVerif.Lemmas.SeqList
namespace TraitsVerif.Py
open TraitsVerif.Model
variable {α : Type}

/-! ### bounds produced by slice.indices -/

theorem adjustStart_pos (n : Nat) (k : Int) (s : Option Int) (hk : 0 < k) :
    0 ≤ adjustStart n k s ∧ adjustStart n k s ≤ n := by
  unfold adjustStart; split <;> (repeat' split) <;> omega

theorem adjustStop_pos (n : Nat) (k : Int) (s : Option Int) (hk : 0 < k) :
    0 ≤ adjustStop n k s ∧ adjustStop n k s ≤ n := by
  unfold adjustStop; split <;> (repeat' split) <;> omega

theorem adjustStart_neg (n : Nat) (k : Int) (s : Option Int) (hk : k < 0) :
    -1 ≤ adjustStart n k s ∧ adjustStart n k s ≤ (n : Int) - 1 := by
  unfold adjustStart; split <;> (repeat' split) <;> omega

theorem adjustStop_neg (n : Nat) (k : Int) (s : Option Int) (hk : k < 0) :
    -1 ≤ adjustStop n k s ∧ adjustStop n k s ≤ (n : Int) - 1 := by
  unfold adjustStop; split <;> (repeat' split) <;> omega

theorem indices_of_adjusted_pos (n : Nat) (a b k : Int) (hk : 0 < k)
    (ha : 0 ≤ a ∧ a ≤ n) (hb : 0 ≤ b ∧ b ≤ n) :
    (Slice.mk (some a) (some b) (some k)).indices n = some (a, b, k) := by
  have hk' : k ≠ 0 := by omega
  simp only [Slice.indices, Option.getD_some, hk', if_false, adjustStart, adjustStop]
  have h1 : ¬ a < 0 := by omega
  have h2 : ¬ b < 0 := by omega
  have h3 : ¬ k < 0 := by omega
  simp only [h1, h2, h3, if_false]
  congr 2
  · split <;> omega
  · congr 1; split <;> omega

/-! ### sliceLen -/

theorem lt_sliceLen_pos {a b k : Int} (hk : 0 < k) (j : Nat) : j < sliceLen a b k ↔ a + j * k < b := by
  have hj : 0 ≤ (j : Int) * k := Int.mul_nonneg (by omega) (by omega)
  unfold sliceLen
  rw [if_neg (by omega)]
  split
  · have h0 : 0 ≤ (b - a - 1) / k := Int.ediv_nonneg (by omega) (by omega)
    have := Int.le_ediv_iff_mul_le (a := (j : Int)) (b := b - a - 1) hk
    omega
  · omega

theorem sliceLen_neg_eq {a b k : Int} (hk : k < 0) : sliceLen a b k = sliceLen (-a) (-b) (-k) := by
  unfold sliceLen
  rw [if_pos hk, if_neg (show ¬ -k < 0 by omega), show -b - -a - 1 = a - b - 1 by omega]
  simp only [Int.neg_lt_neg_iff]

theorem sliceLen_succ_pos {a b k : Int} {q : Nat} (hk : 0 < k) :
    sliceLen a b k = q + 1 ↔ a + q * k < b ∧ b ≤ a + (q + 1) * k := by
  have h1 := lt_sliceLen_pos (a := a) (b := b) hk q
  have h2 := lt_sliceLen_pos (a := a) (b := b) hk (q + 1)
  push_cast at h2
  omega

theorem sliceLen_succ_neg {a b k : Int} {q : Nat} (hk : k < 0) :
    sliceLen a b k = q + 1 ↔ b < a + q * k ∧ a + (q + 1) * k ≤ b := by
  rw [sliceLen_neg_eq hk, sliceLen_succ_pos (by omega), Int.mul_neg, Int.mul_neg]
  omega

/-- A contiguous slice ends where `list_ass_slice` says: at `stop`, or at `start` if that is beyond. -/
theorem add_sliceLen_one (a b : Int) : a + (sliceLen a b 1 : Nat) = if b < a then a else b := by
  unfold sliceLen; split <;> split <;> omega

/-! ### Python modulo -/

theorem pymod_pos (x k : Int) (hk : 0 < k) : pymod x k = x % k := by
  unfold pymod
  rw [Int.fmod_eq_emod, if_pos (Or.inl (by omega))]
  omega

theorem pymod_one (x : Int) : pymod x 1 = 0 := by
  rw [pymod_pos _ _ (by omega)]; omega

theorem emod_of_decomp {x k q r : Int} (hx : x = q * k + r) (h0 : 0 ≤ r) (h1 : r < k) :
    x % k = r := by
  rw [hx, Int.add_comm, Int.add_mul_emod_self_right, Int.emod_eq_of_lt h0 h1]

/-- The remainder `t` is taken in `1..-k`, not `0..-k-1`, so that `t + k` lies in `(k, 0]`, where Python puts
`x % k` for a negative divisor. -/
theorem pymod_neg_of_decomp {x k q t : Int} (hk : k < 0) (hx : x = q * (-k) + t)
    (h0 : 1 ≤ t) (h1 : t ≤ -k) : pymod x k = t + k := by
  unfold pymod
  rw [Int.fmod_eq_emod]
  have hs : 0 < -k := by omega
  have e : x % k = x % (-k) := by
    simp
  by_cases ht : t = -k
  · have hx' : x = (q + 1) * (-k) := by rw [hx, ht, Int.add_mul, Int.one_mul]
    have hdvd : k ∣ x := by
      rw [hx']; exact Int.dvd_trans (Int.dvd_neg.mpr (Int.dvd_refl k)) (Int.dvd_mul_left _ _)
    rw [if_pos (Or.inr hdvd), e, hx', Int.mul_emod_left]
    omega
  · have hm : x % (-k) = t := emod_of_decomp hx (by omega) (by omega)
    have hnd : ¬ k ∣ x := by
      intro hd
      have : (-k) ∣ x := Int.neg_dvd.mpr hd
      have := Int.emod_eq_zero_of_dvd this
      omega
    rw [if_neg (by rintro (h | h); omega; exact hnd h), e, hm]

/-! ### the normalised index -/

/-- Forward slices (k > 0) selecting `q+1 ≥ 1` positions `a, a+k, …, a+q*k`. -/
theorem normalizeCore_pos {n : Nat} {a b k : Int} {q : Nat} (hk : 0 < k)
    (h1 : a + q * k < b) (h2 : b ≤ a + (q + 1) * k) :
    normalizeCore n a b k =
      (false, if k = 1 ∨ q = 0 then .idx a else .slc a (a + q * k + 1) k) := by
  unfold normalizeCore
  have hrev : decide (k < 0) = false := by simp; omega
  simp only [hrev, Bool.false_eq_true, if_false]
  have hm : pymod (b - a - 1) k = b - a - 1 - q * k := by
    rw [pymod_pos _ _ hk]
    exact emod_of_decomp (q := q) (by omega) (by omega) (by rw [Int.add_mul] at h2; omega)
  rw [hm]
  have e : b - (b - a - 1 - q * k) = a + q * k + 1 := by omega
  rw [e]
  by_cases hq : q = 0
  · subst hq; simp; intro _; omega
  · have hq1 : (1 : Int) ≤ q := by omega
    by_cases hk1 : k = 1
    · simp [hk1]
    · have : 1 * k ≤ q * k := Int.mul_le_mul_of_nonneg_right hq1 (by omega)
      have : ¬ (a + q * k + 1 - a ≤ k) := by omega
      simp [hq, hk1, this]

theorem normalizeCore_one (n : Nat) (a b : Int) : normalizeCore n a b 1 = (false, .idx a) := by
  unfold normalizeCore
  simp

/-- `_normalize_slice_or_index` turns a backward slice round and goes on as for a forward one. -/
theorem normalizeCore_rev {n : Nat} {a b k : Int} (hk : k < 0) :
    normalizeCore n a b k = (true, (normalizeCore n (min (b - k + pymod (a - b) k) n) (a + 1) (-k)).2) := by
  unfold normalizeCore
  simp only [decide_eq_true hk, if_true, decide_eq_false (show ¬ -k < 0 by omega), Bool.false_eq_true, if_false]
  split <;> rfl

/-- Backward slices (k < 0) selecting `q+1 ≥ 1` positions `a, a+k, …, a+q*k =: lo`: reported as the forward
progression from `lo` with step `-k`. -/
theorem normalizeCore_neg {n : Nat} {a b k : Int} {q : Nat} (hk : k < 0) (han : a < n)
    (h1 : b < a + q * k) (h2 : a + (q + 1) * k ≤ b) :
    normalizeCore n a b k = (true, if -k = 1 ∨ q = 0 then .idx (a + q * k)
      else .slc (a + q * k) (a + q * k + q * -k + 1) (-k)) := by
  -- a - b = q * (-k) + t with t = a + q*k - b, 1 ≤ t ≤ -k
  have hm : pymod (a - b) k = (a + q * k - b) + k :=
    pymod_neg_of_decomp (q := q) hk (by rw [Int.mul_neg]; omega) (by omega) (by rw [Int.add_mul] at h2; omega)
  have hqk : (q : Int) * k ≤ 0 := Int.mul_nonpos_of_nonneg_of_nonpos (by omega) (by omega)
  rw [normalizeCore_rev hk, hm, show b - k + (a + q * k - b + k) = a + q * k by omega, Int.min_eq_left (by omega),
    normalizeCore_pos (q := q) (by omega) (by rw [Int.mul_neg]; omega) (by rw [Int.add_mul, Int.mul_neg]; omega)]

end TraitsVerif.Py

namespace TraitsVerif.Model
open TraitsVerif TraitsVerif.Py
variable {α : Type}

/-! ### what `slice.indices` returns; the positions a slice selects -/

theorem indices_some {n : Nat} {s : Slice} {a b k : Int} (h : s.indices n = some (a, b, k)) :
    k ≠ 0 ∧ a = adjustStart n k s.start ∧ b = adjustStop n k s.stop := by
  unfold Slice.indices at h
  simp only at h
  split at h
  · cases h
  · rename_i hk
    simp only [Option.some.injEq, Prod.mk.injEq] at h
    obtain ⟨h1, h2, h3⟩ := h
    subst h3
    exact ⟨hk, h1.symm, h2.symm⟩

/-- A slice that selects `q + 1` positions selects an upward progression `lo, lo + st, …, lo + q * st` inside the
list, read upwards (`k > 0`) or downwards (`k < 0`), and `_normalize_slice_or_index` reports that progression. -/
theorem slice_canon {n : Nat} {s : Slice} {a b k : Int} {q : Nat} (hidx : s.indices n = some (a, b, k))
    (hq : sliceLen a b k = q + 1) :
    ∃ lo st : Int, 0 ≤ lo ∧ 1 ≤ st ∧ lo + q * st < n ∧
      normalizeCore n a b k = (decide (k < 0), if st = 1 ∨ q = 0 then .idx lo else .slc lo (lo + q * st + 1) st) ∧
      positions a k (q + 1) = if k < 0 then (positions lo st (q + 1)).reverse else positions lo st (q + 1) := by
  obtain ⟨hk0, rfl, rfl⟩ := indices_some hidx
  rcases Int.lt_or_gt_of_ne hk0 with hk | hk
  · have hA := adjustStart_neg n k s.start hk
    have hB := adjustStop_neg n k s.stop hk
    obtain ⟨h1, h2⟩ := (sliceLen_succ_neg hk).mp hq
    refine ⟨adjustStart n k s.start + q * k, -k, by omega, by omega, by rw [Int.mul_neg]; omega, ?_, ?_⟩
    · rw [normalizeCore_neg hk (by omega) h1 h2, decide_eq_true hk]
    · rw [if_pos hk, positions_reverse, Int.neg_neg]
      congr 1
      rw [Int.mul_neg]
      omega
  · have hA := adjustStart_pos n k s.start hk
    have hB := adjustStop_pos n k s.stop hk
    obtain ⟨h1, h2⟩ := (sliceLen_succ_pos hk).mp hq
    exact ⟨_, k, hA.1, by omega, by omega, by rw [normalizeCore_pos hk h1 h2, decide_eq_false (by omega)],
      by rw [if_neg (by omega)]⟩

theorem step_is_one_iff {n : Nat} {s : Slice} {a b k : Int} (hidx : s.indices n = some (a, b, k)) :
    (s.step = none ∨ s.step = some 1) ↔ k = 1 := by
  unfold Slice.indices at hidx
  simp only at hidx
  split at hidx
  · cases hidx
  · simp only [Option.some.injEq, Prod.mk.injEq] at hidx
    obtain ⟨_, _, h3⟩ := hidx
    cases hs : s.step with
    | none => simp [hs] at h3; simp [h3]
    | some k' => simp [hs] at h3; simp [h3]

theorem positions_in_range {n : Nat} {s : Slice} {a b k : Int} (hidx : s.indices n = some (a, b, k)) :
    ∀ p ∈ positions a k (sliceLen a b k), 0 ≤ p ∧ p < n := by
  cases hq : sliceLen a b k with
  | zero => nofun
  | succ q =>
    obtain ⟨lo, st, hlo, hst, hn, _, hpos⟩ := slice_canon hidx hq
    intro p hp
    refine positions_in_range_pos hlo (by omega) hn p ?_
    rw [hpos] at hp
    split at hp
    · exact List.mem_reverse.mp hp
    · exact hp

theorem selected_length {l : List α} {s : Slice} {a b k : Int}
    (hidx : s.indices l.length = some (a, b, k)) :
    (getPositions l (positions a k (sliceLen a b k))).length = sliceLen a b k := by
  rw [getPositions_length (positions_in_range hidx), positions_length]

/-- A slice in normal form (`0 ≤ a`, step `k ≥ 2`, `stop` one past the last of its `q + 1` positions) is what
`slice.indices` makes of itself. -/
theorem normal_indices (n : Nat) {a b k : Int} {q : Nat} (hk : 2 ≤ k) (ha : 0 ≤ a) (hb : a + q * k + 1 = b)
    (hbn : b ≤ n) :
    (Slice.mk (some a) (some b) (some k)).indices n = some (a, b, k) ∧ sliceLen a b k = q + 1 := by
  have hq : (0 : Int) ≤ q * k := Int.mul_nonneg (by omega) (by omega)
  exact ⟨indices_of_adjusted_pos n a b k (by omega) ⟨ha, by omega⟩ ⟨by omega, hbn⟩,
    (sliceLen_succ_pos (by omega)).mpr ⟨by omega, by rw [Int.add_mul]; omega⟩⟩

theorem getSlice_normal (l : List α) (a b k : Int) (q : Nat)
    (hk : 2 ≤ k) (ha : 0 ≤ a) (hb : a + q * k + 1 = b) (hbn : b ≤ l.length) :
    Py.getSlice l ⟨some a, some b, some k⟩
      = .ok (getPositions l (positions a k (q + 1))) := by
  obtain ⟨hidx, hsl⟩ := normal_indices l.length hk ha hb hbn
  simp only [Py.getSlice, hidx, hsl]

theorem normalizeSlice_of_getSlice {l : List α} {s : Slice} {r : List α} (h : Py.getSlice l s = .ok r) :
    ∃ rev n, normalizeSlice l.length s = some (rev, n) := by
  unfold Py.getSlice at h
  unfold normalizeSlice
  cases hi : s.indices l.length with
  | none => simp [hi] at h
  | some t => exact ⟨_, _, rfl⟩

theorem getSlice_from (l : List α) (n : Nat) (h : n ≤ l.length) :
    Py.getSlice l ⟨some (n : Int), none, none⟩ = .ok (l.drop n) := by
  have hs : (⟨some (n : Int), none, none⟩ : Slice).indices l.length = some ((n : Int), (l.length : Int), 1) := by
    simp only [Slice.indices, Option.getD_none, adjustStart, adjustStop]
    by_cases h2 : (n : Int) ≥ l.length
    · have : (n : Int) = l.length := by omega
      have h0 : ¬ ((l.length : Int) < 0) := by omega
      simp [this, h0]
    · have h0 : ¬ ((n : Int) < 0) := by omega
      simp [h2, h0]
  unfold Py.getSlice
  rw [hs]
  simp only
  have hl : sliceLen (n : Int) (l.length : Int) 1 = l.length - n := by
    have := add_sliceLen_one (n : Int) l.length
    rw [if_neg (by omega)] at this
    omega
  rw [hl, getPositions_contig l n (l.length - n) (by omega) (by omega)]
  simp [List.take_of_length_le]

/-! ### contiguous slices -/

theorem splice_eq_block {l : List α} {s : Slice} {a b : Int} (vs : List α)
    (hidx : s.indices l.length = some (a, b, 1)) :
    0 ≤ a ∧ a + (sliceLen a b 1 : Nat) ≤ l.length ∧
      splice l a b vs = l.take a.toNat ++ vs ++ l.drop (a.toNat + sliceLen a b 1) := by
  obtain ⟨_, rfl, rfl⟩ := indices_some hidx
  have hA := adjustStart_pos l.length 1 s.start (by omega)
  have hB := adjustStop_pos l.length 1 s.stop (by omega)
  have hi := add_sliceLen_one (adjustStart l.length 1 s.start) (adjustStop l.length 1 s.stop)
  refine ⟨hA.1, by rw [hi]; split <;> omega, ?_⟩
  rw [splice, ← hi]
  congr 3
  omega

theorem splice_length {l : List α} {s : Slice} {a b : Int} (vs : List α)
    (hidx : s.indices l.length = some (a, b, 1)) :
    ((splice l a b vs).length : Int) = (l.length : Int) - sliceLen a b 1 + vs.length := by
  obtain ⟨ha, hle, hsp⟩ := splice_eq_block vs hidx
  rw [hsp]
  simp only [List.length_append, List.length_take, List.length_drop]
  omega

end TraitsVerif.Model
