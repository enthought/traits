/-
C10: how one statement on one (object, attribute) pair can change the shared
context — for EVERY environment.  Containers that
existed before keep their contents (`default_value_for` only allocates), new
log entries are about this object, new factory-call entries are about this
(object, attribute).
-/
import TraitsVerif.Lemmas.AttrEff
import TraitsVerif.Lemmas.Common
namespace TraitsVerif.Model.Attr
open TraitsVerif

/-! ### Heap lookups -/

theorem heapGet_append_ne (heap : List (Id × List Id)) (a x : Id) (xs : List Id) (h : x ≠ a) :
    heapGet (heap ++ [(a, xs)]) x = heapGet heap x :=
  congrArg (Option.map Prod.snd) (Common.find?_concat_ne heap xs h)

theorem heapGet_append_self (heap : List (Id × List Id)) (a : Id) (xs : List Id)
    (h : heapGet heap a = none) : heapGet (heap ++ [(a, xs)]) a = some xs :=
  congrArg (Option.map Prod.snd) (Common.find?_concat_self heap a xs (Option.map_eq_none_iff.mp h))

structure CFrame (c c' : Ctx) : Prop where
  le : c.alloc ≤ c'.alloc
  heap : ∀ x, x < c.alloc → heapGet c'.heap x = heapGet c.heap x
  log : c'.log = c.log
  postLog : c'.postLog = c.postLog

theorem CFrame.refl (c : Ctx) : CFrame c c := ⟨Nat.le_refl _, fun _ _ => rfl, rfl, rfl⟩

theorem CFrame.trans {a b c : Ctx} (h1 : CFrame a b) (h2 : CFrame b c) : CFrame a c :=
  ⟨Nat.le_trans h1.le h2.le,
   fun x hx => (h2.heap x (Nat.lt_of_lt_of_le hx h1.le)).trans (h1.heap x hx),
   h2.log.trans h1.log, h2.postLog.trans h1.postLog⟩

theorem newContainer_frame (c : Ctx) (xs : List Id) : CFrame c (c.newContainer xs).2 := by
  unfold Ctx.newContainer
  exact ⟨Nat.le_succ _, fun x hx => heapGet_append_ne _ _ _ _ (Nat.ne_of_lt hx), rfl, rfl⟩

theorem copyOf_fcalls (c : Ctx) (src : Id) : (c.copyOf src).2.fcalls = c.fcalls := rfl

/-! ### One default computation

`default_value_for` does two things to the context: it allocates containers (`newContainer`), and it keeps books
(factory calls, validator ordinal, the set of tuples).  `Alloc A b` is the closure of the two, recording of every new
container that its elements are in `A` or were allocated since `b`.  The walk through `default_value_for`'s call tree
(`defaultValueFor_alloc`) is made once, for any `A`: with `A` everything it needs no hypothesis and gives the frame
(`CFrame`), with `A` the atoms it gives freshness (`CGrow`, `Alloc.grow`). -/

inductive Alloc (A : Id → Prop) (b : Nat) : Ctx → Ctx → Prop
  | refl (c : Ctx) : Alloc A b c c
  | trans {c1 c2 c3 : Ctx} : Alloc A b c1 c2 → Alloc A b c2 c3 → Alloc A b c1 c3
  | book (c : Ctx) (fz : List Id) (fc : List (Id × Id × Name)) (nv : Nat) :
      Alloc A b c { c with frozen := fz, fcalls := fc, nval := nv }
  | cell (c : Ctx) (xs : List Id) : (∀ y ∈ xs, A y ∨ (b ≤ y ∧ y < c.alloc)) → Alloc A b c (c.newContainer xs).2

theorem Alloc.frame {A : Id → Prop} {b : Nat} {c c' : Ctx} (h : Alloc A b c c') : CFrame c c' := by
  induction h with
  | refl c => exact CFrame.refl c
  | trans _ _ h1 h2 => exact h1.trans h2
  | book c _ _ _ => exact ⟨Nat.le_refl _, fun _ _ => rfl, rfl, rfl⟩
  | cell c xs _ => exact newContainer_frame c xs

def FRes.All (A : Id → Prop) : FRes → Prop
  | .existing v => A v
  | .fresh es _ => ∀ e ∈ es, match e with
    | .atom v => A v
    | .inner xs => ∀ y ∈ xs, A y

theorem FRes.all_true (r : FRes) : r.All (fun _ => True) := by
  cases r with
  | existing v => trivial
  | fresh es fr => intro e _; cases e <;> simp

/-- The default kinds that promise a copy of a template. -/
def copyKind (t : TraitCore) : Prop :=
  t.dvt = Generated.LIST_COPY_DEFAULT_VALUE ∨ t.dvt = Generated.DICT_COPY_DEFAULT_VALUE
  ∨ t.dvt = Generated.TRAIT_LIST_OBJECT_DEFAULT_VALUE ∨ t.dvt = Generated.TRAIT_DICT_OBJECT_DEFAULT_VALUE
  ∨ t.dvt = Generated.TRAIT_SET_OBJECT_DEFAULT_VALUE

theorem warn_ok {E : Env} {r : Except Exc Id} {v : Id} (h : warnOnAttributeError E r = .ok v) : r = .ok v := by
  unfold warnOnAttributeError at h
  split at h
  · split at h <;> cases h
  · exact h

section walk
variable {A : Id → Prop} {b : Nat}

theorem allocElems_alloc : ∀ (es : List Elem) (c : Ctx), b ≤ c.alloc →
    (∀ e ∈ es, match e with
      | .atom v => A v
      | .inner xs => ∀ y ∈ xs, A y) →
    Alloc A b c (c.allocElems es).2 ∧ (c.allocElems es).2.fcalls = c.fcalls ∧
    ∀ v ∈ (c.allocElems es).1, A v ∨ (b ≤ v ∧ v < (c.allocElems es).2.alloc)
  | [], c, _, _ => ⟨.refl c, rfl, nofun⟩
  | .atom v :: es, c, hb, he => by
    have ih := allocElems_alloc es c hb (fun e hm => he e (List.mem_cons_of_mem _ hm))
    simp only [Ctx.allocElems]
    refine ⟨ih.1, ih.2.1, fun u hu => ?_⟩
    rcases List.mem_cons.mp hu with rfl | h1
    · exact Or.inl (he (.atom u) List.mem_cons_self)
    · exact ih.2.2 u h1
  | .inner xs :: es, c, hb, he => by
    have h1 : Alloc A b c (c.newContainer xs).2 :=
      .cell c xs (fun y hy => Or.inl (he (.inner xs) List.mem_cons_self y hy))
    have ih := allocElems_alloc es (c.newContainer xs).2 (Nat.le_succ_of_le hb)
      (fun e hm => he e (List.mem_cons_of_mem _ hm))
    simp only [Ctx.allocElems]
    refine ⟨h1.trans ih.1, ih.2.1, fun u hu => ?_⟩
    rcases List.mem_cons.mp hu with rfl | h2
    · exact Or.inr ⟨hb, Nat.lt_of_lt_of_le (Nat.lt_succ_self _) ih.1.frame.le⟩
    · exact ih.2.2 u h2

theorem allocRes_alloc (r : FRes) (c : Ctx) (hr : r.All A) :
    Alloc A c.alloc c (c.allocRes r).2 ∧ (c.allocRes r).2.fcalls = c.fcalls ∧
    (A (c.allocRes r).1 ∨ (c.alloc ≤ (c.allocRes r).1 ∧ (c.allocRes r).1 < (c.allocRes r).2.alloc)) := by
  cases r with
  | existing v => exact ⟨.refl c, rfl, Or.inl hr⟩
  | fresh es fr =>
    obtain ⟨h1, hf, hv⟩ := allocElems_alloc (b := c.alloc) es c (Nat.le_refl _) hr
    -- the outer container holds what `allocElems` returned
    have h2 := h1.trans (.cell _ _ hv)
    have hid : c.alloc ≤ (c.allocElems es).2.alloc := h1.frame.le
    simp only [Ctx.allocRes]
    cases fr
    · exact ⟨h2, hf, Or.inr ⟨hid, Nat.lt_succ_self _⟩⟩
    · exact ⟨h2.trans (.book _ _ _ _), hf, Or.inr ⟨hid, Nat.lt_succ_self _⟩⟩

theorem callFactory_alloc {E : Env} (f obj : Id) (name : Name) (arg : Id) (c : Ctx)
    (hf : ∀ n a r, E.factory f n a = .ok r → r.All A) :
    Alloc A c.alloc c (callFactory E f obj name arg c).2 ∧
    (callFactory E f obj name arg c).2.fcalls = c.fcalls ++ [(f, obj, name)] ∧
    ∀ v, (callFactory E f obj name arg c).1 = .ok v →
      A v ∨ (c.alloc ≤ v ∧ v < (callFactory E f obj name arg c).2.alloc) := by
  unfold callFactory
  have h1 : Alloc A c.alloc c { c with fcalls := c.fcalls ++ [(f, obj, name)] } := .book c _ _ _
  cases hr : E.factory f c.fcalls.length arg with
  | error e => exact ⟨h1, rfl, nofun⟩
  | ok r =>
    obtain ⟨h2, hfc, hv⟩ := allocRes_alloc r { c with fcalls := c.fcalls ++ [(f, obj, name)] } (hf _ _ _ hr)
    exact ⟨h1.trans h2, hfc, fun v hv' => by injection hv' with hv'; exact hv' ▸ hv⟩

theorem validateDefault_alloc {E : Env} (t : TraitCore) (v : Id) (c : Ctx)
    (hv : ∀ k, t.validate = some k → ∀ n v u, E.validate k n v = .ok u → u = v ∨ A u) :
    Alloc A b c (validateDefault E t v c).2 ∧ (validateDefault E t v c).2.fcalls = c.fcalls ∧
    (validateDefault E t v c).2.alloc = c.alloc ∧ ∀ u, (validateDefault E t v c).1 = .ok u → u = v ∨ A u := by
  unfold validateDefault
  cases hk : t.validate with
  | none => exact ⟨.refl c, rfl, rfl, fun u hu => by injection hu with hu; exact Or.inl hu.symm⟩
  | some k =>
    simp only [runValidate, hk]
    have h1 : Alloc A b c { c with nval := c.nval + 1 } := .book c _ _ _
    cases hr : E.validate k c.nval v with
    | error e => exact ⟨h1, rfl, rfl, nofun⟩
    | ok w =>
      simp only []
      split
      · exact ⟨h1, rfl, rfl, fun u hu => by injection hu with hu; exact Or.inl hu.symm⟩
      · exact ⟨h1, rfl, rfl, fun u hu => by injection hu with hu; exact hu ▸ hv k hk _ _ _ hr⟩

/-- Exactly the kinds that call user code record a factory call; the value is in `A`, the object itself, or was
allocated by this computation.  The four hypotheses are the fields of `GoodCore` (AttrFresh) with `A` for the atoms. -/
theorem defaultValueFor_alloc {E : Env} (t : TraitCore) (obj : Id) (name : Name) (c : Ctx)
    (hconst : (t.dvt = Generated.CONSTANT_DEFAULT_VALUE ∨ t.dvt = Generated.MISSING_DEFAULT_VALUE) →
      A (t.dv.getD noneId))
    (hcopy : copyKind t → ∀ y ∈ (heapGet c.heap (t.dv.getD noneId)).getD [], A y)
    (hfac : ∀ n a r, E.factory (t.dv.getD noneId) n a = .ok r → r.All A)
    (hval : ∀ k, t.validate = some k → ∀ n v u, E.validate k n v = .ok u → u = v ∨ A u) :
    Alloc A c.alloc c (defaultValueFor E t obj name c).2 ∧
    (defaultValueFor E t obj name c).2.fcalls =
      c.fcalls ++ (if t.dvt = Generated.CALLABLE_AND_ARGS_DEFAULT_VALUE ∨ t.dvt = Generated.CALLABLE_DEFAULT_VALUE
        then [(t.dv.getD noneId, obj, name)] else []) ∧
    ∀ v, (defaultValueFor E t obj name c).1 = .ok v →
      A v ∨ v = obj ∨ (c.alloc ≤ v ∧ v < (defaultValueFor E t obj name c).2.alloc) := by
  unfold defaultValueFor
  split
  · -- constant
    rename_i hk
    refine ⟨.refl c, ?_, fun v hv => by injection hv with hv; exact Or.inl (hv ▸ hconst hk)⟩
    rw [if_neg (by rcases hk with h | h <;> rw [h] <;> decide), List.append_nil]
  split
  · -- the object itself
    rename_i hk
    refine ⟨.refl c, ?_, fun v hv => by injection hv with hv; exact Or.inr (Or.inl hv.symm)⟩
    rw [if_neg (by rw [hk]; decide), List.append_nil]
  split
  · -- copy of the template
    rename_i hk
    refine ⟨.cell c _ (fun y hy => Or.inl (hcopy hk y hy)), ?_,
      fun v hv => by injection hv with hv; exact Or.inr (Or.inr (hv ▸ ⟨Nat.le_refl _, Nat.lt_succ_self _⟩))⟩
    rw [if_neg (by rcases hk with h | h | h | h | h <;> rw [h] <;> decide), List.append_nil]
    rfl
  split
  · -- factory(*args, **kw)
    rename_i hk
    obtain ⟨h1, hfc, hv⟩ := callFactory_alloc (A := A) (t.dv.getD noneId) obj name noneId c hfac
    rw [if_pos (Or.inl hk)]
    exact ⟨h1, hfc, fun v hv' => (hv v (warn_ok hv')).imp_right Or.inr⟩
  split
  · -- _name_default(self), validated
    rename_i hk
    obtain ⟨h1, hfc, hv⟩ := callFactory_alloc (A := A) (t.dv.getD noneId) obj name obj c hfac
    rw [if_pos (Or.inr hk)]
    rcases hc : callFactory E (t.dv.getD noneId) obj name obj c with ⟨e | v0, c1⟩ <;> rw [hc] at h1 hfc hv
    · exact ⟨h1, hfc, fun v hv' => nomatch warn_ok hv'⟩
    · obtain ⟨h2, hfc2, ha, hu⟩ := validateDefault_alloc (A := A) (b := c.alloc) t v0 c1 hval
      refine ⟨h1.trans h2, hfc2.trans hfc, fun u hu' => ?_⟩
      simp only [] at hu' ⊢
      rcases hu u (warn_ok hu') with rfl | e
      · rw [ha]; exact (hv u rfl).imp_right Or.inr
      · exact Or.inl e
  · -- disallowed
    rename_i h4 h5
    refine ⟨.refl c, ?_, nofun⟩
    rw [if_neg (fun h => h.elim h4 h5), List.append_nil]

end walk

theorem defaultValueFor_frame (E : Env) (t : TraitCore) (obj : Id) (name : Name) (c : Ctx) :
    CFrame c (defaultValueFor E t obj name c).2 ∧
    ∃ l, (defaultValueFor E t obj name c).2.fcalls = c.fcalls ++ l ∧ l.length ≤ 1 ∧
      ∀ f ∈ l, f.2 = (obj, name) := by
  obtain ⟨h, hf, -⟩ := defaultValueFor_alloc (A := fun _ => True) (E := E) t obj name c (fun _ => trivial)
    (fun _ _ _ => trivial) (fun _ _ r _ => r.all_true) (fun _ _ _ _ _ _ => Or.inr trivial)
  refine ⟨h.frame, _, hf, ?_⟩
  split <;> simp

/-! ### One statement on one (object, attribute) pair -/

/-- What `step` can change, whatever the environment. -/
structure SFrame (s s' : OSt) : Prop where
  self : s'.self = s.self
  name : s'.name = s.name
  cn : s'.cn = s.cn
  le : s.ctx.alloc ≤ s'.ctx.alloc
  heap : ∀ x, x < s.ctx.alloc → heapGet s'.ctx.heap x = heapGet s.ctx.heap x
  log : ∃ l, s'.ctx.log = s.ctx.log ++ l ∧ ∀ c ∈ l, c.obj = s.self
  fcalls : ∃ l, s'.ctx.fcalls = s.ctx.fcalls ++ l ∧ ∀ f ∈ l, f.2 = (s.self, s.name)

theorem SFrame.ofCtx (s s' : OSt) (h1 : s'.self = s.self) (h2 : s'.name = s.name) (h3 : s'.cn = s.cn)
    (h4 : s'.ctx = s.ctx) : SFrame s s' :=
  ⟨h1, h2, h3, by rw [h4]; exact Nat.le_refl _, fun _ _ => by rw [h4], ⟨[], by simp [h4], by simp⟩,
   [], by simp [h4], by simp⟩

theorem SFrame.refl (s : OSt) : SFrame s s := SFrame.ofCtx s s rfl rfl rfl rfl

theorem SFrame.trans {a b c : OSt} (h1 : SFrame a b) (h2 : SFrame b c) : SFrame a c := by
  obtain ⟨l1, e1, m1⟩ := h1.log
  obtain ⟨l2, e2, m2⟩ := h2.log
  obtain ⟨k1, f1, n1⟩ := h1.fcalls
  obtain ⟨k2, f2, n2⟩ := h2.fcalls
  refine ⟨h2.self.trans h1.self, h2.name.trans h1.name, h2.cn.trans h1.cn, Nat.le_trans h1.le h2.le,
    fun x hx => (h2.heap x (Nat.lt_of_lt_of_le hx h1.le)).trans (h1.heap x hx),
    ⟨l1 ++ l2, by rw [e2, e1, List.append_assoc], ?_⟩, k1 ++ k2, by rw [f2, f1, List.append_assoc], ?_⟩
  · intro c hc
    rcases List.mem_append.mp hc with h | h
    · exact m1 c h
    · rw [m2 c h, h1.self]
  · intro f hf
    rcases List.mem_append.mp hf with h | h
    · exact n1 f h
    · rw [n2 f h, h1.self, h1.name]

theorem defaultValueFor_sframe (E : Env) (t : TraitCore) (s : OSt) : SFrame s (s.defaultValueFor E t).2 := by
  unfold OSt.defaultValueFor
  obtain ⟨hc, l, hl, -, hm⟩ := defaultValueFor_frame E t s.self s.name s.ctx
  exact ⟨rfl, rfl, rfl, hc.le, hc.heap, ⟨[], by simp [hc.log], by simp⟩, l, hl, hm⟩

theorem Book.toS {s s' : OSt} (h : Book s s') : SFrame s s' :=
  ⟨h.self, h.name, h.cn, Nat.le_of_eq h.alloc.symm, fun _ _ => by rw [h.heap], h.log,
   [], by simp [h.fcalls], by simp⟩

theorem materialise_sframe (E : Env) (t : TraitCore) (s : OSt) : SFrame s (s.materialise E t).2 := by
  rw [materialise_snd]
  have h1 := defaultValueFor_sframe E t s
  rcases hd : s.defaultValueFor E t with ⟨e | v, s1⟩ <;> rw [hd] at h1
  · exact h1
  · exact (h1.trans (SFrame.ofCtx _ { s1 with slot := some v } rfl rfl rfl rfl)).trans
      (postSetattr_book E t v _).toS

theorem Eff.sframe {E : Env} {t : TraitCore} {W : Option Id → Prop} {s s' : OSt} (h : Eff E t W s s') :
    SFrame s s' := by
  induction h with
  | refl s => exact SFrame.refl s
  | trans _ _ h1 h2 => exact h1.trans h2
  | book h => exact h.toS
  | write s x _ => exact SFrame.ofCtx _ _ rfl rfl rfl rfl
  | mat _ => exact materialise_sframe E t _

theorem step_sframe (E : Env) (t : TraitCore) (s : OSt) (op : Op) : SFrame s (step E t s op).2 :=
  (step_eff E t s op).sframe

/-- Materialising the default calls no change handler. -/
theorem materialise_log (E : Env) (t : TraitCore) (s : OSt) : (s.materialise E t).2.ctx.log = s.ctx.log := by
  rw [materialise_snd]
  have h1 : (s.defaultValueFor E t).2.ctx.log = s.ctx.log := (defaultValueFor_frame E t s.self s.name s.ctx).1.log
  have h3 : ∀ v u, (postSetattr E t v u).2.ctx.log = u.ctx.log := by
    intro v u
    unfold postSetattr
    cases t.post with
    | none => rfl
    | some p => simp only []; split <;> rfl
  rcases hd : s.defaultValueFor E t with ⟨e | v, s1⟩ <;> rw [hd] at h1
  · exact h1
  · exact (h3 v _).trans h1

end TraitsVerif.Model.Attr
