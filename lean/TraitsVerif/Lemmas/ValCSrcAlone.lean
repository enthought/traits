/-
The stand-alone validators of ctraits.c: for every `validate_trait_*` function the C table
`validate_handlers[]` names, the interpretation of its translated source text is the arm of
`fastAlone` for that descriptor kind (modulo `norm`: a TraitError raised by something the
validator calls is not distinguishable from the validator's own).  `validate_trait_complex`
is in Lemmas/ValCSrcComplex.lean; `validate_trait_tuple` is proved here from the equation
`TupleCheckSpec` for its helper, which Lemmas/ValCSrcTuple.lean establishes.
-/
import TraitsVerif.Lemmas.ValCSrc
namespace TraitsVerif.Model.CSrc
open TraitsVerif TraitsVerif.Py.Value TraitsVerif.Model.Val TraitsVerif.Generated.CValidators

variable (E : Env) (inner : Desc → Val → Res) (cdflt : Val) (fuel : Nat)

macro "src_start" f:ident l:term : tactic => `(tactic|
  (have hl : table.lookup $l = some $f := by rfl
   simp only [srcFn, hl, $f:ident, C1]))

@[simp] theorem toRes_ite (c : Prop) [Decidable c] (a b : Option (CV × Err)) :
    toRes (if c then a else b) = if c then toRes a else toRes b := apply_ite ..
@[simp] theorem toRes_ok (w : Val) : toRes (some (.obj w, none)) = some (.ok w) := rfl
@[simp] theorem toRes_te : toRes (some (.null, some .traitError)) = some .traitError := rfl
@[simp] theorem norm_ok (w : Val) : norm (.ok w) = .ok w := rfl
@[simp] theorem norm_te : norm .traitError = .traitError := rfl
@[simp] theorem norm_raised_te : norm (.raised .traitError) = .traitError := rfl
@[simp] theorem toRes_exc (e : Exc) : toRes (some (.null, some e)) = some (norm (.raised e)) := by
  cases e <;> rfl
@[simp] theorem norm_ite (c : Prop) [Decidable c] (a b : Res) :
    norm (if c then a else b) = if c then norm a else norm b := apply_ite ..

/-- To show what the C function `name` returns, run its entry `f` of the function table on
`(trait, obj, name, value)`; by default the entry is found by evaluating the lookup. -/
theorem srcFn_of {name : String} (f : Fn) {d : Desc} {v : Val} {r : Option Res}
    (h : toRes (runFn (C1 E inner cdflt fuel) fuel f [.trait d, .hobj, .name, .obj v] none) = r)
    (hl : table.lookup name = some f := by simp [table, List.lookup]) :
    srcFn E inner cdflt fuel name d v = r := by
  simp only [srcFn, hl, h]

/-- `adapt` returns an adapter or None: an adapter is not None. -/
def AdaptSome (E : Env) : Prop := ∀ v cls r, E.adapt v cls = .ok (some r) → r ≠ Val.none


/-! ## The coerce check

Its two loops (here and in `case 11` of `validate_trait_complex`) compute `coerceScan` / `coerceAny`: loop
lemmas stated on what the loop's condition, increment and body do to the state. -/

/-- An entry of a coerce descriptor after the main type. -/
def fTy : Option Ty → CV
  | none => .obj Val.none
  | some t => .ty t

/-- The second loop tests the `None` separator like a type: not a type object, no match. -/
@[simp] theorem prim_TypeCheck_obj {R : Type} (C : Ctx) (err : Err) (k : CV → Err → R) (v w : Val) :
    prim C .PyObject_TypeCheck [.obj v, .obj w] err k = k .undef err := rfl
@[simp] theorem truthy_undef : CV.undef.truthy = false := rfl

section loops
variable {R : Type} (cond incr : St → (CV → St → R) → R) (body : St → (Out → St → R) → R) (k : Out → St → R)
  (S : Nat → CV → St) (l : List (Option Ty)) (v : Val) (acc : Out) (hacc : acc ≠ .norm ∧ acc ≠ .brk)
  (hc : ∀ p t k', cond (S p t) k' = k' (ofBool (decide (p < l.length))) (S p t))
  (hi : ∀ p t (rec : St → R), incr (S p t) (fun _ s => rec s) = rec (S (p + 1) t))
  (Q : R → Prop)

/- Both loops run over the positions `p` of the entries `l` after the main type; `S p t` is the state
with the counter at `p` and the entry last read in `t`.  From position `p` on they compute `coerceScan` /
`coerceAny` of `l.drop p`. -/

include hacc hc hi in
/-- The first loop: the body reads entry `p`, stops at a `None`, accepts (`acc`) when the value is an
instance of the type read.  If nothing matched it ends at a position `p'` with `(coerceScan …).2` the
entries from `p' + 1` on, whether it stopped at the `None` or ran to the end. -/
theorem iter_coerce_scan
    (hb : ∀ p t k' (x : Option Ty), l[p]? = some x → body (S p t) k' =
      match x with
      | none => k' .brk (S p (fTy x))
      | some t' => if Val.isInst t' v then k' acc (S p (fTy x)) else k' .norm (S p (fTy x)))
    (m p : Nat) (t : CV) (hm : l.length - p < m)
    (hQ : ∀ p' t', ((coerceScan v (l.drop p)).1 = false → (coerceScan v (l.drop p)).2 = l.drop (p' + 1)) →
      Q (if (coerceScan v (l.drop p)).1 then k acc (S p' t') else k .norm (S p' t'))) :
    Q (iter cond incr body k m (S p t)) := by
  refine iter_ind cond incr body k S l.length hc hi
    (fun p _ r => (∀ p' t', ((coerceScan v (l.drop p)).1 = false → (coerceScan v (l.drop p)).2 = l.drop (p' + 1)) →
      Q (if (coerceScan v (l.drop p)).1 then k acc (S p' t') else k .norm (S p' t'))) → Q r)
    (fun p t hp hQ => ?_) (fun p t rec hp ih hQ => ?_) m p t hm hQ
  · have hQ := hQ p t
    rw [List.drop_eq_nil_of_le hp] at hQ
    simpa [coerceScan] using hQ fun _ => (List.drop_eq_nil_of_le (Nat.le_succ_of_le hp)).symm
  · rw [List.drop_eq_getElem_cons hp] at hQ
    rw [hb p t _ _ (List.getElem?_eq_getElem hp)]
    cases hx : l[p] with
    | none => simpa [hx, coerceScan] using hQ p (fTy none)
    | some t0 =>
      rw [hx] at hQ
      by_cases hinst : Val.isInst t0 v = true
      · simpa [hinst, bodyK_other _ _ _ hacc, coerceScan] using hQ p (fTy (some t0))
      · simp only [hinst, Bool.false_eq_true, if_false]
        exact ih _ fun p' t' h => by simpa [coerceScan, hinst] using hQ p' t' (by simpa [coerceScan, hinst] using h)

include hacc hc hi in
/-- The second loop: the value is an instance of one of the remaining types (`coerceAny`). -/
theorem iter_coerce_any (accS : St → St)
    (hb : ∀ p t k' (x : Option Ty), l[p]? = some x → body (S p t) k' =
      match x with
      | none => k' .norm (S p (fTy x))
      | some t' => if Val.isInst t' v then k' acc (accS (S p (fTy x))) else k' .norm (S p (fTy x)))
    (m p : Nat) (t : CV) (hm : l.length - p < m)
    (hQ : ∀ p' t', Q (if coerceAny v (l.drop p) then k acc (accS (S p' t')) else k .norm (S p' t'))) :
    Q (iter cond incr body k m (S p t)) := by
  refine iter_ind cond incr body k S l.length hc hi
    (fun p _ r => (∀ p' t', Q (if coerceAny v (l.drop p) then k acc (accS (S p' t')) else k .norm (S p' t'))) → Q r)
    (fun p t hp hQ => ?_) (fun p t rec hp ih hQ => ?_) m p t hm hQ
  · simpa [List.drop_eq_nil_of_le hp, coerceAny] using hQ p t
  · rw [List.drop_eq_getElem_cons hp] at hQ
    rw [hb p t _ _ (List.getElem?_eq_getElem hp)]
    cases hx : l[p] with
    | none => exact ih _ (by simpa [hx, coerceAny] using hQ)
    | some t0 =>
      rw [hx] at hQ
      by_cases hinst : Val.isInst t0 v = true
      · simpa [hinst, bodyK_other _ _ _ hacc, coerceAny] using hQ p (fTy (some t0))
      · simp only [hinst, Bool.false_eq_true, if_false]
        exact ih _ fun p' t' => by simpa [coerceAny, hinst] using hQ p' t'

end loops

theorem layout_coerce_item (ty : Ty) (rest : List (Option Ty)) (p : Nat) (x : Option Ty) (h : rest[p]? = some x) :
    (layout (.coerce ty rest)).getD (p + 2) .undef = fTy x := by
  simp only [layout, List.getD_cons_succ]
  simp [List.getD_eq_getElem?_getD, h, fTy]
  cases x <;> rfl

theorem src_coerce (ty : Ty) (rest : List (Option Ty)) (v : Val) (hf : rest.length < fuel) :
    srcFn E inner cdflt fuel "validate_trait_coerce_type" (.coerce ty rest) v =
      some (norm (fastAlone E (.coerce ty rest) v)) := by
  apply srcFn_of E inner cdflt fuel fn_validate_trait_coerce_type
  simp only [runFn_eq, fastAlone]
  show toRes (exec _ _ (.seq _ (.seq _ (.seq _ (.seq _ (Stmt.drop 4 fn_validate_trait_coerce_type.body)))))
    ⟨[_, _, _, _, _, _, _, _, _], _⟩ _) = _
  by_cases h0 : Val.isInst ty v = true
  · csrc_eval [layout, h0]
  csrc_eval [layout, h0]
  show toRes (exec _ _ (.seq (.forLoop _ _ _ _) (Stmt.drop 5 fn_validate_trait_coerce_type.body)) _ _) = _
  csrc_eval []
  have hlt : ∀ p : Nat, ((p : Int) + 2 < ↑rest.length + 1 + 1) ↔ p < rest.length := fun p => by omega
  have hto : ∀ p : Nat, ((p : Int) + 2).toNat = p + 2 := fun p => by omega
  refine iter_coerce_scan _ _ _ _
    (fun p t => ⟨[.trait (.coerce ty rest), .hobj, .name, .obj v, .int (p + 2), .int (↑rest.length + 1 + 1), t,
      .info (.coerce ty rest), .ty ty], none⟩) rest v (.ret (.obj v)) (by simp)
    (fun p t k' => ?hc) (fun p t rec => ?hi) (fun r => toRes r = _)
    (fun p t k' x hx => ?hb) fuel 0 .undef (by omega) fun p' t' hend => ?hQ
  case hc => simp [hlt]
  case hi => simp [Int.add_right_comm]
  case hb =>
    cases x <;> csrc_eval [hto, layout_coerce_item ty rest p _ hx, fTy]
  case hQ =>
    rw [List.drop_zero] at hend ⊢
    rcases hcs : coerceScan v rest with ⟨_ | _, after⟩ <;> rw [hcs] at hend <;> csrc_eval []
    show toRes (exec _ _ (.seq (.forLoop _ _ _ _) _) _ _) = _
    csrc_eval []
    refine iter_coerce_any _ _ _ _
      (fun p t => ⟨[.trait (.coerce ty rest), .hobj, .name, .obj v, .int (p + 2), .int (↑rest.length + 1 + 1), t,
        .info (.coerce ty rest), .ty ty], none⟩) rest v
      (.ret (exceptToC (E.cast ty v)).1) (by simp)
      (fun p t k' => by simp [hlt]) (fun p t rec => by simp [Int.add_right_comm]) (fun r => toRes r = _)
      (fun s => { s with err := (exceptToC (E.cast ty v)).2 }) (fun p t k' x hx => ?hb)
      fuel (p' + 1) t' (by omega) fun p2 t2 => ?hQ
    case hb =>
      cases x <;> csrc_eval [C1, hto, layout_coerce_item ty rest p _ hx, fTy, helpers_type_converter]
    case hQ =>
      rw [← hend rfl]
      by_cases hany : coerceAny v after = true
      · cases E.cast ty v <;> simp [hany, exceptToC]
      · simp [hany]


/-! ## The tuple check -/

/-- What `validate_trait_tuple_check` hands back: the validated tuple, NULL without an
exception (no match), NULL with an exception. -/
def tupToC : TupRes → CV × Err
  | .ok w => (.obj w, none)
  | .fail => (.null, none)
  | .exc e => (.null, some e)

/-- Hypothesis of the tuple theorems: the helper `validate_trait_tuple_check` (whose loop
builds the result tuple in place), interpreted on its translated source text like the
others, computes the model's `tupleCheck`.  `tupleCheckSpec_holds` (Lemmas/ValCSrcTuple.lean)
proves it when the item validators are the stand-alone ones, none of them reports
`.raised .traitError`, and the loop bound exceeds the number of items. -/
def TupleCheckSpec (E : Env) (inner : Desc → Val → Res) (cdflt : Val) (fuel : Nat)
    (items : List (Option Desc)) : Prop :=
  ∀ v, helpers E inner cdflt fuel "validate_trait_tuple_check" [.traits items, .hobj, .name, .obj v] none =
    tupToC (tupleCheck E items v)

theorem src_tuple (items : List (Option Desc)) (hT : TupleCheckSpec E inner cdflt fuel items) (v : Val) :
    srcFn E inner cdflt fuel "validate_trait_tuple" (.tuple items) v = some (norm (fastAlone E (.tuple items) v)) := by
  apply srcFn_of E inner cdflt fuel fn_validate_trait_tuple
  csrc_eval [fn_validate_trait_tuple, C1, layout, hT v, fastAlone, tupleCheck]
  cases tupleCheckWith items.length (tupleItems E items) v <;> simp [tupToC]


/-! ## The functions without a loop -/

/-- What the C code reads off the info tuple of a type or instance check: its size, which tells
whether the `None` slot is there, and its last item, the type.  With these a function runs once for both
values of the flag. -/
theorem info_noneSlot (an : Bool) (ty : Ty) :
    getSize (.info (.typeChk an ty)) = .int (if an then 3 else 2) ∧
    getItem (.info (.typeChk an ty)) ((if an then 3 else 2) - 1) = .ty ty ∧
    getSize (.info (.instChk an ty)) = .int (if an then 3 else 2) ∧
    getItem (.info (.instChk an ty)) ((if an then 3 else 2) - 1) = .ty ty := by
  cases an <;> exact ⟨rfl, rfl, rfl, rfl⟩

/-- Descriptor kinds whose C function has no loop. -/
def straight : Desc → Bool
  | .complex _ | .tuple _ | .coerce _ _ | .slow _ => false
  | _ => true

/-- One case per function: the function runs to a decision tree on the tests it makes, which is
then compared with the arm of `fastAlone`, leaf by leaf. -/
theorem srcAlone_straight (hA : AdaptSome E) (d : Desc) (v : Val) (hd : straight d = true) :
    srcAlone E inner cdflt fuel d v = some (norm (fastAlone E d v)) := by
  cases d <;> simp [straight] at hd <;> simp only [srcAlone, Desc.kind]
  all_goals show srcFn _ _ _ _ _ _ _ = _
  case typeChk an ty =>
    apply srcFn_of E inner cdflt fuel fn_validate_trait_type
    csrc_eval [fn_validate_trait_type, C1, ↓info_noneSlot, fastAlone, isNone_iff]
    cases an <;> cases v.isNone <;> cases Val.isInst ty v <;> simp
  case instChk an ty =>
    apply srcFn_of E inner cdflt fuel fn_validate_trait_instance
    csrc_eval [fn_validate_trait_instance, C1, ↓info_noneSlot, fastAlone, isNone_iff]
    cases an <;> cases v.isNone <;> cases Val.isInst ty v <;> simp
  case selfType an =>
    apply srcFn_of E inner cdflt fuel fn_validate_trait_self_type
    cases an <;> csrc_eval [fn_validate_trait_self_type, C1, layout, fastAlone, isNone_iff] <;> cases v.isNone <;>
      cases Val.isInst (.user E.selfCls) v <;> simp
  case int =>
    apply srcFn_of E inner cdflt fuel fn_validate_trait_integer
    csrc_eval [fn_validate_trait_integer, C1, helpers_as_integer, fastAlone]
    cases asInteger v with
    | ok w => simp [exceptToC]
    | error e => by_cases he : e = .typeError <;> simp [exceptToC, *]
  case float =>
    apply srcFn_of E inner cdflt fuel fn_validate_trait_float
    csrc_eval [fn_validate_trait_float, C1, helpers_validate_float, fastAlone]
    cases validateFloat v with
    | ok w => simp [exceptToC]
    | error e => by_cases he : e = .typeError <;> simp [exceptToC, *]
  case complexNumber =>
    apply srcFn_of E inner cdflt fuel fn_validate_trait_complex_number
    csrc_eval [fn_validate_trait_complex_number, C1, helpers_validate_complex_number, fastAlone]
    cases validateComplexNumber v with
    | ok w => simp [exceptToC]
    | error e => by_cases he : e = .typeError <;> simp [exceptToC, *]
  case floatRange lo hi mask =>
    apply srcFn_of E inner cdflt fuel fn_validate_trait_float_range
    csrc_eval [fn_validate_trait_float_range, C1, layout, helpers_validate_float, fastAlone]
    cases validateFloat v with
    | ok w =>
      simp [exceptToC, helpers_in_float_range]
      cases inFloatRange (floatOf w) lo hi mask <;> simp
    | error e => by_cases he : e = .typeError <;> simp [exceptToC, *]
  case enum vals =>
    apply srcFn_of E inner cdflt fuel fn_validate_trait_enum
    csrc_eval [fn_validate_trait_enum, C1, layout, fastAlone]
    cases seqContains vals v <;> simp
  case map keys =>
    apply srcFn_of E inner cdflt fuel fn_validate_trait_map
    csrc_eval [fn_validate_trait_map, C1, layout, fastAlone]
    cases h : dictFind keys v with
    | ok o => cases o <;> simp
    | error e => simp
  case cast ty =>
    apply srcFn_of E inner cdflt fuel fn_validate_trait_cast_type
    csrc_eval [fn_validate_trait_cast_type, C1, layout, fastAlone, helpers_type_converter]
    cases Val.exactTy ty v <;> simp
    cases E.cast ty v <;> simp [exceptToC]
  case function f =>
    apply srcFn_of E inner cdflt fuel fn_validate_trait_function
    csrc_eval [fn_validate_trait_function, C1, layout, fastAlone, helpers_call_validator]
    cases E.fn f v <;> simp [exceptToC]
  case python h =>
    apply srcFn_of E inner cdflt fuel fn_validate_trait_python
    csrc_eval [fn_validate_trait_python, C1, fastAlone]
    cases h v <;> simp
  case callable an =>
    apply srcFn_of E inner cdflt fuel fn_validate_trait_callable
    csrc_eval [fn_validate_trait_callable, C1, fastAlone, helpers_callable]
    cases validateCallable an v <;> simp
  case adapt cls mode an dflt =>
    apply srcFn_of E inner cdflt fuel fn_validate_trait_adapt
    have hm : (mode : Int) ≠ -1 := by omega
    have h0i : ((mode : Int) = 0) ↔ mode = 0 := by omega
    have h1 : ((mode : Int) = 1) ↔ mode = 1 := by omega
    csrc_eval [fn_validate_trait_adapt, C1, layout, hm, h0i, h1, fastAlone, isNone_iff]
    cases v.isNone
    · simp only [Bool.false_eq_true, ↓reduceIte]
      by_cases h0 : mode = 0
      · simp only [h0, ↓reduceIte]
        cases Val.isInst cls v <;> rfl
      · simp only [h0, ↓reduceIte]
        cases ha : E.adapt v cls with
        | error e => simp
        | ok o =>
          cases o with
          | some r =>
            have hrn : r.isNone = false := Bool.eq_false_iff.2 fun h => hA v cls r ha ((isNone_iff r).2 h)
            simp [hrn]
          | none => cases Val.isInst cls v <;> by_cases h1' : mode = 1 <;> simp [h1']
    · simp only [↓reduceIte]
      cases an <;> rfl

end TraitsVerif.Model.CSrc
