/-
Cluster `obs`: what `add_or_remove_notifiers` does to the counts of registrations.

A walk is a sequence of `add_to` / `remove_from` calls on items of its from-scratch list
`hookList`, ended by the first exception: `walk_covers` says so once, for registration and
removal, with or without failing `iter_*` calls.  Everything else is read off from it and
from what a run of such calls does (`applyOwn_*`):

`walk_did`              whatever a walk has done, complete or interrupted, is in its undo log
                        (hence `finish` rolls an interrupted call back exactly);
L1 `addRemove_add`      a registration that does not raise adds exactly `hookList`
                        (and succeeds iff `walkOk`);
L2 `addRemove_remove`   when everything the walk owes is held, removal does not raise and
                        takes exactly that away;
`addRemove_rm_nokey`    with nothing of the handler held, removal leaves the hooks untouched
                        and raises NotifierNotFound (unless it owes nothing);
`addRemove_touch`       a predicate on hooks that `add_to` / `remove_from` of such items keep
                        is kept by every call, raising or not;
`forall_mem_hookList`   what holds of the notifiers each node leaves on its observables holds of
                        every item of the from-scratch list.
-/
import TraitsVerif.Lemmas.ObsBasic

namespace TraitsVerif.Model.ObsL
open TraitsVerif TraitsVerif.Model.Obs

/-- `for a in as: F a`, threading hooks and undo log; the first exception ends the loop -/
def foldT {α} (F : α → Hooks → List Item → Tr) : List α → Hooks → List Item → Tr
  | [], H, log => (H, log, none)
  | a :: as, H, log =>
    let r := F a H log
    match r.2.2 with
    | some _ => r
    | none => foldT F as r.1 r.2.1

end TraitsVerif.Model.ObsL

namespace TraitsVerif.Model.Obs
open TraitsVerif TraitsVerif.Model.ObsL

/-! ### hooks-level counting -/

def WF (H : Hooks) : Prop := ∀ o, WFList (H.get o)

theorem WF_empty : WF Hooks.empty := by
  intro o k rc hm
  simp [Hooks.empty] at hm

def wt (it : Item) (o : Observable) (q : NKey) : Nat := if it.1 = o then hit it.2 q else 0

theorem cntItems_nil (o : Observable) (q : NKey) : cntItems [] o q = 0 := rfl

theorem cntItems_cons (it : Item) (l : List Item) (o : Observable) (q : NKey) :
    cntItems (it :: l) o q = wt it o q + cntItems l o q := by
  unfold cntItems wt hit
  rw [List.countP_cons]
  by_cases h1 : it.1 = o
  · by_cases h2 : it.2.equals q = true
    · simp [h1, h2]; omega
    · simp [h1, h2]
  · simp [h1]

theorem cntItems_append (a b : List Item) (o : Observable) (q : NKey) :
    cntItems (a ++ b) o q = cntItems a o q + cntItems b o q := by
  simp [cntItems, List.countP_append]

theorem cntItems_reverse (a : List Item) (o : Observable) (q : NKey) :
    cntItems a.reverse o q = cntItems a o q := by
  simp [cntItems, List.countP_reverse]

theorem cntItems_flatMap {α} (l : List α) (f : α → List Item) (o : Observable) (q : NKey) :
    cntItems (l.flatMap f) o q = (l.map (fun a => cntItems (f a) o q)).sum := by
  induction l with
  | nil => rfl
  | cons a l ih => simp [List.flatMap_cons, cntItems_append, ih]

theorem cntItems_perm {a b : List Item} (h : a.Perm b) (o : Observable) (q : NKey) : cntItems a o q = cntItems b o q :=
  h.countP_eq _

theorem wt_self (it : Item) : wt it it.1 it.2 = 1 := by simp [wt, hit_self]

theorem cnt_addItem (it : Item) (H : Hooks) (o : Observable) (q : NKey) :
    cnt (addItem it H) o q = cnt H o q + wt it o q := by
  unfold cnt addItem wt
  rw [Hooks.get_upd]
  by_cases h : o = it.1
  · subst h; simp [cntList_addKey]
  · have : ¬ it.1 = o := fun e => h e.symm
    simp [h, this]

theorem WF_addItem (it : Item) (H : Hooks) (hw : WF H) : WF (addItem it H) := by
  intro o
  unfold addItem
  rw [Hooks.get_upd]
  split
  · exact WFList_addKey _ _ (hw _)
  · exact hw o

theorem removeItem_ok_iff {it : Item} {H H' : Hooks} :
    removeItem it H = .ok H' ↔ ∃ l, removeKey it.2 (H.get it.1) = .ok l ∧ H' = H.upd it.1 l := by
  unfold removeItem
  cases removeKey it.2 (H.get it.1) with
  | error e => exact ⟨fun h => (by cases h), fun ⟨_, h, _⟩ => (by cases h)⟩
  | ok l => exact ⟨fun h => ⟨l, rfl, (by cases h; rfl)⟩, fun ⟨_, h, e⟩ => (by cases h; rw [e])⟩

theorem cnt_removeItem {it : Item} {H H' : Hooks} (h : removeItem it H = .ok H') (o : Observable) (q : NKey) :
    cnt H' o q + wt it o q = cnt H o q := by
  obtain ⟨l, hr, rfl⟩ := removeItem_ok_iff.1 h
  unfold cnt wt
  rw [Hooks.get_upd]
  by_cases e : o = it.1
  · subst e; simp; exact cntList_removeKey q it.2 _ _ hr
  · have : ¬ it.1 = o := fun e' => e e'.symm
    simp [e, this]

theorem WF_removeItem {it : Item} {H H' : Hooks} (hw : WF H) (h : removeItem it H = .ok H') : WF H' := by
  obtain ⟨l, hr, rfl⟩ := removeItem_ok_iff.1 h
  intro o
  rw [Hooks.get_upd]
  split
  · exact WFList_removeKey _ _ _ (hw _) hr
  · exact hw o

theorem removeItem_ok (it : Item) (H : Hooks) (hw : WF H) (hpos : 0 < cnt H it.1 it.2) :
    ∃ H', removeItem it H = .ok H' := by
  obtain ⟨l, hl⟩ := removeKey_ok it.2 (H.get it.1) (hw _) hpos
  exact ⟨_, removeItem_ok_iff.2 ⟨l, hl, rfl⟩⟩

theorem removeItem_none (it : Item) (H : Hooks) (hw : WF H) (h0 : cnt H it.1 it.2 = 0) :
    removeItem it H = .error .notifierNotFound := by
  simp [removeItem, removeKey_none it.2 (H.get it.1) (hw _) h0]

/-! ### sequencing: one step after the other, until the first exception -/

def Tr.andThen (r : Tr) (f : Hooks → List Item → Tr) : Tr :=
  match r.2.2 with
  | some _ => r
  | none => f r.1 r.2.1

theorem Tr.andThen_none {r : Tr} (f : Hooks → List Item → Tr) (h : r.2.2 = none) : Tr.andThen r f = f r.1 r.2.1 := by
  unfold Tr.andThen; rw [h]

theorem Tr.andThen_some {r : Tr} (f : Hooks → List Item → Tr) {e : Exc} (h : r.2.2 = some e) : Tr.andThen r f = r := by
  unfold Tr.andThen; rw [h]

theorem Tr.andThen_ret (r : Tr) : Tr.andThen r (fun H log => (H, log, none)) = r := by
  obtain ⟨H, log, _ | e⟩ := r
  · rfl
  · rfl

theorem Tr.andThen_assoc (r : Tr) (f g : Hooks → List Item → Tr) :
    Tr.andThen (Tr.andThen r f) g = Tr.andThen r fun H log => Tr.andThen (f H log) g := by
  obtain ⟨H, log, _ | e⟩ := r <;> rfl

theorem foldT_cons {α} (F : α → Hooks → List Item → Tr) (a : α) (as : List α) (H : Hooks) (log : List Item) :
    foldT F (a :: as) H log = Tr.andThen (F a H log) (foldT F as) := rfl

theorem foldT_append {α} (F : α → Hooks → List Item → Tr) (a b : List α) (H : Hooks) (log : List Item) :
    foldT F (a ++ b) H log = Tr.andThen (foldT F a H log) (foldT F b) := by
  induction a generalizing H log with
  | nil => rfl
  | cons x a ih =>
    rw [List.cons_append, foldT_cons, foldT_cons, Tr.andThen_assoc]
    exact congrArg _ (funext fun H => funext fun log => ih H log)

theorem foldW_eq_foldT (f : W → Hooks → List Item → Tr) (ys : List W) (H : Hooks) (log : List Item) :
    foldW f ys H log = foldT f ys H log := by
  induction ys generalizing H log with
  | nil => rfl
  | cons y ys ih =>
    rw [foldW, foldT_cons]
    cases hr : (f y H log).2.2 with
    | some e => rw [Tr.andThen_some _ hr]
    | none => rw [Tr.andThen_none _ hr]; exact ih _ _

theorem applyObserversW_eq_foldT (h : Heap) (k : HKey) (rm : Bool) (x : W) (gs : List Graph) (H : Hooks)
    (log : List Item) :
    applyObserversW h k rm x gs H log = foldT (fun g => walk h k rm true g x) gs H log := by
  induction gs generalizing H log with
  | nil => rfl
  | cons g gs ih =>
    rw [applyObserversW, foldT_cons]
    cases hr : (walk h k rm true g x H log).2.2 with
    | some e => rw [Tr.andThen_some _ hr]
    | none => rw [Tr.andThen_none _ hr]; exact ih _ _

/-- one `add_to` / `remove_from` followed by the `append` to the undo log -/
def step1 (rm : Bool) (it : Item) (H : Hooks) (log : List Item) : Tr :=
  if rm then
    match removeItem it H with
    | .error e => (H, log, some e)
    | .ok H' => (H', it :: log, none)
  else (addItem it H, it :: log, none)

theorem applyOwn_eq_foldT (rm : Bool) (its : List Item) (H : Hooks) (log : List Item) :
    applyOwn rm its H log = foldT (step1 rm) its H log := by
  induction its generalizing H log with
  | nil => rfl
  | cons it its ih =>
    cases rm with
    | true =>
      simp only [applyOwn, foldT, step1, if_true]
      cases removeItem it H with
      | error e => rfl
      | ok H' => simp only [ih]
    | false =>
      simp only [applyOwn, foldT, step1, Bool.false_eq_true, if_false, ih]

theorem applyOwn_append (rm : Bool) (a b : List Item) (H : Hooks) (log : List Item) :
    applyOwn rm (a ++ b) H log = Tr.andThen (applyOwn rm a H log) (applyOwn rm b) := by
  rw [applyOwn_eq_foldT, foldT_append, ← applyOwn_eq_foldT]
  exact congrArg _ (funext fun H => funext fun log => (applyOwn_eq_foldT rm b H log).symm)

/-! ### a run of `add_to` / `remove_from` calls -/

theorem applyOwn_add (its : List Item) (H : Hooks) (done : List Item) :
    ∃ H', applyOwn false its H done = (H', its.reverse ++ done, none) ∧
      (∀ o q, cnt H' o q = cnt H o q + cntItems its o q) ∧ (WF H → WF H') := by
  induction its generalizing H done with
  | nil => exact ⟨H, rfl, by simp [cntItems_nil], id⟩
  | cons it its ih =>
    obtain ⟨H', he, hc, hw⟩ := ih (addItem it H) (it :: done)
    refine ⟨H', ?_, ?_, ?_⟩
    · simp [applyOwn, he]
    · intro o q; rw [hc, cnt_addItem, cntItems_cons]; omega
    · exact fun h => hw (WF_addItem it H h)

theorem removeItem_of_le {it : Item} {its : List Item} {H : Hooks} (hw : WF H)
    (hle : ∀ o q, cntItems (it :: its) o q ≤ cnt H o q) :
    ∃ H1, removeItem it H = .ok H1 ∧ WF H1 ∧ (∀ o q, cnt H1 o q + wt it o q = cnt H o q) ∧
      ∀ o q, cntItems its o q ≤ cnt H1 o q := by
  have hpos : 0 < cnt H it.1 it.2 := by
    have := hle it.1 it.2
    rw [cntItems_cons, wt_self] at this
    omega
  obtain ⟨H1, h1⟩ := removeItem_ok it H hw hpos
  refine ⟨H1, h1, WF_removeItem hw h1, cnt_removeItem h1, fun o q => ?_⟩
  have := hle o q
  rw [cntItems_cons] at this
  have := cnt_removeItem h1 o q
  omega

theorem applyOwn_rm_ok (its : List Item) (H : Hooks) (done : List Item) (hw : WF H)
    (hle : ∀ o q, cntItems its o q ≤ cnt H o q) :
    ∃ H', applyOwn true its H done = (H', its.reverse ++ done, none) ∧
      (∀ o q, cnt H' o q + cntItems its o q = cnt H o q) ∧ WF H' := by
  induction its generalizing H done with
  | nil => exact ⟨H, rfl, by simp [cntItems_nil], hw⟩
  | cons it its ih =>
    obtain ⟨H1, h1, hw1, hc1, hle1⟩ := removeItem_of_le hw hle
    obtain ⟨H', he, hc, hw'⟩ := ih H1 (it :: done) hw1 hle1
    refine ⟨H', ?_, ?_, hw'⟩
    · simp [applyOwn, h1, he]
    · intro o q
      have := hc o q
      have := hc1 o q
      rw [cntItems_cons]; omega

def nnfUnless (b : Bool) : Option Exc := if b then none else some .notifierNotFound

theorem applyOwn_rm_none (its : List Item) (H : Hooks) (done : List Item) (hw : WF H)
    (h0 : ∀ it ∈ its, cnt H it.1 it.2 = 0) :
    applyOwn true its H done = (H, done, nnfUnless its.isEmpty) := by
  cases its with
  | nil => rfl
  | cons it its =>
    have := removeItem_none it H hw (h0 it (List.mem_cons_self ..))
    simp [applyOwn, this, nnfUnless]

/-- `undo_processed` is the run of the opposite calls over the log (as long as none of them fails: the
model's `undo` would go on where the run stops). -/
theorem undo_eq_applyOwn (rm : Bool) (log : List Item) (H : Hooks) (done : List Item)
    (h : (applyOwn (!rm) log H done).2.2 = none) : undo rm log H = (applyOwn (!rm) log H done).1 := by
  induction log generalizing H done with
  | nil => rfl
  | cons it log ih =>
    cases rm with
    | true => exact ih _ _ h
    | false =>
      simp only [undo, applyOwn, Bool.not_false, if_true, Bool.false_eq_true, if_false] at h ⊢
      revert h
      cases removeItem it H with
      | error e => nofun
      | ok H' => exact ih _ _

/-- `r` is reached from `(H, log)` by acting on the items `new` (all recorded, most
recent first): every count moved by exactly them. -/
def Did (rm : Bool) (H : Hooks) (log : List Item) (r : Tr) : Prop :=
  ∃ new, r.2.1 = new ++ log ∧
    (∀ o q, (rm = true → cnt r.1 o q + cntItems new o q = cnt H o q) ∧
            (rm = false → cnt r.1 o q = cnt H o q + cntItems new o q)) ∧ WF r.1

theorem Did.refl (rm : Bool) (H : Hooks) (log : List Item) (e : Option Exc) (hw : WF H) : Did rm H log (H, log, e) :=
  ⟨[], rfl, fun o q => ⟨fun _ => by simp [cntItems_nil], fun _ => by simp [cntItems_nil]⟩, hw⟩

theorem Did.trans {rm : Bool} {H : Hooks} {log : List Item} {r1 r2 : Tr} (h1 : Did rm H log r1)
    (h2 : Did rm r1.1 r1.2.1 r2) : Did rm H log r2 := by
  obtain ⟨n1, e1, c1, _⟩ := h1
  obtain ⟨n2, e2, c2, w2⟩ := h2
  refine ⟨n2 ++ n1, by rw [e2, e1, List.append_assoc], ?_, w2⟩
  intro o q
  have a := c1 o q
  have b := c2 o q
  refine ⟨fun hr => ?_, fun hr => ?_⟩
  · have := a.1 hr; have := b.1 hr; rw [cntItems_append]; omega
  · have := a.2 hr; have := b.2 hr; rw [cntItems_append]; omega

theorem applyOwn_did (rm : Bool) (its : List Item) (H : Hooks) (done : List Item) (hw : WF H) :
    Did rm H done (applyOwn rm its H done) := by
  induction its generalizing H done with
  | nil => exact Did.refl rm H done none hw
  | cons it its ih =>
    cases rm with
    | true =>
      simp only [applyOwn, if_true]
      cases hr : removeItem it H with
      | error e => exact Did.refl true H done (some e) hw
      | ok H' =>
        have hc := cnt_removeItem hr
        have step : Did true H done (H', it :: done, none) :=
          ⟨[it], rfl, fun o q => ⟨fun _ => (by have := hc o q; rw [cntItems_cons, cntItems_nil]; omega),
            fun h => (by cases h)⟩, WF_removeItem hw hr⟩
        exact Did.trans step (ih H' (it :: done) (WF_removeItem hw hr))
    | false =>
      simp only [applyOwn, Bool.false_eq_true, if_false]
      have step : Did false H done (addItem it H, it :: done, none) :=
        ⟨[it], rfl, fun o q => ⟨fun h => (by cases h),
          fun _ => (by rw [cnt_addItem, cntItems_cons, cntItems_nil]; omega)⟩, WF_addItem it H hw⟩
      exact Did.trans step (ih _ _ (WF_addItem it H hw))

/-! ### a walk is such a run, over items of its from-scratch list -/

/-- act on the items in order, then raise `fail` (if any) -/
def runItems (rm : Bool) (its : List Item) (fail : Option Exc) (H : Hooks) (log : List Item) : Tr :=
  Tr.andThen (applyOwn rm its H log) fun H' log' => (H', log', fail)

theorem runItems_then (rm : Bool) (a b : List Item) (fail : Option Exc) (H : Hooks) (log : List Item) :
    Tr.andThen (runItems rm a none H log) (runItems rm b fail) = runItems rm (a ++ b) fail H log := by
  unfold runItems
  rw [Tr.andThen_ret, applyOwn_append, Tr.andThen_assoc]

theorem runItems_raise (rm : Bool) (a : List Item) (e : Exc) (g : Hooks → List Item → Tr) (H : Hooks) (log : List Item) :
    Tr.andThen (runItems rm a (some e) H log) g = runItems rm a (some e) H log := by
  unfold runItems
  cases hr : (applyOwn rm a H log).2.2 with
  | some e' => rw [Tr.andThen_some _ hr, Tr.andThen_some _ hr]
  | none => rw [Tr.andThen_none _ hr]; rfl

/-- `f` acts, in some order, on items of `spec` — on all of them when `ok`, and then nothing else makes it
raise; when not `ok` it raises at the latest when it has acted on those it gets to. -/
def Covers (rm : Bool) (f : Hooks → List Item → Tr) (spec : List Item) (ok : Bool) : Prop :=
  ∃ its fail, (∀ H log, f H log = runItems rm its fail H log) ∧ (∀ it ∈ its, it ∈ spec) ∧
    (fail = none ↔ ok = true) ∧ (ok = true → its.Perm spec)

namespace Covers
variable {rm : Bool} {f g : Hooks → List Item → Tr} {spec spec' : List Item} {ok ok' : Bool}

theorem ret : Covers rm (fun H log => (H, log, none)) [] true :=
  ⟨[], none, fun _ _ => rfl, fun _ h => h, ⟨fun _ => rfl, fun _ => rfl⟩, fun _ => .nil⟩

theorem raise (e : Exc) (spec : List Item) : Covers rm (fun H log => (H, log, some e)) spec false :=
  ⟨[], some e, fun _ _ => rfl, nofun, ⟨nofun, nofun⟩, nofun⟩

theorem items (its : List Item) : Covers rm (applyOwn rm its) its true :=
  ⟨its, none, fun _ _ => (Tr.andThen_ret _).symm, fun _ h => h, ⟨fun _ => rfl, fun _ => rfl⟩, fun _ => .refl _⟩

theorem congr (hc : Covers rm f spec ok) (hf : ∀ H log, g H log = f H log) (hs : spec.Perm spec') (ho : ok' = ok) :
    Covers rm g spec' ok' := by
  obtain ⟨its, fail, h1, h2, h3, h4⟩ := hc
  subst ho
  exact ⟨its, fail, fun H log => (hf H log).trans (h1 H log), fun it h => hs.subset (h2 it h), h3, fun h => (h4 h).trans hs⟩

/-- an `iter_*` call, then acting on the items made from what it yields -/
theorem iter {α} (r : Except Exc α) (mk : α → List Item) (d : α) :
    Covers rm (fun H log => match r with
      | .error e => (H, log, some e)
      | .ok a => applyOwn rm (mk a) H log) (mk (okOr d r)) (isOk r) := by
  cases r with
  | error e => exact raise e _
  | ok a => exact items _

theorem andThen (hf : Covers rm f spec ok) (hg : Covers rm g spec' ok') :
    Covers rm (fun H log => Tr.andThen (f H log) g) (spec ++ spec') (ok && ok') := by
  obtain ⟨a, fa, h1, h2, h3, h4⟩ := hf
  obtain ⟨b, fb, g1, g2, g3, g4⟩ := hg
  have hg' : g = runItems rm b fb := funext fun H => funext fun log => g1 H log
  cases fa with
  | some e =>
    have hk : ok = false := by cases ok; rfl; exact absurd (h3.2 rfl) (by simp)
    subst hk
    exact ⟨a, some e, fun H log => (by dsimp only; rw [h1, runItems_raise]), fun it h => List.mem_append_left _ (h2 it h),
      ⟨nofun, nofun⟩, nofun⟩
  | none =>
    have hk : ok = true := h3.1 rfl
    subst hk
    refine ⟨a ++ b, fb, fun H log => (by dsimp only; rw [h1, hg', runItems_then]), fun it h => ?_, (by simpa using g3),
      fun h => (h4 rfl).append (g4 (by simpa using h))⟩
    rcases List.mem_append.1 h with h | h
    · exact List.mem_append_left _ (h2 it h)
    · exact List.mem_append_right _ (g2 it h)

/-- the same two the other way round (removal walks the steps backwards) -/
theorem andThen' (hg : Covers rm g spec' ok') (hf : Covers rm f spec ok) :
    Covers rm (fun H log => Tr.andThen (g H log) f) (spec ++ spec') (ok && ok') :=
  (hg.andThen hf).congr (fun _ _ => rfl) List.perm_append_comm (Bool.and_comm _ _)

theorem foldT {α} (F : α → Hooks → List Item → Tr) (sp : α → List Item) (okf : α → Bool) :
    ∀ as : List α, (∀ a ∈ as, Covers rm (F a) (sp a) (okf a)) → Covers rm (foldT F as) (as.flatMap sp) (as.all okf)
  | [], _ => ret
  | a :: as, h => (h a (List.mem_cons_self ..)).andThen (foldT F sp okf as fun b hb => h b (List.mem_cons_of_mem _ hb))

end Covers

/-! ### the items of one node -/

def userItems (k : HKey) (os : List Observable) : List Item := os.map (fun o => (o, NKey.user k))
def maintItems (ob : Observer) (cs : List Graph) (k : HKey) (os : List Observable) : List Item :=
  os.flatMap (fun o => cs.map (fun c => (o, NKey.maint ob.mkind c k)))
def extraItems (g : Graph) (k : HKey) (os : List Observable) : List Item :=
  os.map (fun o => (o, NKey.maint .added g k))

theorem hookList_node (h : Heap) (k : HKey) (extra : Bool) (ob : Observer) (cs : List Graph) (x : W) :
    hookList h k extra (.node ob cs) x =
      ownItems h k ob cs x ++ hookListCs h k ob x cs ++
      (if extra then extraItems (.node ob cs) k (okOr [] (extraObservables h ob x)) else []) := by
  simp [hookList, extraItems]

theorem hookListCs_cons (h : Heap) (k : HKey) (ob : Observer) (x : W) (c : Graph) (cs : List Graph) :
    hookListCs h k ob x (c :: cs) =
      (okOr [] (objects h ob x)).flatMap (fun y => hookList h k true c y) ++ hookListCs h k ob x cs := by
  simp [hookListCs]

theorem walk_add_eq (h : Heap) (k : HKey) (extra : Bool) (ob : Observer) (cs : List Graph) (x : W) (H : Hooks)
    (log : List Item) :
    walk h k false extra (.node ob cs) x H log =
      Tr.andThen (notifStep h k false ob x H log) fun H log =>
      Tr.andThen (maintStep h k false ob cs x H log) fun H log =>
      Tr.andThen (walkCs h k false ob x cs H log) fun H log =>
      if extra then extraStepW h k false (.node ob cs) x H log else (H, log, none) := by
  have last : ∀ r : Tr, (match r.2.2 with
      | some _ => r
      | none => if extra then extraStepW h k false (.node ob cs) x r.1 r.2.1 else r) =
      Tr.andThen r fun H log => if extra then extraStepW h k false (.node ob cs) x H log else (H, log, none) := by
    rintro ⟨H, log, _ | e⟩ <;> rfl
  rw [walk]
  simp only [← last]
  rfl

theorem walk_rm_eq (h : Heap) (k : HKey) (extra : Bool) (ob : Observer) (cs : List Graph) (x : W) (H : Hooks)
    (log : List Item) :
    walk h k true extra (.node ob cs) x H log =
      Tr.andThen (if extra then extraStepW h k true (.node ob cs) x H log else (H, log, none)) fun H log =>
      Tr.andThen (walkCs h k true ob x cs H log) fun H log =>
      Tr.andThen (maintStep h k true ob cs x H log) (notifStep h k true ob x) := by
  rw [walk]; rfl

theorem ownItems_eq (h : Heap) (k : HKey) (ob : Observer) (cs : List Graph) (x : W) :
    ownItems h k ob cs x = (if ob.notify then userItems k (okOr [] (observables h ob x)) else []) ++
      maintItems ob cs k (okOr [] (observables h ob x)) := rfl

theorem notifStep_covers (h : Heap) (k : HKey) (rm : Bool) (ob : Observer) (x : W) :
    Covers rm (notifStep h k rm ob x) (if ob.notify then userItems k (okOr [] (observables h ob x)) else [])
      (!ob.notify || isOk (observables h ob x)) := by
  cases hn : ob.notify
  · exact Covers.ret.congr (fun H log => by unfold notifStep; rw [hn]; rfl) (.refl _) rfl
  · exact (Covers.iter (observables h ob x) (userItems k) []).congr (fun H log => by unfold notifStep; rw [hn, if_pos rfl]; cases observables h ob x <;> rfl)
      (.refl _) rfl

theorem maintStep_covers (h : Heap) (k : HKey) (rm : Bool) (ob : Observer) (cs : List Graph) (x : W) :
    Covers rm (maintStep h k rm ob cs x) (maintItems ob cs k (okOr [] (observables h ob x))) (isOk (observables h ob x)) :=
  (Covers.iter (observables h ob x) (maintItems ob cs k) []).congr
    (fun _ _ => by unfold maintStep; cases observables h ob x <;> rfl) (.refl _) rfl

theorem extraStepW_covers (h : Heap) (k : HKey) (rm : Bool) (g : Graph) (x : W) :
    Covers rm (extraStepW h k rm g x) (extraItems g k (okOr [] (extraObservables h g.ob x)))
      (isOk (extraObservables h g.ob x)) :=
  (Covers.iter (extraObservables h g.ob x) (extraItems g k) []).congr
    (fun _ _ => by unfold extraStepW; cases extraObservables h g.ob x <;> rfl) (.refl _) rfl

theorem walkCs_covers (h : Heap) (k : HKey) (rm : Bool) (ob : Observer) (x : W) (cs : List Graph)
    (ih : ∀ c ∈ cs, ∀ y, Covers rm (walk h k rm true c y) (hookList h k true c y) (walkOk h true c y)) :
    Covers rm (walkCs h k rm ob x cs) (hookListCs h k ob x cs) (walkOkCs h ob x cs) := by
  induction cs with
  | nil => exact Covers.ret
  | cons c cs ihcs =>
    rw [hookListCs_cons, walkOkCs]
    cases ho : objects h ob x with
    | error e => exact (Covers.raise e _).congr (fun H log => by rw [walkCs, ho]) (.refl _) rfl
    | ok ys =>
      refine ((Covers.foldT _ _ _ ys fun y _ => ih c (List.mem_cons_self ..) y).andThen
        (ihcs fun c' hc' => ih c' (List.mem_cons_of_mem _ hc'))).congr (fun H log => ?_) (.refl _) rfl
      rw [walkCs, ho]; dsimp only; rw [foldW_eq_foldT]; rfl

/-- A walk acts on items of its from-scratch list — on all of them, each once, when no `iter_*` call fails, and
then only a failing `remove_from` can make it raise. -/
theorem walk_covers (h : Heap) (k : HKey) : ∀ (g : Graph) (rm extra : Bool) (x : W),
    Covers rm (walk h k rm extra g x) (hookList h k extra g x) (walkOk h extra g x) := by
  apply Graph.ind
  intro ob cs ih rm extra x
  have c1 := notifStep_covers h k rm ob x
  have c2 := maintStep_covers h k rm ob cs x
  have c3 := walkCs_covers h k rm ob x cs fun c hc y => ih c hc rm true y
  have c4 : Covers rm (fun H log => if extra then extraStepW h k rm (.node ob cs) x H log else (H, log, none))
      (if extra then extraItems (.node ob cs) k (okOr [] (extraObservables h ob x)) else [])
      (!extra || isOk (extraObservables h ob x)) := by
    cases extra
    · exact Covers.ret
    · exact extraStepW_covers h k rm (.node ob cs) x
  have hok : walkOk h extra (.node ob cs) x = ((!ob.notify || isOk (observables h ob x)) &&
      (isOk (observables h ob x) && (walkOkCs h ob x cs && (!extra || isOk (extraObservables h ob x))))) := by
    rw [walkOk]; cases ob.notify <;> cases isOk (observables h ob x) <;> rfl
  rw [hookList_node, ownItems_eq, hok]
  cases rm
  · exact (c1.andThen (c2.andThen (c3.andThen c4))).congr (walk_add_eq h k extra ob cs x)
      (by simp only [List.append_assoc]; exact .refl _) rfl
  · exact (c4.andThen' (c3.andThen' (c2.andThen' c1))).congr (walk_rm_eq h k extra ob cs x) (.refl _)
      (by simp only [Bool.and_assoc])

/-! ### what follows for anything that is such a run -/

section touch
variable (P : Hooks → Prop) (Q : Item → Prop)
  (hadd : ∀ it H, Q it → P H → P (addItem it H))
  (hrm : ∀ it H H', Q it → P H → removeItem it H = .ok H' → P H')
include hadd hrm

theorem applyOwn_touch (rm : Bool) (its : List Item) (H : Hooks) (done : List Item)
    (hi : ∀ it ∈ its, Q it) (hP : P H) (hd : ∀ it ∈ done, Q it) :
    P (applyOwn rm its H done).1 ∧ ∀ it ∈ (applyOwn rm its H done).2.1, Q it := by
  induction its generalizing H done with
  | nil => exact ⟨hP, hd⟩
  | cons it its ih =>
    have hit := hi it (List.mem_cons_self ..)
    have hrest : ∀ i ∈ its, Q i := fun i hi' => hi i (List.mem_cons_of_mem _ hi')
    have hd' : ∀ i ∈ it :: done, Q i := List.forall_mem_cons.2 ⟨hit, hd⟩
    cases rm with
    | true =>
      simp only [applyOwn, if_true]
      cases hr : removeItem it H with
      | error e => exact ⟨hP, hd⟩
      | ok H' => exact ih H' _ hrest (hrm it H H' hit hP hr) hd'
    | false =>
      simp only [applyOwn, Bool.false_eq_true, if_false]
      exact ih _ _ hrest (hadd it H hit hP) hd'

theorem undo_touch (rm : Bool) (done : List Item) (H : Hooks) (hP : P H) (hd : ∀ it ∈ done, Q it) :
    P (undo rm done H) := by
  induction done generalizing H with
  | nil => exact hP
  | cons it done ih =>
    have hit := hd it (List.mem_cons_self ..)
    simp only [undo]
    apply ih _ _ (fun i hi' => hd i (List.mem_cons_of_mem _ hi'))
    cases rm with
    | true => simp only [if_true]; exact hadd it H hit hP
    | false =>
      simp only [Bool.false_eq_true, if_false]
      cases hr : removeItem it H with
      | error e => exact hP
      | ok H' => exact hrm it H H' hit hP hr

end touch

namespace Covers
variable {rm : Bool} {f : Hooks → List Item → Tr} {spec : List Item} {ok : Bool}

theorem fst_eq (its : List Item) (fail : Option Exc) (H : Hooks) (log : List Item) :
    (runItems rm its fail H log).1 = (applyOwn rm its H log).1 ∧
    (runItems rm its fail H log).2.1 = (applyOwn rm its H log).2.1 := by
  unfold runItems
  cases hr : (applyOwn rm its H log).2.2 with
  | some e => rw [Tr.andThen_some _ hr]; exact ⟨rfl, rfl⟩
  | none => rw [Tr.andThen_none _ hr]; exact ⟨rfl, rfl⟩

theorem did (hc : Covers rm f spec ok) (H : Hooks) (log : List Item) (hw : WF H) : Did rm H log (f H log) := by
  obtain ⟨its, fail, h1, _⟩ := hc
  obtain ⟨new, e, c, w⟩ := applyOwn_did rm its H log hw
  obtain ⟨a, b⟩ := fst_eq (rm := rm) its fail H log
  rw [h1]
  exact ⟨new, b ▸ e, a ▸ c, a ▸ w⟩

theorem touch (hc : Covers rm f spec ok) (P : Hooks → Prop) (Q : Item → Prop)
    (hadd : ∀ it H, Q it → P H → P (addItem it H)) (hrm : ∀ it H H', Q it → P H → removeItem it H = .ok H' → P H')
    (H : Hooks) (log : List Item) (hQ : ∀ it ∈ spec, Q it) (hP : P H) (hl : ∀ it ∈ log, Q it) :
    P (f H log).1 ∧ ∀ it ∈ (f H log).2.1, Q it := by
  obtain ⟨its, fail, h1, h2, _⟩ := hc
  obtain ⟨a, b⟩ := fst_eq (rm := rm) its fail H log
  rw [h1, a, b]
  exact applyOwn_touch P Q hadd hrm rm its H log (fun it h => hQ it (h2 it h)) hP hl

/-- L1 for anything that is a run of additions -/
theorem add (hc : Covers false f spec ok) (H : Hooks) (log : List Item) :
    ((f H log).2.2 = none ↔ ok = true) ∧
    (ok = true → (∀ o q, cnt (f H log).1 o q = cnt H o q + cntItems spec o q) ∧ (WF H → WF (f H log).1)) := by
  obtain ⟨its, fail, h1, _, h3, h4⟩ := hc
  obtain ⟨H', he, hcnt, hwf⟩ := applyOwn_add its H log
  have : f H log = (H', its.reverse ++ log, fail) := by rw [h1, runItems, he]; rfl
  rw [this]
  exact ⟨h3, fun hk => ⟨fun o q => by rw [← cntItems_perm (h4 hk)]; exact hcnt o q, hwf⟩⟩

/-- L2 for anything that is a run of removals -/
theorem remove (hc : Covers true f spec true) (H : Hooks) (log : List Item) (hw : WF H)
    (hle : ∀ o q, cntItems spec o q ≤ cnt H o q) :
    (f H log).2.2 = none ∧ (∀ o q, cnt (f H log).1 o q + cntItems spec o q = cnt H o q) ∧ WF (f H log).1 := by
  obtain ⟨its, fail, h1, _, h3, h4⟩ := hc
  have hp := h4 rfl
  obtain ⟨H', he, hcnt, hwf⟩ := applyOwn_rm_ok its H log hw fun o q => by rw [cntItems_perm hp]; exact hle o q
  have : f H log = (H', its.reverse ++ log, none) := by rw [h1, runItems, he, h3.2 rfl]; rfl
  rw [this]
  exact ⟨rfl, fun o q => by rw [← cntItems_perm hp]; exact hcnt o q, hwf⟩

theorem nokey (hc : Covers true f spec true) (H : Hooks) (log : List Item) (hw : WF H)
    (h0 : ∀ it ∈ spec, cnt H it.1 it.2 = 0) : f H log = (H, log, nnfUnless spec.isEmpty) := by
  obtain ⟨its, fail, h1, h2, h3, h4⟩ := hc
  have he : its.isEmpty = spec.isEmpty :=
    match its, spec, (h4 rfl).length_eq with
    | [], [], _ => rfl
    | _ :: _, _ :: _, _ => rfl
  rw [h1, runItems, applyOwn_rm_none its H log hw fun it h => h0 it (h2 it h), h3.2 rfl, he]
  cases spec.isEmpty <;> rfl

end Covers

/-! ### the walk, the loop of `apply_observers`, and the owner of the undo log -/

theorem applyObserversW_covers (h : Heap) (k : HKey) (rm : Bool) (x : W) (gs : List Graph) :
    Covers rm (applyObserversW h k rm x gs) (gs.flatMap fun g => hookList h k true g x)
      (gs.all fun g => walkOk h true g x) :=
  (Covers.foldT _ _ _ gs fun g _ => walk_covers h k g rm true x).congr
    (applyObserversW_eq_foldT h k rm x gs) (.refl _) rfl

theorem walk_did (h : Heap) (k : HKey) (g : Graph) (rm extra : Bool) (x : W) (H : Hooks) (log : List Item)
    (hw : WF H) : Did rm H log (walk h k rm extra g x H log) :=
  (walk_covers h k g rm extra x).did H log hw

theorem applyObserversW_did (h : Heap) (k : HKey) (rm : Bool) (x : W) (gs : List Graph) (H : Hooks)
    (log : List Item) (hw : WF H) : Did rm H log (applyObserversW h k rm x gs H log) :=
  (applyObserversW_covers h k rm x gs).did H log hw

theorem finish_err (rm : Bool) (r : Tr) : (finish rm r).err = r.2.2 := by
  unfold finish; split <;> simp_all

theorem finish_ok (rm : Bool) (r : Tr) (h : r.2.2 = none) : (finish rm r).H = r.1 := by
  unfold finish; simp [h]

/-- The owner's roll-back restores every count: what was added is held, so it can be removed; what was
removed is added again. -/
theorem finish_atomic (rm : Bool) (H : Hooks) (r : Tr) (hd : Did rm H [] r) (he : r.2.2 ≠ none) :
    (∀ o q, cnt (finish rm r).H o q = cnt H o q) ∧ WF (finish rm r).H := by
  obtain ⟨new, hlog, hc, hw⟩ := hd
  rw [List.append_nil] at hlog
  unfold finish
  cases hr : r.2.2 with
  | none => exact absurd hr he
  | some e =>
    simp only [hlog]
    cases rm with
    | true =>
      obtain ⟨H', hrun, c, w⟩ := applyOwn_add new r.1 []
      have hu := undo_eq_applyOwn true new r.1 []
      rw [Bool.not_true, hrun] at hu
      rw [hu rfl]
      exact ⟨fun o q => by rw [c]; exact (hc o q).1 rfl, w hw⟩
    | false =>
      obtain ⟨H', hrun, c, w⟩ := applyOwn_rm_ok new r.1 [] hw fun o q => by rw [(hc o q).2 rfl]; omega
      have hu := undo_eq_applyOwn false new r.1 []
      rw [Bool.not_false, hrun] at hu
      rw [hu rfl]
      exact ⟨fun o q => by have := c o q; have := (hc o q).2 rfl; show cnt H' o q = _; omega, w⟩

/-- L1 for an outermost call. -/
theorem addRemove_add (h : Heap) (k : HKey) (g : Graph) (extra : Bool) (x : W) (H : Hooks)
    (hok : (addRemove h k false extra g x H).err = none) :
    walkOk h extra g x = true ∧
    (∀ o q, cnt (addRemove h k false extra g x H).H o q = cnt H o q + cntItems (hookList h k extra g x) o q) ∧
    (WF H → WF (addRemove h k false extra g x H).H) := by
  unfold addRemove at hok ⊢
  rw [finish_err] at hok
  rw [finish_ok _ _ hok]
  obtain ⟨a, b⟩ := (walk_covers h k g false extra x).add H []
  exact ⟨a.1 hok, b (a.1 hok)⟩

theorem addRemove_add_ok (h : Heap) (k : HKey) (g : Graph) (extra : Bool) (x : W) (H : Hooks)
    (hw : walkOk h extra g x = true) : (addRemove h k false extra g x H).err = none := by
  unfold addRemove
  rw [finish_err]
  exact ((walk_covers h k g false extra x).add H []).1.2 hw

/-- L2 for an outermost call. -/
theorem addRemove_remove (h : Heap) (k : HKey) (g : Graph) (extra : Bool) (x : W) (H : Hooks) (hw : WF H)
    (hok : walkOk h extra g x = true) (hle : ∀ o q, cntItems (hookList h k extra g x) o q ≤ cnt H o q) :
    (addRemove h k true extra g x H).err = none ∧
    (∀ o q, cnt (addRemove h k true extra g x H).H o q + cntItems (hookList h k extra g x) o q = cnt H o q) ∧
    WF (addRemove h k true extra g x H).H := by
  have hc := walk_covers h k g true extra x
  rw [hok] at hc
  obtain ⟨e, c, w⟩ := hc.remove H [] hw hle
  unfold addRemove
  rw [finish_err, finish_ok _ _ e]
  exact ⟨e, c, w⟩

/-! ### membership in the from-scratch list -/

theorem mem_hookListCs (h : Heap) (k : HKey) (ob : Observer) (x : W) (cs : List Graph) (it : Item) :
    it ∈ hookListCs h k ob x cs ↔ ∃ c ∈ cs, ∃ y ∈ okOr [] (objects h ob x), it ∈ hookList h k true c y := by
  induction cs with
  | nil => simp [hookListCs]
  | cons c cs ih =>
    rw [hookListCs_cons, List.mem_append, ih, List.mem_flatMap]
    constructor
    · rintro (⟨y, hy, hm⟩ | ⟨c', hc', y, hy, hm⟩)
      · exact ⟨c, List.mem_cons_self .., y, hy, hm⟩
      · exact ⟨c', List.mem_cons_of_mem _ hc', y, hy, hm⟩
    · rintro ⟨c', hc', y, hy, hm⟩
      cases hc' with
      | head => exact Or.inl ⟨y, hy, hm⟩
      | tail _ h' => exact Or.inr ⟨c', h', y, hy, hm⟩

theorem mem_hookList_own (h : Heap) (k : HKey) (e : Bool) (ob : Observer) (cs : List Graph) (x : W) (it : Item)
    (hm : it ∈ ownItems h k ob cs x) : it ∈ hookList h k e (.node ob cs) x := by
  rw [hookList_node]; simp [hm]

theorem mem_hookList_child (h : Heap) (k : HKey) (e : Bool) (ob : Observer) (cs : List Graph) (x : W) (it : Item)
    (c : Graph) (hc : c ∈ cs) (y : W) (hy : y ∈ okOr [] (objects h ob x)) (hm : it ∈ hookList h k true c y) :
    it ∈ hookList h k e (.node ob cs) x := by
  rw [hookList_node]
  have := (mem_hookListCs h k ob x cs it).2 ⟨c, hc, y, hy, hm⟩
  simp [this]

/-- The items of a from-scratch list by where they come from: at the root or at any node reached below it, the
user notifier of a notifying node and the maintainers of a node (one per child) on its observables, and the
`trait_added` maintainer of its extra graph.  `Q` is what is known of the graphs on the way down. -/
theorem forall_mem_hookList (h : Heap) (k : HKey) (Q : Graph → Prop) (P : Item → Prop)
    (hchild : ∀ ob cs, Q (.node ob cs) → ∀ c ∈ cs, Q c)
    (huser : ∀ ob cs x, Q (.node ob cs) → ob.notify = true → ∀ o ∈ okOr [] (observables h ob x), P (o, .user k))
    (hmaint : ∀ ob cs x, Q (.node ob cs) → ∀ c ∈ cs, ∀ o ∈ okOr [] (observables h ob x), P (o, .maint ob.mkind c k))
    (hextra : ∀ ob cs x, Q (.node ob cs) → ∀ o ∈ okOr [] (extraObservables h ob x),
      P (o, .maint .added (.node ob cs) k)) :
    ∀ g, Q g → ∀ (e : Bool) (x : W), ∀ it ∈ hookList h k e g x, P it := by
  apply Graph.ind
  intro ob cs ih hQ e x it hit
  rw [hookList_node, ownItems_eq, List.mem_append, List.mem_append, List.mem_append] at hit
  rcases hit with ((h1 | h1) | h1) | h1
  · split at h1
    · next hn => obtain ⟨o, ho, rfl⟩ := List.mem_map.1 h1; exact huser ob cs x hQ hn o ho
    · cases h1
  · obtain ⟨o, ho, h2⟩ := List.mem_flatMap.1 h1
    obtain ⟨c, hc, rfl⟩ := List.mem_map.1 h2
    exact hmaint ob cs x hQ c hc o ho
  · obtain ⟨c, hc, y, _, hm⟩ := (mem_hookListCs h k ob x cs it).1 h1
    exact ih c hc (hchild ob cs hQ c hc) true y it hm
  · split at h1
    · obtain ⟨o, ho, rfl⟩ := List.mem_map.1 h1; exact hextra ob cs x hQ o ho
    · cases h1

def NKey.hkey : NKey → HKey
  | .user k => k
  | .maint _ _ k => k

/-- No registration of handler key `k` is held anywhere. -/
def NoKey (H : Hooks) (k : HKey) : Prop := ∀ o q, NKey.hkey q = k → cnt H o q = 0

theorem hookList_hkey (h : Heap) (k : HKey) (g : Graph) (e : Bool) (x : W) : ∀ it ∈ hookList h k e g x, it.2.hkey = k :=
  forall_mem_hookList h k (fun _ => True) (fun it => it.2.hkey = k) (fun _ _ _ _ _ => trivial)
    (fun _ _ _ _ _ _ _ => rfl) (fun _ _ _ _ _ _ _ _ => rfl) (fun _ _ _ _ _ _ => rfl) g trivial e x

theorem addRemove_rm_nokey (h : Heap) (k : HKey) (g : Graph) (extra : Bool) (x : W) (H : Hooks) (hw : WF H)
    (hn : NoKey H k) (hok : walkOk h extra g x = true) :
    (addRemove h k true extra g x H).H = H ∧
    (addRemove h k true extra g x H).err = nnfUnless (hookList h k extra g x).isEmpty := by
  have hc := walk_covers h k g true extra x
  rw [hok] at hc
  unfold addRemove
  rw [hc.nokey H [] hw fun it hit => hn _ _ (hookList_hkey h k g extra x it hit)]
  unfold finish
  cases (hookList h k extra g x).isEmpty <;> simp [nnfUnless, undo]

/-- Every outermost call, raising or not, keeps a predicate on hooks that `add_to` / `remove_from` of items of
its from-scratch list keep.  Instances: well-formedness (ObsAtomic), quiet links (ObsQuiet), at most one user
notifier per key (ObsOnce), the frame lemma (ObsCont). -/
theorem addRemove_touch (P : Hooks → Prop) (Q : Item → Prop)
    (hadd : ∀ it H, Q it → P H → P (addItem it H))
    (hrm : ∀ it H H', Q it → P H → removeItem it H = .ok H' → P H')
    (h : Heap) (k : HKey) (g : Graph) (rm extra : Bool) (x : W) (H : Hooks)
    (hQ : ∀ it ∈ hookList h k extra g x, Q it) (hP : P H) : P (addRemove h k rm extra g x H).H := by
  obtain ⟨a, b⟩ := (walk_covers h k g rm extra x).touch P Q hadd hrm H [] hQ hP nofun
  unfold addRemove finish
  split
  · exact undo_touch P Q hadd hrm rm _ _ a b
  · exact a

/-! ### `for y in ys: add_or_remove_notifiers(y, …)`, each an outermost call -/

theorem foldRes_pres (P : Hooks → Prop) (f : W → Hooks → Res) (ys : List W) (hf : ∀ y ∈ ys, ∀ H, P H → P (f y H).H)
    (H : Hooks) (hP : P H) : P (foldRes f ys H).H := by
  induction ys generalizing H with
  | nil => exact hP
  | cons y ys ih =>
    have hy := hf y (List.mem_cons_self ..) H hP
    simp only [foldRes]
    split
    · exact hy
    · exact ih (fun y' hy' => hf y' (List.mem_cons_of_mem _ hy')) _ hy

end TraitsVerif.Model.Obs
