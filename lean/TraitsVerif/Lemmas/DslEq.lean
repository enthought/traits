/-
C15 — the model's equalities are the interpretation of the generated `__eq__` rows.

Comparisons of string literals are settled through `≠`, which `simp` proves
from the first differing character; evaluating `==` on strings is far dearer.
-/
import TraitsVerif.Model.DslEq
import TraitsVerif.Lemmas.Common
import TraitsVerif.Generated.DslEqRows
namespace TraitsVerif.Model.DslEq
open TraitsVerif TraitsVerif.Model.Dsl TraitsVerif.Generated

theorem eqRows_keys : (eqRows.map (·.1)).Nodup := by
  simp [eqRows]

/-- The comparison that row `i` of the generated table (counted from 0) stands for:
the same class, and every field conjunct. -/
theorem rowsEq_at (i : Nat) {cls : String} {fs : List (String × String)} (cls' : String)
    (fe : String → String → Option Bool)
    (h : eqRows[i]? = some (cls, ("__class__", "is") :: fs) := by rfl)
    (hf : ∀ r ∈ fs, r.1 ≠ "__class__" := by simp) :
    rowsEq eqRows cls cls' fe = (cls == cls' && fs.all fun r => (fe r.1 r.2).getD false) := by
  simp only [rowsEq, Common.lookup_of_getElem? eqRows_keys h, List.all_cons, beq_self_eq_true, if_true,
    Bool.true_and]
  refine congrArg (_ && ·) ?_
  clear h
  induction fs with
  | nil => rfl
  | cons r fs ih =>
    rw [List.forall_mem_cons] at hf
    rw [List.all_cons, List.all_cons, ih hf.2, beq_false_of_ne hf.1]
    rfl

/-! ### filters, observers, graphs -/

theorem filterEq_eq (f g : Filter) : filterEq eqRows f g = (f == g) := by
  cases f <;> cases g
  · rfl
  · rw [filterEq, rowsEq_at 5, beq_false_of_ne (by simp)]; rfl
  · rw [filterEq, rowsEq_at 5, beq_false_of_ne (by simp)]; rfl
  · rw [filterEq, rowsEq_at 5, Bool.eq_iff_iff]
    simp

/-- Against an observer of another class the class conjunct fails; within a class
the fields of the row are the arguments of the constructor. -/
theorem obsEq_eq (o o' : Observer) : obsEq eqRows o o' = (o == o') := by
  cases o with
  | named n a b =>
    rw [obsEq, obsCls, rowsEq_at 0]
    cases o' with
    | named =>
      rw [Bool.eq_iff_iff]
      simp [-String.reduceBEq, obsCls, obsField, obsNotify, obsOptional]
    | _ => rw [obsCls, beq_false_of_ne (by simp)]; rfl
  | listItems a b =>
    rw [obsEq, obsCls, rowsEq_at 1]
    cases o' with
    | listItems =>
      rw [Bool.eq_iff_iff]
      simp [-String.reduceBEq, obsCls, obsField, obsNotify, obsOptional]
    | _ => rw [obsCls, beq_false_of_ne (by simp)]; rfl
  | dictItems a b =>
    rw [obsEq, obsCls, rowsEq_at 2]
    cases o' with
    | dictItems =>
      rw [Bool.eq_iff_iff]
      simp [-String.reduceBEq, obsCls, obsField, obsNotify, obsOptional]
    | _ => rw [obsCls, beq_false_of_ne (by simp)]; rfl
  | setItems a b =>
    rw [obsEq, obsCls, rowsEq_at 3]
    cases o' with
    | setItems =>
      rw [Bool.eq_iff_iff]
      simp [-String.reduceBEq, obsCls, obsField, obsNotify, obsOptional]
    | _ => rw [obsCls, beq_false_of_ne (by simp)]; rfl
  | filtered a f =>
    rw [obsEq, obsCls, rowsEq_at 4]
    cases o' with
    | filtered =>
      rw [Bool.eq_iff_iff]
      simp [-String.reduceBEq, obsCls, obsField, obsNotify, filterEq_eq]
    | _ => rw [obsCls, beq_false_of_ne (by simp)]; rfl

theorem graphRowsEq_eq (a b : Bool) : graphRowsEq eqRows a b = (a && b) := by
  rw [graphRowsEq, rowsEq_at 6]
  simp only [List.all_cons, List.all_nil, beq_self_eq_true, beq_false_of_ne, ne_eq, String.reduceEq,
    not_false_eq_true, Bool.and_self, Bool.false_eq_true, if_true, if_false,
    Option.getD_some, Bool.and_true, Bool.true_and]

theorem setEqI_eq : ∀ (d : Nat) (f1 f2 : Forest), setEqI eqRows d f1 f2 = Forest.setEq d f1 f2 := by
  intro d
  induction d with
  | zero => intro f1 f2; rfl
  | succ d ih =>
    intro f1 f2
    simp only [setEqI, Forest.setEq, graphRowsEq_eq, obsEq_eq, ih]

theorem graphEqI_eq (o : Observer) (k : Forest) (o' : Observer) (k' : Forest) :
    graphEqI eqRows o k o' k' = Forest.graphEq o k o' k' := by
  simp only [graphEqI, Forest.graphEq, graphRowsEq_eq, obsEq_eq, setEqI_eq]

/-! ### expressions -/

theorem exprEqI_eq (e : Expr) : ∀ e', exprEqI eqRows e e' = (e == e') := by
  induction e with
  | single o =>
    intro e'
    cases e' with
    | single o' =>
      rw [exprEqI, rowsEq_at 7, Bool.eq_iff_iff]
      simp [obsEq_eq]
    | _ =>
      show rowsEq eqRows "SingleObserverExpression" (exprCls _) _ = _
      rw [rowsEq_at 7, exprCls, beq_false_of_ne (by simp)]; rfl
  | series a b iha ihb =>
    intro e'
    cases e' with
    | series a' b' =>
      rw [exprEqI, rowsEq_at 8, Bool.eq_iff_iff]
      simp [-String.reduceBEq, iha, ihb]
    | _ =>
      show rowsEq eqRows "SeriesObserverExpression" (exprCls _) _ = _
      rw [rowsEq_at 8, exprCls, beq_false_of_ne (by simp)]; rfl
  | parallel a b iha ihb =>
    intro e'
    cases e' with
    | parallel a' b' =>
      rw [exprEqI, rowsEq_at 9, Bool.eq_iff_iff]
      simp [-String.reduceBEq, iha, ihb]
    | _ =>
      show rowsEq eqRows "ParallelObserverExpression" (exprCls _) _ = _
      rw [rowsEq_at 9, exprCls, beq_false_of_ne (by simp)]; rfl

end TraitsVerif.Model.DslEq
