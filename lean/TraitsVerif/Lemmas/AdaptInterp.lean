/-
The defining equations of the PyA interpreter (`Model/PyA.lean`), one per constructor, as the
`simp` set (scoped to this namespace) with which `Lemmas/AdaptSource*.lean` execute the translated
functions symbolically.  In each equation the sub-evaluation is the discriminant of a `match`:
rewriting it to a constructor term selects the arm.

The equations of `eval` / `exec` hold by `rfl` and are proved by `id rfl` on purpose: a theorem
whose proof is literally `rfl` is applied by `simp` as a definitional step that leaves no trace in
the proof term, and the kernel then has to redo the evaluation of `exec` / `eval` (structural
recursion through `brecOn`) on its own; proved by `id rfl` the equation is an ordinary rewrite rule
and the kernel only checks its instances.
-/
import TraitsVerif.Model.PyA
namespace TraitsVerif.Model.PyA
open TraitsVerif TraitsVerif.Model.Adapt

variable {α : Type} (C : Ctx α) (fuel : Nat) (st : St α) (vars : Frame α)

/-! ## Frames -/

theorem getVar_setVar (i j : Nat) (v : Val α) :
    getVar (setVar vars i v) j = if j = i then .ok v else getVar vars j := by
  by_cases h : j = i <;> simp [getVar, setVar, h]

theorem getVar_initFrame (args : List (Val α)) (i : Nat) :
    getVar (initFrame args) i = match args[i]? with | some v => .ok v | none => stuck := id rfl

theorem bindTargets_one (i : Nat) (v : Val α) : bindTargets [i] v vars = some (setVar vars i v) := id rfl

theorem bindTargets_tuple (i j : Nat) (is : List Nat) (vs : List (Val α)) :
    bindTargets (i :: j :: is) (.tuple vs) vars = bindAll (i :: j :: is) vs vars := id rfl

theorem bindAll_nil : bindAll [] [] vars = some vars := id rfl

theorem bindAll_cons (i : Nat) (is : List Nat) (v : Val α) (vs : List (Val α)) :
    bindAll (i :: is) (v :: vs) vars = bindAll is vs (setVar vars i v) := id rfl

/-! ## Expressions -/

section
variable (a b c e r x : Expr) (i n : Nat) (fn : String)

theorem eval_var : eval C vars (.var i) = getVar vars i := id rfl
theorem eval_noneLit : eval C vars .noneLit = .ok .none := id rfl
theorem eval_intLit (n : Int) : eval C vars (.intLit n) = .ok (.int n) := id rfl
theorem eval_nil : eval C vars .nil = .ok (.tuple []) := id rfl
theorem eval_glob (n : String) : eval C vars (.glob n) = .ok (.glob n) := id rfl

theorem eval_offersItems : eval C vars .offersItems =
    .ok (.list (C.cfg.groups.map (fun g => .tuple [.opaque, .list (g.map .offer)]))) := id rfl

theorem eval_cons : eval C vars (.cons a r) =
    match eval C vars a with
    | .error e => .error e
    | .ok x =>
      match eval C vars r with
      | .ok (.tuple xs) => .ok (.tuple (x :: xs))
      | .ok _ => stuck
      | .error e => .error e := id rfl

theorem eval_listOf : eval C vars (.listOf a) =
    match eval C vars a with
    | .ok (.tuple xs) => .ok (.list xs)
    | .ok _ => stuck
    | .error e => .error e := id rfl

theorem eval_add : eval C vars (.add a b) =
    match eval C vars a with
    | .error e => .error e
    | .ok x =>
      match eval C vars b with
      | .error e => .error e
      | .ok y =>
        match x, y with
        | .int m, .int n => .ok (.int (m + n))
        | .list xs, .list ys => .ok (.list (xs ++ ys))
        | _, _ => stuck := id rfl

theorem eval_lt : eval C vars (.lt a b) =
    match eval C vars a with
    | .error e => .error e
    | .ok x =>
      match eval C vars b with
      | .error e => .error e
      | .ok y =>
        match x, y with
        | .int m, .int n => .ok (.bool (decide (m < n)))
        | _, _ => stuck := id rfl

theorem eval_gt : eval C vars (.gt a b) =
    match eval C vars a with
    | .error e => .error e
    | .ok x =>
      match eval C vars b with
      | .error e => .error e
      | .ok y =>
        match x, y with
        | .int m, .int n => .ok (.bool (decide (n < m)))
        | _, _ => stuck := id rfl

theorem eval_is : eval C vars (.is a b) =
    match eval C vars a with
    | .error e => .error e
    | .ok x =>
      match eval C vars b with
      | .error e => .error e
      | .ok y => (match isSame x y with | some r => .ok (.bool r) | none => stuck) := id rfl

theorem eval_isNot : eval C vars (.isNot a b) =
    match eval C vars a with
    | .error e => .error e
    | .ok x =>
      match eval C vars b with
      | .error e => .error e
      | .ok y => (match isSame x y with | some r => .ok (.bool (!r)) | none => stuck) := id rfl

theorem eval_notIn : eval C vars (.notIn x c) =
    match eval C vars x with
    | .error e => .error e
    | .ok (.offer o) =>
      (match eval C vars c with
       | .ok (.list vs) => .ok (.bool (!containsOffer o vs))
       | .ok _ => stuck
       | .error e => .error e)
    | .ok _ => stuck := id rfl

theorem eval_not : eval C vars (.not a) =
    match eval C vars a with
    | .ok (.bool b) => .ok (.bool (!b))
    | .ok _ => stuck
    | .error e => .error e := id rfl

theorem eval_attr (n : String) : eval C vars (.attr e n) =
    match eval C vars e with
    | .ok (.offer o) =>
      if n = "from_protocol" then .ok (.ty o.frm)
      else if n = "to_protocol" then .ok (.ty o.to)
      else if n = "from_protocol_name" then .ok (.key o.key)
      else stuck
    | .ok _ => stuck
    | .error e => .error e := id rfl

theorem eval_index : eval C vars (.index e n) =
    match eval C vars e with
    | .ok (.list vs) => (match vs[n]? with | some v => .ok v | none => .error .indexError)
    | .ok (.tuple vs) => (match vs[n]? with | some v => .ok v | none => .error .indexError)
    | .ok _ => stuck
    | .error e => .error e := id rfl

theorem eval_call : eval C vars (.call fn a) =
    match eval C vars a with
    | .ok (.tuple vs) => builtin C fn vs
    | .ok _ => stuck
    | .error e => .error e := id rfl

theorem builtin_issubclass (a b : Nat) :
    builtin C "issubclass" [.ty a, .ty b] = .ok (.bool (C.cfg.provides a b)) := by delta builtin; simp

theorem builtin_type (x : α) : builtin C "type" [.obj x] = .ok (.ty C.srcType) := by delta builtin; simp

theorem builtin_len (vs : List (Val α)) : builtin C "len" [.list vs] = .ok (.int vs.length) := by
  delta builtin; simp

theorem builtin_getmro (t : Nat) :
    builtin C "getmro_tail" [.ty t] = .ok (.list ((C.cfg.supers t).map .ty)) := by delta builtin; simp

theorem builtin_call {fn : String} (h : fn ∉ ["issubclass", "type", "len", "getmro_tail"])
    (args : List (Val α)) : builtin C fn args = C.call fn args := by
  simp only [List.mem_cons, List.not_mem_nil, or_false, not_or] at h
  delta builtin; simp [h]

theorem truth_eq : truth C vars c =
    match eval C vars c with
    | .ok (.bool b) => .ok b
    | .ok _ => stuck
    | .error e => .error e := id rfl

end

/-! ## Statements

Sequencing is stated with the continuation as an unapplied function (`exec C fuel b`, not
`fun st' => exec C fuel b st'`): `simp` then executes `b` only once the outcome of the first
part is known, instead of rewriting under the binder while that outcome is still stuck — and
a loop body is not executed on the loop's bound state. -/

def andThen (r : St α × Flow α) (k : St α → St α × Flow α) : St α × Flow α :=
  match r with
  | (st', .next) => k st'
  | r => r

def loopThen (r : St α × Flow α) (k : St α → St α × Flow α) : St α × Flow α :=
  match r with
  | (st', .next) => k st'
  | (st', .brk) => (st', .next)
  | r => r

section
variable (k : St α → St α × Flow α) {fl : Flow α} (a b : Stmt) (c e o : Expr) (i dst src : Nat)

theorem andThen_next : andThen (st, .next) k = k st := rfl

theorem andThen_stop (h : fl ≠ .next) : andThen (st, fl) k = (st, fl) := by
  cases fl <;> first | rfl | exact absurd rfl h

theorem loopThen_next : loopThen (st, .next) k = k st := rfl
theorem loopThen_brk : loopThen (st, .brk) k = (st, .next) := rfl

theorem loopThen_stop (h : fl ≠ .next) (h' : fl ≠ .brk) : loopThen (st, fl) k = (st, fl) := by
  cases fl <;> first | rfl | exact absurd rfl h | exact absurd rfl h'

theorem exec_skip : exec C fuel .skip st = (st, .next) := id rfl
theorem exec_brk : exec C fuel .brk st = (st, .brk) := id rfl
theorem exec_raiseExc (x : Exc) : exec C fuel (.raiseExc x) st = (st, .raised x) := id rfl

theorem exec_seq : exec C fuel (.seq a b) st =
    andThen (exec C fuel a st) (exec C fuel b) := id rfl

theorem exec_assign : exec C fuel (.assign i e) st =
    match eval C st.vars e with
    | .ok v => ({ st with vars := setVar st.vars i v }, .next)
    | .error x => (st, .raised x) := id rfl

theorem exec_unpack (is : List Nat) : exec C fuel (.unpack is e) st =
    match eval C st.vars e with
    | .ok (.tuple vs) =>
      (match bindAll is vs st.vars with
       | some fr => ({ st with vars := fr }, .next)
       | none => (st, .raised .valueError))
    | .ok _ => (st, .raised .other)
    | .error x => (st, .raised x) := id rfl

theorem exec_augAdd : exec C fuel (.augAdd i e) st =
    match getVar st.vars i, eval C st.vars e with
    | .ok (.int m), .ok (.int n) => ({ st with vars := setVar st.vars i (.int (m + n)) }, .next)
    | .error x, _ => (st, .raised x)
    | _, .error x => (st, .raised x)
    | _, _ => (st, .raised .other) := id rfl

theorem exec_ifS : exec C fuel (.ifS c a b) st =
    match truth C st.vars c with
    | .ok true => exec C fuel a st
    | .ok false => exec C fuel b st
    | .error x => (st, .raised x) := id rfl

theorem exec_forIn (tg : List Nat) : exec C fuel (.forIn tg e a b) st =
    match eval C st.vars e with
    | .ok (.list vs) => loopThen (forLoop tg (exec C fuel a) vs st) (exec C fuel b)
    | .ok _ => (st, .raised .other)
    | .error x => (st, .raised x) := id rfl

def condOf (c : Expr) (s : St α) : Except Exc Bool := truth C s.vars c

theorem exec_whileS : exec C fuel (.whileS c a) st = whileLoop (condOf C c) (exec C fuel a) fuel st := id rfl

theorem exec_ret : exec C fuel (.ret e) st =
    match eval C st.vars e with
    | .ok v => (st, .returned v)
    | .error x => (st, .raised x) := id rfl

theorem exec_append : exec C fuel (.append i e) st =
    match getVar st.vars i, eval C st.vars e with
    | .ok (.list vs), .ok v => ({ st with vars := setVar st.vars i (.list (vs ++ [v])) }, .next)
    | .ok (.bucket k), .ok (.offer o) =>
      ({ st with reg := st.reg.map (fun kv => if kv.1 == k then (kv.1, kv.2 ++ [o]) else kv) }, .next)
    | .error x, _ => (st, .raised x)
    | _, .error x => (st, .raised x)
    | _, _ => (st, .raised .other) := id rfl

theorem exec_sortCmp (cmp : String) : exec C fuel (.sortCmp i cmp) st =
    match getVar st.vars i with
    | .ok (.list vs) =>
      if vs.all (fun a => vs.all (fun b => cmpOk C cmp a b)) then
        ({ st with vars := setVar st.vars i (.list (pySort (cmpLt C cmp) vs)) }, .next)
      else (st, .raised .other)
    | .ok _ => (st, .raised .other)
    | .error x => (st, .raised x) := id rfl

theorem exec_heappush : exec C fuel (.heappush i e) st =
    match getVar st.vars i, eval C st.vars e with
    | .ok (.list q), .ok v =>
      (match heapInsert v q with
       | some q' => ({ st with vars := setVar st.vars i (.list q') }, .next)
       | none => (st, .raised .other))
    | .error x, _ => (st, .raised x)
    | _, .error x => (st, .raised x)
    | _, _ => (st, .raised .other) := id rfl

theorem exec_heappop : exec C fuel (.heappop dst src) st =
    match getVar st.vars src with
    | .ok (.list (x :: xs)) => ({ st with vars := setVar (setVar st.vars src (.list xs)) dst x }, .next)
    | .ok (.list []) => (st, .raised .indexError)
    | .ok _ => (st, .raised .other)
    | .error x => (st, .raised x) := id rfl

theorem exec_newCounter : exec C fuel (.newCounter i) st =
    ({ st with vars := setVar st.vars i .counterRef, counter := 0 }, .next) := id rfl

theorem exec_next : exec C fuel (.next dst src) st =
    match getVar st.vars src with
    | .ok .counterRef =>
      ({ st with vars := setVar st.vars dst (.int st.counter), counter := st.counter + 1 }, .next)
    | .ok _ => (st, .raised .other)
    | .error x => (st, .raised x) := id rfl

theorem exec_callFactory : exec C fuel (.callFactory dst o e) st =
    match eval C st.vars o, eval C st.vars e with
    | .ok (.offer ov), .ok (.obj av) =>
      (match C.f st.trace.length ov av with
       | .adapter r =>
         ({ st with vars := setVar st.vars dst (.obj r), trace := st.trace ++ [⟨ov.id, .ok⟩] }, .next)
       | .none => ({ st with vars := setVar st.vars dst .none, trace := st.trace ++ [⟨ov.id, .none⟩] }, .next)
       | .raise x => ({ st with trace := st.trace ++ [⟨ov.id, .raise⟩] }, .raised x))
    | .error x, _ => (st, .raised x)
    | _, .error x => (st, .raised x)
    | _, _ => (st, .raised .other) := id rfl

theorem exec_callEff (fn : String) : exec C fuel (.callEff dst fn e) st =
    match eval C st.vars e with
    | .ok (.tuple vs) =>
      (match C.callEff fn vs st.trace with
       | (tr, .returned v) => ({ st with vars := setVar st.vars dst v, trace := tr }, .next)
       | (tr, .next) => ({ st with vars := setVar st.vars dst .none, trace := tr }, .next)
       | (tr, .raised x) => ({ st with trace := tr }, .raised x)
       | (tr, .outOfFuel) => ({ st with trace := tr }, .outOfFuel)
       | (tr, .brk) => ({ st with trace := tr }, .raised .other))
    | .ok _ => (st, .raised .other)
    | .error x => (st, .raised x) := id rfl

theorem exec_setdefaultBucket : exec C fuel (.setdefaultBucket dst c e) st =
    match eval C st.vars c, eval C st.vars e with
    | .ok (.key kk), .ok (.list []) =>
      ({ st with vars := setVar st.vars dst (.bucket kk),
                 reg := if st.reg.any (fun kv => kv.1 == kk) then st.reg else st.reg ++ [(kk, [])] }, .next)
    | .error x, _ => (st, .raised x)
    | _, .error x => (st, .raised x)
    | _, _ => (st, .raised .other) := id rfl

end

/-! ## Loops and calls -/

theorem forLoop_nil (tg : List Nat) (body : St α → St α × Flow α) : forLoop tg body [] st = (st, .next) := id rfl

theorem forLoop_cons (tg : List Nat) (body : St α → St α × Flow α) (v : Val α) (vs : List (Val α)) :
    forLoop tg body (v :: vs) st =
    match bindTargets tg v st.vars with
    | none => (st, .raised .other)
    | some fr => andThen (body { st with vars := fr }) (forLoop tg body vs) := id rfl

theorem whileLoop_succ (cond : St α → Except Exc Bool) (body : St α → St α × Flow α) (n : Nat) :
    whileLoop cond body (n + 1) st =
    match cond st with
    | .error e => (st, .raised e)
    | .ok false => (st, .next)
    | .ok true => loopThen (body st) (whileLoop cond body n) := id rfl

theorem lookupFn_cons (m k : String) (fn : Func) (rest : Prog) :
    lookupFn m ((k, fn) :: rest) = if k = m then some fn else lookupFn m rest := id rfl

theorem runFn_eq (fn : Func) (args : List (Val α)) : runFn C fuel fn args =
    if args.length ≠ fn.nparams then ({ vars := initFrame [] }, .raised .typeError)
    else exec C fuel fn.body { vars := initFrame args } := id rfl

theorem runFnIn_eq (fn : Func) (args : List (Val α)) (tr : List CallRec) (reg : List (Nat × List Offer)) :
    runFnIn C fuel fn args tr reg =
    if args.length ≠ fn.nparams then ({ vars := initFrame [], trace := tr, reg := reg }, .raised .typeError)
    else exec C fuel fn.body { vars := initFrame args, trace := tr, reg := reg } := id rfl

/-- The run of a function body ended in `return v` without a factory call: what a pure call needs. -/
def Returns (r : St α × Flow α) (v : Val α) : Prop := r.2 = .returned v ∧ r.1.trace = []

theorem returns_mk (fl : Flow α) (v : Val α) : Returns (st, fl) v ↔ fl = .returned v ∧ st.trace = [] := Iff.rfl

theorem callAt_of_returns {P : Prog} {cfg : Cfg} {f : Factory α} {s d : Nat} {name : String} {fn : Func}
    {args : List (Val α)} {v : Val α} (hl : lookupFn name P = some fn) (hn : args.length = fn.nparams)
    (h : Returns (exec (ctxAt P cfg f s d) 0 fn.body { vars := initFrame args }) v) :
    (ctxAt P cfg f s (d + 1)).call name args = .ok v := by
  show callAt P cfg f s (d + 1) name args = _
  unfold callAt
  unfold ctxAt at h
  simp only [hl, runFn_eq, hn, ne_eq, not_true_eq_false, if_false]
  generalize exec _ _ _ _ = r at h
  obtain ⟨st, fl⟩ := r
  obtain ⟨rfl, ht⟩ := h
  simp only at ht
  simp [ht]

/-- Holds by unfolding `ctxAt`; stated for a variable depth, so that no unifier is tempted to run
`callAt` on the concrete program instead. -/
theorem callAt_of_ctxAt {P : Prog} {cfg : Cfg} {f : Factory α} {s d : Nat} {name : String} {args : List (Val α)}
    {r : Except Exc (Val α)} (h : (ctxAt P cfg f s d).call name args = r) : callAt P cfg f s d name args = r := h

theorem callEffAt_eq {P : Prog} {cfg : Cfg} {f : Factory α} {s d : Nat} {name : String} {fn : Func}
    {args : List (Val α)} {tr : List CallRec} (hl : lookupFn name P = some fn) (hn : args.length = fn.nparams) :
    callEffAt P cfg f s fuel (d + 1) name args tr =
      Prod.map St.trace id
        (exec ⟨cfg, f, s, callAt P cfg f s 3, callEffAt P cfg f s fuel d⟩ fuel fn.body ⟨initFrame args, 0, tr, []⟩) := by
  unfold callEffAt
  simp only [hl, runFnIn_eq, hn, ne_eq, not_true_eq_false, if_false]
  rfl

-- `forLoop_cons`, `whileLoop_succ` and the call lemmas stay out of the set: a loop goes by induction, a round at a time
attribute [scoped simp] getVar_setVar getVar_initFrame bindTargets_one bindTargets_tuple bindAll_nil bindAll_cons eval_var eval_noneLit eval_intLit eval_nil eval_glob eval_offersItems eval_cons eval_listOf eval_add eval_lt eval_gt eval_is eval_isNot eval_notIn eval_not eval_attr eval_index eval_call builtin_issubclass builtin_type builtin_len builtin_getmro builtin_call truth_eq andThen_next andThen_stop loopThen_next loopThen_brk loopThen_stop exec_skip exec_brk exec_raiseExc exec_seq exec_assign exec_unpack exec_augAdd exec_ifS exec_forIn exec_whileS exec_ret exec_append exec_sortCmp exec_heappush exec_heappop exec_newCounter exec_next exec_callFactory exec_callEff exec_setdefaultBucket forLoop_nil lookupFn_cons runFn_eq runFnIn_eq returns_mk

end TraitsVerif.Model.PyA
