/-
Cluster `obs`: the refinement invariant is preserved by a trait assignment `o.n = v`
when the active registrations MAY contain `filtered` nodes (`*`, `+metadata`).

`ObsInvSet.lean` takes as the nodes that read the mutated trait the `named n` nodes
standing on `o`.  A `filtered fl` node standing on `o` whose filter matches the field
`n` reads it too — among the values of all the other matching fields of `o`, which the
assignment leaves alone:

  hits = `named n` on `o`  ∨  `filtered fl` on `o` with `fl.matches` the field `n`
  rest = the objects a hitting node hands on that do NOT come from the field `n`

What replaces `noFiltered`: the trait names of `o` are distinct (`Shape`: the fields of
`o` are `pre ++ f :: post` with no other field called `n`) — a filter's verdict on a
field depends on its name and metadata only, which an assignment does not change.
-/
import TraitsVerif.Lemmas.ObsInvSet
namespace TraitsVerif.Model.Obs
open TraitsVerif

/-! ### the shape of the mutated object -/

/-- `o` is an instance whose only field called `n` is `f` -/
structure Shape (h : Heap) (o : Id) (n : Name) (f : Field) (pre post : List Field) : Prop where
  ho : h.get o = .inst (pre ++ f :: post)
  hname : f.name = n
  hpre : ∀ g ∈ pre, g.name ≠ n
  hpost : ∀ g ∈ post, g.name ≠ n

theorem setFieldVal_ne (n : Name) (v : Val) (l : List Field) (hl : ∀ g ∈ l, g.name ≠ n) : setFieldVal l n v = l := by
  unfold setFieldVal
  have : ∀ g ∈ l, (fun f : Field => if f.name == n then { f with val := v } else f) g = id g := by
    intro g hg
    have := hl g hg
    simp [this]
  rw [List.map_congr_left this, List.map_id]

theorem setFieldVal_shape {n : Name} {f : Field} {pre post : List Field} (v : Val) (hname : f.name = n)
    (hpre : ∀ g ∈ pre, g.name ≠ n) (hpost : ∀ g ∈ post, g.name ≠ n) :
    setFieldVal (pre ++ f :: post) n v = pre ++ { f with val := v } :: post := by
  have h1 := setFieldVal_ne n v pre hpre
  have h2 := setFieldVal_ne n v post hpost
  unfold setFieldVal at h1 h2 ⊢
  rw [List.map_append, List.map_cons, h1, h2]
  simp [hname]

theorem findField_shape {n : Name} {f : Field} {pre post : List Field} (hname : f.name = n)
    (hpre : ∀ g ∈ pre, g.name ≠ n) : findField (pre ++ f :: post) n = some f := by
  unfold findField
  rw [List.find?_append]
  have : pre.find? (fun g => g.name == n) = none := by
    rw [List.find?_eq_none]
    intro g hg
    simpa using hpre g hg
  simp [this, hname]

theorem Shape.store {h : Heap} {o : Id} {n : Name} {f : Field} {pre post : List Field}
    (S : Shape h o n f pre post) (v : Val) : Shape (storeField h o n v) o n { f with val := v } pre post where
  ho := by rw [store_get v S.ho]; simp [setFieldVal_shape v S.hname S.hpre S.hpost]
  hname := S.hname
  hpre := S.hpre
  hpost := S.hpost

/-! ### hitting nodes -/

/-- the node reads the field `n` of `o` (and leaves its maintainers on `o.n`) -/
def hitsF (o : Id) (n : Name) (f : Field) (ob : Observer) (x : W) : Bool :=
  match ob with
  | .named m _ _ => x == some o && m == n
  | .filtered fl _ => x == some o && fl.matches f
  | _ => false

theorem hitsF_val (o : Id) (n : Name) (f : Field) (v : Val) (ob : Observer) (x : W) :
    hitsF o n { f with val := v } ob x = hitsF o n f ob x := by
  cases ob <;> simp [hitsF, Filter.matches_val]

/-- the objects a hitting node hands on that do not come from the field `n` -/
def restF (pre post : List Field) : Observer → List W
  | .filtered fl _ => ((pre ++ post).filter fl.matches).flatMap (fun g => valObjects g.val)
  | _ => []

def belowF (h : Heap) (o : Id) (n : Name) (f : Field) (pre post : List Field) (ob : Observer) (x : W) : List W :=
  if hitsF o n f ob x then restF pre post ob else okOr [] (objects h ob x)

mutual
def visitsF (h : Heap) (o : Id) (n : Name) (f : Field) (pre post : List Field) : Graph → W → List Graph
  | .node ob cs, x => (if hitsF o n f ob x then cs else []) ++ visitsFCs h o n f pre post ob x cs
def visitsFCs (h : Heap) (o : Id) (n : Name) (f : Field) (pre post : List Field) (ob : Observer) (x : W) :
    List Graph → List Graph
  | [] => []
  | c :: cs => (belowF h o n f pre post ob x).flatMap (fun y => visitsF h o n f pre post c y) ++
      visitsFCs h o n f pre post ob x cs
end

/-- the trait `o.n` of an object of the given shape, read by `named` and `filtered` nodes -/
def shapeCell (o : Id) (n : Name) (f : Field) (pre post : List Field) : Cell :=
  ⟨hitsF o n f, fun ob _ => restF pre post ob, .trait o n, .trait⟩

theorem visitsF_eq (h : Heap) (o : Id) (n : Name) (f : Field) (pre post : List Field) :
    ∀ g x, visitsF h o n f pre post g x = (shapeCell o n f pre post).visits h g x :=
  Cell.visits_unique h (visitsF h o n f pre post) (visitsFCs h o n f pre post)
    (fun _ _ _ => rfl) (fun _ _ => rfl) (fun _ _ _ _ => rfl)

section
variable {h : Heap} {o : Id} {n : Name} {f : Field} {pre post : List Field}

theorem objsR_shape (S : Shape h o n f pre post) (ob : Observer) (x : W) (hh : hitsF o n f ob x = true) :
    (okOr [] (objects h ob x) : List W).Perm (restF pre post ob ++ valObjects f.val) := by
  cases ob with
  | named m nt opt =>
    simp only [hitsF, Bool.and_eq_true, beq_iff_eq] at hh
    obtain ⟨rfl, rfl⟩ := hh
    have hf := findField_shape (post := post) S.hname S.hpre
    simp [objects, hasTrait, fieldVal, Heap.at, S.ho, hf, okOr, restF]
  | filtered fl nt =>
    simp only [hitsF, Bool.and_eq_true, beq_iff_eq] at hh
    obtain ⟨rfl, hm⟩ := hh
    simp only [objects, Heap.at, S.ho, okOr, restF, List.filter_append, List.filter_cons, hm, if_true,
      List.flatMap_append, List.flatMap_cons, List.append_assoc]
    exact List.perm_append_comm.append_left _
  | listItems nt opt => simp [hitsF] at hh
  | dictItems nt opt => simp [hitsF] at hh
  | setItems nt opt => simp [hitsF] at hh

theorem store_objectsF (S : Shape h o n f pre post) (v : Val) (ob : Observer) (x : W)
    (hr : hitsF o n f ob x = false) : objects (storeField h o n v) ob x = objects h ob x := by
  cases ob with
  | filtered fl nt =>
    by_cases hx : x = some o
    · subst hx
      have hm : fl.matches f = false := by simpa [hitsF] using hr
      simp [objects, Heap.at, (S.store v).ho, S.ho, List.filter_append, Filter.matches_val, hm]
    · exact (iter_congr_at (h := h) _ x (store_at_ne (n := n) v S.ho x hx)).2.1
  | named m nt opt => exact store_objects v S.ho _ x rfl hr
  | listItems nt opt => exact store_objects v S.ho _ x rfl rfl
  | dictItems nt opt => exact store_objects v S.ho _ x rfl rfl
  | setItems nt opt => exact store_objects v S.ho _ x rfl rfl

theorem shapeCell_rel_self (S : Shape h o n f pre post) :
    (shapeCell o n f pre post).Rel (fun _ => True) h h (valObjects f.val) where
  obs := fun _ _ _ => rfl
  ext := fun _ _ _ => rfl
  objs := fun _ _ _ _ => rfl
  objsR := fun ob x _ hh => objsR_shape S ob x hh

theorem shapeCell_rel_store (S : Shape h o n f pre post) (v : Val) :
    (shapeCell o n f pre post).Rel (fun _ => True) h (storeField h o n v) (valObjects v) where
  obs := fun ob x _ => (store_observables v S.ho ob x).1
  ext := fun ob x _ => (store_observables v S.ho ob x).2
  objs := fun ob x _ hr => store_objectsF S v ob x hr
  objsR := by
    intro ob x _ hh
    exact objsR_shape (S.store v) ob x (by rw [hitsF_val]; exact hh)

theorem count_matching (S : Shape h o n f pre post) (fl : Filter) :
    (((pre ++ f :: post).filter fl.matches).map (fun g => Observable.trait o g.name)).count (.trait o n) =
      if fl.matches f then 1 else 0 := by
  have hz : ∀ l : List Field, (∀ g ∈ l, g.name ≠ n) →
      ((l.filter fl.matches).map (fun g => Observable.trait o g.name)).count (.trait o n) = 0 := by
    intro l hl
    rw [List.count_eq_zero]
    intro hm
    obtain ⟨g, hg, e⟩ := List.mem_map.1 hm
    injection e with _ e2
    exact hl g (List.mem_filter.1 hg).1 e2
  rw [List.filter_append, List.map_append, List.count_append, hz pre S.hpre, List.filter_cons]
  split
  · simp [hz post S.hpost, S.hname]
  · simp [hz post S.hpost]

theorem shapeCell_ok (S : Shape h o n f pre post) : (shapeCell o n f pre post).OK (fun _ => True) h where
  kind := by
    intro ob x _ hh
    cases ob with
    | named m nt opt => rfl
    | filtered fl nt => rfl
    | _ => simp [shapeCell, hitsF] at hh
  count := by
    intro ob x _
    have hT : hasTrait h (some o) n = true := by
      simp [hasTrait, Heap.at, S.ho, findField_shape (post := post) S.hname S.hpre]
    cases ob with
    | filtered fl nt =>
      by_cases hx : x = some o
      · subst hx
        simp only [shapeCell, hitsF, observables, Heap.at, S.ho, okOr, beq_self_eq_true, Bool.true_and]
        exact count_matching S fl
      · have hh : hitsF o n f (.filtered fl nt) x = false := by
          have : (x == some o) = false := by simpa using hx
          simp [hitsF, this]
        simp only [shapeCell, hh, Bool.false_eq_true, if_false]
        rw [List.count_eq_zero]
        exact fun hm => hx (observables_on h _ x _ hm).1
    | named m nt opt =>
      have := ((traitSite_ok h o n).cell).count (.named m nt opt) x rfl
      simp only [Gen.Site.cell, traitSite] at this
      rw [show (shapeCell o n f pre post).tgt = Observable.trait o n from rfl, this]
      by_cases hr : readsAt (.named m nt opt) x o n = true
      · obtain rfl := (readsAt_iff.1 hr).1
        simp only [readsAt] at hr
        simp [readsAt, shapeCell, hitsF, hT]
      · have hr' : readsAt (.named m nt opt) x o n = false := by simpa using hr
        have : hitsF o n f (.named m nt opt) x = false := by simpa [readsAt, hitsF] using hr'
        simp [hr', shapeCell, this]
    | _ =>
      rw [List.count_eq_zero.2]
      · simp [shapeCell, hitsF]
      · intro hm
        have hk := (observables_on h _ x _ hm).2
        simp [maintKind, shapeCell, Observer.mkind] at hk

end

/-! ### the fragment -/

/-- Hypotheses under which `o.n = v` preserves the invariant; registrations may contain
`filtered` nodes.  `shape`: `f` is the only field of `o` called `n` (trait names are distinct). -/
structure SetFragF (E : Env) (st : St) (regs : List Reg) (o : Id) (n : Name) (v : Val)
    (f : Field) (pre post : List Field) : Prop where
  shape : Shape st.h o n f pre post
  alive : ∀ k, E.dead k = false
  notName : ∀ m, v ≠ .name m
  /-- the walks the maintainers perform meet no failing `iter_*` -/
  okOld : ∀ c k, Notifier.maint .trait c k ∈ st.H.get (.trait o n) → ∀ w ∈ valObjects f.val,
    walkOk (storeField st.h o n v) true c w = true
  okNew : ∀ c k, Notifier.maint .trait c k ∈ st.H.get (.trait o n) → ∀ w ∈ valObjects v,
    walkOk (storeField st.h o n v) true c w = true
  /-- NoSelfReach (F10): below the OLD value the maintained sub-graphs never come back to the mutated trait -/
  noSelfReach : ∀ r ∈ regs, ∀ c ∈ visitsF st.h o n f pre post r.g (some r.x), ∀ w ∈ valObjects f.val,
    ∀ it ∈ hookList st.h r.k true c w, it.1 ≠ .trait o n
  /-- graph equality is structural on the sub-graphs involved -/
  eqStruct : ∀ c k, Notifier.maint .trait c k ∈ st.H.get (.trait o n) → ∀ r ∈ regs,
    ∀ c' ∈ visitsF st.h o n f pre post r.g (some r.x),
    (NKey.maint .trait c k).equals (.maint .trait c' r.k) = true → c = c' ∧ k = r.k

/-- Storing `v` in `o.n`, whose `__dict__` entry / old value is `f.val`, possibly `unset` (= Uninitialized). -/
theorem fire_preservesF (E : Env) (st : St) (regs : List Reg) (o : Id) (n : Name) (v : Val)
    (f : Field) (pre post : List Field) (hinv : HooksEqReach st.h st.H regs) (fr : SetFragF E st regs o n v f pre post) :
    StoreOK E st regs o n f.val v (storeField st.h o n v) := by
  have hvis := fun (r : Reg) => visitsF_eq st.h o n f pre post r.g (some r.x)
  exact Cell.fire_preserves rfl rfl (shapeCell_ok fr.shape) (shapeCell_rel_self fr.shape) (shapeCell_rel_store fr.shape v)
    (fun r _ => .of_forall (fun _ => trivial) r.g) hinv fr.alive fr.notName fr.okOld fr.okNew
    (fun r hr c hc => fr.noSelfReach r hr c (by rw [hvis]; exact hc))
    (fun c k hm r hr c' hc' => fr.eqStruct c k hm r hr c' (by rw [hvis]; exact hc'))

theorem setField_preservesF (E : Env) (st : St) (regs : List Reg) (o : Id) (n : Name) (v : Val) (fresh : Id)
    (f : Field) (pre post : List Field) (hinv : HooksEqReach st.h st.H regs) (fr : SetFragF E st regs o n v f pre post)
    (hset : f.val ≠ .unset) :
    HooksEqReach (mutate E st (.setField o n v fresh)).st.h (mutate E st (.setField o n v fresh)).st.H regs ∧
    (mutate E st (.setField o n v fresh)).err = none :=
  setField_of_fire fresh fr.shape.ho (findField_shape (post := post) fr.shape.hname fr.shape.hpre) hset
    (fire_preservesF E st regs o n v f pre post hinv fr)

theorem Shape.of_nodup {h : Heap} {o : Id} {n : Name} {fs : List Field} {f : Field}
    (ho : h.get o = .inst fs) (hf : findField fs n = some f) (hnd : (fs.map (·.name)).Nodup) :
    ∃ pre post, fs = pre ++ f :: post ∧ Shape h o n f pre post := by
  unfold findField at hf
  obtain ⟨hp, pre, post, rfl, hpre⟩ := List.find?_eq_some_iff_append.1 hf
  have hname : f.name = n := by simpa using hp
  refine ⟨pre, post, rfl, ⟨ho, hname, ?_, ?_⟩⟩
  · intro g hg
    have := hpre g hg
    simpa using this
  · intro g hg e
    rw [List.map_append, List.map_cons, List.nodup_append] at hnd
    obtain ⟨_, h2, _⟩ := hnd
    rw [List.nodup_cons] at h2
    apply h2.1
    rw [hname, ← e]
    exact List.mem_map.2 ⟨g, hg, rfl⟩

/-! ### non-vacuity witness

`a.child = b`, `c` a third instance; `a.observe(handler, "*:value")`-like graph: a quiet
`filtered anyTrait` node on `a` (it reads EVERY trait of `a`: `value`, `child`, `trait_added`)
above an optional notifying `value`.  `a.child = c` re-hooks below the `*` node. -/
namespace FilteredWitness

def fld (n : Name) (v : Val) : Field := ⟨n, false, .val (if n == nValue then .int 0 else .none), v, .equality⟩

def wKey : HKey := ⟨0, 0⟩

def wHeap : Heap :=
  [(0, .inst [fld nValue (.int 0), fld nChild (.ref 1), fld nTraitAdded .unset]),
   (1, .inst [fld nValue (.int 3), fld nChild .none, fld nTraitAdded .unset]),
   (2, .inst [fld nValue (.int 5), fld nChild (.ref 0), fld nTraitAdded .unset])]
def wGraph : Graph := .node (.filtered .anyTrait false) [.node (.named nValue true true) []]
def wSt : St := ⟨wHeap, (addRemove wHeap wKey false true wGraph (some 0) Hooks.empty).H⟩
def wRegs : List Reg := [⟨wKey, wGraph, 0⟩]

theorem wInv : HooksEqReach wSt.h wSt.H wRegs := .of_observe wHeap wKey wGraph 0 (by decide)

theorem wHooks : wSt.H.get (.trait 0 nChild) = [.maint .trait (.node (.named nValue true true) []) wKey] := rfl
theorem wVisits : visitsF wSt.h 0 nChild (fld nChild (.ref 1)) [fld nValue (.int 0)] [fld nTraitAdded .unset]
    wGraph (some 0) = [.node (.named nValue true true) []] := rfl

/-- The hypotheses of `setField_preservesF` hold for `a.child = c` under the `*` registration. -/
theorem wFrag : SetFragF {} wSt wRegs 0 nChild (.ref 2) (fld nChild (.ref 1))
    [fld nValue (.int 0)] [fld nTraitAdded .unset] :=
  have ⟨a, b, c, d⟩ := single_visit (v := .ref 2) (h' := storeField wSt.h 0 nChild (.ref 2))
    (V := fun r => visitsF wSt.h 0 nChild (fld nChild (.ref 1)) [fld nValue (.int 0)] [fld nTraitAdded .unset]
      r.g (some r.x))
    (by intro c k hm; rw [wHooks] at hm; simp at hm; exact hm) rfl wVisits (by decide) (by decide)
  ⟨⟨rfl, rfl, by decide, by decide⟩, fun _ => rfl, by intro m; simp, a, b, c, d⟩

/-- … the theorem applies: after `a.child = c` the hooks are the from-scratch hooks -/
example : HooksEqReach (mutate {} wSt (.setField 0 nChild (.ref 2) 0)).st.h
    (mutate {} wSt (.setField 0 nChild (.ref 2) 0)).st.H wRegs :=
  (setField_preservesF {} wSt wRegs 0 nChild (.ref 2) 0 (fld nChild (.ref 1))
    [fld nValue (.int 0)] [fld nTraitAdded .unset] wInv wFrag (by simp [fld])).1

/-- `c.value` hooked, `b.value` released, and `c.value = 6` is delivered once -/
example : cnt wSt.H (.trait 1 nValue) (.user wKey) = 1 ∧
    cnt (mutate {} wSt (.setField 0 nChild (.ref 2) 0)).st.H (.trait 2 nValue) (.user wKey) = 1 ∧
    cnt (mutate {} wSt (.setField 0 nChild (.ref 2) 0)).st.H (.trait 1 nValue) (.user wKey) = 0 ∧
    (mutate {} (mutate {} wSt (.setField 0 nChild (.ref 2) 0)).st (.setField 2 nValue (.int 6) 0)).delivered =
      [.trait wKey 2 nValue (.int 5) (.int 6)] := by decide

end FilteredWitness

end TraitsVerif.Model.Obs
