/-
The interpreted `ListenerParser` (Model/ParL.lean on Generated/LegacyProg.lean) on the names of
C16's fragment `a₀ c₀ a₁ c₁ … final` (cᵢ ∈ {'.', ':'}): helper lemmas for `C16_parser_is_source`.
-/
import TraitsVerif.Generated.LegacyProg
namespace TraitsVerif.Model.ParL
open TraitsVerif.Generated.LegacyProg List
open TraitsVerif.Model.Legacy (LType typeOf)

def sepTok (notify : Bool) : Tok := if notify then .dot else .colon

/-- The token string of an extended name of the fragment. -/
def toksOf : List (Nat × Bool) → Nat → List Tok
  | [], fin => [.name fin]
  | (a, n) :: ls, fin => .name a :: sepTok n :: toksOf ls fin

/-- A plain chain: the head item with the given type / deferred flag, every later item
`ANY_LISTENER`, not deferred. -/
def chainFrom (any : Nat) (ty : Nat) (d : Bool) : List (Nat × Bool) → Nat → LTree
  | [], fin => .item { name := some fin, type := ty, deferred := d } .nil
  | (a, n) :: ls, fin => .item { name := some a, notify := n, type := ty, deferred := d } (chainFrom any any false ls fin)

theorem parseItem_last (f : Nat) (before : List Tok) (ty : Nat) (d : Bool) (fin : Nat) :
    parseItem pprog (f + 1) ⟨.eos, d, ty⟩ ⟨before, [.name fin]⟩ =
      some (chainFrom pprog.anyListener ty d [] fin, ⟨.name fin :: before, []⟩) := by
  rfl

theorem parseItem_chain : ∀ (ls : List (Nat × Bool)) (fin f : Nat) (before : List Tok) (ty : Nat) (d : Bool),
    ls.length < f →
    parseItem pprog f ⟨.eos, d, ty⟩ ⟨before, toksOf ls fin⟩ =
      some (chainFrom pprog.anyListener ty d ls fin, ⟨(toksOf ls fin).reverse ++ before, []⟩) := by
  intro ls
  induction ls with
  | nil =>
    intro fin f before ty d hf
    obtain ⟨f', rfl⟩ : ∃ f', f = f' + 1 := ⟨f - 1, by simp at hf; omega⟩
    simpa [toksOf] using parseItem_last f' before ty d fin
  | cons x ls ih =>
    intro fin f before ty d hf
    obtain ⟨a, n⟩ := x
    obtain ⟨f', rfl⟩ : ∃ f', f = f' + 1 := ⟨f - 1, by simp at hf; omega⟩
    have hrec := fun sep => ih fin f' (sep :: .name a :: before) 0 false (by simp at hf; omega)
    have hb : pprog.itemBody = parse_item := rfl
    cases n <;>
      simp [parseItem, toksOf, sepTok, chainFrom, hb, parse_item, execP, evalP, PS.read, PS.lastName,
        Loc.getC, Loc.setC, Loc.getS, Loc.setS, Loc.getB, Loc.setB, LTree.setNotify, LTree.setNext, hrec] <;> rfl

theorem toksOf_length (ls : List (Nat × Bool)) (fin : Nat) : (toksOf ls fin).length = 2 * ls.length + 1 := by
  induction ls with
  | nil => rfl
  | cons x ls ih => obtain ⟨a, n⟩ := x; simp [toksOf, ih]; omega

/-- `ListenerParser(text, deferred=d, handler_type=ty).listener` for a name of the fragment. -/
theorem parseSrc_chain (ls : List (Nat × Bool)) (fin : Nat) (ty : Nat) (d : Bool) :
    parseSrc pprog (toksOf ls fin) d ty = some (chainFrom pprog.anyListener ty d ls fin) := by
  -- `parse_group` (terminator EOS): one item, then the end of the string
  have key : ∀ toks, toks = toksOf ls fin →
      (groupLoop pprog (parseItem pprog (toks.length + 2)) (toks.length + 2)
        ⟨.eos, pprog.parseGroupArgs.1.getD d, pprog.parseGroupArgs.2.getD ty⟩ ⟨[], toks⟩ []).map (·.1)
        = some (chainFrom pprog.anyListener ty d ls fin) := by
    intro toks ht
    have h := parseItem_chain ls fin (toks.length + 2) [] ty d (by rw [ht, toksOf_length]; omega)
    subst ht
    simp [groupLoop, pprog, PS.read] at h ⊢
    simp [h]
  match ls with
  | [] => simpa [parseSrc, toksOf] using key _ rfl
  | [(a, n)] => cases n <;> simp [parseSrc, toksOf, sepTok, chainFrom, pprog]
  | (a, n) :: (b, m) :: ls' =>
    have := key _ (rfl : toksOf ((a, n) :: (b, m) :: ls') fin = _)
    simpa [parseSrc, toksOf] using this

/-- The chain of the MODEL (`Model/Legacy.lean`): item `k` has `typeOf ty0 k` (only the first item
carries the handler's type), only the first item is deferred, `notify` = the connector after it. -/
def modelChain (ty0 : LType) (d : Bool) : Nat → List (Nat × Bool) → Nat → LTree
  | k, [], fin => .item { name := some fin, type := LisL.typeNum prog (typeOf ty0 k), deferred := d && k == 0 } .nil
  | k, (a, n) :: ls, fin =>
    .item { name := some a, notify := n, type := LisL.typeNum prog (typeOf ty0 k), deferred := d && k == 0 }
      (modelChain ty0 d (k + 1) ls fin)

theorem chainFrom_later (ty0 : LType) (d : Bool) : ∀ (ls : List (Nat × Bool)) (fin k : Nat), k ≠ 0 →
    chainFrom pprog.anyListener pprog.anyListener false ls fin = modelChain ty0 d k ls fin := by
  intro ls
  induction ls with
  | nil =>
    intro fin k hk
    have h1 : typeOf ty0 k = .any := by simp [typeOf, hk]
    have h2 : (k == 0) = false := by simp [hk]
    simp only [chainFrom, modelChain, h1, h2, Bool.and_false]; rfl
  | cons x ls ih =>
    intro fin k hk
    obtain ⟨a, n⟩ := x
    have h1 : typeOf ty0 k = .any := by simp [typeOf, hk]
    have h2 : (k == 0) = false := by simp [hk]
    simp only [chainFrom, modelChain, h1, h2, Bool.and_false, ih fin (k + 1) (by omega)]; rfl

theorem chainFrom_model (ty0 : LType) (d : Bool) (ls : List (Nat × Bool)) (fin : Nat) :
    chainFrom pprog.anyListener (LisL.typeNum prog ty0) d ls fin = modelChain ty0 d 0 ls fin := by
  cases ls with
  | nil => simp [chainFrom, modelChain, typeOf]
  | cons x ls =>
    obtain ⟨a, n⟩ := x
    simp [chainFrom, modelChain, typeOf, chainFrom_later ty0 d ls fin 1 (by omega)]

end TraitsVerif.Model.ParL
