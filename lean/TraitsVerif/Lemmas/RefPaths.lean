/-
Helper lemmas for `Model/RefPaths`: the executable checker `valueOk` (a ledger
run that must end at `held = 0, owed = 0`) implies the order-free statement
`balance = 0` and the prefix statement `neverNegative`; and a one-pass form of
`pathOk`, which is what is evaluated over the translated table.
-/
import TraitsVerif.Generated.RefPaths
namespace TraitsVerif.Lemmas.RefPaths
open TraitsVerif.Model.RefPaths

/-- A legal event moves the net count `held - owed` of its value by what `balStep` adds for it. -/
theorem stepEv_net {l l' : Led} {e : Ev} (h : stepEv l e = some l') (v : Nat) (a : Int) :
    balStep v a (v, e) = a + (l'.net - l.net) := by
  -- by event, and by the test on `held` / `owed` it makes; `bad` and a release of nothing held are no steps
  cases e <;> simp only [stepEv] at h <;> (try split at h) <;> cases h <;> simp only [balStep, Led.net, if_true] <;> omega

/-- Along a legal run the fold of `balStep` follows the net count of the ledger, from any starting sum. -/
theorem run_net (v : Nat) (evs : List (Nat × Ev)) (l : Led) :
    ∀ l', run v evs l = some l' → ∀ a, evs.foldl (balStep v) a = a + (l'.net - l.net) := by
  fun_induction run v evs l with
  | case1 l => intro l' h a; cases h; simp
  -- an event of `v`, legal
  | case2 e rest l l1 hs ih =>
    intro l' h a
    rw [List.foldl_cons, ih l' h, stepEv_net hs]
    omega
  -- an event of `v`, illegal
  | case3 => nofun
  -- an event of another value
  | case4 w e rest l hw ih =>
    intro l' h a
    rw [List.foldl_cons, ih l' h]
    simp [balStep, hw]

/-- What the checker's `true` means: the value's events sum to zero and no prefix is illegal. -/
theorem valueOk_sound (evs : List (Nat × Ev)) (v : Nat) (h : valueOk evs v = true) :
    balance evs v = 0 ∧ neverNegative evs v = true := by
  have h' : run v evs {} = some {} := by simpa [valueOk] using h
  exact ⟨by simpa [balance] using run_net v evs {} {} h' 0, by simp [neverNegative, h']⟩

/-! ### All values of a path in one pass

`pathOk` runs the ledger of every value over the whole path.  One pass that keeps a table of ledgers does the same
work once. -/

/-- The ledger of `v` in a table (nothing held, nothing owed when `v` is not in it). -/
def ledOf : List (Nat × Led) → Nat → Led
  | [], _ => {}
  | (w, l) :: t, v => if w = v then l else ledOf t v

/-- One event on the table; `none` when it is illegal for the ledger of its value. -/
def stepTable (v : Nat) (e : Ev) : List (Nat × Led) → Option (List (Nat × Led))
  | [] => (stepEv {} e).map fun l => [(v, l)]
  | (w, l) :: t =>
    if w = v then (stepEv l e).map fun l' => (w, l') :: t else (stepTable v e t).map ((w, l) :: ·)

/-- Every event is legal and every ledger of the table ends empty. -/
def neutral : List (Nat × Ev) → List (Nat × Led) → Bool
  | [], st => st.all fun x => x.2 == {}
  | (v, e) :: rest, st =>
    match stepTable v e st with
    | some st' => neutral rest st'
    | none => false

theorem stepTable_spec {v : Nat} {e : Ev} (st : List (Nat × Led)) :
    ∀ {st' : List (Nat × Led)}, stepTable v e st = some st' →
      stepEv (ledOf st v) e = some (ledOf st' v) ∧ ∀ u, u ≠ v → ledOf st' u = ledOf st u := by
  fun_induction stepTable v e st with
  -- `v` has no ledger yet
  | case1 =>
    intro st' h
    obtain ⟨l, hl, rfl⟩ := Option.map_eq_some_iff.mp h
    exact ⟨by simp [ledOf, hl], fun u hu => by simp [ledOf, Ne.symm hu]⟩
  -- the ledger of `v` is the first
  | case2 l t =>
    intro st' h
    obtain ⟨l', hl, rfl⟩ := Option.map_eq_some_iff.mp h
    exact ⟨by simp [ledOf, hl], fun u hu => by simp [ledOf, Ne.symm hu]⟩
  | case3 w l t hw ih =>
    intro st' h
    obtain ⟨t', ht, rfl⟩ := Option.map_eq_some_iff.mp h
    obtain ⟨h1, h2⟩ := ih ht
    refine ⟨by simpa [ledOf, hw] using h1, fun u hu => ?_⟩
    by_cases hwu : w = u <;> simp [ledOf, hwu, h2 u hu]

theorem ledOf_of_all_empty (v : Nat) : ∀ st : List (Nat × Led), (st.all fun x => x.2 == {}) = true → ledOf st v = {}
  | [], _ => rfl
  | x :: t, h => by
    simp only [List.all_cons, Bool.and_eq_true, beq_iff_eq] at h
    unfold ledOf
    split
    · exact h.1
    · exact ledOf_of_all_empty v t h.2

theorem neutral_run (v : Nat) (evs : List (Nat × Ev)) (st : List (Nat × Led)) :
    neutral evs st = true → run v evs (ledOf st v) = some {} := by
  fun_induction neutral evs st with
  | case1 st => intro h; rw [run, ledOf_of_all_empty v st h]
  -- a legal event: the ledger of its value steps, the others stay
  | case2 w e rest st st' hs ih =>
    intro h
    obtain ⟨h1, h2⟩ := stepTable_spec st hs
    unfold run
    by_cases hw : w = v
    · subst hw
      simpa only [if_true, h1] using ih h
    · simp only [hw, if_false]
      rw [← h2 v (Ne.symm hw)]
      exact ih h
  | case3 => nofun

theorem pathOk_of_neutral {l : List Path} (h : (l.all fun p => neutral p.evs []) = true) :
    ∀ p ∈ l, pathOk p = true := by
  intro p hp
  simp only [pathOk, pathOkExcept, List.all_eq_true, Bool.or_eq_true]
  intro x _
  right
  have := neutral_run x.1 p.evs [] (List.all_eq_true.mp h p hp)
  simpa [valueOk, ledOf] using this

theorem paths_neutral : (Generated.RefPaths.paths.all fun p => neutral p.evs []) = true := by
  unfold Generated.RefPaths.paths
  simp only [List.all_append]
  -- by the kernel alone: `decide` would have the elaborator evaluate the 134 tables first, and that exceeds its limits
  decide +kernel

end TraitsVerif.Lemmas.RefPaths
