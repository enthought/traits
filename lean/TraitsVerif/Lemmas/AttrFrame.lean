/-
C10: frame properties that hold for EVERY environment (arbitrary handlers —
raising, self-removing — arbitrary exception handler configuration): what a round
of notifications can change, and that a notification with `old = Uninitialized`
(the one a default read sends) is dropped by every wrapper and changes nothing at all.
-/
import TraitsVerif.Model.SetAttr
namespace TraitsVerif.Model.Attr
open TraitsVerif

/-- `s'` differs from `s` at most in the instance-trait notifier list, the
object notifier list and by new log entries about this very object. -/
structure NFrame (s s' : OSt) : Prop where
  self : s'.self = s.self
  name : s'.name = s.name
  slot : s'.slot = s.slot
  cn : s'.cn = s.cn
  nn : s'.noNotify = s.noNotify
  alloc : s'.ctx.alloc = s.ctx.alloc
  heap : s'.ctx.heap = s.ctx.heap
  frozen : s'.ctx.frozen = s.ctx.frozen
  postLog : s'.ctx.postLog = s.ctx.postLog
  fcalls : s'.ctx.fcalls = s.ctx.fcalls
  nval : s'.ctx.nval = s.ctx.nval
  log : ∃ l, s'.ctx.log = s.ctx.log ++ l ∧ ∀ c ∈ l, c.obj = s.self

theorem NFrame.refl (s : OSt) : NFrame s s :=
  ⟨rfl, rfl, rfl, rfl, rfl, rfl, rfl, rfl, rfl, rfl, rfl, [], by simp, by simp⟩

theorem NFrame.trans {a b c : OSt} (h1 : NFrame a b) (h2 : NFrame b c) : NFrame a c := by
  obtain ⟨l1, e1, m1⟩ := h1.log
  obtain ⟨l2, e2, m2⟩ := h2.log
  refine ⟨h2.self.trans h1.self, h2.name.trans h1.name, h2.slot.trans h1.slot, h2.cn.trans h1.cn,
    h2.nn.trans h1.nn, h2.alloc.trans h1.alloc, h2.heap.trans h1.heap, h2.frozen.trans h1.frozen,
    h2.postLog.trans h1.postLog, h2.fcalls.trans h1.fcalls, h2.nval.trans h1.nval, l1 ++ l2, ?_, ?_⟩
  · rw [e2, e1, List.append_assoc]
  · intro c hc
    rcases List.mem_append.mp hc with h | h
    · exact m1 c h
    · rw [m2 c h, h1.self]

theorem NFrame.ensureItrait (s : OSt) : NFrame s s.ensureItrait := by
  unfold OSt.ensureItrait
  cases s.it <;> exact ⟨rfl, rfl, rfl, rfl, rfl, rfl, rfl, rfl, rfl, rfl, rfl, [], by simp, by simp⟩

theorem NFrame.removeSelf (s : OSt) (n : Notifier) (loc : Loc) : NFrame s (s.removeSelf n loc) := by
  unfold OSt.removeSelf
  cases loc with
  | o => exact ⟨rfl, rfl, rfl, rfl, rfl, rfl, rfl, rfl, rfl, rfl, rfl, [], by simp, by simp⟩
  | t =>
    have h := NFrame.ensureItrait s
    exact ⟨h.self, h.name, h.slot, h.cn, h.nn, h.alloc, h.heap, h.frozen, h.postLog, h.fcalls, h.nval, h.log⟩

theorem NFrame.addLog (s : OSt) (c : Call) (hc : c.obj = s.self) :
    NFrame s { s with ctx := { s.ctx with log := s.ctx.log ++ [c] } } :=
  ⟨rfl, rfl, rfl, rfl, rfl, rfl, rfl, rfl, rfl, rfl, rfl, [c], rfl, by simp [hc]⟩

theorem callWrapper_frame (E : Env) (t : TraitCore) (n : Notifier) (loc : Loc) (old new : Id) (s : OSt) :
    NFrame s (callWrapper E t n loc old new s).2 := by
  unfold callWrapper
  cases hk : n.kind
  case observe =>
    simp only []
    split
    · exact NFrame.refl s
    · have h1 := NFrame.addLog s ⟨s.self, n.h, old, new⟩ rfl
      split
      · exact h1
      · exact h1.trans (NFrame.removeSelf _ n loc)
      · split <;> exact h1
  all_goals
    simp only []
    split
    · exact NFrame.refl s
    · have h0 := NFrame.ensureItrait s
      split
      · exact h0
      · have h1 : NFrame s { s.ensureItrait with ctx := { s.ensureItrait.ctx with
            log := s.ensureItrait.ctx.log ++ [⟨s.self, n.h, old, new⟩] } } :=
          h0.trans (NFrame.addLog _ ⟨s.self, n.h, old, new⟩ h0.self.symm)
        split
        · exact h1
        · split
          · exact h1
          · exact h1.trans (NFrame.removeSelf _ n loc)
        · split <;> exact h1

theorem notifyLoop_frame (E : Env) (t : TraitCore) (old new : Id) :
    ∀ (ns : List (Notifier × Loc)) (s : OSt), NFrame s (notifyLoop E t old new ns s).2
  | [], s => NFrame.refl s
  | (n, loc) :: rest, s => by
    rw [notifyLoop]
    split
    · exact NFrame.refl s
    · have h1 := callWrapper_frame E t n loc old new s
      cases hc : callWrapper E t n loc old new s with
      | mk r s1 =>
        rw [hc] at h1
        cases r with
        | some e => exact h1
        | none => exact h1.trans (notifyLoop_frame E t old new rest s1)

theorem callNotifiers_frame (E : Env) (t : TraitCore) (tn on : Option (List Notifier)) (old new : Id) (s : OSt) :
    NFrame s (callNotifiers E t tn on old new s).2 := by
  unfold callNotifiers
  split
  · exact NFrame.refl s
  · exact notifyLoop_frame E t old new _ s

theorem callWrapper_uninit (E : Env) (t : TraitCore) (n : Notifier) (loc : Loc) (new : Id) (s : OSt) :
    callWrapper E t n loc uninit new s = (none, s) := by
  unfold callWrapper preventEvent
  cases n.kind <;> simp

theorem notifyLoop_uninit (E : Env) (t : TraitCore) (new : Id) :
    ∀ (ns : List (Notifier × Loc)) (s : OSt), notifyLoop E t uninit new ns s = (none, s)
  | [], _ => rfl
  | (n, loc) :: rest, s => by
    rw [notifyLoop, callWrapper_uninit]
    simp only [notifyLoop_uninit E t new rest s]
    split <;> rfl

theorem callNotifiers_uninit (E : Env) (t : TraitCore) (tn on : Option (List Notifier)) (new : Id) (s : OSt) :
    callNotifiers E t tn on uninit new s = (none, s) := by
  unfold callNotifiers
  rw [notifyLoop_uninit]
  split <;> rfl

end TraitsVerif.Model.Attr
