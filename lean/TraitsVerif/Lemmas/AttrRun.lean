/-
C02: the exactly-once argument along a history.  A handler registered once gets at most one call out of a round of
`call_notifiers` (`callsOf_fired`); the C pre-filter and the wrapper's own filter together are the property's `counts`
(`fires_counts`); `exactly_once_run` carries `Inv` (not muted, `k` registered once, the slot never `Uninitialized`)
from statement to statement, reading each off its `step_*_view`.
-/
import TraitsVerif.Lemmas.AttrStep
namespace TraitsVerif.Model.Attr
open TraitsVerif

/-! ### `callsOf`, `UniqueIn`, `fired` -/

@[simp] theorem callsOf_append (k : Nat) (a b : List Call) : callsOf k (a ++ b) = callsOf k a ++ callsOf k b := by
  simp [callsOf]

@[simp] theorem callsOf_nil (k : Nat) : callsOf k [] = [] := rfl

theorem hasNotifiers_eq (tn on : Option (List Notifier)) :
    hasNotifiers tn on = !(snapshot tn on).isEmpty := by
  unfold hasNotifiers snapshot
  cases tn with
  | none => cases on with
    | none => rfl
    | some b => cases b <;> simp
  | some a => cases a with
    | nil => cases on with
      | none => rfl
      | some b => cases b <;> simp
    | cons x xs => simp

theorem UniqueIn.ne_nil {k : Nat} {kind : NKind} {ns : List (Notifier × Loc)} (u : UniqueIn k kind ns) :
    ns ≠ [] := by
  intro h
  subst h
  simp [UniqueIn] at u

theorem UniqueIn.hasNotifiers {k : Nat} {kind : NKind} {tn on : Option (List Notifier)}
    (u : UniqueIn k kind (snapshot tn on)) : hasNotifiers tn on = true := by
  rw [hasNotifiers_eq]
  have := u.ne_nil
  cases h : snapshot tn on with
  | nil => exact absurd h this
  | cons a l => rfl

theorem UniqueIn.exists {k : Nat} {kind : NKind} {tn on : Option (List Notifier)}
    (u : UniqueIn k kind (snapshot tn on)) : (tn.isSome || on.isSome) = true := by
  have := u.ne_nil
  unfold snapshot at this
  cases tn <;> cases on <;> simp_all

theorem callsOf_fired {k : Nat} {kind : NKind} {ns : List (Notifier × Loc)} (u : UniqueIn k kind ns)
    (c : Cmp) (t : TraitCore) (self old new : Id) :
    callsOf k (fired c t self old new ns) =
      if wrapperFires c t.kind t.flags kind old new then [(old, new)] else [] := by
  unfold callsOf fired
  rw [List.filter_map, List.filter_filter]
  have e : (ns.filter fun p => ((fun c : Call => c.h == k) ∘ fun p : Notifier × Loc =>
        (⟨self, p.1.h, old, new⟩ : Call)) p && wrapperFires c t.kind t.flags p.1.kind old new)
      = (ns.filter (fun p => p.1.h == k)).filter (fun p => wrapperFires c t.kind t.flags p.1.kind old new) := by
    rw [List.filter_filter]
    congr 1
    funext p
    simp [Bool.and_comm]
  rw [e]
  unfold UniqueIn at u
  cases hf : ns.filter (fun p => p.1.h == k) with
  | nil => simp [hf] at u
  | cons p rest =>
    cases rest with
    | cons _ _ => simp [hf] at u
    | nil =>
      simp [hf] at u
      subst u
      by_cases hw : wrapperFires c t.kind t.flags p.1.kind old new = true <;> simp [List.filter, hw]

/-! ### The C pre-filter and the wrapper filter together are the property's `counts` -/

theorem fires_counts_observe (c : Cmp) (m : CMode) (o p : Bool) (old new : Id) (ho : old ≠ uninit) :
    ((m == .none || old != new) && wrapperFires c .trait (mkFlags m o p) .observe old new) = counts c m old new := by
  unfold wrapperFires preventEvent counts
  rw [eqMode_mkFlags]
  cases m <;> simp [ho]
  cases c.eqv old new <;> cases hb : (old != new) <;> simp_all <;> decide

theorem fires_counts_legacy (c : Cmp) (m : CMode) (o p : Bool) (old new : Id) (ho : old ≠ uninit)
    (k : NKind) (hk : k ≠ .observe) (hc : m = .equality → Consistent c) :
    ((m == .none || old != new) && wrapperFires c .trait (mkFlags m o p) k old new) = counts c m old new := by
  have hw : wrapperFires c .trait (mkFlags m o p) k old new = changeAccepted c .trait (mkFlags m o p) old new := by
    cases k <;> simp_all [wrapperFires]
  rw [hw]
  unfold changeAccepted changeAcceptedCmp counts
  rw [eqMode_mkFlags]
  cases m <;> simp [ho]
  have hcc := hc rfl old new
  cases h1 : c.neq old new <;> cases h2 : c.eqv old new <;> cases hb : (old != new) <;> simp_all <;> decide

theorem fires_counts (c : Cmp) (m : CMode) (o p : Bool) (old new : Id) (ho : old ≠ uninit)
    (k : NKind) (hc : k ≠ .observe → m = .equality → Consistent c) :
    ((m == .none || old != new) && wrapperFires c .trait (mkFlags m o p) k old new) = counts c m old new := by
  by_cases hk : k = .observe
  · subst hk; exact fires_counts_observe c m o p old new ho
  · exact fires_counts_legacy c m o p old new ho k hk (hc hk)

/-- Handler `k`'s share of the notification `setattr_trait` makes for `old → new` — none unless the C pre-filter lets
the change through — is the property's verdict on that change. -/
theorem callsOf_round {k : Nat} {kind : NKind} {ns : List (Notifier × Loc)} (u : UniqueIn k kind ns) (c : Cmp)
    {t : TraitCore} {m : CMode} {o p : Bool} (hk : t.kind = .trait) (hfl : t.flags = mkFlags m o p) (self old new : Id)
    (ho : old ≠ uninit) (hc : kind ≠ .observe → m = .equality → Consistent c) :
    callsOf k (if m == .none || old != new then fired c t self old new ns else []) =
      if counts c m old new then [(old, new)] else [] := by
  rw [← fires_counts c m o p old new ho kind hc, ← hfl, ← hk]
  by_cases hcc : (m == CMode.none || old != new) = true
  · simp [hcc, callsOf_fired u]
  · simp [hcc]

/-! ### Histories -/

/-- The histories property C02 speaks about: assignments, deletes, reads,
`trait_setq`; `Uninitialized` is never assigned. -/
def HistOk (h : List Op) : Prop :=
  ∀ op ∈ h, op.isValue = true ∧ op ≠ .set uninit ∧ op ≠ .setq uninit

instance (h : List Op) : Decidable (HistOk h) := by
  unfold HistOk; infer_instance

/-- `Uninitialized` is neither the declared default nor produced by a validator. -/
structure Clean (E : Env) (d : Id) : Prop where
  dflt : d ≠ uninit
  val : ∀ k n v w, E.validate k n v = .ok w → w ≠ uninit

theorem HistOk.tail {op : Op} {h : List Op} (H : HistOk (op :: h)) : HistOk h :=
  fun o ho => H o (List.mem_cons_of_mem _ ho)

theorem specValidate_clean {E : Env} {d : Id} (cl : Clean E d) (t : TraitCore) (b : Bool) (n : Nat) (v w : Id)
    (nv : Nat) (hv : v ≠ uninit) (h : specValidate E t b n v = (.ok w, nv)) : w ≠ uninit := by
  unfold specValidate at h
  cases ht : t.validate with
  | none => simp [ht] at h; exact h.1 ▸ hv
  | some k =>
    simp only [ht] at h
    split at h
    · simp at h; exact h.1 ▸ hv
    · simp at h; exact cl.val k n v w h.1

theorem getD_clean {d : Id} {o : Option Id} (hd : d ≠ uninit) (ho : o ≠ some uninit) : o.getD d ≠ uninit := by
  cases o with
  | none => exact hd
  | some x => intro h; exact ho (by simp at h; rw [h])

structure Inv (k : Nat) (kind : NKind) (s : OSt) : Prop where
  nn : s.noNotify = false
  uniq : UniqueIn k kind (snapshot s.tn s.on)
  clean : s.slot ≠ some uninit

section runs
variable {E : Env} {t : TraitCore} {m : CMode} {po : Bool} {d : Id}

/-- Standard traits that store the validated value: every handler's call log is
the specification filter of the history. -/
theorem exactly_once_run (st : StdTrait t m false po d) (q : Quiet E) (pq : PostQuiet E) (cl : Clean E d)
    {k : Nat} {kind : NKind} (hc : kind ≠ .observe → m = .equality → Consistent E.cmp) :
    ∀ (h : List Op) (s : OSt), HistOk h → Inv k kind s →
      callsOf k (run E t s h).ctx.log =
        callsOf k s.ctx.log ++ realChanges E t m false d ⟨s.slot, s.ctx.nval⟩ h
  | [], s, _, _ => by simp [run, realChanges]
  | op :: h, s, H, I => by
    have Hop := H op (List.mem_cons_self)
    have hn := I.uniq.hasNotifiers
    have hex := I.uniq.exists
    have hold : s.slot.getD d ≠ uninit := getD_clean cl.dflt I.clean
    have ih := exactly_once_run st q pq cl (k := k) hc h (step E t s op).2 H.tail
    rw [run]
    cases op with
    | set v =>
      have hv : v ≠ uninit := fun e => Hop.2.1 (by rw [e])
      rw [realChanges]
      rcases hsv : specValidate E t true s.ctx.nval v with ⟨e | w, nv⟩
      · rw [step_set_rejected E t s v e nv (by rw [st.kind]; exact hsv)] at ih ⊢
        exact ih ⟨I.nn, I.uniq, I.clean⟩
      · have hw := specValidate_clean cl t true _ v w nv hv hsv
        obtain ⟨-, p1, p2, p3, p4, -, p6, p7⟩ := step_set_view st q pq s v w nv hsv
        simp only [Bool.false_eq_true, if_false, hn, I.nn, true_and] at p1 p7
        rw [ih ⟨p4.trans I.nn, by rw [p2, p3]; exact I.uniq, by rw [p1]; intro e; exact hw (by simpa using e)⟩,
          p1, p6, p7, callsOf_append, callsOf_round I.uniq E.cmp st.kind st.flags _ _ _ hold hc]
        simp only [List.append_assoc, Bool.false_eq_true, if_false]
    | setq v =>
      have hv : v ≠ uninit := fun e => Hop.2.2 (by rw [e])
      rw [realChanges]
      rw [step_setq_eq] at ih ⊢
      rcases hsv : specValidate E t true s.ctx.nval v with ⟨e | w, nv⟩
      · rw [step_set_rejected E t { s with noNotify := true } v e nv (by rw [st.kind]; exact hsv)] at ih ⊢
        exact ih ⟨rfl, I.uniq, I.clean⟩
      · have hw := specValidate_clean cl t true _ v w nv hv hsv
        obtain ⟨-, p1, p2, p3, -, -, p6, p7⟩ := step_set_view st q pq { s with noNotify := true } v w nv hsv
        -- the state is that of the muted assignment with the flag cleared: same slot, lists and context
        rw [ih ⟨rfl,
          by show UniqueIn k kind (snapshot (step E t _ _).2.tn (step E t _ _).2.on); rw [p2, p3]; exact I.uniq,
          by show (step E t _ _).2.slot ≠ _; rw [p1]; intro e; exact hw (by simpa using e)⟩]
        show callsOf k (step E t _ _).2.ctx.log ++
          realChanges E t m false d ⟨(step E t _ _).2.slot, (step E t _ _).2.ctx.nval⟩ h = _
        rw [p1, p6, p7]
        simp
    | del =>
      rw [realChanges]
      obtain ⟨-, p1, p2, p3, p4, -, p6, p7⟩ := step_del_view st q pq s
      cases hs : s.slot with
      | none =>
        simp only [hs, Option.isSome_none, Bool.false_eq_true, false_and, if_false, List.append_nil] at p1 p7
        rw [ih ⟨p4.trans I.nn, by rw [p2, p3]; exact I.uniq, by rw [p1]; nofun⟩, p1, p6, p7]
      | some old =>
        have ho : old ≠ uninit := fun e => I.clean (by rw [hs, e])
        simp only [hs, hn, hex, I.nn, Option.isSome_some, and_self, true_and, if_true, Option.getD_some] at p1 p7
        rw [ih ⟨p4.trans I.nn, by rw [p2, p3]; exact I.uniq, by rw [p1]; intro e; exact cl.dflt (by simpa using e)⟩,
          p1, p6, p7, callsOf_append, callsOf_round I.uniq E.cmp st.kind st.flags _ _ _ ho hc]
        simp only [List.append_assoc]
    | get =>
      rw [realChanges]
      obtain ⟨-, p1, p2, p3, p4, -, p6, p7⟩ := step_get_view (E := E) st pq s
      rw [ih ⟨p4.trans I.nn, by rw [p2, p3]; exact I.uniq, by rw [p1]; intro e; exact hold (by simpa using e)⟩,
        p1, p6, p7]
    | _ => exact absurd Hop.1 (by simp [Op.isValue])

end runs

end TraitsVerif.Model.Attr
