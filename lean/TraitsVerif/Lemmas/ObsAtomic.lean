/-
Cluster `obs`: failure atomicity.  Everything a walk does is recorded in the one
undo log of the outermost call (`walk_did`), and the owner rolls it back
(`finish_atomic`): a registration OR removal that raises — anywhere in the walk,
after any number of completed sibling subtrees or graphs — leaves every count as
it was.
-/
import TraitsVerif.Lemmas.ObsRegister
namespace TraitsVerif.Model.Obs
open TraitsVerif

theorem addRemove_atomic (h : Heap) (k : HKey) (g : Graph) (rm extra : Bool) (x : W) (H : Hooks) (hw : WF H)
    (he : (addRemove h k rm extra g x H).err ≠ none) :
    (∀ o q, cnt (addRemove h k rm extra g x H).H o q = cnt H o q) ∧ WF (addRemove h k rm extra g x H).H := by
  unfold addRemove at he ⊢
  rw [finish_err] at he
  exact finish_atomic rm H _ (walk_did h k g rm extra x H [] hw) he

theorem applyObservers_atomic (h : Heap) (k : HKey) (rm : Bool) (x : W) (gs : List Graph) (H : Hooks) (hw : WF H)
    (he : (applyObservers h k rm x gs H).err ≠ none) :
    (∀ o q, cnt (applyObservers h k rm x gs H).H o q = cnt H o q) ∧ WF (applyObservers h k rm x gs H).H := by
  unfold applyObservers at he ⊢
  rw [finish_err] at he
  exact finish_atomic rm H _ (applyObserversW_did h k rm x gs H [] hw) he

theorem observe_atomic (h : Heap) (handler : Nat) (root : Id) (rm : Bool) (e : Expr) (H : Hooks) (hw : WF H)
    (he : (observe h handler root rm e H).err ≠ none) :
    (∀ o q, cnt (observe h handler root rm e H).H o q = cnt H o q) ∧ WF (observe h handler root rm e H).H := by
  unfold observe at he ⊢
  cases hc : e.compile with
  | error ex => exact ⟨fun _ _ => rfl, hw⟩
  | ok gs =>
    simp only [hc] at he ⊢
    exact applyObservers_atomic h _ rm _ gs H hw he

theorem addRemove_WF (h : Heap) (k : HKey) (g : Graph) (rm extra : Bool) (x : W) (H : Hooks) (hw : WF H) :
    WF (addRemove h k rm extra g x H).H :=
  addRemove_touch WF (fun _ => True) (fun it H _ => WF_addItem it H) (fun _ _ _ _ hw hr => WF_removeItem hw hr)
    h k g rm extra x H (fun _ _ => trivial) hw

end TraitsVerif.Model.Obs
