/-
Propagation of an assignment (`_sync_trait_modified`): in any network of links,
when every trait either stores the assigned value `y` unchanged or rejects it,
each trait changes at most once (to `y`, with one notification), the assigned
trait and each of its partners that accepts `y` hold `y` afterwards.
-/
import TraitsVerif.Lemmas.SyncOps
namespace TraitsVerif.Model.Sync
open TraitsVerif TraitsVerif.Py TraitsVerif.Model
variable {α : Type}

/-- Every trait some link leads to either stores `y` unchanged or rejects it. -/
def Fix (E : Env α) (es : List Edge) (y : AVal α) : Prop :=
  ∀ e ∈ es, validate E e.dst y = .ok y ∨ ∃ err, validate E e.dst y = .error err

theorem Fix.partner {E : Env α} {w : World α} {y : AVal α} (hfix : Fix E w.edges y) {p q : Pair}
    (hq : q ∈ w.partners p) : ∀ new, validate E q y = .ok new → new = y := by
  intro new hv
  rcases hfix ⟨p, q⟩ (mem_partners.mp hq) with h | ⟨e, h⟩ <;> rw [show validate E q y = _ from h] at hv <;> cases hv
  rfl

/-- What one assignment of `y` may do to trait `r`: it kept its value and was not
notified, or changed to `y` and was notified exactly once. -/
def Stay (y : AVal α) (w w' : World α) (r : Pair) : Prop :=
  (w'.val r = w.val r ∧ w'.nChg r = w.nChg r) ∨
  (w.val r ≠ y ∧ w'.val r = y ∧ w'.nChg r = w.nChg r + 1)

/-- `Stay` everywhere; items handlers are not involved. -/
def Once (y : AVal α) (w w' : World α) : Prop :=
  (∀ r, Stay y w w' r) ∧ ∀ r, w'.nItems r = w.nItems r

theorem Once.refl (y : AVal α) (w : World α) : Once y w w :=
  ⟨fun _ => Or.inl ⟨rfl, rfl⟩, fun _ => rfl⟩

theorem Once.trans {y : AVal α} {a b c : World α} (h1 : Once y a b) (h2 : Once y b c) : Once y a c := by
  refine ⟨fun r => ?_, fun r => (h2.2 r).trans (h1.2 r)⟩
  rcases h1.1 r with ⟨e1, n1⟩ | ⟨ne1, e1, n1⟩ <;> rcases h2.1 r with ⟨e2, n2⟩ | ⟨ne2, e2, n2⟩
  · exact Or.inl ⟨e2.trans e1, n2.trans n1⟩
  · exact Or.inr ⟨by rw [← e1]; exact ne2, e2, by rw [n2, n1]⟩
  · exact Or.inr ⟨ne1, e2.trans e1, by rw [n2, n1]⟩
  · exact absurd e1 ne2

theorem Once.keeps {y : AVal α} {a b : World α} (h : Once y a b) {r : Pair} (hr : a.val r = y) :
    b.val r = y := by
  rcases h.1 r with ⟨e, _⟩ | ⟨ne, _, _⟩
  · rw [e, hr]
  · exact absurd hr ne

theorem Once.unlock {y : AVal α} {a b : World α} (p : Pair) (h : Once y a b) : Once y a (b.unlock p) := h

theorem Once.store {y : AVal α} {w : World α} {p : Pair} (hne : y ≠ w.val p) :
    Once y w (w.store p y) := by
  refine ⟨fun r => ?_, fun r => rfl⟩
  by_cases hr : r = p
  · subst hr; exact Or.inr ⟨hne.symm, upd_same .., upd_same ..⟩
  · exact Or.inl ⟨upd_other _ _ _ _ hr, upd_other _ _ _ _ hr⟩

section
variable [DecidableEq α] {E : Env α} {y : AVal α}

/-- If the nested propagations of `y` change each trait at most once, so does the handler. -/
theorem handle_once {d : Nat}
    (ih : ∀ (w : World α) (p : Pair) (v : AVal α) (w' : World α) (ret : Option α),
      Fix E w.edges y → (∀ new, validate E p v = .ok new → new = y) →
      cascade (applyAssign E) d w p v = .ok (w', ret) → Once y w w')
    {w : World α} (hfix : Fix E w.edges y) (p : Pair) :
    Once y w (handle (cascade (applyAssign E) d) w p (some y)) :=
  handle_rel (local_assign E) d (Once y) (Once.refl y) (fun _ _ _ => Once.trans) (fun _ h => h)
    fun acc q acc' r hacc hq _ hc =>
      ih acc q y acc' r (by rw [hacc.1]; exact hfix) (hfix.partner hq) hc

/-- **Each trait changes at most once.** The whole propagation of an
assignment whose validated value is `y`; the assigned trait ends up holding `y`. -/
theorem assign_once (d : Nat) :
    ∀ (w : World α) (p : Pair) (v : AVal α) (w' : World α) (ret : Option α),
      Fix E w.edges y → (∀ new, validate E p v = .ok new → new = y) →
      cascade (applyAssign E) d w p v = .ok (w', ret) → Once y w w' ∧ w'.val p = y := by
  induction d with
  | zero => intro w p v w' ret _ _ h; simp [cascade] at h
  | succ d ih =>
    intro w p v w' ret hfix hv h
    obtain ⟨w1, pay, happ, rfl⟩ := cascade_succ_ok h
    obtain ⟨new, hval, -, ⟨hs, rfl, rfl⟩ | ⟨hne, rfl, rfl⟩⟩ := applyAssign_ok happ <;>
      obtain rfl := hv new hval
    · exact ⟨Once.refl _ _, hs.symm⟩
    · have h2 := handle_once (fun w p v w' ret hf hv hc => (ih w p v w' ret hf hv hc).1)
        (w := w.store p new) hfix p
      exact ⟨(Once.store hne).trans h2, h2.keeps (upd_same ..)⟩

/-- In the handler's loop, a partner that accepts `y` ends up holding `y`. -/
theorem loop_sets (d : Nat) {w0 : World α} (hfix : Fix E w0.edges y) {q : Pair} (hq : validate E q y = .ok y)
    {ps : List Pair} (hmem : q ∈ ps) (hps : ∀ t ∈ ps, ∀ new, validate E t y = .ok new → new = y)
    (acc : World α) (hacc : SameTabs w0 acc) (hlq : q ∈ w0.locked → acc.val q = y) :
    (ps.foldl (visitPartner (cascade (applyAssign E) (d + 1)) y) acc).val q = y := by
  have hfixa : ∀ {a}, SameTabs w0 a → Fix E a.edges y := fun ha => by rw [ha.1]; exact hfix
  have loop := fun qs (hqs : ∀ t ∈ qs, t ∈ ps) => loop_rel (local_assign E) (d + 1) (Once y) (Once.refl y)
    (fun _ _ _ => Once.trans) w0 y qs fun a t a' r ha ht _ hc =>
      (assign_once (d + 1) a t y a' r (hfixa ha) (hps t (hqs t ht)) hc).1
  obtain ⟨s, t, rfl⟩ := List.append_of_mem hmem
  rw [List.foldl_append, List.foldl_cons]
  obtain ⟨hA, hAt⟩ := loop s (fun t ht => List.mem_append_left _ ht) acc hacc
  -- after its own round `q` holds `y`; the rest of the loop keeps it
  refine (loop t (fun t ht => List.mem_append_right _ (List.mem_cons_of_mem _ ht)) _
    (visitPartner_sameTabs (local_assign E) (d + 1) y hAt q)).1.keeps ?_
  by_cases hl : q ∈ (s.foldl (visitPartner (cascade (applyAssign E) (d + 1)) y) acc).locked
  · rw [visitPartner_locked hl]; exact hA.keeps (hlq (hAt.2.1 ▸ hl))
  · obtain ⟨w1, pay, happ, -⟩ := applyAssign_val (s.foldl (visitPartner (cascade (applyAssign E) (d + 1)) y) acc) hq
    have hc := cascade_of_apply (d := d) happ
    rw [visitPartner_ok hl hc]
    exact (assign_once (d + 1) _ q y _ none (hfixa hAt) (fun _ h => by rw [hq] at h; cases h; rfl) hc).2

/-- The handler running on `p`, which holds `y`: a partner that accepts `y` ends up holding `y`. -/
theorem handle_sets (d : Nat) {w : World α} {p q : Pair} (hfix : Fix E w.edges y) (hL : w.locked = [])
    (hp : w.val p = y) (hqp : q ∈ w.partners p) (hq : validate E q y = .ok y) :
    (handle (cascade (applyAssign E) (d + 1)) w p (some y)).val q = y := by
  rw [handle_some, if_neg fun h => List.ne_nil_of_mem hqp (List.isEmpty_iff.mp h)]
  refine loop_sets d (w0 := w.lock p) hfix hq hqp (fun t ht => hfix.partner ht) _
    (SameTabs.refl _) fun hl => ?_
  have : q = p := by simpa [World.lock, hL] using hl
  rw [this]; exact hp

/-- **Convergence of an assignment, one command.** From a state with an empty
lock table: the command fails only if the trait's own validator rejects, the
assigned trait holds the validated value `y`, so does every partner that
accepts `y` (if the assignment changed the trait, or the partner was equal
before), and every trait of the world changed at most once, to `y`, with one
notification. -/
theorem assign_converges (E : Env α) (w : World α) (p q : Pair) (v y : AVal α)
    (hL : w.locked = []) (he : (⟨p, q⟩ : Edge) ∈ w.edges)
    (hv : validate E p v = .ok y) (hfix : Fix E w.edges y) (hq : validate E q y = .ok y)
    (hpre : w.val p ≠ y ∨ w.val q = w.val p) :
    (w.assign E p v).exc = none ∧ (w.assign E p v).world.val p = y ∧ (w.assign E p v).world.val q = y
      ∧ Once y w (w.assign E p v).world := by
  obtain ⟨d, hd⟩ := budget_of_edge he
  unfold World.assign
  rw [hd, cascade_succ, applyAssign_of_validate w hv]
  by_cases hsame : y = w.val p
  · -- the trait did not change: nothing happened at all
    rw [if_pos hsame]
    refine ⟨rfl, hsame.symm, ?_, Once.refl _ _⟩
    rcases hpre with h | h
    · exact absurd hsame.symm h
    · exact h.trans hsame.symm
  · rw [if_neg hsame]
    have h2 := handle_once (fun w p v w' ret hf hv hc => (assign_once (d + 1) w p v w' ret hf hv hc).1)
      (w := w.store p y) hfix p
    refine ⟨rfl, h2.keeps (upd_same ..), ?_, (Once.store hsame).trans h2⟩
    exact handle_sets d (w := w.store p y) hfix hL
      (upd_same ..) (mem_partners.mpr he) hq

end

end TraitsVerif.Model.Sync
