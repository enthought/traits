/-
Invariant lemmas for the C12 model: the cache invariant `Inv` is preserved by
every read, mutation, listener change, construction and copy; what a sibling
handler reads during a dispatch.
-/
import TraitsVerif.Lemmas.PropertyHeap
namespace TraitsVerif.Model.Property
open TraitsVerif

variable {Val : Type}

/-! ## Specification vocabulary -/

/-- Whenever the getter returns, it returns `g heap` (it may also raise,
depending on the call ordinal). -/
def PartialGetter (G : Callback Heap Val) (g : Heap → Val) : Prop :=
  ∀ n h v, G n h = .ok v → v = g h

/-- The getter never raises and computes `g`. -/
def PureGetter (G : Callback Heap Val) (g : Heap → Val) : Prop :=
  ∀ n h, G n h = .ok (g h)

theorem PureGetter.partial {G : Callback Heap Val} {g : Heap → Val} (hp : PureGetter G g) :
    PartialGetter G g := by
  intro n h v hv
  rw [hp n h] at hv
  cases hv
  rfl

/-- The C12 invariant: there is no cache entry, or it holds what the getter
computes from the current heap (and only cached properties have an entry). -/
def Inv (P : Env Val) (g : Heap → Val) (s : St Val) : Prop :=
  s.cache = none ∨ (P.cached = true ∧ s.cache = some (g s.heap))

/-- Weak invariant that also holds inside a dispatch, between the heap update
and the invalidation: an uncached property has no entry. -/
def NoEntryIfUncached (P : Env Val) (s : St Val) : Prop :=
  P.cached = false → s.cache = none

theorem Inv.weak {P : Env Val} {g : Heap → Val} {s : St Val} (hi : Inv P g s) : NoEntryIfUncached P s := by
  intro hc
  cases hi with
  | inl h => exact h
  | inr h => rw [hc] at h; exact absurd h.1 (by simp)

/-! ## What each function leaves unchanged -/

@[simp] theorem compute_frame (P : Env Val) (s : St Val) :
    (compute P s).2.heap = s.heap ∧ (compute P s).2.dyn = s.dyn ∧ (compute P s).2.dynObj = s.dynObj ∧
    (compute P s).2.notes = s.notes ∧ (compute P s).2.nested = s.nested := by
  unfold compute; split <;> exact ⟨rfl, rfl, rfl, rfl, rfl⟩

@[simp] theorem compute_calls (P : Env Val) (s : St Val) : (compute P s).2.calls = s.calls + 1 := by
  unfold compute; split <;> rfl

/-- A read by cases: the cache of a cached property holds an entry that is not `Undefined`, which is
returned and nothing changes; or there is no such entry and the getter runs. -/
theorem readProp_cases (P : Env Val) (s : St Val) {motive : Except Exc Val × St Val → Prop}
    (hit : ∀ v, P.cached = true → s.cache = some v → P.isUndef v = false → motive (.ok v, s))
    (miss : (∀ v, P.cached = true → s.cache = some v → P.isUndef v = true) → motive (compute P s)) :
    motive (readProp P s) := by
  unfold readProp
  by_cases hc : P.cached = true
  · rw [if_pos hc]
    cases hv : s.cache with
    | none => exact miss (fun _ _ h => by rw [hv] at h; cases h)
    | some v =>
      cases hu : P.isUndef v
      · simpa only [hu, Bool.false_eq_true, if_false] using hit v hc hv hu
      · simpa only [hu, if_true] using miss (fun _ _ h => by rw [hv] at h; cases h; exact hu)
  · rw [if_neg hc]
    exact miss (fun _ h => absurd h hc)

@[simp] theorem readProp_frame (P : Env Val) (s : St Val) :
    (readProp P s).2.heap = s.heap ∧ (readProp P s).2.dyn = s.dyn ∧ (readProp P s).2.dynObj = s.dynObj ∧
    (readProp P s).2.notes = s.notes ∧ (readProp P s).2.nested = s.nested :=
  readProp_cases P s (motive := fun r => r.2.heap = s.heap ∧ r.2.dyn = s.dyn ∧ r.2.dynObj = s.dynObj ∧
    r.2.notes = s.notes ∧ r.2.nested = s.nested) (fun _ _ _ _ => ⟨rfl, rfl, rfl, rfl, rfl⟩) (fun _ => compute_frame P s)

@[simp] theorem nestedRead_frame (P : Env Val) (s : St Val) :
    (nestedRead P s).heap = s.heap ∧ (nestedRead P s).dyn = s.dyn ∧ (nestedRead P s).dynObj = s.dynObj ∧
    (nestedRead P s).notes = s.notes ∧ (nestedRead P s).cache = (readProp P s).2.cache ∧
    (nestedRead P s).calls = (readProp P s).2.calls := by
  simp [nestedRead]

@[simp] theorem popCache_frame (P : Env Val) (s : St Val) :
    (popCache P s).heap = s.heap ∧ (popCache P s).dyn = s.dyn ∧ (popCache P s).dynObj = s.dynObj ∧
    (popCache P s).notes = s.notes ∧ (popCache P s).calls = s.calls ∧ (popCache P s).nested = s.nested := by
  unfold popCache; split <;> exact ⟨rfl, rfl, rfl, rfl, rfl, rfl⟩

@[simp] theorem tpc_frame (P : Env Val) (s : St Val) (old : Old Val) :
    (tpc P s old).heap = s.heap ∧ (tpc P s old).dyn = s.dyn ∧ (tpc P s old).nested = s.nested := by
  unfold tpc; repeat' split
  all_goals simp

@[simp] theorem legacyNotify_frame (P : Env Val) (s : St Val) (old : Old Val) :
    (legacyNotify P s old).heap = s.heap ∧ (legacyNotify P s old).nested = s.nested := by
  unfold legacyNotify; repeat' split
  all_goals simp

@[simp] theorem legacyNotify_dyn (P : Env Val) (s : St Val) (old : Old Val) :
    (legacyNotify P s old).dyn = s.dyn := by
  unfold legacyNotify; repeat' split
  all_goals simp

/-! ## Without an assumption on the getter -/

section
variable {P : Env Val} {g : Heap → Val}

theorem compute_weak (s : St Val) (hw : NoEntryIfUncached P s) :
    NoEntryIfUncached P (compute P s).2 := by
  intro hc
  unfold compute
  split
  · exact hw hc
  · simp [hc]; exact hw hc

theorem readProp_weak (s : St Val) (hw : NoEntryIfUncached P s) :
    NoEntryIfUncached P (readProp P s).2 :=
  readProp_cases P s (motive := fun r => NoEntryIfUncached P r.2) (fun _ _ _ _ => hw) (fun _ => compute_weak s hw)

theorem popCache_inv (s : St Val) (hw : NoEntryIfUncached P s) :
    Inv P g (popCache P s) := by
  unfold popCache
  by_cases hc : P.cached = true
  · simp [hc, Inv]
  · simp only [Bool.not_eq_true] at hc
    simp only [hc]
    left
    exact hw hc

@[simp] theorem sib_frame (P : Env Val) (b : Bool) (s : St Val) :
    (sib P b s).heap = s.heap ∧ (sib P b s).dyn = s.dyn ∧ (sib P b s).dynObj = s.dynObj ∧
    (sib P b s).notes = s.notes := by
  unfold sib; split <;> simp

@[simp] theorem sib_false (P : Env Val) (s : St Val) : sib P false s = s := rfl

/-! ## Kept by everything that only reads -/

/-- A property of the state kept by the three things a dispatch is made of besides the invalidation: a
read of the property, a sibling handler's read (which records what it read), a delivery (which records a
note).  Sibling handlers, `trait_property_changed`, the legacy `notify` and a dispatch without
invalidation do nothing else, so they keep it too. -/
structure ReadStable (P : Env Val) (Q : St Val → Prop) : Prop where
  read : ∀ s, Q s → Q (readProp P s).2
  nestedRead : ∀ s, Q s → Q (nestedRead P s)
  note : ∀ (s : St Val) n, Q s → Q { s with notes := n }

/-- A property that a read keeps and that looks at heap, cache and call counter only: the two invariants
and the bound on the potential (`Lemmas/PropertyCount.lean`) are of this kind. -/
theorem ReadStable.of_core {Q : St Val → Prop} (read : ∀ s, Q s → Q (readProp P s).2)
    (congr : ∀ s t : St Val, t.heap = s.heap → t.cache = s.cache → t.calls = s.calls → Q s → Q t) :
    ReadStable P Q :=
  ⟨read, fun s h => congr _ _ (by simp) (by simp) (by simp) (read s h), fun s _ h => congr s _ rfl rfl rfl h⟩

namespace ReadStable
variable {Q : St Val → Prop} (hQ : ReadStable P Q)
include hQ

theorem sib (b : Bool) (s : St Val) (h : Q s) : Q (sib P b s) := by
  unfold Property.sib
  split
  · exact hQ.nestedRead s h
  · exact h

theorem tpc (s : St Val) (old : Old Val) (h : Q s) : Q (tpc P s old) := by
  unfold Property.tpc
  split
  · split
    · exact hQ.read s h
    · exact hQ.note _ _ (hQ.read s h)
  · exact h

theorem legacyNotify (s : St Val) (old : Old Val) (h : Q s) : Q (legacyNotify P s old) := by
  unfold Property.legacyNotify
  split
  · split
    · exact h
    · exact hQ.tpc s _ h
  · exact hQ.tpc s _ h

theorem dispatchQuiet (s0 : St Val) (m : Mutation) (h : Q s0) : Q (dispatchQuiet P s0 m) :=
  hQ.sib _ _ (hQ.sib _ _ h)

/-- A dispatch with invalidation, when the handlers that may run BEFORE the entry is dropped keep `R`
and dropping it turns `R` into `Q`. -/
theorem dispatchFire {R : St Val → Prop} (hR : ReadStable P R) (hpop : ∀ s, R s → Q (popCache P s))
    (s0 : St Val) (m : Mutation) (h : R s0) : Q (Property.dispatchFire P s0 m) := by
  unfold Property.dispatchFire
  split
  · exact hQ.sib _ _ (hQ.legacyNotify _ _ (hQ.sib _ _ (hpop _ h)))
  · exact hQ.sib _ _ (hQ.tpc _ _ (hpop _ (hR.sib _ _ h)))

/-- The same when nothing runs before the entry is dropped (the legacy invalidation has priority, or no
sibling handler precedes the observer). -/
theorem dispatchFire_pop (s0 : St Val) (m : Mutation) (hpre : P.legacy = true ∨ P.sibPre m = false)
    (h : Q (popCache P s0)) : Q (Property.dispatchFire P s0 m) := by
  unfold Property.dispatchFire
  split
  · exact hQ.sib _ _ (hQ.legacyNotify _ _ (hQ.sib _ _ h))
  · rw [hpre.resolve_left ‹_›, sib_false]
    exact hQ.sib _ _ (hQ.tpc _ _ h)

end ReadStable

theorem weak_readStable (P : Env Val) : ReadStable P (NoEntryIfUncached P) :=
  .of_core (fun s => readProp_weak s) (fun _ _ _ h2 _ hi hc => by rw [h2]; exact hi hc)

/-- `mutate` by cases, `s0` being the state right after the heap update: nobody is notified;
the property's handler is not called; it is called. -/
theorem mutate_cases (P : Env Val) (s : St Val) (m : Mutation) {motive : St Val → Prop}
    (h0 : changed s.heap m = false → motive { s with heap := apply m s.heap })
    (hq : changed s.heap m = true → P.fires s.heap m = false →
      motive (dispatchQuiet P { s with heap := apply m s.heap } m))
    (hf : changed s.heap m = true → P.fires s.heap m = true →
      motive (dispatchFire P { s with heap := apply m s.heap } m)) : motive (mutate P s m) := by
  unfold mutate
  cases hc : changed s.heap m
  · exact h0 hc
  · cases hfi : P.fires s.heap m
    · exact hq hc hfi
    · exact hf hc hfi

/-- A change for which the handler is not called is not relevant (`ObserveSound`) … -/
theorem not_relevant_of_quiet (hS : ObserveSound P) {h : Heap} {m : Mutation}
    (hq : changed h m = false ∨ P.fires h m = false) : relevant P.E P.root h m = false := by
  cases hr : relevant P.E P.root h m
  · rfl
  · rcases hq with hq | hq
    · simp [relevant, hq] at hr
    · rw [hS _ _ hr] at hq; cases hq

/-- … and a change that is not relevant leaves the getter's value, hence the invariant, as it is. -/
theorem inv_apply (hD : DependsOnly g P.E P.root) (s : St Val)
    (m : Mutation) (hr : relevant P.E P.root s.heap m = false) (hi : Inv P g s) :
    Inv P g { s with heap := apply m s.heap } := by
  have hg : g s.heap = g (apply m s.heap) := hD _ _ (sameViews_of_not_relevant P.E P.root s.heap m hr)
  exact hi.imp id (fun h => ⟨h.1, by simp only; rw [← hg]; exact h.2⟩)

/-- A set of the property by cases: it fails and leaves the state alone (deletion, rejected
value, read-only property, raising setter), or the setter's writes run through `mutate`. -/
theorem setProp_cases (P : Env Val) (s : St Val) (a : SetArg) {motive : Except Exc Unit × St Val → Prop}
    (herr : ∀ e, motive (.error e, s)) (hok : ∀ ms, motive (.ok (), runMuts P s ms)) :
    motive (setProp P s a) := by
  have hc : ∀ x, motive (callSetter P s x) := by
    intro x
    unfold callSetter
    split
    · exact herr _
    · split
      · exact herr _
      · exact hok _
  cases a with
  | delete => exact herr _
  | value x =>
    simp only [setProp]
    split
    · exact hc x
    · split
      · exact herr _
      · exact hc _

/-! ## Reads, invalidation and dispatch under a getter that computes `g` -/

variable (hG : PartialGetter P.G g)
include hG

theorem compute_inv (s : St Val)
    (hi : Inv P g s) : Inv P g (compute P s).2 := by
  unfold compute
  split
  · exact hi
  · rename_i v hv
    have := hG _ _ _ hv
    subst this
    by_cases hc : P.cached = true
    · right; simp [hc]
    · simp only [Bool.not_eq_true] at hc
      simp only [hc]
      exact hi

theorem compute_value (s : St Val) (v : Val)
    (hv : (compute P s).1 = .ok v) : v = g s.heap := by
  unfold compute at hv
  split at hv
  · cases hv
  · rename_i w hw
    cases hv
    exact hG _ _ _ hw

theorem readProp_inv (s : St Val)
    (hi : Inv P g s) : Inv P g (readProp P s).2 :=
  readProp_cases P s (motive := fun r => Inv P g r.2) (fun _ _ _ _ => hi) (fun _ => compute_inv hG s hi)

theorem readProp_value (s : St Val)
    (hi : Inv P g s) (v : Val) (hv : (readProp P s).1 = .ok v) : v = g s.heap := by
  revert hv
  refine readProp_cases P s (motive := fun r => r.1 = .ok v → v = g s.heap) (fun w _ hw _ hv => ?_)
    (fun _ => compute_value hG s v)
  cases hv
  exact hi.elim (fun h => by rw [h] at hw; cases hw) (fun h => by rw [h.2] at hw; cases hw; rfl)

theorem inv_readStable : ReadStable P (Inv P g) :=
  .of_core (readProp_inv hG) (fun _ _ h1 h2 _ hi => by unfold Inv; rw [h1, h2]; exact hi)

theorem handlerObserve_inv (s : St Val)
    (hw : NoEntryIfUncached P s) : Inv P g (handlerObserve P s) :=
  (inv_readStable hG).tpc _ _ (popCache_inv s hw)

/-- What sibling handlers record during a dispatch on heap `h₀`: under the invariant every outcome is
`g h₀`. -/
theorem nested_readStable (h₀ : Heap) (N₀ : List (Except Exc Val)) :
    ReadStable P (fun s => Inv P g s ∧ s.heap = h₀ ∧ ∀ w, .ok w ∈ s.nested → .ok w ∈ N₀ ∨ w = g h₀) := by
  refine ⟨fun s h => ⟨readProp_inv hG s h.1, by simpa using h.2⟩, fun s h => ⟨?_, by simpa using h.2.1, fun w hw => ?_⟩,
    fun s _ h => h⟩
  · exact (inv_readStable hG).nestedRead s h.1
  · simp only [nestedRead, readProp_frame, List.mem_append, List.mem_singleton] at hw
    exact hw.elim (h.2.2 w) (fun e => Or.inr (h.2.1 ▸ readProp_value hG s h.1 w e.symm))

/-! ## Histories, under the user contract and `ObserveSound` -/

variable (hD : DependsOnly g P.E P.root) (hS : ObserveSound P)
include hD hS

/-- The heart of C12: a mutation preserves the invariant, because a mutation
that can change the getter's value is relevant, hence fires the handler
(`ObserveSound`), hence pops the cache. -/
theorem mutate_inv (s : St Val) (m : Mutation)
    (hi : Inv P g s) : Inv P g (mutate P s m) :=
  mutate_cases P s m
    (fun hc => inv_apply hD s m (not_relevant_of_quiet hS (Or.inl hc)) hi)
    (fun _ hf => (inv_readStable hG).dispatchQuiet _ m (inv_apply hD s m (not_relevant_of_quiet hS (Or.inr hf)) hi))
    -- the entry may be stale here; whatever it held, it is gone once the handler has run
    (fun _ _ => (inv_readStable hG).dispatchFire (weak_readStable P) (fun s => popCache_inv s) _ m hi.weak)

theorem runMuts_inv :
    ∀ (ms : List Mutation) (s : St Val), Inv P g s → Inv P g (runMuts P s ms)
  | [], _, hi => hi
  | m :: ms, s, hi => by
    simp only [runMuts, List.foldl_cons]
    exact runMuts_inv ms _ (mutate_inv hG hD hS s m hi)

/-- Objects built by `__init__(**kw)`, `__setstate__`, `clone_traits`: the
invariant holds because the observer exists before the first value arrives. -/
theorem restore_inv (hp : P.postInit = false)
    (h0 : Heap) (ws : List Write) : Inv P g (restore P h0 ws) := by
  unfold restore
  simp only [hp]
  apply runMuts_inv hG hD hS
  left
  rfl

theorem setProp_inv (s : St Val) (a : SetArg) (hi : Inv P g s) :
    Inv P g (setProp P s a).2 :=
  setProp_cases P s a (motive := fun r => Inv P g r.2) (fun _ => hi)
    (fun ms => runMuts_inv hG hD hS ms s hi)

theorem step_inv (hp : P.postInit = false)
    (s : St Val) (st : Step) (hi : Inv P g s) : Inv P g (step P s st) := by
  cases st with
  | change m => exact mutate_inv hG hD hS s m hi
  | read => exact readProp_inv hG s hi
  | attach => exact hi
  | detach => exact hi
  | attachObj => exact hi
  | detachObj => exact hi
  | set a => exact setProp_inv hG hD hS s a hi
  | construct ws => exact restore_inv hG hD hS hp _ _
  | copy => exact restore_inv hG hD hS hp _ _

theorem run_inv (hp : P.postInit = false) :
    ∀ (steps : List Step) (s : St Val), Inv P g s → Inv P g (run P s steps)
  | [], _, hi => hi
  | st :: rest, s, hi => by
    simp only [run, List.foldl_cons]
    exact run_inv hp rest _ (step_inv hG hD hS hp s st hi)

end

end TraitsVerif.Model.Property
