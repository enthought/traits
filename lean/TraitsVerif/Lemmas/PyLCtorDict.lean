/-
The hand-written dict constructor models of `Model/PyLCtorDict.lean` are the
interpretation of the translated `__init__` bodies (`Generated/CtorProgDict.lean`).

`TraitDict.__init__` looks at its four arguments one after the other, each in
statements of its own.  Each of these gets a lemma saying what it does, for
either value of the one argument it reads, to any state and followed by any
rest of the program; with them the body is run once, and only the validation of
the items splits the proof.  `TraitDictObject.__init__` calls the same body on
the object it is building, so `dict_init_body` is about an arbitrary object.
-/
import TraitsVerif.Generated.CtorProgDict
namespace TraitsVerif.Lemmas.PyLCtorDict
open TraitsVerif TraitsVerif.Model.PyLC TraitsVerif.Model.PyLCD TraitsVerif.Model.Map
variable {K V : Type} [DecidableEq K]

attribute [local simp] Model.PyLCD.exec Model.PyLCD.eval Model.PyLCD.getVar Model.PyLCD.truthy Model.PyLCD.setAttrObj

variable (C : Model.PyLCD.Ctx K V) (sup : Option (Frame K V → Obj K V → Obj K V × Model.PyLC.Flow))
  (rest : Model.PyLCD.Stmt) (o : Obj K V) (x0 x1 x2 x3 x4 : Option (Val K V)) (fr : Frame K V)

/-- `if key_validator is not None: self.key_validator = key_validator` -/
theorem exec_key_validator (kv : Option VSrc) :
    Model.PyLCD.exec C sup (.seq (.ifS (.isNotNone (.var 1)) (.setAttr "key_validator" (.var 1)) .skip) rest)
        (x0 :: some (optVal .vfn kv) :: fr, o)
      = Model.PyLCD.exec C sup rest
        (x0 :: some (optVal .vfn kv) :: fr, { o with keyValidator := kv.getD o.keyValidator }) := by
  cases kv <;> simp [Model.PyLCD.optVal]

/-- `if value_validator is not None: self.value_validator = value_validator` -/
theorem exec_value_validator (vv : Option VSrc) :
    Model.PyLCD.exec C sup (.seq (.ifS (.isNotNone (.var 2)) (.setAttr "value_validator" (.var 2)) .skip) rest)
        (x0 :: x1 :: some (optVal .vfn vv) :: fr, o)
      = Model.PyLCD.exec C sup rest
        (x0 :: x1 :: some (optVal .vfn vv) :: fr, { o with valueValidator := vv.getD o.valueValidator }) := by
  cases vv <;> simp [Model.PyLCD.optVal]

/-- `if notifiers is None: notifiers = []` / `self.notifiers = notifiers` -/
theorem exec_notifiers (ns : Option NSrc) :
    Model.PyLCD.exec C sup (.seq (.ifS (.isNone (.var 3)) (.assign 3 .emptyList) .skip)
        (.seq (.setAttr "notifiers" (.var 3)) rest)) (x0 :: x1 :: x2 :: some (optVal .nlist ns) :: fr, o)
      = Model.PyLCD.exec C sup rest
        (x0 :: x1 :: x2 :: some (.nlist (ns.getD .newEmpty)) :: fr, { o with notifiers := ns.getD .newEmpty }) := by
  cases ns <;> simp [Model.PyLCD.optVal]

/-- `if value is None: value = {}` / `items = value.items() if hasattr(value, 'keys') else value` -/
theorem exec_items (a : Arg K V) :
    Model.PyLCD.exec C sup (.seq (.ifS (.isNone (.var 0)) (.assign 0 .emptyDict) .skip)
        (.seq (.assign 4 (.ite (.hasKeys (.var 0)) (.itemsOf (.var 0)) (.var 0))) rest))
        (some a.val :: x1 :: x2 :: x3 :: x4 :: fr, o)
      = Model.PyLCD.exec C sup rest
        (some (match a with | .none => .mapping [] | a => a.val) :: x1 :: x2 :: x3 :: some (.pairs a.items) :: fr, o) := by
  cases a <;> simp [Arg.val, Arg.items]

/-- The translated `TraitDict.__init__` body on an object `o` under construction:
what it leaves of the object and how it ends. -/
theorem dict_init_body (a : Arg K V) (kv vv : Option VSrc) (ns : Option NSrc) :
    (let r := Model.PyLCD.exec C sup Generated.CtorD.traitDictInit.body
        ([some a.val, some (optVal .vfn kv), some (optVal .vfn vv), some (optVal .nlist ns)]
          ++ List.replicate (Generated.CtorD.traitDictInit.nslots - 4) none, o)
     (r.1.2, r.2))
    = let o' := { o with keyValidator := kv.getD o.keyValidator, valueValidator := vv.getD o.valueValidator,
                         notifiers := ns.getD .newEmpty }
      match valPairs (C.kOf o'.keyValidator) (C.vOf o'.valueValidator) 0 a.items with
      | .error e => (o', .raised e)
      | .ok ps => ({ o' with items := Py.Dict.ofPairs ps }, .next) := by
  simp only [Generated.CtorD.traitDictInit, Nat.reduceSub, List.replicate_one, List.cons_append, List.nil_append,
    exec_key_validator, exec_value_validator, exec_notifiers, exec_items]
  cases hv : valPairs (C.kOf (kv.getD o.keyValidator)) (C.vOf (vv.getD o.valueValidator)) 0 a.items <;> simp [hv]

theorem dict_init_is_source (a : Arg K V) (kv vv : Option VSrc) (ns : Option NSrc) :
    runDictInit Generated.CtorD.traitDictInit C a kv vv ns = dictInit C a kv vv ns := by
  have hb := dict_init_body C none {} a kv vv ns
  simp only [runDictInit, dictInit, if_neg (show ¬ (Generated.CtorD.traitDictInit.nparams ≠ 4 ∨
    Generated.CtorD.traitDictInit.nslots < 4) by decide)]
  generalize Model.PyLCD.exec C none _ _ = r at hb ⊢
  obtain ⟨⟨_, o⟩, fl⟩ := r
  cases hv : valPairs (C.kOf (kv.getD .everything)) (C.vOf (vv.getD .everything)) 0 a.items <;>
    simp only [hv] at hb ⊢ <;> cases hb <;> rfl

/-- `self.trait = trait` -/
theorem exec_trait (t : Option Bool) :
    Model.PyLCD.exec C sup (.seq (.setAttr "trait" (.var 0)) rest) (some (optVal .trait t) :: fr, o)
      = Model.PyLCD.exec C sup rest (some (optVal .trait t) :: fr, { o with trait := some t }) := by
  cases t <;> simp [Model.PyLCD.optVal]

/-- `self.object = (lambda: None) if object is None else ref(object)` -/
theorem exec_object (owner : Bool) :
    Model.PyLCD.exec C sup (.seq (.setAttr "object" (.ite (.isNone (.var 1)) .lambdaNone (.ref (.var 1)))) rest)
        (x0 :: some (if owner then .owner else .none) :: fr, o)
      = Model.PyLCD.exec C sup rest (x0 :: some (if owner then .owner else .none) :: fr,
          { o with object := some owner }) := by
  cases owner <;> simp

/-- `self.name_items = None` / `if trait is not None and trait.has_items: self.name_items = name + '_items'` -/
theorem exec_name_items (t : Option Bool) :
    Model.PyLCD.exec C sup (.seq (.setAttr "name_items" .noneLit)
        (.seq (.ifS (.and (.isNotNone (.var 0)) (.attr (.var 0) "has_items"))
          (.setAttr "name_items" (.addStr (.var 2) "_items")) .skip) rest))
        (some (optVal .trait t) :: x1 :: some .name :: fr, o)
      = Model.PyLCD.exec C sup rest (some (optVal .trait t) :: x1 :: some .name :: fr,
          { o with nameItems := some (t == some true) }) := by
  rcases t with _ | _ | _ <;> simp [Model.PyLCD.optVal]

theorem dict_object_init_is_source (t : Option Bool) (owner : Bool) (a : Arg K V) :
    runDictObjectInit Generated.CtorD.traitDictObjectInit Generated.CtorD.traitDictInit C t owner a
      = dictObjectInit C t owner a := by
  have hb := fun o => dict_init_body C none o a (some .own) (some .own) (some .ownAlias)
  simp only [Model.PyLCD.optVal, Option.getD_some, Model.PyLCD.Ctx.kOf, Model.PyLCD.Ctx.vOf, List.cons_append,
    List.nil_append] at hb
  unfold runDictObjectInit
  rw [if_neg (by decide)]
  simp only [Generated.CtorD.traitDictObjectInit, Nat.sub_self, List.replicate_zero, List.append_nil, exec_trait,
    exec_object]
  cases hv : valPairs C.ownK C.ownV 0 a.items <;> simp only [hv, Prod.mk.injEq] at hb <;>
    simp [↓exec_name_items, hb, Model.PyLCD.finish, dictObjectInit, hv]

end TraitsVerif.Lemmas.PyLCtorDict
