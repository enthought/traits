/-
C10, freshness.  For default kinds that promise a copy (`GoodCore`),
`default_value_for` returns an atom, the object itself, or an
identity allocated by this very call, whose elements are atoms or identities
allocated by this call.
-/
import TraitsVerif.Lemmas.AttrWorld
namespace TraitsVerif.Model.Attr
open TraitsVerif

/-- Identities below `P` are atoms (immutable values: None, numbers, strings …);
containers live in `[P, alloc)` and hold identities below `alloc`. -/
structure CtxWF (P : Nat) (c : Ctx) : Prop where
  base : P ≤ c.alloc
  heap : ∀ x ys, heapGet c.heap x = some ys → P ≤ x ∧ x < c.alloc ∧ ∀ y ∈ ys, y < c.alloc

/-- `c'` extends `c` by allocations only; the new containers hold atoms or
identities at or above `b`. -/
structure CGrow (P b : Nat) (c c' : Ctx) : Prop where
  wf : CtxWF P c'
  le : c.alloc ≤ c'.alloc
  old : ∀ x, x < c.alloc → heapGet c'.heap x = heapGet c.heap x
  new : ∀ x ys, c.alloc ≤ x → heapGet c'.heap x = some ys → ∀ y ∈ ys, y < P ∨ b ≤ y

theorem CGrow.refl {P : Nat} (b : Nat) {c : Ctx} (h : CtxWF P c) : CGrow P b c c :=
  ⟨h, Nat.le_refl _, fun _ _ => rfl, fun x ys hx hg => absurd (h.heap x ys hg).2.1 (Nat.not_lt.mpr hx)⟩

theorem CGrow.trans {P b : Nat} {c1 c2 c3 : Ctx} (h1 : CGrow P b c1 c2) (h2 : CGrow P b c2 c3) :
    CGrow P b c1 c3 := by
  refine ⟨h2.wf, Nat.le_trans h1.le h2.le,
    fun x hx => (h2.old x (Nat.lt_of_lt_of_le hx h1.le)).trans (h1.old x hx), ?_⟩
  intro x ys hx hg
  rcases Nat.lt_or_ge x c2.alloc with h | h
  · rw [h2.old x h] at hg
    exact h1.new x ys hx hg
  · exact h2.new x ys h hg

theorem CGrow.ofSame {P : Nat} (b : Nat) {c c' : Ctx} (h : CtxWF P c) (ha : c'.alloc = c.alloc)
    (hh : c'.heap = c.heap) : CGrow P b c c' :=
  ⟨⟨by rw [ha]; exact h.base, fun x ys hg => by rw [hh] at hg; rw [ha]; exact h.heap x ys hg⟩,
   Nat.le_of_eq ha.symm, fun _ _ => by rw [hh],
   fun x ys hx hg => by rw [hh] at hg; exact absurd (h.heap x ys hg).2.1 (Nat.not_lt.mpr hx)⟩

theorem heapGet_fresh_none {P : Nat} {c : Ctx} (h : CtxWF P c) (x : Id) (hx : c.alloc ≤ x) :
    heapGet c.heap x = none := by
  cases hg : heapGet c.heap x with
  | none => rfl
  | some ys => exact absurd (h.heap x ys hg).2.1 (Nat.not_lt.mpr hx)

theorem newContainer_grow {P b : Nat} {c : Ctx} (h : CtxWF P c) (xs : List Id)
    (hxs : ∀ y ∈ xs, y < P ∨ (b ≤ y ∧ y < c.alloc)) :
    CGrow P b c (c.newContainer xs).2 := by
  unfold Ctx.newContainer
  refine ⟨⟨Nat.le_succ_of_le h.base, ?_⟩, Nat.le_succ _, fun x hx => heapGet_append_ne _ _ _ _ (Nat.ne_of_lt hx), ?_⟩
  · intro x ys hg
    simp only [] at hg ⊢
    by_cases hx : x = c.alloc
    · subst hx
      rw [heapGet_append_self _ _ _ (heapGet_fresh_none h _ (Nat.le_refl _))] at hg
      injection hg with hg
      subst hg
      refine ⟨h.base, Nat.lt_succ_self _, fun y hy => ?_⟩
      rcases hxs y hy with h1 | h1
      · exact Nat.lt_succ_of_lt (Nat.lt_of_lt_of_le h1 h.base)
      · exact Nat.lt_succ_of_lt h1.2
    · rw [heapGet_append_ne _ _ _ _ hx] at hg
      obtain ⟨a1, a2, a3⟩ := h.heap x ys hg
      exact ⟨a1, Nat.lt_succ_of_lt a2, fun y hy => Nat.lt_succ_of_lt (a3 y hy)⟩
  · intro x ys hx hg
    simp only [] at hg
    by_cases hxa : x = c.alloc
    · subst hxa
      rw [heapGet_append_self _ _ _ (heapGet_fresh_none h _ (Nat.le_refl _))] at hg
      injection hg with hg
      subst hg
      intro y hy
      rcases hxs y hy with h1 | h1
      · exact Or.inl h1
      · exact Or.inr h1.1
    · rw [heapGet_append_ne _ _ _ _ hxa] at hg
      exact absurd (h.heap x ys hg).2.1 (Nat.not_lt.mpr hx)

/-- What a default factory may return: an atom, or a fresh container of atoms
and fresh containers of atoms. -/
def GoodRes (P : Nat) : FRes → Prop
  | .existing v => v < P
  | .fresh es _ => ∀ e ∈ es, match e with
    | .atom v => v < P
    | .inner xs => ∀ y ∈ xs, y < P

theorem Alloc.grow {P b : Nat} {c c' : Ctx} (h : Alloc (· < P) b c c') : CtxWF P c → CGrow P b c c' := by
  induction h with
  | refl c => exact CGrow.refl b
  | trans _ _ h1 h2 => exact fun w => (h1 w).trans (h2 (h1 w).wf)
  | book c _ _ _ => exact fun w => CGrow.ofSame b w rfl rfl
  | cell c xs hxs => exact fun w => newContainer_grow w xs hxs

theorem goodRes_all (P : Nat) (r : FRes) : GoodRes P r = r.All (· < P) := by cases r <;> rfl

/-- A trait definition whose default is copy-promising: constants are atoms,
copied templates hold atoms, factories return atoms or fresh containers;
validators map atoms to atoms and leave other values alone. -/
structure GoodCore (E : Env) (P : Nat) (c : Ctx) (t : TraitCore) : Prop where
  const : (t.dvt = Generated.CONSTANT_DEFAULT_VALUE ∨ t.dvt = Generated.MISSING_DEFAULT_VALUE) →
    t.dv.getD noneId < P
  copy : (t.dvt = Generated.LIST_COPY_DEFAULT_VALUE ∨ t.dvt = Generated.DICT_COPY_DEFAULT_VALUE
        ∨ t.dvt = Generated.TRAIT_LIST_OBJECT_DEFAULT_VALUE ∨ t.dvt = Generated.TRAIT_DICT_OBJECT_DEFAULT_VALUE
        ∨ t.dvt = Generated.TRAIT_SET_OBJECT_DEFAULT_VALUE) →
    ∀ y ∈ (heapGet c.heap (t.dv.getD noneId)).getD [], y < P
  factory : ∀ n a r, E.factory (t.dv.getD noneId) n a = .ok r → GoodRes P r
  validate : ∀ k, t.validate = some k → ∀ n v u, E.validate k n v = .ok u → u = v ∨ u < P

/-- Where a default value comes from. -/
def FreshVal (P : Nat) (self lo hi : Nat) (v : Id) : Prop := v < P ∨ v = self ∨ (lo ≤ v ∧ v < hi)

theorem defaultValueFor_grow {E : Env} {P : Nat} (t : TraitCore) (obj : Id) (name : Name) (c : Ctx)
    (h : CtxWF P c) (g : GoodCore E P c t) :
    CGrow P c.alloc c (defaultValueFor E t obj name c).2 ∧
    ∀ v, (defaultValueFor E t obj name c).1 = .ok v →
      FreshVal P obj c.alloc (defaultValueFor E t obj name c).2.alloc v := by
  obtain ⟨ha, -, hv⟩ := defaultValueFor_alloc (A := (· < P)) t obj name c g.const g.copy
    (fun n a r hr => goodRes_all P r ▸ g.factory n a r hr) g.validate
  exact ⟨ha.grow h, hv⟩

/-! ### One statement on one (object, attribute) pair -/

theorem CGrow.mono {P b b' : Nat} {c c' : Ctx} (h : CGrow P b c c') (hb : b' ≤ b) : CGrow P b' c c' :=
  ⟨h.wf, h.le, h.old, fun x ys hx hg y hy => (h.new x ys hx hg y hy).elim Or.inl (fun e => Or.inr (Nat.le_trans hb e))⟩

/-- Effect of one statement for a copy-promising trait: the context grows by
allocations; the slot keeps its value or receives an atom, the object itself or
an identity allocated by this statement. -/
structure OGrow (P : Nat) (s s' : OSt) : Prop where
  self : s'.self = s.self
  grow : CGrow P s.ctx.alloc s.ctx s'.ctx
  slot : s'.slot = s.slot ∨ ∃ v, s'.slot = some v ∧ FreshVal P s.self s.ctx.alloc s'.ctx.alloc v

theorem OGrow.refl {P : Nat} {s : OSt} (h : CtxWF P s.ctx) : OGrow P s s :=
  ⟨rfl, CGrow.refl _ h, Or.inl rfl⟩

theorem FreshVal.widen {P self lo hi lo' hi' : Nat} {v : Id} (h : FreshVal P self lo hi v) (h1 : lo' ≤ lo)
    (h2 : hi ≤ hi') : FreshVal P self lo' hi' v :=
  h.elim Or.inl (fun h => h.elim (fun e => Or.inr (Or.inl e))
    (fun e => Or.inr (Or.inr ⟨Nat.le_trans h1 e.1, Nat.lt_of_lt_of_le e.2 h2⟩)))

theorem OGrow.trans {P : Nat} {a b c : OSt} (h1 : OGrow P a b) (h2 : OGrow P b c) : OGrow P a c := by
  refine ⟨h2.self.trans h1.self, h1.grow.trans (h2.grow.mono h1.grow.le), ?_⟩
  rcases h2.slot with e2 | ⟨v, e2, f2⟩
  · rcases h1.slot with e1 | ⟨v, e1, f1⟩
    · exact Or.inl (e2.trans e1)
    · exact Or.inr ⟨v, e2.trans e1, f1.widen (Nat.le_refl _) h2.grow.le⟩
  · exact Or.inr ⟨v, e2, by rw [h1.self] at f2; exact f2.widen h1.grow.le (Nat.le_refl _)⟩

theorem OGrow.store {P : Nat} {s : OSt} (h : CtxWF P s.ctx) (v : Id) (hv : v < P) :
    OGrow P s { s with slot := some v } :=
  ⟨rfl, CGrow.refl _ h, Or.inr ⟨v, rfl, Or.inl hv⟩⟩

theorem Book.toO {P : Nat} {s s' : OSt} (h : CtxWF P s.ctx) (f : Book s s') : OGrow P s s' :=
  ⟨f.self, CGrow.ofSame _ h f.alloc f.heap, Or.inl f.slot⟩

theorem materialise_ogrow {E : Env} {P : Nat} (t : TraitCore) (s : OSt) (h : CtxWF P s.ctx)
    (g : GoodCore E P s.ctx t) : OGrow P s (s.materialise E t).2 := by
  rw [materialise_snd]
  have h1 := defaultValueFor_grow (E := E) t s.self s.name s.ctx h g
  unfold OSt.defaultValueFor
  rcases hd : defaultValueFor E t s.self s.name s.ctx with ⟨e | v, c⟩ <;> rw [hd] at h1
  · exact ⟨rfl, h1.1, Or.inl rfl⟩
  · have h2 : OGrow P s { s with ctx := c, slot := some v } := ⟨rfl, h1.1, Or.inr ⟨v, rfl, h1.2 v rfl⟩⟩
    exact h2.trans ((postSetattr_book E t v _).toO h1.1.wf)

/-- `GoodCore` in the form that survives allocation: the template a default is copied from is an existing object
(an address allocated later could otherwise come to hold anything). -/
structure GoodAt (E : Env) (P : Nat) (t : TraitCore) (c : Ctx) : Prop where
  wf : CtxWF P c
  core : GoodCore E P c t
  templ : copyKind t → t.dv.getD noneId < c.alloc

theorem GoodAt.grow {E : Env} {P b : Nat} {t : TraitCore} {c c' : Ctx} (g : GoodAt E P t c) (h : CGrow P b c c') :
    GoodAt E P t c' :=
  ⟨h.wf, ⟨g.core.const, fun hk => by rw [h.old _ (g.templ hk)]; exact g.core.copy hk, g.core.factory,
    g.core.validate⟩, fun hk => Nat.lt_of_lt_of_le (g.templ hk) h.le⟩

theorem Eff.ogrow {E : Env} {P : Nat} {t : TraitCore} {W : Option Id → Prop} {s s' : OSt}
    (hW : ∀ x, W x → ∃ v, x = some v ∧ v < P) (h : Eff E t W s s') : GoodAt E P t s.ctx → OGrow P s s' := by
  induction h with
  | refl s => exact fun g => OGrow.refl g.wf
  | trans _ _ h1 h2 => exact fun g => (h1 g).trans (h2 (g.grow (h1 g).grow))
  | book h => exact fun g => h.toO g.wf
  | write s x hx =>
    intro g
    obtain ⟨v, rfl, hv⟩ := hW x hx
    exact OGrow.store g.wf v hv
  | mat _ => exact fun g => materialise_ogrow t _ g.wf g.core

theorem step_ogrow {E : Env} {P : Nat} (t : TraitCore) (s : OSt) (op : Op) (g : GoodAt E P t s.ctx)
    (hop : ∀ v, op.assigned = some v → v < P) (hdel : op ≠ .del) : OGrow P s (step E t s op).2 := by
  refine (step_eff E t s op).ogrow (fun x hx => ?_) g
  have atom : ∀ v u, v < P → Validated E t v u → u < P := by
    rintro v u hv (rfl | ⟨k, n, hk, hu⟩)
    · exact hv
    · exact (g.core.validate k hk n v u hu).elim (fun e => e ▸ hv) id
  cases op with
  | set v => obtain ⟨u, rfl, hu⟩ := hx; exact ⟨u, rfl, atom v u (hop v rfl) hu⟩
  | setq v => obtain ⟨u, rfl, hu⟩ := hx; exact ⟨u, rfl, atom v u (hop v rfl) hu⟩
  | del => exact absurd rfl hdel
  | _ => exact hx.elim

end TraitsVerif.Model.Attr
