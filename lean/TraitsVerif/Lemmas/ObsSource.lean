/-
Cluster `obs`: the hand-written registration model (Model/Register.lean) IS the
interpretation (Model/ObsL.lean) of the program translated from the source text of
traits/observation/_observe.py and `apply_observers` (Generated/ObsProg.lean).
-/
import TraitsVerif.Lemmas.ObsAtomic
import TraitsVerif.Lemmas.Common
import TraitsVerif.Generated.ObsProg
namespace TraitsVerif.Model.ObsL
open TraitsVerif TraitsVerif.Model.Obs TraitsVerif.Generated

def flowOf : Option Exc → Flow
  | none => .next
  | some e => .raised e

theorem flowOf_ne_returned (o : Option Exc) : Flow.returned ≠ flowOf o := by cases o <;> simp [flowOf]
theorem flowOf_ne_stuck (o : Option Exc) : Flow.stuck ≠ flowOf o := by cases o <;> simp [flowOf]
theorem flowOf_eq_next {o : Option Exc} (h : Flow.next = flowOf o) : o = none := by cases o <;> simp_all [flowOf]
theorem flowOf_eq_raised {o : Option Exc} {e : Exc} (h : Flow.raised e = flowOf o) : o = some e := by
  cases o <;> simp_all [flowOf]

/-- a model result as the global state of the interpreter (one undo log in the store) -/
def toG (t : Tr) : G × Flow := ((t.1, [t.2.1]), flowOf t.2.2)

/-- The state and flow in which a statement ends that does to hooks and undo log what the model result `t` says, run
from `st` (which holds one undo log; the exception being handled is not touched), the variables being `vars` afterwards.
What a fragment of the program does is stated as an equation `… = after st t vars`: a user rewrites with it and is left
with the two ways `t` can end. -/
def after (st : Sto) (t : Tr) (vars : Vars) : Sto × Flow := (⟨t.1, [t.2.1], vars, st.exc⟩, flowOf t.2.2)

theorem endCall_after (st : Sto) (t : Tr) (vars : Vars) : endCall (after st t vars) = toG t := by
  unfold endCall after toG
  cases t.2.2 <;> rfl

theorem endCall_of_after {r : Sto × Flow} {st : Sto} {t : Tr} {I : Vars → Prop}
    (hr : ∃ vars, I vars ∧ r = after st t vars) : endCall r = toG t := by
  obtain ⟨vars, -, rfl⟩ := hr
  exact endCall_after st t vars

/-! ### generic loops on the model side -/

theorem foldT_map {α β} (F : β → Hooks → List Item → Tr) (g : α → β) (as : List α) :
    foldT F (as.map g) = foldT (fun a => F (g a)) as := by
  funext H log
  induction as generalizing H log with
  | nil => rfl
  | cons a as ih => simp only [List.map_cons, foldT, ih]

theorem foldT_flatMap {α β} (F : β → Hooks → List Item → Tr) (g : α → List β) (as : List α) (H : Hooks)
    (log : List Item) :
    foldT F (as.flatMap g) H log = foldT (fun a => foldT F (g a)) as H log := by
  induction as generalizing H log with
  | nil => rfl
  | cons a as ih =>
    rw [List.flatMap_cons, foldT_append, foldT_cons]
    exact congrArg _ (funext fun H => funext fun log => ih H log)

theorem foldT_congr {α} (F F' : α → Hooks → List Item → Tr) (as : List α) (hF : ∀ a ∈ as, ∀ H log, F a H log = F' a H log)
    (H : Hooks) (log : List Item) : foldT F as H log = foldT F' as H log := by
  induction as generalizing H log with
  | nil => rfl
  | cons a as ih =>
    simp only [foldT, hF a (List.mem_cons_self ..)]
    cases (F' a H log).2.2 with
    | some e => rfl
    | none => exact ih (fun b hb => hF b (List.mem_cons_of_mem _ hb)) _ _

/-! ### the generic `for` loop of the interpreter -/

/-- a loop whose body does `F a` and keeps `I` does `foldT F` and keeps `I` -/
theorem forLoop_after {α} (inj : α → PV) (i : Nat) (f : Sto → Sto × Flow) (F : α → Hooks → List Item → Tr)
    (I : Vars → Prop) (as : List α)
    (hf : ∀ a ∈ as, ∀ (st : Sto) (log : List Item), I st.vars → st.logs = [log] →
        ∃ vars, I vars ∧ f { st with vars := setVar st.vars i (inj a) } = after st (F a st.H log) vars) :
    ∀ (st : Sto) (log : List Item), I st.vars → st.logs = [log] →
      ∃ vars, I vars ∧ forLoop i f (as.map inj) st = after st (foldT F as st.H log) vars := by
  induction as with
  | nil =>
    intro st log hI hl
    cases st; cases hl
    exact ⟨_, hI, rfl⟩
  | cons a as ih =>
    intro st log hI hl
    obtain ⟨vars, hJ, hr⟩ := hf a (List.mem_cons_self ..) st log hI hl
    simp only [List.map_cons, forLoop, foldT, hr, after]
    cases hx : (F a st.H log).2.2 with
    | some e => exact ⟨vars, hJ, by simp only [flowOf, hx]⟩
    | none => exact ih (fun b hb => hf b (List.mem_cons_of_mem _ hb)) ⟨_, _, vars, st.exc⟩ _ hJ rfl

/-! ### the methods of `_AddOrRemoveNotifier`, one by one -/

abbrev P : Prog := observeProg

/-- the instance built by `add_or_remove_notifiers(…, _processed=<log 0>)` -/
def mkFr (x : W) (gv : GV) (k : HKey) (rm ow : Bool) : Frame := ⟨x, gv, k.handler, some k.target, rm, ow, 0⟩

/-- `extra = false`: the graph rooted at a `_RestrictedNamedTraitObserver` -/
def gvOf (extra : Bool) (g : Graph) : GV := if extra then .plain g else .restricted g

/-- `n = <notifier>; n.remove_from(o) if self.remove else n.add_to(o); self._processed.append((n, o))` -/
theorem body_after (h : Heap) (Q : Prog) (call : Callee → G → G × Flow) (fr : Frame) (hp : fr.processed = 0)
    (iN iO : Nat) (hne : iO ≠ iN) (e : Ex) (q : NKey) (o : Observable)
    (st : Sto) (log : List Item) (hl : st.logs = [log]) (hO : st.vars iO = .observable o)
    (he : eval (some fr) st.vars 1 e = some (.notifier q)) :
    exec h Q call (some fr)
      (.seq (.assign iN e) (.seq (.ifS (.selfF .remove) (.removeFrom (.var iN) (.var iO)) (.addTo (.var iN) (.var iO)))
        (.append (.selfF .processed) (.tuple2 (.var iN) (.var iO))))) st =
      after st (step1 fr.remove (o, q) st.H log) (setVar st.vars iN (.notifier q)) := by
  cases hrm : fr.remove with
  | true =>
    cases hri : removeItem (o, q) st.H with
    | error ex =>
      simp [exec, eval, hl, he, commit, setVar, hne, hO, Frame.get, hrm, hri, step1, after, flowOf]
    | ok H' =>
      simp [exec, eval, hl, he, commit, setVar, hne, hO, Frame.get, hrm, hri, step1, after, flowOf, hp]
  | false =>
    simp [exec, eval, hl, he, commit, setVar, hne, hO, Frame.get, hrm, step1, after, flowOf, hp]


theorem gvOf_notify (extra : Bool) (g : Graph) : (gvOf extra g).notify = g.ob.notify := by
  cases extra <;> rfl
theorem gvOf_iterObservables (h : Heap) (extra : Bool) (g : Graph) (x : W) :
    (gvOf extra g).iterObservables h x = observables h g.ob x := by
  cases extra <;> rfl
theorem gvOf_iterObjects (h : Heap) (extra : Bool) (g : Graph) (x : W) :
    (gvOf extra g).iterObjects h x = objects h g.ob x := by
  cases extra <;> rfl
theorem gvOf_children (extra : Bool) (g : Graph) : (gvOf extra g).children = g.children.map .plain := by
  cases extra <;> rfl
theorem gvOf_getNotifier (extra : Bool) (g : Graph) (n : Nat) (t : Id) :
    (gvOf extra g).getNotifier n (some t) = some (.user ⟨n, t⟩) := by
  cases extra <;> rfl
theorem gvOf_getMaintainer (extra : Bool) (g c : Graph) (n : Nat) (t : Id) :
    (gvOf extra g).getMaintainer (.plain c) n (some t) = some (.maint g.ob.mkind c ⟨n, t⟩) := by
  cases extra <;> rfl

section eqns
variable (h : Heap) (Q : Prog) (call : Callee → G → G × Flow) (self : Option Frame) (st : Sto)

theorem exec_skip : exec h Q call self .skip st = (st, .next) := rfl
theorem exec_ret : exec h Q call self .ret st = (st, .returned) := rfl
theorem exec_seq (a b : St) : exec h Q call self (.seq a b) st =
    (match exec h Q call self a st with
     | (st', .next) => exec h Q call self b st'
     | r => r) := rfl
theorem exec_ifS (c : Ex) (t e : St) : exec h Q call self (.ifS c t e) st =
    (match eval self st.vars st.logs.length c with
     | some (.bool true) => exec h Q call self t st
     | some (.bool false) => exec h Q call self e st
     | _ => (st, .stuck)) := rfl
theorem exec_forObservables (i : Nat) (g o : Ex) (body : St) : exec h Q call self (.forObservables i g o body) st =
    (match eval self st.vars st.logs.length g, eval self st.vars st.logs.length o with
     | some (.graph gv), some (.obj x) =>
       (match gv.iterObservables h x with
        | .error e => (st, .raised e)
        | .ok os => forLoop i (fun s => exec h Q call self body s) (os.map .observable) st)
     | _, _ => (st, .stuck)) := rfl
theorem exec_forObjects (i : Nat) (g o : Ex) (body : St) : exec h Q call self (.forObjects i g o body) st =
    (match eval self st.vars st.logs.length g, eval self st.vars st.logs.length o with
     | some (.graph gv), some (.obj x) =>
       (match gv.iterObjects h x with
        | .error e => (st, .raised e)
        | .ok ys => forLoop i (fun s => exec h Q call self body s) (ys.map .obj) st)
     | _, _ => (st, .stuck)) := rfl
theorem exec_forExtraGraphs (i : Nat) (g a : Ex) (body : St) : exec h Q call self (.forExtraGraphs i g a body) st =
    (match eval self st.vars st.logs.length g, eval self st.vars st.logs.length a with
     | some (.graph gv), some (.graph _) =>
       forLoop i (fun s => exec h Q call self body s) (gv.iterExtraGraphs.map .graph) st
     | _, _ => (st, .stuck)) := rfl
theorem exec_forChildren (i : Nat) (g : Ex) (body : St) : exec h Q call self (.forChildren i g body) st =
    (match eval self st.vars st.logs.length g with
     | some (.graph gv) => forLoop i (fun s => exec h Q call self body s) (gv.children.map .graph) st
     | _ => (st, .stuck)) := rfl
theorem exec_forIn (i : Nat) (e : Ex) (body : St) : exec h Q call self (.forIn i e body) st =
    (match eval self st.vars st.logs.length e with
     | some (.graphs gs) => forLoop i (fun s => exec h Q call self body s) (gs.map .graph) st
     | some (.meths ms) => forLoop i (fun s => exec h Q call self body s) (ms.map .meth) st
     | some (.ids l) => forLoop i (fun s => exec h Q call self body s) (l.map (fun y => .obj (some y))) st
     | _ => (st, .stuck)) := rfl
theorem exec_tryS (body handler orelse : St) : exec h Q call self (.tryS body handler orelse) st =
    (match exec h Q call self body st with
     | (st', .next) => exec h Q call self orelse st'
     | (st', .raised e) => exec h Q call self handler { st' with exc := some e }
     | r => r) := rfl
theorem exec_whilePop (l : Ex) (i j : Nat) (body : St) : exec h Q call self (.whilePop l i j body) st =
    (match eval self st.vars st.logs.length l with
     | some (.log p) => popLoop p i j (fun s => exec h Q call self body s) (st.logs.getD p []).length st
     | _ => (st, .stuck)) := rfl
theorem exec_callFn (name : String) (args : List (Option Ex)) : exec h Q call self (.callFn name args) st =
    (match evalAllO self st.vars st.logs.length args with
     | some vs => viaCallT call (.fn name vs) st
     | none => (st, .stuck)) := rfl
theorem exec_callVar (i : Nat) : exec h Q call self (.callVar i) st =
    (match st.vars i, self with
     | .meth m, some fr => viaCall call (.meth m fr) st
     | .inst fr, _ => viaCall call (.meth "__call__" fr) st
     | _, _ => (st, .stuck)) := rfl
theorem exec_assign (i : Nat) (e : Ex) : exec h Q call self (.assign i e) st =
    (match eval self st.vars st.logs.length e with
     | some v => ({ st with vars := setVar st.vars i v, logs := commit v st.logs }, .next)
     | none => (st, .stuck)) := rfl
theorem exec_construct (dst : Nat) (args : List (Option Ex)) : exec h Q call self (.construct dst args) st =
    (match (evalAllO self st.vars st.logs.length args).bind (bindArgs Q.initDefaults) with
     | some vs =>
       if vs.length = Q.initParams then
         (match mkFrame Q.init vs st.logs.length with
          | some fr => ({ st with vars := setVar st.vars dst (.inst fr), logs := commit (.log fr.processed) st.logs }, .next)
          | none => (st, .stuck))
       else (st, .stuck)
     | none => (st, .stuck)) := rfl
theorem exec_clear (l : Ex) : exec h Q call self (.clear l) st =
    (match eval self st.vars st.logs.length l with
     | some (.log p) => if p < st.logs.length then ({ st with logs := st.logs.set p [] }, .next) else (st, .stuck)
     | _ => (st, .stuck)) := rfl
theorem exec_reraise : exec h Q call self .reraise st =
    (match st.exc with
     | some e => (st, .raised e)
     | none => (st, .stuck)) := rfl
end eqns

/-- a sequence whose first part does `t` -/
theorem exec_seq_after (h : Heap) (Q : Prog) (call : Callee → G → G × Flow) (self : Option Frame) (a b : St)
    (st : Sto) (t : Tr) (vars : Vars) (ha : exec h Q call self a st = after st t vars) :
    exec h Q call self (.seq a b) st =
      match t.2.2 with
      | none => exec h Q call self b ⟨t.1, [t.2.1], vars, st.exc⟩
      | some _ => after st t vars := by
  rw [exec_seq, ha, after]
  cases t.2.2 <;> rfl

theorem run_meth (h : Heap) (Q : Prog) (n : Nat) (name : String) (fr : Frame) (g : G) (body : St)
    (hb : Q.methods.lookup name = some body) :
    run h Q (n + 1) (.meth name fr) g =
      endCall (exec h Q (run h Q n) (some fr) body ⟨g.1, g.2, fun _ => .unbound, none⟩) := by
  simp only [run, hb]

theorem run_fn (h : Heap) (Q : Prog) (n : Nat) (name : String) (args : List (Option PV)) (g : G) (f : Func)
    (vs : List PV) (hb : Q.fns.lookup name = some f) (hbind : bindArgs f.defaults args = some vs)
    (hn : vs.length = f.nparams) :
    run h Q (n + 1) (.fn name args) g =
      endCall (exec h Q (run h Q n) none f.body ⟨g.1, g.2, ofArgs vs, none⟩) := by
  simp only [run, hb, hbind, hn, if_true]

/-! Functions and methods are fetched by their position in the tables of the program (the names there are distinct):
no name is compared while a proof is checked. -/

theorem lookup_at {β} (l : List (String × β)) (hn : (l.map Prod.fst).Pairwise (· ≠ ·)) :
    ∀ (i : Nat) (name : String) (b : β), l[i]? = some (name, b) → l.lookup name = some b :=
  fun _ _ _ hb => Common.lookup_of_getElem? (l := l) hn hb

theorem meth_at (i : Nat) {name : String} {body : St} (hb : P.methods[i]? = some (name, body)) :
    P.methods.lookup name = some body :=
  lookup_at _ (by
    show ["__call__", "_add_or_remove_extra_graphs", "_add_or_remove_children_notifiers", "_add_or_remove_maintainers",
      "_add_or_remove_notifiers"].Pairwise (· ≠ ·)
    simp) i name body hb

theorem fn_at (i : Nat) {name : String} {f : Func} (hb : P.fns[i]? = some (name, f)) : P.fns.lookup name = some f :=
  lookup_at _ (by
    show ["add_or_remove_notifiers", "undo_processed", "apply_observers", "observer_change_handler",
      "list_observer_change_handler", "dict_observer_change_handler", "set_observer_change_handler"].Pairwise (· ≠ ·)
    simp) i name f hb

/-- `_add_or_remove_notifiers` is `notifStep`. -/
theorem run_notifiers (h : Heap) (n : Nat) (k : HKey) (rm ow extra : Bool) (g : Graph) (x : W) (H : Hooks)
    (log : List Item) :
    run h P (n + 1) (.meth "_add_or_remove_notifiers" (mkFr x (gvOf extra g) k rm ow)) (H, [log]) =
      toG (notifStep h k rm g.ob x H log) := by
  rw [run_meth h P n _ _ _ _ (meth_at 4 rfl)]
  unfold notifStep
  cases hn : g.ob.notify with
  | false =>
    simp [exec, eval, mkFr, Frame.get, gvOf_notify, hn, endCall, toG, flowOf]
  | true =>
    cases ho : observables h g.ob x with
    | error e =>
      simp [exec, eval, mkFr, Frame.get, gvOf_notify, hn, gvOf_iterObservables, ho, endCall, toG, flowOf]
    | ok os =>
      rw [exec_seq, exec_ifS]
      simp only [eval, mkFr, Frame.get, gvOf_notify, hn, Option.map, Bool.not_true, exec_skip]
      rw [exec_forObservables]
      simp only [eval, Frame.get, Option.map, gvOf_iterObservables, ho]
      apply endCall_of_after
      rw [applyOwn_eq_foldT, foldT_map]
      refine forLoop_after PV.observable 0 _ (fun o => step1 rm (o, NKey.user k)) (fun _ => True) os ?_ _ log trivial rfl
      intro o _ st log' _ hl
      exact ⟨_, trivial, body_after h _ _ (mkFr x (gvOf extra g) k rm ow) rfl 1 0 (by decide) _ (.user k) o
        { st with vars := setVar st.vars 0 (.observable o) } log' hl rfl
        (by simp [eval, mkFr, Frame.get, gvOf_getNotifier])⟩


/-- `_add_or_remove_maintainers`, for any root node -/
theorem run_maintainers_gen (h : Heap) (n : Nat) (fr : Frame) (hp : fr.processed = 0) (mk : MKind) (k : HKey)
    (cs : List Graph) (hchild : fr.graph.children = cs.map .plain)
    (hget : ∀ c, fr.graph.getMaintainer (.plain c) fr.handler fr.target = some (.maint mk c k))
    (H : Hooks) (log : List Item) :
    run h P (n + 1) (.meth "_add_or_remove_maintainers" fr) (H, [log]) =
      toG (match fr.graph.iterObservables h fr.object with
        | .error e => (H, log, some e)
        | .ok os => applyOwn fr.remove (os.flatMap (fun o => cs.map (fun c => (o, NKey.maint mk c k)))) H log) := by
  rw [run_meth h P n _ _ _ _ (meth_at 3 rfl)]
  rw [exec_forObservables]
  simp only [eval, Frame.get, Option.map]
  cases ho : fr.graph.iterObservables h fr.object with
  | error e => simp [endCall, toG, flowOf]
  | ok os =>
    dsimp only
    apply endCall_of_after
    rw [applyOwn_eq_foldT, foldT_flatMap]
    simp only [foldT_map]
    refine forLoop_after PV.observable 0 _ (fun o => foldT (fun c => step1 fr.remove (o, NKey.maint mk c k)) cs)
      (fun _ => True) os ?_ _ log trivial rfl
    intro o _ st log' _ hl
    rw [exec_forChildren]
    simp only [eval, Frame.get, Option.map, hchild, List.map_map]
    refine (forLoop_after (PV.graph ∘ GV.plain) 1 _ (fun c => step1 fr.remove (o, NKey.maint mk c k))
      (fun vars => vars 0 = .observable o) cs ?_
      { st with vars := setVar st.vars 0 (.observable o) } log' rfl hl).imp fun _ hv => ⟨trivial, hv.2⟩
    intro c _ st' log'' hI hl'
    exact ⟨_, by simp [setVar, hI], body_after h _ _ fr hp 2 0 (by decide) _ (.maint mk c k) o
      { st' with vars := setVar st'.vars 1 ((PV.graph ∘ GV.plain) c) } log'' hl' (by simp [setVar, hI])
      (by simp [eval, setVar, Frame.get, hget])⟩

/-- `_add_or_remove_maintainers` is `maintStep`. -/
theorem run_maintainers (h : Heap) (n : Nat) (k : HKey) (rm ow extra : Bool) (g : Graph) (x : W) (H : Hooks)
    (log : List Item) :
    run h P (n + 1) (.meth "_add_or_remove_maintainers" (mkFr x (gvOf extra g) k rm ow)) (H, [log]) =
      toG (maintStep h k rm g.ob g.children x H log) := by
  rw [run_maintainers_gen h n _ rfl g.ob.mkind k g.children (gvOf_children extra g)
    (fun c => gvOf_getMaintainer extra g c k.handler k.target)]
  simp only [mkFr, gvOf_iterObservables, maintStep]
  cases observables h g.ob x <;> rfl

/-- on the extra graph `_add_or_remove_maintainers` is `extraStepW`. -/
theorem run_maintainers_added (h : Heap) (n : Nat) (k : HKey) (rm ow : Bool) (g : Graph) (x : W) (H : Hooks)
    (log : List Item) :
    run h P (n + 1) (.meth "_add_or_remove_maintainers" (mkFr x (.added g) k rm ow)) (H, [log]) =
      toG (extraStepW h k rm g x H log) := by
  rw [run_maintainers_gen h n _ rfl .added k [g] rfl (fun c => rfl)]
  simp only [mkFr, GV.iterObservables, extraStepW]
  cases extraObservables h g.ob x with
  | error e => rfl
  | ok os => simp [List.map_eq_flatMap]


/-! ### the recursive steps -/

theorem forLoop_single (i : Nat) (f : Sto → Sto × Flow) (v : PV) (st : Sto) :
    forLoop i f [v] st = f { st with vars := setVar st.vars i v } := by
  simp only [forLoop]
  generalize f { st with vars := setVar st.vars i v } = r
  obtain ⟨st', fl⟩ := r
  cases fl <;> rfl

/-- the arguments of a nested `add_or_remove_notifiers(…, _processed=self._processed)` -/
def arnArgs (x : W) (gv : GV) (k : HKey) (rm : Bool) : List (Option PV) :=
  [some (.obj x), some (.graph gv), some (.handler k.handler), some (.obj (some k.target)), some .disp,
    some (.bool rm), some (.log 0)]

theorem viaCall_after (call : Callee → G → G × Flow) (c : Callee) (st : Sto) (log : List Item) (t : Tr)
    (hl : st.logs = [log]) (hc : call c (st.H, [log]) = toG t) :
    viaCall call c st = after st t st.vars := by
  unfold viaCall
  rw [hl, hc]
  unfold toG after
  cases t.2.2 <;> rfl

/-- a call, as a statement, of a module-level function whose effect is known (one log before, one log after: nothing
to drop) -/
theorem callFn_after (h : Heap) (Q : Prog) (call : Callee → G → G × Flow) (self : Option Frame) (name : String)
    (args : List (Option Ex)) (vs : List (Option PV)) (st : Sto) (log : List Item) (t : Tr) (hl : st.logs = [log])
    (hev : evalAllO self st.vars 1 args = some vs) (hc : call (.fn name vs) (st.H, [log]) = toG t) :
    exec h Q call self (.callFn name args) st = after st t st.vars := by
  rw [exec_callFn, hl]
  simp only [List.length_cons, List.length_nil, Nat.zero_add, hev]
  unfold viaCallT
  rw [viaCall_after call _ st log t hl hc, hl]
  rfl

theorem viaCallT_exc (call : Callee → G → G × Flow) (c : Callee) (st : Sto) : (viaCallT call c st).1.exc = st.exc := by
  unfold viaCallT viaCall
  generalize call c (st.H, st.logs) = r
  obtain ⟨g, fl⟩ := r
  cases fl <;> rfl

theorem walkCs_eq_foldT (h : Heap) (k : HKey) (rm : Bool) (ob : Observer) (x : W) (cs : List Graph) (H : Hooks)
    (log : List Item) :
    walkCs h k rm ob x cs H log =
      foldT (fun c H log => match objects h ob x with
        | .error e => (H, log, some e)
        | .ok ys => foldT (walk h k rm true c) ys H log) cs H log := by
  induction cs generalizing H log with
  | nil => simp [walkCs, foldT]
  | cons c cs ih =>
    simp only [walkCs, foldT, ih]
    cases objects h ob x with
    | error e => rfl
    | ok ys =>
      simp only [foldW_eq_foldT]
      cases (foldT (walk h k rm true c) ys H log).2.2 <;> rfl

/-- `_add_or_remove_children_notifiers` is `walkCs`, given that the nested calls are `walk`. -/
theorem run_children (h : Heap) (n : Nat) (k : HKey) (rm ow extra : Bool) (g : Graph) (x : W)
    (ih : ∀ c ∈ g.children, ∀ (y : W) (H : Hooks) (log : List Item),
      run h P n (.fn "add_or_remove_notifiers" (arnArgs y (.plain c) k rm)) (H, [log]) =
        toG (walk h k rm true c y H log))
    (H : Hooks) (log : List Item) :
    run h P (n + 1) (.meth "_add_or_remove_children_notifiers" (mkFr x (gvOf extra g) k rm ow)) (H, [log]) =
      toG (walkCs h k rm g.ob x g.children H log) := by
  rw [run_meth h P n _ _ _ _ (meth_at 2 rfl)]
  rw [exec_forChildren]
  simp only [eval, mkFr, Frame.get, Option.map, gvOf_children, List.map_map]
  apply endCall_of_after
  rw [walkCs_eq_foldT]
  refine forLoop_after (PV.graph ∘ GV.plain) 0 _ _ (fun _ => True) g.children ?_ _ log trivial rfl
  intro c hc st log' _ hl
  rw [exec_forObjects]
  simp only [eval, Frame.get, Option.map, gvOf_iterObjects]
  cases objects h g.ob x with
  | error e => cases st; cases hl; exact ⟨_, trivial, rfl⟩
  | ok ys =>
    dsimp only
    refine (forLoop_after PV.obj 1 _ (walk h k rm true c) (fun vars => vars 0 = .graph (.plain c)) ys ?_
      { st with vars := setVar st.vars 0 ((PV.graph ∘ GV.plain) c) } log' rfl hl).imp fun _ hv => ⟨trivial, hv.2⟩
    intro y _ st' log'' hI hl'
    exact ⟨_, by simp [setVar, hI], callFn_after h P _ _ _ _ (arnArgs y (.plain c) k rm)
      { st' with vars := setVar st'.vars 1 (PV.obj y) } log'' _ hl'
      (by simp [evalAllO, eval, Frame.get, setVar, hI, arnArgs]) (ih c hc y st'.H log'')⟩

theorem extraStepW_noExtra (h : Heap) (k : HKey) (rm : Bool) (g : Graph) (x : W) (H : Hooks) (log : List Item)
    (hx : hasExtra g.ob = false) : extraStepW h k rm g x H log = (H, log, none) := by
  unfold extraStepW
  cases hg : g.ob <;> simp [hg, hasExtra] at hx <;> simp [extraObservables, applyOwn]

/-- `_add_or_remove_extra_graphs` is `extraStepW`, given that the nested call on the extra graph is. -/
theorem run_extra (h : Heap) (n : Nat) (k : HKey) (rm ow extra : Bool) (g : Graph) (x : W)
    (ih : ∀ (H : Hooks) (log : List Item),
      run h P n (.fn "add_or_remove_notifiers" (arnArgs x (.added g) k rm)) (H, [log]) =
        toG (extraStepW h k rm g x H log))
    (H : Hooks) (log : List Item) :
    run h P (n + 1) (.meth "_add_or_remove_extra_graphs" (mkFr x (gvOf extra g) k rm ow)) (H, [log]) =
      toG (if extra then extraStepW h k rm g x H log else (H, log, none)) := by
  rw [run_meth h P n _ _ _ _ (meth_at 1 rfl)]
  rw [exec_forExtraGraphs]
  simp only [eval, mkFr, Frame.get, Option.map]
  cases extra with
  | false => simp only [gvOf, GV.iterExtraGraphs, List.map_nil, forLoop, Bool.false_eq_true, if_false]; rfl
  | true =>
    simp only [gvOf, if_true, GV.iterExtraGraphs]
    cases hx : hasExtra g.ob with
    | false =>
      rw [extraStepW_noExtra h k rm g x H log hx]
      rfl
    | true =>
      simp only [if_true, List.map_cons, List.map_nil, forLoop_single]
      rw [callFn_after h P _ _ _ _ (arnArgs x (.added g) k rm) _ log _ rfl
        (by simp [evalAllO, eval, Frame.get, setVar, arnArgs]) (ih H log), endCall_after]


/-! ### `undo_processed` and what the owner of the undo log does with it -/

/-- `undo_processed` exactly as the source runs it: `remove_from` may raise, and then the
loop stops there (result: hooks, what is left of the log, the exception). -/
def undoS (rm : Bool) : List Item → Hooks → Tr
  | [], H => (H, [], none)
  | it :: its, H =>
    if rm then undoS rm its (addItem it H)
    else match removeItem it H with
      | .ok H' => undoS rm its H'
      | .error e => (H, its, some e)

theorem undo_body (h : Heap) (Q : Prog) (call : Callee → G → G × Flow) (self : Option Frame) (r i j : Nat)
    (rm : Bool) (q : NKey) (o : Observable) (st : Sto) (hr : st.vars r = .bool rm) (hi : st.vars i = .notifier q)
    (hj : st.vars j = .observable o) :
    exec h Q call self (.ifS (.var r) (.addTo (.var i) (.var j)) (.removeFrom (.var i) (.var j))) st =
      (if rm then ({ st with H := addItem (o, q) st.H }, .next)
       else match removeItem (o, q) st.H with
         | .ok H' => ({ st with H := H' }, .next)
         | .error e => (st, .raised e)) := by
  cases rm <;> simp [exec, eval, hr, hi, hj]
  cases removeItem (o, q) st.H <;> rfl

theorem popLoop_undo (h : Heap) (Q : Prog) (call : Callee → G → G × Flow) (self : Option Frame) (r i j : Nat)
    (hri : r ≠ i) (hrj : r ≠ j) (hij : i ≠ j) (rm : Bool) :
    ∀ (log : List Item) (st : Sto), st.logs = [log] → st.vars r = .bool rm →
      ∃ vars, popLoop 0 i j (fun s => exec h Q call self
        (.ifS (.var r) (.addTo (.var i) (.var j)) (.removeFrom (.var i) (.var j))) s) log.length st =
        after st (undoS rm log st.H) vars := by
  intro log
  induction log with
  | nil =>
    intro st hl _
    cases st; cases hl
    exact ⟨_, rfl⟩
  | cons it its ih =>
    intro st hl hr
    simp only [List.length_cons, popLoop, hl, List.getElem?_cons_zero, List.set_cons_zero]
    rw [undo_body h Q call self r i j rm it.2 it.1 _ (by simp [setVar, hri, hrj, hr]) (by simp [setVar, hij])
      (by simp [setVar])]
    cases rm with
    | true =>
      simp only [if_true, undoS]
      exact ih ⟨addItem (it.1, it.2) st.H, [its], _, st.exc⟩ rfl (by simp [setVar, hri, hrj, hr])
    | false =>
      simp only [Bool.false_eq_true, if_false, undoS]
      cases removeItem (it.1, it.2) st.H with
      | error e => exact ⟨_, rfl⟩
      | ok H' => exact ih ⟨H', [its], _, st.exc⟩ rfl (by simp [setVar, hri, hrj, hr])

/-- `undo_processed(processed, remove)` -/
theorem run_undo (h : Heap) (n : Nat) (rm : Bool) (H : Hooks) (log : List Item) :
    run h P (n + 1) (.fn "undo_processed" [some (.log 0), some (.bool rm)]) (H, [log]) = toG (undoS rm log H) := by
  rw [run_fn h P n _ _ _ _ [.log 0, .bool rm] (fn_at 1 rfl) (by rfl) (by rfl)]
  simp only [P, observeProg]
  rw [exec_whilePop]
  simp only [eval, ofArgs, List.getD_eq_getElem?_getD, List.getElem?_cons_zero, Option.getD_some]
  obtain ⟨vars, hr⟩ := popLoop_undo h _ _ none 1 2 3 (by decide) (by decide) (by decide) rm log
    ⟨H, [log], ofArgs [.log 0, .bool rm], none⟩ rfl (by cases rm <;> rfl)
  exact (congrArg endCall hr).trans (endCall_after _ _ _)

/-- `except Exception: undo_processed(…); raise`, after a run that left `t` and raised `e` -/
def undoRaise (rm : Bool) (e : Exc) (t : Tr) : Tr :=
  match (undoS rm t.2.1 t.1).2.2 with
  | none => ((undoS rm t.2.1 t.1).1, (undoS rm t.2.1 t.1).2.1, some e)
  | some e' => ((undoS rm t.2.1 t.1).1, (undoS rm t.2.1 t.1).2.1, some e')

/-- `try: <body> except Exception: undo_processed(<log>, <remove>); raise else: <orelse>` around a body that does
`t`: what the owner of an undo log does -/
theorem try_undo (h : Heap) (n : Nat) (self : Option Frame) (body orelse : St) (args : List (Option Ex)) (st : Sto)
    (t : Tr) (vars : Vars) (rm : Bool) (hb : exec h P (run h P (n + 1)) self body st = after st t vars)
    (hev : evalAllO self vars 1 args = some [some (.log 0), some (.bool rm)]) :
    endCall (exec h P (run h P (n + 1)) self
        (.tryS body (.seq (.callFn "undo_processed" args) .reraise) orelse) st) =
      match t.2.2 with
      | none => endCall (exec h P (run h P (n + 1)) self orelse ⟨t.1, [t.2.1], vars, st.exc⟩)
      | some e => toG (undoRaise rm e t) := by
  rw [exec_tryS, hb, after]
  cases t.2.2 with
  | none => rfl
  | some e =>
    simp only [flowOf]
    rw [exec_seq_after h P _ self _ _ _ _ _
      (callFn_after h P _ self _ args _ ⟨t.1, [t.2.1], vars, some e⟩ t.2.1 _ rfl hev (run_undo h n rm t.1 t.2.1))]
    unfold undoRaise
    cases hu : (undoS rm t.2.1 t.1).2.2 with
    | none => simp only [exec_reraise, endCall, toG, flowOf]
    | some e' => simp only [endCall_after, toG, hu]

/-- what the owner does with the result of the steps: clear the log, or undo and re-raise -/
def finishS (rm : Bool) (t : Tr) : Tr :=
  match t.2.2 with
  | none => (t.1, [], none)
  | some e => undoRaise rm e t

/-! ### `__call__` and `add_or_remove_notifiers` -/

/-- `for step in steps: step()`, the steps given with what each does -/
theorem steps_after (h : Heap) (Q : Prog) (call : Callee → G → G × Flow) (fr : Frame)
    (steps : List (String × (Hooks → List Item → Tr)))
    (hF : ∀ p ∈ steps, ∀ H log, call (.meth p.1 fr) (H, [log]) = toG (p.2 H log))
    (i j : Nat) (st : Sto) (log : List Item) (hl : st.logs = [log]) (hv : st.vars j = .meths (steps.map Prod.fst)) :
    ∃ vars, exec h Q call (some fr) (.forIn i (.var j) (.callVar i)) st =
      after st (foldT Prod.snd steps st.H log) vars := by
  rw [exec_forIn]
  simp only [eval, hv, List.map_map]
  refine (forLoop_after (fun p => PV.meth p.1) i _ Prod.snd (fun _ => True) steps (fun p hp st' log' _ hl' =>
    ⟨setVar st'.vars i (.meth p.1), trivial, ?_⟩) st log trivial hl).imp fun _ => And.right
  rw [exec_callVar]
  simp only [setVar, if_true]
  exact viaCall_after call (.meth p.1 fr) { st' with vars := setVar st'.vars i (PV.meth p.1) } log' _ hl' (hF p hp _ _)

theorem endCall_ne_returned (r : Sto × Flow) : (endCall r).2 ≠ .returned := by
  obtain ⟨st, fl⟩ := r
  cases fl <;> simp [endCall]

theorem run_ne_returned (h : Heap) (Q : Prog) (n : Nat) (c : Callee) (g : G) : (run h Q n c g).2 ≠ .returned := by
  cases n with
  | zero => simp [run]
  | succ n =>
    cases c with
    | fn name args =>
      simp only [run]
      split
      · split
        · split
          · exact endCall_ne_returned _
          · simp
        · simp
      · simp
    | meth name fr =>
      simp only [run]
      split
      · exact endCall_ne_returned _
      · simp

/-- a call in tail position -/
theorem endCall_viaCall (h : Heap) (Q : Prog) (n : Nat) (c : Callee) (st : Sto) :
    endCall (viaCall (run h Q n) c st) = run h Q n c (st.H, st.logs) := by
  have := run_ne_returned h Q n c (st.H, st.logs)
  unfold viaCall endCall
  generalize run h Q n c (st.H, st.logs) = r at this
  obtain ⟨g, fl⟩ := r
  cases fl <;> simp_all

def stepNames (rm : Bool) : List String :=
  if rm then ["_add_or_remove_extra_graphs", "_add_or_remove_children_notifiers", "_add_or_remove_maintainers",
    "_add_or_remove_notifiers"]
  else ["_add_or_remove_notifiers", "_add_or_remove_maintainers", "_add_or_remove_children_notifiers",
    "_add_or_remove_extra_graphs"]

/-- `steps = [the four bound methods]`, reversed for a removal -/
theorem call_steps (h : Heap) (Q : Prog) (call : Callee → G → G × Flow) (fr : Frame) (rest : St) (st : Sto) :
    exec h Q call (some fr)
      (.seq (.assign 0 (.meths ["_add_or_remove_notifiers", "_add_or_remove_maintainers",
          "_add_or_remove_children_notifiers", "_add_or_remove_extra_graphs"]))
        (.seq (.ifS (.selfF .remove) (.assign 0 (.rev (.var 0))) .skip) rest)) st =
      exec h Q call (some fr) rest { st with vars := setVar st.vars 0 (.meths (stepNames fr.remove)) } := by
  have hset : ∀ a b : PV, setVar (setVar st.vars 0 a) 0 b = setVar st.vars 0 b := fun a b => by
    funext j; unfold setVar; split <;> rfl
  cases hrm : fr.remove <;>
    simp only [exec_seq, exec_assign, exec_ifS, exec_skip, eval, Frame.get, Option.map, hrm, commit, setVar, if_true,
      List.reverse_cons, List.reverse_nil, List.nil_append, List.cons_append, stepNames, Bool.false_eq_true, if_false]
  exact congrArg (fun v => exec h Q call (some fr) rest { st with vars := v }) (hset _ _)

/-- the four steps, each given by what it does (notifiers, maintainers, children, extra graphs), in the order of the call -/
def steps (rm : Bool) (N M C E : Hooks → List Item → Tr) : List (String × (Hooks → List Item → Tr)) :=
  (stepNames rm).zip (if rm then [E, C, M, N] else [N, M, C, E])

/-- `__call__`: the steps, in order; the instance that owns the undo log then clears it, or undoes and re-raises
(`finishS`). -/
theorem run_call (h : Heap) (n : Nat) (fr : Frame) (hp : fr.processed = 0) (N M C E : Hooks → List Item → Tr)
    (hN : ∀ H log, run h P (n + 1) (.meth "_add_or_remove_notifiers" fr) (H, [log]) = toG (N H log))
    (hM : ∀ H log, run h P (n + 1) (.meth "_add_or_remove_maintainers" fr) (H, [log]) = toG (M H log))
    (hC : ∀ H log, run h P (n + 1) (.meth "_add_or_remove_children_notifiers" fr) (H, [log]) = toG (C H log))
    (hE : ∀ H log, run h P (n + 1) (.meth "_add_or_remove_extra_graphs" fr) (H, [log]) = toG (E H log))
    (H : Hooks) (log : List Item) :
    run h P (n + 2) (.meth "__call__" fr) (H, [log]) =
      toG (if fr.owns then finishS fr.remove (foldT Prod.snd (steps fr.remove N M C E) H log)
        else foldT Prod.snd (steps fr.remove N M C E) H log) := by
  rw [run_meth h P (n + 1) _ _ _ _ (meth_at 0 rfl)]
  have hF : ∀ p ∈ steps fr.remove N M C E, ∀ H log, run h P (n + 1) (.meth p.1 fr) (H, [log]) = toG (p.2 H log) := by
    intro p hp
    cases hrm : fr.remove <;> rw [hrm] at hp <;> simp [steps, stepNames] at hp <;>
      rcases hp with rfl | rfl | rfl | rfl <;> assumption
  rw [call_steps]
  obtain ⟨vars, hloop⟩ := steps_after h P (run h P (n + 1)) fr _ hF 1 0
    ⟨H, [log], setVar (fun _ => .unbound) 0 (.meths (stepNames fr.remove)), none⟩ log rfl (by cases fr.remove <;> rfl)
  rw [exec_seq, exec_ifS]
  cases how : fr.owns with
  | false =>
    simp only [eval, Frame.get, Option.map, how, Bool.not_false, Bool.false_eq_true, if_false]
    rw [exec_seq_after _ _ _ _ _ _ _ _ _ hloop]
    cases hx : (foldT Prod.snd (steps fr.remove N M C E) H log).2.2 <;>
      simp only [exec_ret, endCall, after, toG, flowOf, hx]
  | true =>
    simp only [eval, Frame.get, Option.map, how, Bool.not_true, exec_skip, if_true]
    rw [try_undo h n _ _ _ _ _ _ _ fr.remove hloop (by simp [evalAllO, eval, Frame.get, hp])]
    unfold finishS
    cases (foldT Prod.snd (steps fr.remove N M C E) H log).2.2 with
    | none =>
      simp only [exec_clear, eval, Frame.get, Option.map, hp, List.length_cons, List.length_nil, Nat.lt_add_one, if_true,
        List.set_cons_zero, endCall, toG, flowOf]
    | some e => rfl

/-- `add_or_remove_notifiers(…)` builds the instance from its arguments (bound to the parameters as the signature
says) and calls it -/
theorem run_arn (h : Heap) (n : Nat) (args : List (Option PV)) (vals : List PV) (fr : Frame) (H : Hooks) (logs : Logs)
    (hargs : bindArgs [none, none, none, none, none, none, some .noneLit] args = some vals) (hlen : vals.length = 7)
    (hev : evalAllO none (ofArgs vals) logs.length [some (.var 0), some (.var 1), some (.var 2), some (.var 3),
      some (.var 4), some (.var 5), some (.var 6)] = some (vals.map some))
    (hbd : bindArgs P.initDefaults (vals.map some) = some vals)
    (hmk : mkFrame P.init vals logs.length = some fr) :
    run h P (n + 1) (.fn "add_or_remove_notifiers" args) (H, logs) =
      run h P n (.meth "__call__" fr) (H, commit (.log fr.processed) logs) := by
  rw [run_fn h P n _ _ _ _ vals (fn_at 0 rfl) hargs hlen]
  dsimp only
  rw [exec_seq, exec_construct]
  have hinit : P.initParams = 7 := rfl
  simp only [hev, Option.bind, hbd, hlen, hinit, if_true, hmk]
  simp [setVar, exec_callVar, endCall_viaCall]

/-- a nested call (`_processed=<the log>`) does not own the log -/
theorem run_arn_shared (h : Heap) (n : Nat) (x : W) (gv : GV) (k : HKey) (rm : Bool) (H : Hooks) (log : List Item) :
    run h P (n + 1) (.fn "add_or_remove_notifiers" (arnArgs x gv k rm)) (H, [log]) =
      run h P n (.meth "__call__" (mkFr x gv k rm false)) (H, [log]) :=
  run_arn h n _ [.obj x, .graph gv, .handler k.handler, .obj (some k.target), .disp, .bool rm, .log 0] _ H [log]
    rfl rfl rfl rfl rfl

theorem walk_eq_steps (h : Heap) (k : HKey) (rm extra : Bool) (g : Graph) (x : W) (H : Hooks) (log : List Item) :
    walk h k rm extra g x H log =
      foldT Prod.snd (steps rm (notifStep h k rm g.ob x) (maintStep h k rm g.ob g.children x)
        (walkCs h k rm g.ob x g.children)
        (fun H log => if extra then extraStepW h k rm g x H log else (H, log, none))) H log := by
  obtain ⟨ob, cs⟩ := g
  cases rm
  · rw [walk_add_eq]
    simp only [steps, stepNames, Bool.false_eq_true, if_false, List.zip_cons_cons, List.zip_nil_right, foldT_cons]
    exact congrArg _ (funext fun H => funext fun log => congrArg _ (funext fun H => funext fun log =>
      congrArg _ (funext fun H => funext fun log => (Tr.andThen_ret _).symm)))
  · rw [walk_rm_eq]
    simp only [steps, stepNames, if_true, List.zip_cons_cons, List.zip_nil_right, foldT_cons]
    exact congrArg _ (funext fun H => funext fun log => congrArg _ (funext fun H => funext fun log =>
      congrArg _ (funext fun H => funext fun log => (Tr.andThen_ret _).symm)))

/-! ### the extra graph -/

/-- on the extra graph the other three steps do nothing: its node does not notify, yields no objects and has no
extra graph of its own -/
theorem run_idle_added (h : Heap) (n : Nat) (k : HKey) (rm ow : Bool) (g : Graph) (x : W) (H : Hooks) (log : List Item) :
    run h P (n + 1) (.meth "_add_or_remove_notifiers" (mkFr x (.added g) k rm ow)) (H, [log]) = toG (H, log, none) ∧
    run h P (n + 1) (.meth "_add_or_remove_children_notifiers" (mkFr x (.added g) k rm ow)) (H, [log]) =
      toG (H, log, none) ∧
    run h P (n + 1) (.meth "_add_or_remove_extra_graphs" (mkFr x (.added g) k rm ow)) (H, [log]) = toG (H, log, none) := by
  refine ⟨?_, ?_, ?_⟩
  · rw [run_meth h P n _ _ _ _ (meth_at 4 rfl), exec_seq, exec_ifS]
    simp [eval, mkFr, Frame.get, GV.notify, exec_ret, endCall, toG, flowOf]
  · rw [run_meth h P n _ _ _ _ (meth_at 2 rfl), exec_forChildren]
    simp only [eval, mkFr, Frame.get, Option.map, GV.children, List.map_cons, List.map_nil, forLoop_single]
    rw [exec_forObjects]
    simp [eval, Frame.get, GV.iterObjects, forLoop, endCall, toG, flowOf]
  · rw [run_meth h P n _ _ _ _ (meth_at 1 rfl), exec_forExtraGraphs]
    simp [eval, mkFr, Frame.get, GV.iterExtraGraphs, forLoop, endCall, toG, flowOf]

/-- walking the extra graph is `extraStepW` -/
theorem run_arn_added (h : Heap) (n : Nat) (k : HKey) (rm : Bool) (g : Graph) (x : W) (H : Hooks) (log : List Item) :
    run h P (n + 3) (.fn "add_or_remove_notifiers" (arnArgs x (.added g) k rm)) (H, [log]) =
      toG (extraStepW h k rm g x H log) := by
  have idle := run_idle_added h n k rm false g x
  rw [run_arn_shared, run_call h n _ rfl (fun H log => (H, log, none)) (extraStepW h k rm g x)
    (fun H log => (H, log, none)) (fun H log => (H, log, none)) (fun H log => (idle H log).1)
    (run_maintainers_added h n k rm false g x) (fun H log => (idle H log).2.1) (fun H log => (idle H log).2.2)]
  cases rm <;> exact congrArg toG (Tr.andThen_ret _)

/-! ### the walk -/

mutual
/-- fuel sufficient for `add_or_remove_notifiers` on a graph: three calls per level
(`add_or_remove_notifiers`, `__call__`, the step) -/
def need : Graph → Nat
  | .node _ cs => 3 + needL cs
def needL : List Graph → Nat
  | [] => 3
  | c :: cs => max (need c) (needL cs)
end

theorem needL_ge (cs : List Graph) : 3 ≤ needL cs := by
  induction cs with
  | nil => simp [needL]
  | cons c cs ih => simp only [needL]; omega

theorem need_le_needL (cs : List Graph) (c : Graph) (hc : c ∈ cs) : need c ≤ needL cs := by
  induction cs with
  | nil => cases hc
  | cons d cs ih =>
    simp only [needL]
    cases hc with
    | head => omega
    | tail _ h => have := ih h; omega

/-- `__call__` on a compiled / restricted graph, whoever owns the log, given the nested calls on the children -/
theorem run_call_walk (h : Heap) (k : HKey) (rm ow extra : Bool) (g : Graph) (x : W) (m : Nat) (hm : 3 ≤ m)
    (hch : ∀ c ∈ g.children, ∀ (y : W) (H : Hooks) (log : List Item),
      run h P m (.fn "add_or_remove_notifiers" (arnArgs y (.plain c) k rm)) (H, [log]) = toG (walk h k rm true c y H log))
    (H : Hooks) (log : List Item) :
    run h P (m + 2) (.meth "__call__" (mkFr x (gvOf extra g) k rm ow)) (H, [log]) =
      toG (if ow then finishS rm (walk h k rm extra g x H log) else walk h k rm extra g x H log) := by
  obtain ⟨m', rfl⟩ : ∃ m', m = m' + 3 := ⟨m - 3, by omega⟩
  simp only [walk_eq_steps]
  exact run_call h (m' + 3) _ rfl _ _ _ _ (run_notifiers h _ k rm ow extra g x) (run_maintainers h _ k rm ow extra g x)
    (run_children h _ k rm ow extra g x hch) (run_extra h _ k rm ow extra g x (run_arn_added h m' k rm g x)) H log

/-- SOURCE TIE.  `walk` is the interpretation of `add_or_remove_notifiers(object=x, graph=g, …,
_processed=<log>)` as translated from the source, for every heap, graph, handler, hooks and log. -/
theorem run_arn_walk (h : Heap) (k : HKey) : ∀ g : Graph, ∀ (rm extra : Bool) (x : W) (H : Hooks) (log : List Item)
    (n : Nat), need g ≤ n →
    run h P n (.fn "add_or_remove_notifiers" (arnArgs x (gvOf extra g) k rm)) (H, [log]) =
      toG (walk h k rm extra g x H log) := by
  apply Graph.ind
  intro ob cs ih rm extra x H log n hn
  have h3 := needL_ge cs
  simp only [need] at hn
  obtain ⟨m, rfl⟩ : ∃ m, n = m + 3 := ⟨n - 3, by omega⟩
  rw [run_arn_shared]
  exact run_call_walk h k rm false extra _ x m (by omega) (fun c hc y H'' log'' => by
    simpa [gvOf] using ih c hc rm true y H'' log'' m (by have := need_le_needL cs c hc; omega)) H log

/-- `_processed` is OMITTED: the interpreter takes the default written in the signature -/
def ownArgs (x : W) (gv : GV) (k : HKey) (rm : Bool) : List (Option PV) :=
  [some (.obj x), some (.graph gv), some (.handler k.handler), some (.obj (some k.target)), some .disp,
    some (.bool rm), none]

/-- … and an outermost call gets a fresh log, which it owns -/
theorem run_arn_owner (h : Heap) (n : Nat) (x : W) (gv : GV) (k : HKey) (rm : Bool) (H : Hooks) :
    run h P (n + 1) (.fn "add_or_remove_notifiers" (ownArgs x gv k rm)) (H, []) =
      run h P n (.meth "__call__" (mkFr x gv k rm true)) (H, [[]]) :=
  run_arn h n _ [.obj x, .graph gv, .handler k.handler, .obj (some k.target), .disp, .bool rm, .none] _ H []
    rfl rfl rfl rfl rfl

/-- an outermost call, however its arguments are written: the walk, then `finishS` -/
theorem run_owner (h : Heap) (k : HKey) (g : Graph) (rm extra : Bool) (x : W) (H : Hooks) (args : List (Option PV))
    (hargs : ∀ n, run h P (n + 1) (.fn "add_or_remove_notifiers" args) (H, []) =
      run h P n (.meth "__call__" (mkFr x (gvOf extra g) k rm true)) (H, [[]]))
    (n : Nat) (hn : need g ≤ n) :
    run h P n (.fn "add_or_remove_notifiers" args) (H, []) = toG (finishS rm (walk h k rm extra g x H [])) := by
  have : 6 ≤ need g := by
    obtain ⟨ob, cs⟩ := g
    have := needL_ge cs
    simp only [need]; omega
  obtain ⟨m, rfl⟩ : ∃ m, n = m + 3 := ⟨n - 3, by omega⟩
  rw [hargs]
  exact run_call_walk h k rm true extra g x m (by omega) (fun c hc y H' log' => by
    obtain ⟨ob, cs⟩ := g
    simpa [gvOf] using run_arn_walk h k c rm true y H' log' m
      (by have := need_le_needL cs c hc; simp only [need] at hn; omega)) H []

/-- SOURCE TIE.  An outermost `add_or_remove_notifiers(object=x, graph=g, …)` as translated from the source:
the walk, then `finishS` (clear the log, or `undo_processed` and re-raise). -/
theorem run_arn_outer (h : Heap) (k : HKey) (g : Graph) (rm extra : Bool) (x : W) (H : Hooks) (n : Nat)
    (hn : need g ≤ n) :
    run h P n (.fn "add_or_remove_notifiers" (ownArgs x (gvOf extra g) k rm)) (H, []) =
      toG (finishS rm (walk h k rm extra g x H [])) :=
  run_owner h k g rm extra x H _ (fun n => run_arn_owner h n x _ k rm H) n hn

/-! ### the source's roll-back is the model's, on what a walk leaves behind -/

theorem undoS_rm (log : List Item) (H : Hooks) : undoS true log H = (undo true log H, [], none) := by
  induction log generalizing H with
  | nil => rfl
  | cons it its ih => simp only [undoS, undo, if_true, ih]

theorem undoS_add (log : List Item) (H : Hooks) (hw : WF H) (hle : ∀ o q, cntItems log o q ≤ cnt H o q) :
    undoS false log H = (undo false log H, [], none) := by
  induction log generalizing H with
  | nil => rfl
  | cons it its ih =>
    obtain ⟨H1, h1, hw1, -, hle1⟩ := removeItem_of_le hw hle
    simp only [undoS, undo, h1, Bool.false_eq_true, if_false]
    exact ih H1 hw1 hle1

theorem undoRaise_eq_undo (rm : Bool) (H : Hooks) (r : Tr) (e : Exc) (hd : Did rm H [] r) :
    undoRaise rm e r = (undo rm r.2.1 r.1, [], some e) := by
  obtain ⟨new, hlog, hc, hw⟩ := hd
  rw [List.append_nil] at hlog
  unfold undoRaise
  cases rm with
  | true => simp only [undoS_rm]
  | false => rw [hlog, undoS_add new r.1 hw (fun o q => by have := (hc o q).2 rfl; omega)]

theorem finishS_eq_finish (rm : Bool) (H : Hooks) (r : Tr) (hd : Did rm H [] r) :
    finishS rm r = ((finish rm r).H, [], (finish rm r).err) := by
  unfold finishS finish
  cases r.2.2 with
  | none => rfl
  | some e => exact undoRaise_eq_undo rm H r e hd


/-- SOURCE TIE.  An outermost `add_or_remove_notifiers(…)` from well-formed hooks, however its arguments are written, is
`addRemove`: same hooks, same exception, the log left empty. -/
theorem run_owner_addRemove (h : Heap) (k : HKey) (g : Graph) (rm extra : Bool) (x : W) (H : Hooks) (hw : WF H)
    (args : List (Option PV))
    (hargs : ∀ n, run h P (n + 1) (.fn "add_or_remove_notifiers" args) (H, []) =
      run h P n (.meth "__call__" (mkFr x (gvOf extra g) k rm true)) (H, [[]]))
    (n : Nat) (hn : need g ≤ n) :
    run h P n (.fn "add_or_remove_notifiers" args) (H, []) =
      (((addRemove h k rm extra g x H).H, [[]]), flowOf (addRemove h k rm extra g x H).err) := by
  rw [run_owner h k g rm extra x H args hargs n hn, finishS_eq_finish rm H _ (walk_did h k g rm extra x H [] hw)]
  rfl

/-! ### `apply_observers` -/

/-- what `apply_observers` does with the result of its loop (the log is not cleared on success) -/
def finishA (rm : Bool) (t : Tr) : Tr :=
  match t.2.2 with
  | none => t
  | some e => undoRaise rm e t

/-- the parameter defaults of the translated `apply_observers` -/
def applyDefaults : List (Option Ex) := ((P.fns.lookup "apply_observers").map (·.defaults)).getD []

/-- SOURCE TIE.  `apply_observers(object, graphs, handler, dispatcher=…, remove=…)` as translated from
observe.py is the model's loop over the graphs with one shared log, then `finishA`. -/
theorem run_apply_observers (h : Heap) (hd : Nat) (root : Id) (rm : Bool) (gs : List Graph) (H : Hooks) (n : Nat)
    (hn : needL gs ≤ n) (args : List (Option PV))
    (hargs : bindArgs applyDefaults args =
      some [.obj (some root), .graphs (gs.map .plain), .handler hd, .disp, .bool rm]) :
    run h P (n + 1) (.fn "apply_observers" args) (H, []) =
      toG (finishA rm (applyObserversW h ⟨hd, root⟩ rm (some root) gs H [])) := by
  have h3 := needL_ge gs
  obtain ⟨n', rfl⟩ : ∃ n', n = n' + 1 := ⟨n - 1, by omega⟩
  rw [run_fn h P (n' + 1) _ _ _ _ _ (fn_at 2 rfl) (show _ from hargs) (by rfl)]
  dsimp only
  rw [exec_seq, exec_assign]
  simp only [eval, commit, List.length_nil, if_true, List.nil_append]
  -- the loop over the graphs: each call is a nested walk into the log just allocated
  obtain ⟨vars, hI, hloop⟩ := forLoop_after (PV.graph ∘ GV.plain) 6
    (fun s => exec h P (run h P (n' + 1)) none (.callFn "add_or_remove_notifiers"
      [(some (.var 0)), (some (.var 6)), (some (.var 2)), (some (.var 0)), (some (.var 3)), (some (.var 4)), (some (.var 5))]) s)
    (fun g => walk h ⟨hd, root⟩ rm true g (some root))
    (fun vars => vars 0 = .obj (some root) ∧ vars 1 = .graphs (gs.map .plain) ∧ vars 2 = .handler hd ∧ vars 3 = .disp ∧
      vars 4 = .bool rm ∧ vars 5 = .log 0) gs
    (fun g hg st log ⟨v0, v1, v2, v3, v4, v5⟩ hl =>
      ⟨_, by simp [setVar, v0, v1, v2, v3, v4, v5],
        callFn_after h P _ none _ _ (arnArgs (some root) (.plain g) ⟨hd, root⟩ rm)
          { st with vars := setVar st.vars 6 ((PV.graph ∘ GV.plain) g) } log _ hl
          (by simp [evalAllO, eval, setVar, v0, v2, v3, v4, v5, arnArgs])
          (by
            have := run_arn_walk h ⟨hd, root⟩ g rm true (some root) st.H log (n' + 1)
              (by have := need_le_needL gs g hg; omega)
            simpa [gvOf] using this)⟩)
    ⟨H, [[]], setVar (ofArgs [PV.obj (some root), PV.graphs (gs.map .plain), PV.handler hd, PV.disp, PV.bool rm]) 5
      (PV.log 0), none⟩ [] (by simp [setVar, ofArgs]) rfl
  rw [← applyObserversW_eq_foldT] at hloop
  obtain ⟨v0, v1, v2, v3, v4, v5⟩ := hI
  rw [try_undo h n' none _ _ _ _ _ vars rm (by
    rw [exec_forIn]
    simp only [eval, show setVar (ofArgs [PV.obj (some root), PV.graphs (gs.map .plain), PV.handler hd, PV.disp, PV.bool rm]) 5
      (PV.log 0) 1 = PV.graphs (gs.map .plain) from rfl, List.map_map]
    exact hloop) (by simp [evalAllO, eval, v4, v5])]
  unfold finishA
  cases hx : (applyObserversW h ⟨hd, root⟩ rm (some root) gs H []).2.2 with
  | none => simp only [exec_skip, endCall, toG, flowOf, hx]
  | some e => rfl

/-- after the loop of `apply_observers` from an empty log, `finishA` is the model's `finish` (up to
the log, which the source does not clear on success) -/
theorem finishA_eq_finish (rm : Bool) (H : Hooks) (r : Tr) (hd : Did rm H [] r) :
    (finishA rm r).1 = (finish rm r).H ∧ (finishA rm r).2.2 = (finish rm r).err := by
  unfold finishA finish
  cases hr : r.2.2 with
  | none => exact ⟨rfl, hr⟩
  | some e => simp only [undoRaise_eq_undo rm H r e hd, and_self]

/-- SOURCE TIE.  `apply_observers(…)` from well-formed hooks is the model's `applyObservers`: same hooks, same exception. -/
theorem run_apply_observers_model (h : Heap) (hd : Nat) (root : Id) (rm : Bool) (gs : List Graph) (H : Hooks) (hw : WF H)
    (n : Nat) (hn : needL gs ≤ n) (args : List (Option PV))
    (hargs : bindArgs applyDefaults args =
      some [.obj (some root), .graphs (gs.map .plain), .handler hd, .disp, .bool rm]) :
    (run h P (n + 1) (.fn "apply_observers" args) (H, [])).1.1 = (applyObservers h ⟨hd, root⟩ rm (some root) gs H).H ∧
    (run h P (n + 1) (.fn "apply_observers" args) (H, [])).2 =
      flowOf (applyObservers h ⟨hd, root⟩ rm (some root) gs H).err := by
  rw [run_apply_observers h hd root rm gs H n hn args hargs]
  have := finishA_eq_finish rm H _ (applyObserversW_did h ⟨hd, root⟩ rm (some root) gs H [] hw)
  exact ⟨this.1, congrArg flowOf this.2⟩

end TraitsVerif.Model.ObsL
