/-
Reachability along a name on tree-shaped heaps (helper lemmas for C16): descents `descFrom`,
then the subtree of an object as a predicate (`Below`) with its one-step unfolding.
-/
import TraitsVerif.Model.Legacy
namespace TraitsVerif.Model.Legacy
open List

variable {h : Heap} {L : List Link}

theorem mem_descFrom_zero {k o x} : x ∈ descFrom h L k o 0 ↔ x = o := by
  simp [descFrom]

theorem mem_descFrom_succ {k o j x} :
    x ∈ descFrom h L k o (j + 1) ↔
      ∃ l p, L[k + j]? = some l ∧ p ∈ descFrom h L k o j ∧ x ∈ targets h l.attr p := by
  simp only [descFrom]
  cases hl : L[k + j]? with
  | none => simp
  | some l =>
    simp only [mem_flatMap, Option.some.injEq]
    constructor
    · rintro ⟨p, hp, hx⟩; exact ⟨l, p, rfl, hp, hx⟩
    · rintro ⟨l', p, rfl, hp, hx⟩; exact ⟨p, hp, hx⟩

theorem mem_descFrom_cons {k o j x} :
    x ∈ descFrom h L k o (j + 1) ↔
      ∃ l c, L[k]? = some l ∧ c ∈ targets h l.attr o ∧ x ∈ descFrom h L (k + 1) c j := by
  induction j generalizing x with
  | zero =>
    rw [mem_descFrom_succ]
    simp only [Nat.add_zero, mem_descFrom_zero]
    constructor
    · rintro ⟨l, p, hl, rfl, hx⟩; exact ⟨l, x, hl, hx, rfl⟩
    · rintro ⟨l, c, hl, hc, rfl⟩; exact ⟨l, o, hl, rfl, hc⟩
  | succ j ih =>
    rw [mem_descFrom_succ]
    constructor
    · rintro ⟨l, p, hl, hp, hx⟩
      obtain ⟨l0, c, hl0, hc, hpc⟩ := ih.mp hp
      refine ⟨l0, c, hl0, hc, ?_⟩
      rw [mem_descFrom_succ]
      refine ⟨l, p, ?_, hpc, hx⟩
      rw [show k + 1 + j = k + (j + 1) by omega]; exact hl
    · rintro ⟨l0, c, hl0, hc, hx⟩
      rw [mem_descFrom_succ] at hx
      obtain ⟨l, p, hl, hp, hx⟩ := hx
      refine ⟨l, p, ?_, ih.mpr ⟨l0, c, hl0, hc, hp⟩, hx⟩
      rw [show k + (j + 1) = k + 1 + j by omega]; exact hl

theorem mem_reach_zero {x} : x ∈ reach h L 0 ↔ x = root := by
  simp [reach, descFrom]

theorem mem_reach_succ {m x} :
    x ∈ reach h L (m + 1) ↔ ∃ l p, L[m]? = some l ∧ p ∈ reach h L m ∧ x ∈ targets h l.attr p := by
  unfold reach
  rw [mem_descFrom_succ]
  simp only [Nat.zero_add]

section
variable (ht : TreeShaped h)
include ht

theorem descFrom_ge {k o j x} (hx : x ∈ descFrom h L k o j) : o + j ≤ x := by
  induction j generalizing x with
  | zero => simp [mem_descFrom_zero] at hx; omega
  | succ j ih =>
    obtain ⟨l, p, _, hp, hx⟩ := mem_descFrom_succ.mp hx
    have := ih hp
    have := ht.up _ _ _ hx
    omega

theorem descFrom_lt_next {k o j x} (ho : o < h.next)
    (hx : x ∈ descFrom h L k o j) : x < h.next := by
  cases j with
  | zero => simp [mem_descFrom_zero] at hx; omega
  | succ j =>
    obtain ⟨l, p, _, _, hx⟩ := mem_descFrom_succ.mp hx
    exact ht.bound _ _ _ hx

/-- Walking up: two descents ending in the same object share their upper part. -/
theorem descFrom_walk_up {k o j k' o' j' x}
    (hx : x ∈ descFrom h L k o j) (hx' : x ∈ descFrom h L k' o' j') (hle : j ≤ j') :
    o ∈ descFrom h L k' o' (j' - j) := by
  induction j generalizing x j' with
  | zero =>
    simp [mem_descFrom_zero] at hx
    subst hx; simpa using hx'
  | succ j ih =>
    obtain ⟨l, p, _, hp, hxp⟩ := mem_descFrom_succ.mp hx
    obtain ⟨j'', rfl⟩ : ∃ j'', j' = j'' + 1 := ⟨j' - 1, by omega⟩
    obtain ⟨l', p', _, hp', hxp'⟩ := mem_descFrom_succ.mp hx'
    obtain ⟨rfl, _⟩ := ht.uniq _ _ _ _ _ hxp hxp'
    have := ih hp hp' (by omega)
    rwa [show j'' + 1 - (j + 1) = j'' - j by omega]

theorem descFrom_same_depth {k o k' o' j x}
    (hx : x ∈ descFrom h L k o j) (hx' : x ∈ descFrom h L k' o' j) : o = o' := by
  have := descFrom_walk_up ht hx hx' (Nat.le_refl _)
  simpa [mem_descFrom_zero] using this

theorem descFrom_unique_depth {k o k' j j' x}
    (hx : x ∈ descFrom h L k o j) (hx' : x ∈ descFrom h L k' o j') : j = j' := by
  rcases Nat.lt_trichotomy j j' with hlt | heq | hgt
  · have := descFrom_ge ht (descFrom_walk_up ht hx hx' (Nat.le_of_lt hlt)); omega
  · exact heq
  · have := descFrom_ge ht (descFrom_walk_up ht hx' hx (Nat.le_of_lt hgt)); omega

theorem reach_unique_depth {m m' x}
    (hx : x ∈ reach h L m) (hx' : x ∈ reach h L m') : m = m' :=
  descFrom_unique_depth ht hx hx'

theorem reach_lt_next {m x} (hx : x ∈ reach h L m) : x < h.next :=
  descFrom_lt_next ht ht.pos hx

theorem descFrom_siblings_disjoint {a a' o c c' k k' j j' x}
    (hc : c ∈ targets h a o) (hc' : c' ∈ targets h a' o) (hne : c ≠ c')
    (hx : x ∈ descFrom h L k c j) (hx' : x ∈ descFrom h L k' c' j') : False := by
  have key : ∀ {a a' c c' k k' j j'}, c ∈ targets h a o → c' ∈ targets h a' o → c ≠ c' →
      x ∈ descFrom h L k c j → x ∈ descFrom h L k' c' j' → j ≤ j' → False := by
    intro a a' c c' k k' j j' hc hc' hne hx hx' hle
    have hw := descFrom_walk_up ht hx hx' hle
    rcases Nat.eq_zero_or_pos (j' - j) with h0 | hpos
    · rw [h0] at hw; simp [mem_descFrom_zero] at hw; exact hne hw
    · obtain ⟨d, hd⟩ : ∃ d, j' - j = d + 1 := ⟨j' - j - 1, by omega⟩
      rw [hd] at hw
      obtain ⟨l, p, _, hp, hcp⟩ := mem_descFrom_succ.mp hw
      obtain ⟨rfl, _⟩ := ht.uniq _ _ _ _ _ hcp hc
      have := descFrom_ge ht hp
      have := ht.up _ _ _ hc'
      omega
  rcases Nat.le_total j j' with hle | hle
  · exact key hc hc' hne hx hx' hle
  · exact key hc' hc (Ne.symm hne) hx' hx hle

end

theorem descFrom_sub_reach {k o j x} (ho : o ∈ reach h L k) (hx : x ∈ descFrom h L k o j) :
    x ∈ reach h L (k + j) := by
  induction j generalizing x with
  | zero => simp [mem_descFrom_zero] at hx; subst hx; simpa using ho
  | succ j ih =>
    obtain ⟨l, p, hl, hp, hx⟩ := mem_descFrom_succ.mp hx
    rw [show k + (j + 1) = (k + j) + 1 by omega, mem_reach_succ]
    exact ⟨l, p, hl, ih hp, hx⟩

theorem reach_split {k j x} (hx : x ∈ reach h L (k + j)) :
    ∃ o, o ∈ reach h L k ∧ x ∈ descFrom h L k o j := by
  induction j generalizing x with
  | zero => exact ⟨x, by simpa using hx, by simp [mem_descFrom_zero]⟩
  | succ j ih =>
    rw [show k + (j + 1) = (k + j) + 1 by omega, mem_reach_succ] at hx
    obtain ⟨l, p, hl, hp, hx⟩ := hx
    obtain ⟨o, ho, hpo⟩ := ih hp
    exact ⟨o, ho, mem_descFrom_succ.mpr ⟨l, p, hl, hpo, hx⟩⟩

/-- A descent of length `j` reads, at depth `i < j`, only the attribute the name follows there, and only
of the objects it passes. -/
theorem descFrom_congr {h' : Heap} {k c : Nat} : ∀ {j : Nat},
    (∀ i p l, i < j → p ∈ descFrom h L k c i → L[k + i]? = some l →
      ∀ x, x ∈ targets h' l.attr p ↔ x ∈ targets h l.attr p) →
    ∀ x, x ∈ descFrom h' L k c j ↔ x ∈ descFrom h L k c j
  | 0, _, x => by simp [mem_descFrom_zero]
  | j + 1, hsame, x => by
    have ih := descFrom_congr (j := j) (fun i p l hi => hsame i p l (by omega))
    rw [mem_descFrom_succ, mem_descFrom_succ]
    constructor
    · rintro ⟨l, p, hl, hp, hx⟩
      have hp' := (ih p).mp hp
      exact ⟨l, p, hl, hp', (hsame j p l (by omega) hp' hl x).mp hx⟩
    · rintro ⟨l, p, hl, hp, hx⟩
      exact ⟨l, p, hl, (ih p).mpr hp, (hsame j p l (by omega) hp hl x).mpr hx⟩

/-! ### subtrees along the name -/

/-- `x` is at depth `m` of the name in the subtree of `o`, `o` itself being at depth `k`. -/
def Below (h : Heap) (L : List Link) (k o m x : Nat) : Prop := k ≤ m ∧ x ∈ descFrom h L k o (m - k)

theorem below_add {k o j x} : Below h L k o (k + j) x ↔ x ∈ descFrom h L k o j := by
  simp [Below]

theorem Below.self {k o} : Below h L k o k o := by simp [Below, mem_descFrom_zero]

theorem below_root {m x} : Below h L 0 root m x ↔ x ∈ reach h L m := by simp [Below, reach]

theorem below_cons {k o m x} :
    Below h L k o m x ↔
      (m = k ∧ x = o) ∨ ∃ l c, L[k]? = some l ∧ c ∈ targets h l.attr o ∧ Below h L (k + 1) c m x := by
  unfold Below
  constructor
  · rintro ⟨hkm, hx⟩
    rcases Nat.eq_or_lt_of_le hkm with rfl | hlt
    · rw [Nat.sub_self, mem_descFrom_zero] at hx; exact Or.inl ⟨rfl, hx⟩
    · rw [show m - k = (m - (k + 1)) + 1 by omega] at hx
      obtain ⟨l, c, hl, hc, hx⟩ := mem_descFrom_cons.mp hx
      exact Or.inr ⟨l, c, hl, hc, by omega, hx⟩
  · rintro (⟨rfl, rfl⟩ | ⟨l, c, hl, hc, hm, hx⟩)
    · exact ⟨Nat.le_refl _, by simp [mem_descFrom_zero]⟩
    · refine ⟨by omega, ?_⟩
      rw [show m - k = (m - (k + 1)) + 1 by omega]
      exact mem_descFrom_cons.mpr ⟨l, c, hl, hc, hx⟩

theorem below_step {k o m x l} (hl : L[k]? = some l) :
    Below h L k o m x ↔ (m = k ∧ x = o) ∨ ∃ c ∈ targets h l.attr o, Below h L (k + 1) c m x := by
  simp [below_cons (k := k), hl]

/-- An object without children along the name (the name ends, or the object is a leaf) is its
own subtree. -/
theorem below_leaf {k o m x} (hleaf : ∀ l, L[k]? = some l → targets h l.attr o = []) :
    Below h L k o m x ↔ m = k ∧ x = o := by
  rw [below_cons, or_iff_left]
  rintro ⟨l, c, hl, hc, _⟩
  rw [hleaf l hl] at hc; cases hc

section
variable (ht : TreeShaped h)
include ht

theorem Below.le {k o m x} (hx : Below h L k o m x) : o ≤ x :=
  Nat.le_trans (Nat.le_add_right _ _) (descFrom_ge ht hx.2)

theorem Below.same_root {k o o' m x} (hx : Below h L k o m x) (hx' : Below h L k o' m x) : o = o' :=
  descFrom_same_depth ht hx.2 hx'.2

theorem Below.siblings_disjoint {a a' o c c' k k' m m' x}
    (hc : c ∈ targets h a o) (hc' : c' ∈ targets h a' o) (hne : c ≠ c')
    (hx : Below h L k c m x) (hx' : Below h L k' c' m' x) : False :=
  descFrom_siblings_disjoint ht hc hc' hne hx.2 hx'.2

end

theorem Below.reach {k o m x} (ho : o ∈ reach h L k) (hx : Below h L k o m x) : x ∈ reach h L m := by
  have := descFrom_sub_reach ho hx.2
  rwa [show k + (m - k) = m by have := hx.1; omega] at this

end TraitsVerif.Model.Legacy
