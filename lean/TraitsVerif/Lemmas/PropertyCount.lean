/-
Counting lemmas for the C12 model: how often the getter runs (`calls`) and
which notifications are delivered (`notes`).

The "at most once" argument is a potential-function argument:
`phi s = calls + (0 if the cache holds a usable entry else 1)` never increases
along reads, listener changes and non-relevant mutations, and is at most
`calls + 1` right after an invalidation.
-/
import TraitsVerif.Lemmas.PropertyInv
namespace TraitsVerif.Model.Property
open TraitsVerif

variable {Val : Type}

/-- The cache holds an entry the wrapper will return (`result is not Undefined`). -/
def settled (P : Env Val) (s : St Val) : Bool :=
  match s.cache with
  | some v => !P.isUndef v
  | none => false

def phi (P : Env Val) (s : St Val) : Nat :=
  s.calls + (if settled P s then 0 else 1)

theorem calls_le_phi (P : Env Val) (s : St Val) : s.calls ≤ phi P s := by
  unfold phi; omega

theorem phi_le (P : Env Val) (s : St Val) : phi P s ≤ s.calls + 1 := by
  unfold phi; split <;> omega

/-! ## field facts -/

@[simp] theorem listening_sib (P : Env Val) (b : Bool) (s : St Val) : listening P (sib P b s) = listening P s := by
  simp [listening]
@[simp] theorem listening_popCache (P : Env Val) (s : St Val) : listening P (popCache P s) = listening P s := by
  simp [listening]
@[simp] theorem mkNote_sib (P : Env Val) (b : Bool) (s : St Val) (o : Old Val) (v : Val) :
    mkNote P (sib P b s) o v = mkNote P s o v := by
  simp [mkNote]
@[simp] theorem mkNote_popCache (P : Env Val) (s : St Val) (o : Old Val) (v : Val) :
    mkNote P (popCache P s) o v = mkNote P s o v := by
  simp [mkNote]

theorem popOld_heap_irrel (P : Env Val) (s : St Val) (h : Heap) :
    popOld P { s with heap := h } = popOld P s := rfl

theorem phi_congr (P : Env Val) (s t : St Val) (h1 : s.cache = t.cache) (h2 : s.calls = t.calls) :
    phi P s = phi P t := by
  unfold phi settled
  rw [h1, h2]

theorem popCache_phi (P : Env Val) (s : St Val) (hc : P.cached = true) :
    phi P (popCache P s) = s.calls + 1 := by
  simp [phi, settled, popCache, hc]

/-- `old` is a value only when that value was the entry. -/
theorem popOld_val {P : Env Val} {s : St Val} {v : Val} (h : popOld P s = .val v) : s.cache = some v := by
  unfold popOld at h
  split at h
  · split at h
    · rename_i w hw
      cases h
      exact hw
    · split at h <;> cases h
  · split at h <;> cases h

/-- The legacy `notify` delivers unless the dropped entry held `Undefined`. -/
theorem legacyNotify_eq_tpc (P : Env Val) (s s0 : St Val)
    (hn : ∀ v, s0.cache = some v → P.isUndef v = false) :
    legacyNotify P s (popOld P s0) = tpc P s (popOld P s0) := by
  unfold legacyNotify
  split
  · rename_i v hv
    simp [hn v (popOld_val hv)]
  · rfl

/-- A step that is not a relevant change (and not a construction / copy). -/
def QuietStep (P : Env Val) (s : St Val) : Step → Prop
  | .change m => relevant P.E P.root s.heap m = false
  | .read => True
  | .attach => True
  | .detach => True
  | .attachObj => True
  | .detachObj => True
  | .set _ => False
  | .construct _ => False
  | .copy => False

/-- A history without relevant change. -/
def Quiet (P : Env Val) : St Val → List Step → Prop
  | _, [] => True
  | s, st :: rest => QuietStep P s st ∧ Quiet P (step P s st) rest

/-! ## under a pure getter: reads and notifications -/

section
variable {P : Env Val} {g : Heap → Val} (hp : PureGetter P.G g)
include hp

theorem compute_ok (s : St Val) :
    compute P s = (.ok (g s.heap),
      { s with calls := s.calls + 1, cache := if P.cached then some (g s.heap) else s.cache }) := by
  unfold compute
  rw [hp s.calls s.heap]

theorem readProp_ok (s : St Val)
    (hi : Inv P g s) : (readProp P s).1 = .ok (g s.heap) :=
  readProp_cases P s (motive := fun r => r.1 = .ok (g s.heap))
    (fun v _ hv _ => hi.elim (fun h => by rw [h] at hv; cases hv) (fun h => by rw [h.2] at hv; cases hv; rfl))
    (fun _ => by rw [compute_ok hp])

theorem tpc_notes (s : St Val) (old : Old Val)
    (hi : Inv P g s) (hL : listening P s = true) :
    (tpc P s old).notes = s.notes ++ [mkNote P s old (g s.heap)] := by
  unfold tpc
  rw [if_pos hL, readProp_ok hp s hi]
  simp

theorem dispatchFire_notes (s0 : St Val)
    (m : Mutation) (hw : NoEntryIfUncached P s0) (hL : listening P s0 = true)
    (hn : P.legacy = true → ∀ v, s0.cache = some v → P.isUndef v = false) :
    (dispatchFire P s0 m).notes =
      s0.notes ++ [mkNote P s0 (if P.legacy then popOld P s0 else popOld P (sib P (P.sibPre m) s0))
                    (g s0.heap)] := by
  unfold dispatchFire
  split
  · rename_i hl
    have hi : Inv P g (sib P (P.sibPre m) (popCache P s0)) :=
      (inv_readStable hp.partial).sib _ _ (popCache_inv s0 hw)
    rw [(sib_frame _ _ _).2.2.2, legacyNotify_eq_tpc P _ s0 (hn hl), tpc_notes hp _ _ hi (by simpa using hL)]
    simp
  · have hi : Inv P g (popCache P (sib P (P.sibPre m) s0)) :=
      popCache_inv _ ((weak_readStable P).sib _ _ hw)
    unfold handlerObserve
    rw [(sib_frame _ _ _).2.2.2, tpc_notes hp _ _ hi (by simpa using hL)]
    simp

/-! ## the potential, for a cached property whose getter never returns `Undefined` -/

variable (hc : P.cached = true) (hu : ∀ h, P.isUndef (g h) = false)
include hc hu

theorem readProp_phi (s : St Val) : phi P (readProp P s).2 ≤ phi P s := by
  refine readProp_cases P s (motive := fun r => phi P r.2 ≤ phi P s) (fun _ _ _ _ => Nat.le_refl _)
    (fun hm => ?_)
  -- the getter runs only when no usable entry is there, and leaves one
  have hs : settled P s = false := by
    unfold settled
    cases hv : s.cache with
    | none => rfl
    | some v => simp [hm v hc hv]
  rw [compute_ok hp]
  unfold phi
  rw [hs]
  simp [settled, hc, hu]

theorem phi_readStable (n : Nat) : ReadStable P (fun s => phi P s ≤ n) :=
  .of_core (fun s h => Nat.le_trans (readProp_phi hp hc hu s) h)
    (fun s t _ h2 h3 h => by rw [phi_congr P t s h2 h3]; exact h)

/-- After a change, its invalidation included, the getter has run at most once more, and if it has,
the cache is filled again. -/
theorem mutate_fire_phi (s : St Val) (m : Mutation)
    (hpre : P.legacy = true ∨ P.sibPre m = false) :
    phi P (mutate P s m) ≤ s.calls + 1 :=
  mutate_cases P s m (motive := fun t => phi P t ≤ s.calls + 1) (fun _ => phi_le P _)
    (fun _ _ => (phi_readStable hp hc hu _).dispatchQuiet _ m (phi_le P _))
    (fun _ _ => (phi_readStable hp hc hu _).dispatchFire_pop _ m hpre (Nat.le_of_eq (popCache_phi P _ hc)))

theorem mutate_quiet_phi (hT : ObserveTight P) (s : St Val) (m : Mutation)
    (hr : relevant P.E P.root s.heap m = false) :
    phi P (mutate P s m) ≤ phi P s :=
  mutate_cases P s m (motive := fun t => phi P t ≤ phi P s) (fun _ => Nat.le_refl _)
    (fun _ _ => (phi_readStable hp hc hu _).dispatchQuiet _ m (Nat.le_refl _))
    (fun hch hf => by rw [hT _ _ hch hf] at hr; cases hr)

theorem step_quiet_phi (hT : ObserveTight P) (s : St Val) (st : Step)
    (hq : QuietStep P s st) : phi P (step P s st) ≤ phi P s := by
  cases st with
  | change m => exact mutate_quiet_phi hp hc hu hT s m hq
  | read => exact readProp_phi hp hc hu s
  | attach => exact Nat.le_refl _
  | detach => exact Nat.le_refl _
  | attachObj => exact Nat.le_refl _
  | detachObj => exact Nat.le_refl _
  | set a => exact absurd hq (by simp [QuietStep])
  | construct ws => exact absurd hq (by simp [QuietStep])
  | copy => exact absurd hq (by simp [QuietStep])

theorem run_quiet_phi (hT : ObserveTight P) :
    ∀ (steps : List Step) (s : St Val), Quiet P s steps → phi P (run P s steps) ≤ phi P s
  | [], _, _ => Nat.le_refl _
  | st :: rest, s, hq => by
    simp only [run, List.foldl_cons]
    exact Nat.le_trans (run_quiet_phi hT rest _ hq.2)
      (step_quiet_phi hp hc hu hT s st hq.1)

end

/-! ## decidability (for the concrete witnesses in `Props/C12.lean`) -/

deriving instance DecidableEq for Except

instance [DecidableEq Val] (P : Env Val) (g : Heap → Val) (s : St Val) : Decidable (Inv P g s) := by
  unfold Inv; infer_instance

instance (P : Env Val) (s : St Val) : (st : Step) → Decidable (QuietStep P s st)
  | .change _ => by unfold QuietStep; infer_instance
  | .read => isTrue trivial
  | .attach => isTrue trivial
  | .detach => isTrue trivial
  | .attachObj => isTrue trivial
  | .detachObj => isTrue trivial
  | .set _ => isFalse (fun h => h)
  | .construct _ => isFalse (fun h => h)
  | .copy => isFalse (fun h => h)

def Quiet.dec (P : Env Val) : (s : St Val) → (steps : List Step) → Decidable (Quiet P s steps)
  | _, [] => isTrue trivial
  | s, st :: rest =>
    match (inferInstance : Decidable (QuietStep P s st)), Quiet.dec P (step P s st) rest with
    | isTrue h1, isTrue h2 => isTrue ⟨h1, h2⟩
    | isFalse h1, _ => isFalse (fun h => h1 h.1)
    | _, isFalse h2 => isFalse (fun h => h2 h.2)

instance (P : Env Val) (s : St Val) (steps : List Step) : Decidable (Quiet P s steps) := Quiet.dec P s steps

end TraitsVerif.Model.Property
