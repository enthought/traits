/-
The hand-written persistence functions of `Model/Persist` are the
interpretation (`Model/PyPersist`) of the translated source
(`Generated/PersistProg.lean`).  The interpreter is run a fragment at a time: one
lemma per statement (or short run of statements) of a method says, for an
arbitrary continuation, what the fragment does to the state, and a method is the
composition of its fragments; a case is split where execution depends on it.
`clone_traits` calls `copy_traits`, and `__deepcopy__` calls `clone_traits`, through
the interpreter's handler, so each whole-function theorem serves the next.  The
`__getstate__` / `__setstate__` / `__deepcopy__` of the three container objects
run over the interpreter of `Model/PyPersistC`.
-/
import TraitsVerif.Generated.PersistProg
import TraitsVerif.Model.PyPersistC
import TraitsVerif.Lemmas.PersistClone
namespace TraitsVerif.Lemmas.PersistSource
open TraitsVerif TraitsVerif.Model.Persist TraitsVerif.Model.PyP TraitsVerif.Generated.PersistProg

/-- All `for` loops of a statement, in source order. -/
def forLoops : Stmt → List (Nat × Expr × Stmt)
  | .seq a b => forLoops a ++ forLoops b
  | .ifS _ t e => forLoops t ++ forLoops e
  | .forS i it body => [(i, it, body)]
  | .tryS a b => forLoops a ++ forLoops b
  | _ => []

def copyTraitsFn : Func := (lookupFn "copy_traits" hasTraitsProg).getD ⟨[], false, 0, .skip⟩

/-- The body of the main loop of `copy_traits`. -/
def mainBody : Stmt := ((forLoops copyTraitsFn.body)[0]?.getD (0, .noneLit, .skip)).2.2

/-- The `copy` argument as a Python value. -/
def argVal : Option CopyMode → Val
  | none => .none
  | some m => .str (modeStr m)

/-- The frame of `copy_traits` inside its loops.  Slots, as the translator numbers them (Generated/PersistProg.lean):
0 self, 1 other, 2 traits, 3 memo, 4 copy, 5 metadata, 6 unassignable, 7 deferred, 8 deep_copy, 9 shallow_copy,
10 name, 11 trait, 12 base_trait, 13 value, 14 copy_type. -/
def ctFrame (tv mv : Val) (arg : Option CopyMode) (un : List String) (x10 x11 x12 x13 x14 : Option Val) : Frame :=
  [some (.obj true), some (.obj false), some tv, some mv, some (argVal arg), some .kwMeta,
   some (.nameList un), some (.nameList []), some (.bool (decide (arg = some .deep))),
   some (.bool (decide (arg = some .shallow))), x10, x11, x12, x13, x14]

/-- The frame of `copy_traits` with `unassignable = un`. -/
def FrameOK (tv mv : Val) (arg : Option CopyMode) (un : List String) (vars : Frame) : Prop :=
  ∃ x10 x11 x12 x13 x14, vars = ctFrame tv mv arg un x10 x11 x12 x13 x14

/-- The main loop body, as a literal. -/
theorem mainBody_unfold : ∃ b, mainBody = b ∧ (forLoops copyTraitsFn.body).length = 2 := by
  refine ⟨_, rfl, ?_⟩
  simp [copyTraitsFn, hasTraitsProg, lookupFn, forLoops]

/-! ## Running the interpreter

The defining equations of the interpreter and of the calls it knows are the simp set of this file. -/

attribute [local simp] eval evalAll execB execT callB callT objMethod memoMethod cmpVals builtin1 doGetattr doSetattr
  doCopy doAppend objCall stateCall FS.ctx TS.ctx Val.asObj Val.asStr Val.asBool Val.asName Val.asValue Val.asGlob
  Val.asState Val.asMethod Val.asDictOf Val.asNameList Val.asNames Val.asInt Val.isNone Val.isMemo Val.isMeta
  Val.isCls Expr.asVar Expr.asGlob reduceTriple

theorem typeStr_eq {k : TKind} :
    (typeStr k = "property" ↔ k = .property) ∧ (typeStr k = "event" ↔ k = .event) ∧ typeStr k ≠ "delegate" := by
  cases k <;> simp [typeStr]

@[local simp] theorem attrOf_type (d : Decl) (e : Expr) :
    attrOf (.trait d) e "type" = some (.str (typeStr d.kind)) := by
  simp [attrOf]

/-- The `copy` metadata of a trait reads as the `copy` argument does. -/
@[local simp] theorem attrOf_copy (d : Decl) (e : Expr) : attrOf (.trait d) e "copy" = some (argVal d.copy) := by
  cases h : d.copy <;> simp [attrOf, argVal, h]

/-! ## The body of the main loop of `copy_traits` -/

section frame
variable {tv mv : Val} {arg : Option CopyMode} {un : List String} {x10 x11 x12 x13 x14 : Option Val}

/-- Reading and writing the frame of `copy_traits` without unfolding it. -/
theorem ctFrame_get :
    getVar (ctFrame tv mv arg un x10 x11 x12 x13 x14) 0 = some (.obj true) ∧
    getVar (ctFrame tv mv arg un x10 x11 x12 x13 x14) 1 = some (.obj false) ∧
    getVar (ctFrame tv mv arg un x10 x11 x12 x13 x14) 3 = some mv ∧
    getVar (ctFrame tv mv arg un x10 x11 x12 x13 x14) 6 = some (.nameList un) ∧
    getVar (ctFrame tv mv arg un x10 x11 x12 x13 x14) 8 = some (.bool (decide (arg = some .deep))) ∧
    getVar (ctFrame tv mv arg un x10 x11 x12 x13 x14) 9 = some (.bool (decide (arg = some .shallow))) ∧
    getVar (ctFrame tv mv arg un x10 x11 x12 x13 x14) 10 = x10 ∧
    getVar (ctFrame tv mv arg un x10 x11 x12 x13 x14) 11 = x11 ∧
    getVar (ctFrame tv mv arg un x10 x11 x12 x13 x14) 12 = x12 ∧
    getVar (ctFrame tv mv arg un x10 x11 x12 x13 x14) 13 = x13 ∧
    getVar (ctFrame tv mv arg un x10 x11 x12 x13 x14) 14 = x14 :=
  ⟨rfl, rfl, rfl, rfl, rfl, rfl, by cases x10 <;> rfl, by cases x11 <;> rfl, by cases x12 <;> rfl,
    by cases x13 <;> rfl, by cases x14 <;> rfl⟩

theorem ctFrame_set :
    (∀ l, (ctFrame tv mv arg un x10 x11 x12 x13 x14).set 6 (some (.nameList l)) =
      ctFrame tv mv arg l x10 x11 x12 x13 x14) ∧
    (∀ v, (ctFrame tv mv arg un x10 x11 x12 x13 x14).set 10 v = ctFrame tv mv arg un v x11 x12 x13 x14) ∧
    (∀ v, (ctFrame tv mv arg un x10 x11 x12 x13 x14).set 11 v = ctFrame tv mv arg un x10 v x12 x13 x14) ∧
    (∀ v, (ctFrame tv mv arg un x10 x11 x12 x13 x14).set 12 v = ctFrame tv mv arg un x10 x11 v x13 x14) ∧
    (∀ v, (ctFrame tv mv arg un x10 x11 x12 x13 x14).set 13 v = ctFrame tv mv arg un x10 x11 x12 v x14) ∧
    (∀ v, (ctFrame tv mv arg un x10 x11 x12 x13 x14).set 14 v = ctFrame tv mv arg un x10 x11 x12 x13 v) :=
  ⟨fun _ => rfl, fun _ => rfl, fun _ => rfl, fun _ => rfl, fun _ => rfl, fun _ => rfl⟩

theorem FrameOK_ctFrame : FrameOK tv mv arg un (ctFrame tv mv arg un x10 x11 x12 x13 x14) :=
  ⟨_, _, _, _, _, rfl⟩

end frame

attribute [local simp] ctFrame_get ctFrame_set FrameOK_ctFrame

section body
variable (E : Env) (oS oD : Nat) {tv mv : Val} {arg : Option CopyMode} {un : List String} {a b : Slot} {n : Nat}
  {memo : List (String × Val)} {x10 x11 x12 x13 x14 : Option Val}

/-- `trait = self.trait(name)`; the deferral test, not taken by a trait that is no property;
`base_trait = other.base_trait(name)`; `if base_trait.type == "event": continue`; then
`value = getattr(other, name)` (no Event: the read succeeds) and `copy_type = base_trait.copy`. -/
theorem exec_fetch (dfr rest : Stmt) (nm : String) (hk : b.decl.kind ≠ .property) :
    execB E oS oD (.seq (.assign 11 (.callM (.var 0) "trait" [(.var 10)] [] []))
      (.seq (.ifS (.cmp "in" (.attr (.var 11) "type") (.strs ["delegate", "property"])) dfr .skip)
      (.seq (.assign 12 (.callM (.var 1) "base_trait" [(.var 10)] [] []))
      (.seq (.ifS (.cmp "==" (.attr (.var 12) "type") (.strLit "event")) .cont .skip)
      (.seq (.assign 13 (.callF "getattr" [(.var 1), (.var 10)] [] []))
      (.seq (.assign 14 (.attr (.var 12) "copy")) rest))))))
        ⟨a, b, n, ctFrame tv mv arg un (some (.name nm)) x11 x12 x13 x14, memo⟩ =
      if a.decl.kind = .event then
        (.cont, ⟨a, b, n,
          ctFrame tv mv arg un (some (.name nm)) (some (.trait b.decl)) (some (.trait a.decl)) x13 x14, memo⟩)
      else execB E oS oD rest ⟨(readSlot E oS n a).2.1, b, (readSlot E oS n a).2.2,
        ctFrame tv mv arg un (some (.name nm)) (some (.trait b.decl)) (some (.trait a.decl))
          (some (.value (readSlot E oS n a).1)) (some (argVal a.decl.copy)), memo⟩ := by
  by_cases h : a.decl.kind = .event <;> simp [typeStr_eq, hk, h]

/-- The four-way `copy_type` chain selects what `effMode` selects, whatever the two arms are. -/
theorem exec_modeChain (sh dp rest : Stmt) (s : FS) (md arg : Option CopyMode)
    (h14 : getVar s.vars 14 = some (argVal md))
    (h8 : getVar s.vars 8 = some (.bool (decide (arg = some .deep))))
    (h9 : getVar s.vars 9 = some (.bool (decide (arg = some .shallow)))) :
    execB E oS oD (.seq (.ifS (.cmp "==" (.var 14) (.strLit "shallow")) sh
      (.ifS (.cmp "==" (.var 14) (.strLit "ref")) .skip
      (.ifS (.or (.cmp "==" (.var 14) (.strLit "deep")) (.var 8)) dp
      (.ifS (.var 9) sh .skip)))) rest) s =
    match effMode md arg with
    | .ref => execB E oS oD rest s
    | .shallow => execB E oS oD (.seq sh rest) s
    | .deep => execB E oS oD (.seq dp rest) s := by
  rcases md with _ | (_ | _ | _)
  · rcases arg with _ | (_ | _ | _) <;> simp [h14, h8, h9, argVal, effMode]
  all_goals simp [h14, argVal, modeStr, effMode]

/-- The chain with its arms - `copy_module.copy(value)`, and `copy_module.deepcopy(value)` or
`copy_module.deepcopy(value, memo)` when a memo was given - is `copyValue`. -/
theorem exec_copy (rest : Stmt) (v : CVal) (md : Option CopyMode) (hmv : mv = .none ∨ mv = .memo) :
    execB E oS oD (.seq (.ifS (.cmp "==" (.var 14) (.strLit "shallow"))
      (.assign 13 (.callM (.glob "copy_module") "copy" [(.var 13)] [] []))
      (.ifS (.cmp "==" (.var 14) (.strLit "ref")) .skip
      (.ifS (.or (.cmp "==" (.var 14) (.strLit "deep")) (.var 8))
        (.ifS (.cmp "is" (.var 3) .noneLit)
          (.assign 13 (.callM (.glob "copy_module") "deepcopy" [(.var 13)] [] []))
          (.assign 13 (.callM (.glob "copy_module") "deepcopy" [(.var 13), (.var 3)] [] [])))
      (.ifS (.var 9) (.assign 13 (.callM (.glob "copy_module") "copy" [(.var 13)] [] [])) .skip)))) rest)
        ⟨a, b, n, ctFrame tv mv arg un x10 x11 x12 (some (.value v)) (some (argVal md)), memo⟩ =
      match copyValue E (effMode md arg) n v with
      | .error e =>
        (.raised e, ⟨a, b, n, ctFrame tv mv arg un x10 x11 x12 (some (.value v)) (some (argVal md)), memo⟩)
      | .ok (v', n') =>
        execB E oS oD rest ⟨a, b, n', ctFrame tv mv arg un x10 x11 x12 (some (.value v')) (some (argVal md)), memo⟩ := by
  rw [exec_modeChain E oS oD _ _ rest _ md arg rfl rfl rfl]
  cases effMode md arg <;> dsimp only [copyValue]
  · rcases h : shallowV E n v with e | ⟨v', n'⟩ <;> simp [h]
  · rcases h : deepcopyV n v with e | ⟨v', n'⟩ <;> rcases hmv with rfl | rfl <;> simp [h]

/-- `setattr(self, name, value)`. -/
theorem exec_store (nm : String) (v : CVal) :
    execB E oS oD (.expr (.callF "setattr" [(.var 0), (.var 10), (.var 13)] [] []))
        ⟨a, b, n, ctFrame tv mv arg un (some (.name nm)) x11 x12 (some (.value v)) x14, memo⟩ =
      match assignSlot E oD n b v with
      | .error e =>
        (.raised e, ⟨a, b, n, ctFrame tv mv arg un (some (.name nm)) x11 x12 (some (.value v)) x14, memo⟩)
      | .ok (b', n') =>
        (.next, ⟨a, b', n', ctFrame tv mv arg un (some (.name nm)) x11 x12 (some (.value v)) x14, memo⟩) := by
  rcases h : assignSlot E oD n b v with e | ⟨b', n'⟩ <;> simp [h]

/-- The bare `except:` arm: `unassignable.append(name)`. -/
theorem exec_report (nm : String) :
    execB E oS oD (.expr (.callM (.var 6) "append" [(.var 10)] [] []))
        ⟨a, b, n, ctFrame tv mv arg un (some (.name nm)) x11 x12 x13 x14, memo⟩ =
      (.next, ⟨a, b, n, ctFrame tv mv arg (un ++ [nm]) (some (.name nm)) x11 x12 x13 x14, memo⟩) := by
  simp

end body

theorem execB_tryS (E : Env) (oS oD : Nat) (body handler : Stmt) (s : FS) :
    execB E oS oD (.tryS body handler) s =
      match execB E oS oD body s with
      | (.raised _, s') => execB E oS oD handler s'
      | r => r := rfl

/-- One iteration of the main loop on a slot the loop selects is `cloneSlot`, and the name is reported as
unassignable exactly when `cloneSlotFails`. -/
theorem body_spec (E : Env) (oS oD : Nat) (arg : Option CopyMode) (tv mv : Val) (hmv : mv = .none ∨ mv = .memo)
    (all : Bool) (a : Slot) (hk : a.decl.kind ≠ .property)
    (hsel : (a.decl.copyable || (all && a.decl.kind != .event)) = (a.decl.kind != .event))
    (n : Nat) (memo : List (String × Val)) (un : List String) (nm : String) (x11 x12 x13 x14 : Option Val) :
    let r := execB E oS oD mainBody
      ⟨a, ⟨a.decl, none⟩, n, ctFrame tv mv arg un (some (.name nm)) x11 x12 x13 x14, memo⟩
    (r.1 = .next ∨ r.1 = .cont) ∧ r.2.b = (cloneSlot E oS oD arg all n a).1 ∧
      r.2.a = (cloneSlot E oS oD arg all n a).2.1 ∧ r.2.n = (cloneSlot E oS oD arg all n a).2.2 ∧
      FrameOK tv mv arg (un ++ if cloneSlotFails E oS oD arg all n a then [nm] else []) r.2.vars ∧
      r.2.memo = memo := by
  -- `mainBody` is a projection of the looked-up function: name its value, let `simp` compute that value (the
  -- translated text), and put the text in the goal, where the fragment lemmas match it literally.  The same is done
  -- with `mainBody` in `copyTraits_run` and with `deepcopyFn` in `deepcopy_run`.
  obtain ⟨body, hbody⟩ : ∃ body, mainBody = body := ⟨_, rfl⟩
  have hlit := hbody
  simp [mainBody, copyTraitsFn, hasTraitsProg, lookupFn, forLoops] at hlit
  rw [hbody]
  subst hlit
  rw [execB_tryS, exec_fetch E oS oD (b := ⟨a.decl, none⟩) _ _ nm hk]
  unfold cloneSlot cloneSlotFails
  rw [hsel]
  by_cases hke : a.decl.kind = .event
  · simp [hke]
  · have hne : (a.decl.kind != .event) = true := by simpa using hke
    rw [if_neg hke, exec_copy E oS oD _ _ _ hmv]
    rcases hcv : copyValue E (effMode a.decl.copy arg) (readSlot E oS n a).2.2 (readSlot E oS n a).1
      with e | ⟨v, n1⟩ <;> dsimp only
    · rw [exec_report]
      simp [hne, hcv]
    · rw [exec_store]
      rcases has : assignSlot E oD n1 ⟨a.decl, none⟩ v with e | ⟨b', n2⟩ <;> dsimp only
      · rw [exec_report]
        simp [hne, hcv, has]
      · simp [hne, hcv, has]

/-- The main loop of `copy_traits` over all slots, run on a fresh `self` (`src.map fun sl => ⟨sl.decl, none⟩`) with
the loop variable in frame slot 10 and `p` selecting the names.  The five components of what `loopB` returns: the
flow is `next` (no iteration raises past the bare `except:`, none returns); the slots of `other` are those `cloneL`
leaves (defaults materialised by the reads); the slots of `self` are those `cloneL` builds; the allocator is
`cloneL`'s; and the frame is again a frame of `copy_traits`, with the names of `cloneUnassignable` appended to
`unassignable`. -/
theorem loop_spec (E : Env) (oS oD : Nat) (arg : Option CopyMode) (tv mv : Val) (hmv : mv = .none ∨ mv = .memo)
    (all : Bool) (p : Decl → Bool)
    (hp : ∀ d, (d.copyable || (all && d.kind != .event)) = (p d && d.kind != .event)) (memo : List (String × Val)) :
    ∀ (src : List Slot), (∀ sl ∈ src, sl.decl.kind ≠ .property) → ∀ (n : Nat) (un : List String) (vars : Frame),
      FrameOK tv mv arg un vars →
      (loopB E oS oD mainBody 10 p memo src (src.map fun sl => ⟨sl.decl, none⟩) n vars).1 = .next ∧
      (loopB E oS oD mainBody 10 p memo src (src.map fun sl => ⟨sl.decl, none⟩) n vars).2.1 =
        (cloneL E oS oD arg all n src).2.1 ∧
      (loopB E oS oD mainBody 10 p memo src (src.map fun sl => ⟨sl.decl, none⟩) n vars).2.2.1 =
        (cloneL E oS oD arg all n src).1 ∧
      (loopB E oS oD mainBody 10 p memo src (src.map fun sl => ⟨sl.decl, none⟩) n vars).2.2.2.1 =
        (cloneL E oS oD arg all n src).2.2 ∧
      FrameOK tv mv arg (un ++ cloneUnassignable E oS oD arg all n src)
        (loopB E oS oD mainBody 10 p memo src (src.map fun sl => ⟨sl.decl, none⟩) n vars).2.2.2.2 := by
  intro src
  induction src with
  | nil => intro _ n un vars hf; simp [loopB, cloneL, cloneUnassignable, hf]
  | cons a as ih =>
    intro hnd n un vars hf
    have ih' := ih fun sl h => hnd sl (List.mem_cons_of_mem _ h)
    simp only [List.map_cons, loopB, cloneL, cloneUnassignable]
    by_cases hpa : p a.decl = true
    · obtain ⟨x10, x11, x12, x13, x14, rfl⟩ := hf
      have hb := body_spec E oS oD arg tv mv hmv all a (hnd a List.mem_cons_self)
        (by rw [hp, hpa, Bool.true_and]) n memo un a.decl.name x11 x12 x13 x14
      rw [if_pos hpa, ctFrame_set.2.1]
      rcases hex : execB E oS oD mainBody ⟨a, ⟨a.decl, none⟩, n,
        ctFrame tv mv arg un (some (.name a.decl.name)) x11 x12 x13 x14, memo⟩ with ⟨f, s'⟩
      rw [hex] at hb
      obtain ⟨hfl, h1, h2, h3, h4, -⟩ := hb
      dsimp only at hfl h1 h2 h3 h4
      obtain ⟨i1, i2, i3, i4, i5⟩ := ih' s'.n _ s'.vars h4
      rw [h3] at i1 i2 i3 i4 i5
      rw [List.append_assoc] at i5
      rcases hfl with rfl | rfl <;> dsimp only <;> rw [h1, h2, h3] <;> exact ⟨i1, by rw [i2], by rw [i3], i4, i5⟩
    · have hsk : cloneSlot E oS oD arg all n a = (⟨a.decl, none⟩, a, n) ∧
          cloneSlotFails E oS oD arg all n a = false := by
        simp [cloneSlot, cloneSlotFails, hp, hpa]
      rw [if_neg hpa, hsk.1, hsk.2]
      obtain ⟨i1, i2, i3, i4, i5⟩ := ih' n un vars hf
      exact ⟨i1, by rw [i2], by rw [i3], i4, i5⟩

/-! ## `copy_traits`, whole function -/

theorem loopB_none (E : Env) (oS oD : Nat) (body : Stmt) (i : Nat) (p : Decl → Bool) (hp : ∀ d, p d = false)
    (memo : List (String × Val)) :
    ∀ (src dst : List Slot) (n : Nat) (vars : Frame),
      loopB E oS oD body i p memo src dst n vars = (.next, src, dst, n, vars) := by
  intro src
  induction src with
  | nil => intro dst n vars; simp [loopB]
  | cons a as ih =>
    intro dst n vars
    cases dst with
    | nil => simp [loopB]
    | cons b bs => simp [loopB, hp, ih]

/-- Run a translated `HasTraits` method; its calls of other translated methods go to `H`. -/
def runMethod (E : Env) (oS oD : Nat) (H : Handler) (m : String) (self : Val) (args : List Val) (kwn : List String)
    (kwv : List Val) (s : TS) : Option (Except Exc Val × TS) :=
  match lookupFn m hasTraitsProg with
  | some f => runFn E oS oD H f self args kwn kwv s
  | none => none

/-- The method is read out of the table once, by evaluation; its text then stands in the goal. -/
theorem runMethod_eq {m : String} {f : Func} (E : Env) (oS oD : Nat) (H : Handler) (self : Val) (args : List Val)
    (kwn : List String) (kwv : List Val) (s : TS) (h : lookupFn m hasTraitsProg = some f := by rfl) :
    runMethod E oS oD H m self args kwn kwv s = runFn E oS oD H f self args kwn kwv s := by
  unfold runMethod
  rw [h]

attribute [local simp] runFn bindParams getVar attrOf lifecycle

/-- The `traits` argument of a direct call of `copy_traits`. -/
def traitsArg (all : Bool) : Val := if all then .str "all" else .none

theorem cmpVals_argVal (arg : Option CopyMode) (m : CopyMode) :
    cmpVals "==" (argVal arg) (.str (modeStr m)) = some (.bool (decide (arg = some m))) := by
  rcases arg with _ | (_ | _ | _) <;> cases m <;> simp [argVal, modeStr]

section copyTraits
variable (E : Env) (oS oD : Nat) (H : Handler) {src dst : List Slot} {n : Nat} {memo : List (String × Val)}
  {log : List String} {mv : Val} {arg : Option CopyMode}

/-- Which names `copy_traits` copies: the copyable ones for `traits=None` (or when handed just those, as
`clone_traits` does), all of them for `traits="all"`, which is also recorded in a given memo. -/
theorem exec_select (rest : Stmt) (x1 x4 : Option Val) (tail : Frame) (tr : Val) (all : Bool)
    (htr : tr = traitsArg all ∨
      (tr = .names Decl.copyable ∧ all = false ∧ (src.filter fun sl => sl.decl.copyable).length ≠ 0))
    (hmv : mv = .none ∨ mv = .memo) :
    execT E oS oD H (.seq (.ifS (.cmp "is" (.var 2) .noneLit)
      (.assign 2 (.callM (.var 0) "copyable_trait_names" [] ["**"] [(.var 5)]))
      (.ifS (.or (.cmp "==" (.var 2) (.strLit "all")) (.cmp "==" (.callF "len" [(.var 2)] [] []) (.intLit 0)))
        (.seq (.assign 2 (.callM (.var 0) "all_trait_names" [] [] []))
          (.ifS (.cmp "is not" (.var 3) .noneLit)
            (.assignSub (.var 3) (.strLit "traits_to_copy") (.strLit "all")) .skip))
        .skip)) rest)
        ⟨src, dst, n, some (.obj true) :: x1 :: some tr :: some mv :: x4 :: some .kwMeta :: tail, memo, log⟩ =
      execT E oS oD H rest ⟨src, dst, n,
        some (.obj true) :: x1 :: some (.names (if all then fun _ => true else Decl.copyable)) :: some mv :: x4 ::
          some .kwMeta :: tail,
        if all && mv.isMemo then memoSet memo "traits_to_copy" (.str "all") else memo, log⟩ := by
  rcases htr with rfl | ⟨rfl, rfl, hlen⟩
  · cases all
    · simp [traitsArg]
    · rcases hmv with rfl | rfl <;> simp [traitsArg]
  · simp [hlen]

/-- `new.copy_traits(other, traits, memo, copy)`, whole function, called directly (`traits` is None or `"all"`) or by
`clone_traits` (`traits` is the non-empty list of the copyable names), `memo` given or not: the slots are those of
`cloneL`, the value returned is `cloneUnassignable`. -/
theorem copyTraits_run (tr : Val) (all : Bool)
    (htr : tr = traitsArg all ∨
      (tr = .names Decl.copyable ∧ all = false ∧ (src.filter fun sl => sl.decl.copyable).length ≠ 0))
    (hmv : mv = .none ∨ mv = .memo) (hnd : ∀ sl ∈ src, sl.decl.kind ≠ .property) (kwn : List String)
    (kwv : List Val) (vars : Frame) :
    runMethod E oS oD H "copy_traits" (.obj true) [.obj false, tr, mv, argVal arg] kwn kwv
        ⟨src, src.map fun sl => ⟨sl.decl, none⟩, n, vars, memo, log⟩ =
      some (.ok (.nameList (cloneUnassignable E oS oD arg all n src)),
        ⟨(cloneL E oS oD arg all n src).2.1, (cloneL E oS oD arg all n src).1, (cloneL E oS oD arg all n src).2.2,
          vars, if all && mv.isMemo then memoSet memo "traits_to_copy" (.str "all") else memo, log⟩) := by
  have hp : ∀ d : Decl, (d.copyable || (all && d.kind != .event)) =
      ((if all then fun _ => true else Decl.copyable) d && d.kind != .event) := by
    intro d
    cases all <;> cases hk : d.kind <;> cases ht : d.transient <;> simp [Decl.copyable, hk, ht]
  -- the main loop is `loop_spec`; nothing is deferred, so the second loop is empty, whatever its body
  obtain ⟨h1, h2, h3, h4, y10, y11, y12, y13, y14, h5⟩ :=
    loop_spec E oS oD arg (.names (if all then fun _ => true else Decl.copyable)) mv hmv all _ hp
      (if all && mv.isMemo then memoSet memo "traits_to_copy" (.str "all") else memo) src hnd n []
      (ctFrame (.names (if all then fun _ => true else Decl.copyable)) mv arg [] none none none none none)
      FrameOK_ctFrame
  obtain ⟨body, hbody⟩ : ∃ body, mainBody = body := ⟨_, rfl⟩
  rw [hbody] at h1 h2 h3 h4 h5
  simp [mainBody, copyTraitsFn, hasTraitsProg, lookupFn, forLoops] at hbody
  subst hbody
  generalize hm : (if all && mv.isMemo then memoSet memo "traits_to_copy" (.str "all") else memo) = memo'
    at h1 h2 h3 h4 h5 ⊢
  refine (runMethod_eq ..).trans ?_
  simp [-execT]
  rw [exec_select E oS oD H _ _ _ _ tr all htr hmv, hm]
  -- `unassignable = []`, `deferred = []`, `deep_copy = copy == "deep"`, `shallow_copy = copy == "shallow"`, the loops
  have h8 := cmpVals_argVal arg .deep
  have h9 := cmpVals_argVal arg .shallow
  simp only [modeStr] at h8 h9
  simp only [ctFrame] at h1 h2 h3 h4 h5
  simp [-cmpVals, h8, h9, h1, h2, h3, h4, h5, loopB_none]

end copyTraits

/-! ## `clone_traits` and `__deepcopy__`, whole functions, `copy_traits` called through the handler -/

theorem cloneL_skip (E : Env) (oS oD : Nat) (arg : Option CopyMode) :
    ∀ (slots : List Slot) (n : Nat), (∀ sl ∈ slots, sl.decl.copyable = false) →
      cloneL E oS oD arg false n slots = (slots.map fun sl => ⟨sl.decl, none⟩, slots, n) := by
  intro slots
  induction slots with
  | nil => intro n _; simp [cloneL]
  | cons a as ih =>
    intro n h
    have ha := h a List.mem_cons_self
    have := ih n (fun sl hs => h sl (List.mem_cons_of_mem _ hs))
    simp [cloneL, cloneSlot, ha, this]

/-- The methods `clone_traits` calls on the new object when some trait is copyable. -/
def cloneLog : List String :=
  ["_init_trait_listeners", "_init_trait_observers", "copy_traits", "_post_init_trait_listeners",
   "_post_init_trait_observers", "traits_init", "_trait_set_inited"]

theorem progHandler_eq (E : Env) (oS oD : Nat) (H : Handler) (m : String) (r : Bool) (as : List Val)
    (kwn : List String) (kwv : List Val) (s : TS) :
    progHandler E oS oD hasTraitsProg H m r as kwn kwv s = runMethod E oS oD H m (.obj r) as kwn kwv s := rfl

section cloneTraits
variable (E : Env) (oS oD : Nat) (H : Handler) {src dst : List Slot} {n : Nat} {memo : List (String × Val)}
  {log : List String} {arg : Option CopyMode}

/-- A life-cycle method called on the new object, held by the local `i`: its name goes to the log. -/
theorem exec_lifecycle (rest : Stmt) (i : Nat) (m : String) (s : TS) (hm : m ∈ lifecycle)
    (hi : getVar s.vars i = some (.obj true)) :
    execT E oS oD H (.seq (.expr (.callM (.var i) m [] [] [])) rest) s =
      execT E oS oD H rest { s with log := s.log ++ [m] } := by
  simp at hm
  rcases hm with rfl | rfl | rfl | rfl | rfl | rfl <;> simp [-getVar, hi]

/-- `clone_traits` up to the first call on the new object: a memo is made if none was given, `traits=None` selects
the copyable names, the mode and the new object (`__new__`) go into the memo. -/
theorem exec_cloneSetup (els rest : Stmt) (mval cv : Val) (x5 : Option Val)
    (hm : (mval = .none ∧ memo = []) ∨ mval = .memo) :
    execT E oS oD H (.seq (.ifS (.cmp "is" (.var 2) .noneLit) (.assign 2 .emptyDict) .skip)
      (.seq (.ifS (.cmp "is" (.var 1) .noneLit)
        (.assign 1 (.callM (.var 0) "copyable_trait_names" [] ["**"] [(.var 4)])) els)
      (.seq (.assignSub (.var 2) (.strLit "traits_copy_mode") (.var 3))
      (.seq (.assign 5 (.callM (.var 0) "__new__" [(.attr (.var 0) "__class__")] [] []))
      (.seq (.assignSub (.var 2) (.callF "id" [(.var 0)] [] []) (.var 5)) rest)))))
        ⟨src, dst, n, [some (.obj false), some .none, some mval, some cv, some .kwMeta, x5], memo, log⟩ =
      execT E oS oD H rest ⟨src, src.map fun sl => ⟨sl.decl, none⟩, n,
        [some (.obj false), some (.names Decl.copyable), some .memo, some cv, some .kwMeta, some (.obj true)],
        memoSet (memoSet memo "traits_copy_mode" cv) "#id" (.obj true), log⟩ := by
  rcases hm with ⟨rfl, rfl⟩ | rfl <;> simp

/-- `if len(traits) > 0: new.copy_traits(self, traits, memo, copy, **metadata)`, the translated `copy_traits` run
by the handler.  With no copyable trait nothing is called, which is what `cloneL` does then. -/
theorem exec_cloneCopy (rest : Stmt) (hnd : ∀ sl ∈ src, sl.decl.kind ≠ .property) :
    execT E oS oD (progHandler E oS oD hasTraitsProg H)
      (.seq (.ifS (.cmp ">" (.callF "len" [(.var 1)] [] []) (.intLit 0))
        (.expr (.callM (.var 5) "copy_traits" [(.var 0), (.var 1), (.var 2), (.var 3)] ["**"] [(.var 4)])) .skip)
        rest)
        ⟨src, src.map fun sl => ⟨sl.decl, none⟩, n,
          [some (.obj false), some (.names Decl.copyable), some .memo, some (argVal arg), some .kwMeta,
            some (.obj true)], memo, log⟩ =
      execT E oS oD (progHandler E oS oD hasTraitsProg H) rest
        ⟨(cloneL E oS oD arg false n src).2.1, (cloneL E oS oD arg false n src).1, (cloneL E oS oD arg false n src).2.2,
          [some (.obj false), some (.names Decl.copyable), some .memo, some (argVal arg), some .kwMeta,
            some (.obj true)], memo,
          if (src.filter fun sl => sl.decl.copyable).length = 0 then log else log ++ ["copy_traits"]⟩ := by
  by_cases hex : ∃ x, x ∈ src ∧ x.decl.copyable = true
  · have hc : (src.filter fun sl => sl.decl.copyable).length ≠ 0 := by simpa using hex
    have hr := copyTraits_run E oS oD H (src := src) (n := n) (memo := memo) (log := log) (arg := arg)
      (.names Decl.copyable) false (Or.inr ⟨rfl, rfl, hc⟩) (Or.inr rfl) hnd ["**"] [.kwMeta]
    simp [hc, hex, progHandler_eq, hr]
  · have hall : ∀ sl ∈ src, sl.decl.copyable = false := by simpa using hex
    have hc : (src.filter fun sl => sl.decl.copyable).length = 0 := by simpa using hall
    rw [cloneL_skip E oS oD arg src n hall]
    simp [hc]

/-- `obj.clone_traits(copy=arg)`, whole function, called with `copy` alone or - by `__deepcopy__` - with `memo`,
`traits=None` and `copy`: the slots are those of `cloneL … false`, the life-cycle methods are logged in the order of
`cloneLog` (without `copy_traits` when nothing is copyable), the memo holds the mode and the new object. -/
theorem cloneTraits_run (arg : Option CopyMode) (hnd : ∀ sl ∈ src, sl.decl.kind ≠ .property) (kwn : List String)
    (kwv : List Val) (m0 : List (String × Val))
    (hcall : (kwn = ["copy"] ∧ kwv = [argVal arg] ∧ m0 = []) ∨
      (kwn = ["memo", "traits", "copy"] ∧ kwv = [.memo, .none, argVal arg])) (vars : Frame) :
    runMethod E oS oD (progHandler E oS oD hasTraitsProg H) "clone_traits" (.obj false) [] kwn kwv
        ⟨src, dst, n, vars, m0, log⟩ =
      some (.ok (.obj true),
        ⟨(cloneL E oS oD arg false n src).2.1, (cloneL E oS oD arg false n src).1, (cloneL E oS oD arg false n src).2.2,
          vars, memoSet (memoSet m0 "traits_copy_mode" (argVal arg)) "#id" (.obj true),
          log ++ if (src.filter fun sl => sl.decl.copyable).length = 0 then cloneLog.eraseIdx 2 else cloneLog⟩) := by
  -- the two call forms differ in what `memo` is bound to, and in nothing else
  obtain ⟨mval, hbind, hm⟩ : ∃ mval, bindParams [("traits", some .noneLit), ("memo", some .noneLit),
      ("copy", some .noneLit)] [] kwn kwv = some [some .none, some mval, some (argVal arg)] ∧
      ((mval = .none ∧ m0 = []) ∨ mval = .memo) := by
    rcases hcall with ⟨rfl, rfl, rfl⟩ | ⟨rfl, rfl⟩
    · exact ⟨.none, rfl, .inl ⟨rfl, rfl⟩⟩
    · exact ⟨.memo, rfl, .inr rfl⟩
  refine (runMethod_eq ..).trans ?_
  simp [-execT, -bindParams, hbind]
  rw [exec_cloneSetup E oS oD _ _ _ _ _ _ hm, exec_lifecycle E oS oD _ _ 5 _ _ (by simp) rfl,
    exec_lifecycle E oS oD _ _ 5 _ _ (by simp) rfl, exec_cloneCopy E oS oD H _ hnd,
    exec_lifecycle E oS oD _ _ 5 _ _ (by simp) rfl,
    exec_lifecycle E oS oD _ _ 5 _ _ (by simp) rfl,
    exec_lifecycle E oS oD _ _ 5 _ _ (by simp) rfl,
    exec_lifecycle E oS oD _ _ 5 _ _ (by simp) rfl]
  -- `return new`; what is left is the log, with or without `copy_traits`
  simp [cloneLog]
  split <;> simp

end cloneTraits

/-! ## `__deepcopy__` -/

def deepcopyFn : Func := (lookupFn "__deepcopy__" hasTraitsProg).getD ⟨[], false, 0, .skip⟩

/-- Where `__deepcopy__` is called from: `none` = `copy.deepcopy(obj)` itself (empty memo); `some a` = on an object
reached while `clone_traits(copy=a)` copies a value deeply (the memo holds the outer mode). -/
def dcMemo : Option (Option CopyMode) → List (String × Val)
  | none => []
  | some a => [("traits_copy_mode", argVal a)]

/-- The `copy` argument `__deepcopy__` hands to `clone_traits`. -/
def dcArg : Option (Option CopyMode) → Option CopyMode
  | none => some .deep
  | some a => a

/-- `obj.__deepcopy__(memo)`, whole function, with the translated `clone_traits` and `copy_traits` called through
the handlers: it is `clone_traits(memo=memo, traits=None, copy=dcArg outer)`. -/
theorem deepcopy_run (E : Env) (oS oD : Nat) (H : Handler) (src dst : List Slot) (n : Nat)
    (outer : Option (Option CopyMode)) (hnd : ∀ sl ∈ src, sl.decl.kind ≠ .property) (vars : Frame)
    (log : List String) :
    runFn E oS oD (progHandler E oS oD hasTraitsProg (progHandler E oS oD hasTraitsProg H))
        deepcopyFn (.obj false) [.memo] [] [] ⟨src, dst, n, vars, dcMemo outer, log⟩ =
      some (.ok (.obj true),
        ⟨(cloneL E oS oD (dcArg outer) false n src).2.1, (cloneL E oS oD (dcArg outer) false n src).1,
          (cloneL E oS oD (dcArg outer) false n src).2.2, vars,
          memoSet (memoSet (dcMemo outer) "traits_copy_mode" (argVal (dcArg outer))) "#id" (.obj true),
          log ++ if (src.filter fun sl => sl.decl.copyable).length = 0 then cloneLog.eraseIdx 2 else cloneLog⟩) := by
  have hr := cloneTraits_run E oS oD H (src := src) (dst := dst) (n := n) (log := log)
    (dcArg outer) hnd _ _ (dcMemo outer) (.inr ⟨rfl, rfl⟩)
  have hm : memoGet (dcMemo outer) "traits_to_copy" = none ∧
      (memoGet (dcMemo outer) "traits_copy_mode").getD (.str "deep") = argVal (dcArg outer) := by
    cases outer <;> simp [dcMemo, dcArg, memoGet, argVal, modeStr]
  obtain ⟨f, hf⟩ : ∃ f, deepcopyFn = f := ⟨_, rfl⟩
  rw [hf]
  simp [deepcopyFn, hasTraitsProg, lookupFn] at hf
  subst hf
  simp [hm, progHandler_eq, hr]

/-! ## `__getstate__` / `__reduce_ex__` / `__setstate__` -/

theorem mergeState_none : ∀ (xs : List (Option CVal)) (l : List Slot),
    mergeState xs (l.map fun _ => (none : Option CVal)) = xs := by
  intro xs
  induction xs with
  | nil => intro l; cases l <;> simp [mergeState]
  | cons x xs ih => intro l; cases l <;> simp [mergeState, ih]

/-- `obj.__getstate__()` of the translated source is `getstateL` (plus the version mark). -/
theorem getstate_is_source (E : Env) (o oD n : Nat) (H : Handler) (slots dst : List Slot) (memo : List (String × Val))
    (log : List String) (vars : Frame) :
    runMethod E o oD H "__getstate__" (.obj false) [] [] [] ⟨slots, dst, n, vars, memo, log⟩ =
      some (.ok (.state (getstateL E o n slots).1 true),
        ⟨(getstateL E o n slots).2.1, dst, (getstateL E o n slots).2.2, vars, memo, log⟩) := by
  refine (runMethod_eq ..).trans ?_
  simp [nameDicPair, nameInDic, mergeState_none]

/-- The life-cycle calls `__setstate__` makes on the restored object, in order (Traits 3 state). -/
def setstateLog : List String :=
  ["_init_trait_listeners", "_init_trait_observers", "trait_set", "_post_init_trait_listeners",
   "_post_init_trait_observers", "traits_init", "_trait_set_inited"]

/-- `new.__setstate__(state)` of the translated source, for a state that carries the version mark (every state
`__getstate__` returns does), is `setstateL`; when an assignment raises, the exception leaves `__setstate__` and
`_trait_set_inited` has not been called. -/
theorem setstate_is_source (E : Env) (oS o' n : Nat) (src dst : List Slot) (xs : List (Option CVal))
    (memo : List (String × Val)) (vars : Frame) :
    runMethod E oS o' noHandler "__setstate__" (.obj true) [.state xs true] [] [] ⟨src, dst, n, vars, memo, []⟩ =
      match setstateL E o' n dst xs with
      | .error e => some (.error e, ⟨src, dst, n, vars, memo, setstateLog.take 3⟩)
      | .ok (d', n') => some (.ok .none, ⟨src, d', n', vars, memo, setstateLog⟩) := by
  refine (runMethod_eq ..).trans ?_
  rcases h : setstateL E o' n dst xs with e | ⟨d', n'⟩ <;>
    simp [kwLookup, evalDefault, h, setstateLog]

/-- `obj.__reduce_ex__(protocol)`: the state is the one `__getstate__` (the translated one, called through the
handler) returns. -/
theorem reduce_is_source (E : Env) (o oD n pr : Nat) (slots dst : List Slot) (memo : List (String × Val))
    (log : List String) (vars : Frame) :
    runMethod E o oD (progHandler E o oD hasTraitsProg noHandler) "__reduce_ex__" (.obj false) [.int pr] [] []
        ⟨slots, dst, n, vars, memo, log⟩ =
      some (.ok (.state (getstateL E o n slots).1 true),
        ⟨(getstateL E o n slots).2.1, dst, (getstateL E o n slots).2.2, vars, memo, log⟩) := by
  refine (runMethod_eq ..).trans ?_
  simp [progHandler_eq, getstate_is_source]

/-! ## The container objects -/

def okDict : Option (Except Exc RS) → Option Rec
  | some (.ok r) => some r.dict
  | _ => none

def okSelf : Option (Except Exc RS) → Option Rec
  | some (.ok r) => r.selfDict
  | _ => none

/-- The translated methods of the container class of each kind. -/
def progOf : Kind → List (String × Func)
  | .lst => traitListObjectProg | .dct => traitDictObjectProg | .st => traitSetObjectProg

/-- What `__getstate__` must return: the instance dictionary without `object` and `trait`. -/
def stateDict : Rec := recDel (recDel containerDict "object") "trait"

theorem container_state (k : Kind) :
    okDict (runRec (progOf k) "__getstate__" containerDict) = some stateDict ∧
    (∃ r, okSelf (runRec (progOf k) "__setstate__" stateDict) = some r ∧ restoredOK r = true ∧
      recGet r "name" = some .kept) ∧
    (∃ r, okSelf (runRec (progOf k) "__setstate__" (recDel stateDict "name")) = some r ∧ restoredOK r = true ∧
      recGet r "name" = some .emptyStr) := by
  cases k <;> refine ⟨by decide, ⟨_, rfl, by decide, by decide⟩, ⟨_, rfl, by decide, by decide⟩⟩

theorem container_deepcopy (k : Kind) (b : Binding) :
    runDeepcopy (progOf k) k b = some (ctorBinding (bindingTrait b)) := by
  cases k <;> rfl

theorem deepcopyV_node (n : Nat) (k : Kind) (i : Nat) (b : Binding) (hb : b ≠ .plain) (keys : List Leaf)
    (kids : List CVal) :
    deepcopyV n (.node k i b keys kids) =
      match deepcopyL (n + 1) kids with
      | .error e => .error e
      | .ok (kids', n') => .ok (.node k n (ctorBinding (bindingTrait b)) (keys.map (Leaf.copiedAt n)) kids', n') := by
  cases b <;> simp [deepcopyV, ctorBinding, bindingTrait] at hb ⊢ <;> split <;> simp_all

end TraitsVerif.Lemmas.PersistSource
