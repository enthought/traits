/-
Concrete pools and histories used as witnesses by `Props/C11.lean` (negations of the full-strength
clauses: findings F18-F20; non-vacuity examples).  Each is replayed on the implementation by the corpus
of harness/props/c11.py.
-/
import TraitsVerif.Lemmas.DelegNotify
namespace TraitsVerif.Model.Deleg.Witness
open TraitsVerif TraitsVerif.Model.Deleg

def idEnv : Env := { validate := fun _ _ v => .ok v }
def nx : Name := ['x']

def clsD : Cls := ⟨none, [(nx, .defer (mkDelegate [] true))]⟩
def clsP : Cls := ⟨none, [(nx, .defer (mkDelegate [] false))]⟩
def clsT : Cls := ⟨none, [(nx, .plain 0 3 .equality)]⟩

/-- F20: `o0.x = DelegatesTo` → `o1.x = PrototypedFrom` → `o2.x` typed; o1 holds the local value 7.
Corpus case `D-P-T … sw 1 2;sw 0 1;st 1 x 7;st 0 x 9;rd 0 x`. -/
def protoPool : Pool :=
  runPool idEnv 0 (mkPool [clsD, clsP, clsT]) [.swap 1 (some 2), .swap 0 (some 1), .set 1 nx 7]

theorem protoPool_inv : Inv protoPool :=
  runPool_inv idEnv _ 0 _ (mkPool_inv _ (by decide))

/-- F19: `'*'` at two levels with different class prefixes: A(`a_`).x → B(`b_`).a_x → C.
Corpus case `star2-diff … sw 1 2;sw 0 1;st 0 x 5;rd 0 x`. -/
def starPool : Pool :=
  runPool idEnv 0
    (mkPool [⟨some ['a', '_'], [(nx, .defer (mkDelegate ['*'] true))]⟩,
             ⟨some ['b', '_'], [(['a', '_', 'x'], .defer (mkDelegate ['*'] true))]⟩,
             ⟨none, [(['a', '_', 'a', '_', 'x'], .plain 0 1 .equality), (['b', '_', 'a', '_', 'x'], .plain 0 2 .equality)]⟩])
    [.swap 1 (some 2), .swap 0 (some 1)]

theorem clsD_ok : ClsOK clsD := clsOK_of_check rfl

theorem clsT_ok : ClsOK clsT := clsOK_of_check rfl

/-- F18 (fixed by bead785): the chain `o0.x → o1.x → o2.x` wired top-down; regression witness.
Corpus case `same-D … sw 0 1;sw 1 2;st 2 x 5`. -/
def topDown : List Op := [.swap 0 (some 1), .swap 1 (some 2)]

/-- The same chain wired bottom-up: no hook fails. -/
def bottomUp : List Op := [.swap 1 (some 2), .swap 0 (some 1)]

/-! F19, notification side (`deepClasses`, `brokenDel`): `'*'` chain
A(`a_`).x → B(`b_`).a_x → C → D where the write walk ends on
`c.a_a_x` while reads and listeners go on through `c.b_a_x → d.b_a_x`.  Corpus case
`star2-deep … sw 2 3;sw 1 2;sw 0 1;st 0 x 5;sw 2 N;dl 0 x;rd 0 x`: the `del` deletes, its read-back raises,
and the link is left without forwarder. -/
def nax : Name := ['a', '_', 'x']
def naax : Name := ['a', '_', 'a', '_', 'x']
def nbax : Name := ['b', '_', 'a', '_', 'x']
def clsA : Cls := ⟨some ['a', '_'], [(nx, .defer (mkDelegate ['*'] false))]⟩
def clsB : Cls := ⟨some ['b', '_'], [(nax, .defer (mkDelegate ['*'] false))]⟩
def clsC : Cls := ⟨none, [(naax, .plain 0 1 .equality), (nbax, .defer (mkDelegate [] false))]⟩
def clsE : Cls := ⟨none, [(nbax, .plain 1 2 .equality)]⟩

def deepClasses : List Cls := [clsA, clsB, clsC, clsE]

def brokenDel : List Op :=
  [.swap 2 (some 3), .swap 1 (some 2), .swap 0 (some 1), .set 0 nx 5, .swap 2 none, .del 0 nx]

theorem deepClasses_ok : ∀ c ∈ deepClasses, ClsOK c :=
  fun c hc => clsOK_of_check ((by decide : ∀ c ∈ deepClasses, c.check = true) c hc)

end TraitsVerif.Model.Deleg.Witness
