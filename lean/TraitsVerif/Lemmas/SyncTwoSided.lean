/-
Histories on one mutual link between two traits `p` and `q` (the "two-sided
histories" of property C20): with compatible validators, every reachable state
has empty lock tables, and while the link exists both sides hold the same
value — the same list, after every in-place mutation of either list.
-/
import TraitsVerif.Lemmas.SyncShapes
import TraitsVerif.Lemmas.SyncHook
namespace TraitsVerif.Model.Sync
open TraitsVerif TraitsVerif.Py TraitsVerif.Model
variable {α : Type}

/-- The validators of the two traits agree on what they store: what one of
them returns, both store unchanged (e.g. the same idempotent validator). -/
structure Compat (E : Env α) (p q : Pair) : Prop where
  ne : p ≠ q
  kind : E.isList p = E.isList q
  spq : ∀ x y, E.sv p 0 x = .ok y → E.sv q 0 y = .ok y ∧ E.sv p 0 y = .ok y
  sqp : ∀ x y, E.sv q 0 x = .ok y → E.sv p 0 y = .ok y ∧ E.sv q 0 y = .ok y
  ipq : ∀ k x y, E.iv p k x = .ok y → ∀ k', E.iv q k' y = .ok y ∧ E.iv p k' y = .ok y
  iqp : ∀ k x y, E.iv q k x = .ok y → ∀ k', E.iv p k' y = .ok y ∧ E.iv q k' y = .ok y
  sort : ∀ sp l, (E.sort sp l).Perm l

theorem Compat.symm {E : Env α} {p q : Pair} (h : Compat E p q) : Compat E q p :=
  ⟨h.ne.symm, h.kind.symm, h.sqp, h.spq, h.iqp, h.ipq, h.sort⟩

/-- A value of the right shape that both traits store unchanged. -/
def GoodVal (E : Env α) (p q : Pair) : AVal α → Prop
  | .s x => E.isList p = false ∧ E.sv p 0 x = .ok x ∧ E.sv q 0 x = .ok x
  | .l xs => E.isList p = true ∧ ∀ x ∈ xs, ∀ k, E.iv p k x = .ok x ∧ E.iv q k x = .ok x

theorem GoodVal.symm {E : Env α} {p q : Pair} (hc : Compat E p q) {v : AVal α} (h : GoodVal E p q v) :
    GoodVal E q p v := by
  cases v with
  | s x => exact ⟨hc.kind ▸ h.1, h.2.2, h.2.1⟩
  | l xs => exact ⟨hc.kind ▸ h.1, fun x hx k => (h.2 x hx k).symm⟩

theorem GoodVal.validate_p {E : Env α} {p q : Pair} {v : AVal α} (h : GoodVal E p q v) :
    validate E p v = .ok v := by
  cases v with
  | s x => simp [validate, h.1, h.2.1]
  | l xs => simp [validate, h.1, valAll_fixed (fun k x hx => (h.2 x hx k).1) 0]

theorem GoodVal.validate_q {E : Env α} {p q : Pair} (hc : Compat E p q) {v : AVal α} (h : GoodVal E p q v) :
    validate E q v = .ok v := (h.symm hc).validate_p

theorem good_of_validate {E : Env α} {p q : Pair} (hc : Compat E p q) {v y : AVal α}
    (h : validate E p v = .ok y) : GoodVal E p q y := by
  cases v with
  | s x =>
    simp only [validate] at h
    split at h
    · cases h
    · rename_i hl
      split at h <;> cases h
      rename_i y' hy'
      exact ⟨by simpa using hl, (hc.spq x y' hy').symm⟩
  | l xs =>
    simp only [validate] at h
    split at h
    · rename_i hl
      split at h <;> cases h
      rename_i ys hys
      refine ⟨hl, fun x hx k => ?_⟩
      obtain ⟨k0, a, ha⟩ := (valAll_valid hys).2 x hx
      exact (hc.ipq k0 a x ha k).symm
    · cases h

theorem GoodVal.list {E : Env α} {p q : Pair} {w : World α} {r : Pair} (h : GoodVal E p q (w.val r))
    (hl : E.isList p = true) : w.val r = .l (w.list r) := by
  unfold World.list
  cases hv : w.val r with
  | s x => rw [hv] at h; rw [h.1] at hl; cases hl
  | l xs => rfl

/-! ### The invariant -/

/-- State of a world whose only links are the two halves of one mutual link
between `p` and `q` (or none). -/
structure TwoSided (E : Env α) (p q : Pair) (w : World α) : Prop where
  locked : w.locked = []
  edges : ∀ e ∈ w.edges, e = ⟨p, q⟩ ∨ e = ⟨q, p⟩
  nodup : w.edges.Nodup
  both : (⟨p, q⟩ : Edge) ∈ w.edges ↔ (⟨q, p⟩ : Edge) ∈ w.edges
  hookp : E.isList p = true → (⟨p, q⟩ : Edge) ∈ w.edges → p ∈ w.hooked
  hookq : E.isList q = true → (⟨q, p⟩ : Edge) ∈ w.edges → q ∈ w.hooked
  conv : (⟨p, q⟩ : Edge) ∈ w.edges → w.val p = w.val q
  goodp : GoodVal E p q (w.val p)
  goodq : GoodVal E p q (w.val q)

section
variable {E : Env α} {p q : Pair} {w : World α}

theorem TwoSided.symm (hc : Compat E p q) (h : TwoSided E p q w) : TwoSided E q p w :=
  { locked := h.locked
    edges := fun e he => (h.edges e he).symm
    nodup := h.nodup
    both := h.both.symm
    hookp := h.hookq
    hookq := h.hookp
    conv := fun he => (h.conv (h.both.mpr he)).symm
    goodp := h.goodq.symm hc
    goodq := h.goodp.symm hc }

theorem TwoSided.partners_p (hc : Compat E p q) (h : TwoSided E p q w) :
    w.partners p = if (⟨p, q⟩ : Edge) ∈ w.edges then [q] else [] := by
  have hnd := partners_nodup h.nodup p
  have hall : ∀ t ∈ w.partners p, t = q := fun t ht => by
    rcases h.edges _ (mem_partners.mp ht) with h' | h' <;> cases h'
    · rfl
    · exact absurd rfl hc.ne
  cases hP : w.partners p with
  | nil => rw [if_neg fun he => by have := mem_partners.mpr he; rw [hP] at this; cases this]
  | cons a as =>
    rw [hP] at hnd hall
    obtain rfl := hall a (List.mem_cons_self ..)
    rw [if_pos (mem_partners.mp (hP ▸ List.mem_cons_self ..))]
    cases as with
    | nil => rfl
    | cons b bs =>
      exact absurd (hall b (by simp)) fun hb => (List.nodup_cons.mp hnd).1 (hb ▸ List.mem_cons_self ..)

theorem TwoSided.partners_other (h : TwoSided E p q w) (r : Pair) (hrp : r ≠ p) (hrq : r ≠ q) :
    w.partners r = [] :=
  List.eq_nil_iff_forall_not_mem.mpr fun t ht => by
    rcases h.edges _ (mem_partners.mp ht) with h' | h' <;> cases h'
    · exact hrp rfl
    · exact hrq rfl

/-- The propagation from `p` reaches `p` and (if linked) `q`, each once. -/
theorem TwoSided.noRevisit (hc : Compat E p q) (h : TwoSided E p q w)
    (he : (⟨p, q⟩ : Edge) ∈ w.edges) : (visit w.edges w.budget [] p).Nodup := by
  have hp : w.partners p = [q] := by rw [h.partners_p hc, if_pos he]
  have hq : w.partners q = [p] := by rw [(h.symm hc).partners_p hc.symm, if_pos (h.both.mp he)]
  obtain ⟨d, hd⟩ := budget_of_edge he
  rw [hd]
  unfold World.partners at hp hq
  refine visit_hub_nodup _ _ _ (by rw [hp]; simp) (by rw [hp]; simpa using hc.ne) fun t ht u hu => ?_
  rw [hp] at ht
  obtain rfl := List.mem_singleton.mp ht
  rw [hq] at hu
  exact List.mem_singleton.mp hu

/-- Every link leads to `p` or `q`, which both store a good value unchanged. -/
theorem TwoSided.fix (hc : Compat E p q) (h : TwoSided E p q w) {y : AVal α} (hy : GoodVal E p q y) :
    Fix E w.edges y := by
  intro e he
  rcases h.edges e he with rfl | rfl
  · exact Or.inl (hy.validate_q hc)
  · exact Or.inl hy.validate_p

/-! ### Preservation, command by command -/

/-- A step that keeps the link tables and the lock table, and `p` and `q` registered. -/
theorem TwoSided.transfer' {w' : World α} (h : TwoSided E p q w) (he : w'.edges = w.edges)
    (hl : w'.locked = w.locked) (hhp : p ∈ w.hooked → p ∈ w'.hooked) (hhq : q ∈ w.hooked → q ∈ w'.hooked)
    (hconv : (⟨p, q⟩ : Edge) ∈ w.edges → w'.val p = w'.val q)
    (hgp : GoodVal E p q (w'.val p)) (hgq : GoodVal E p q (w'.val q)) : TwoSided E p q w' :=
  { locked := hl.trans h.locked
    edges := he ▸ h.edges
    nodup := he ▸ h.nodup
    both := he ▸ h.both
    hookp := fun hlp hm => hhp (h.hookp hlp (he ▸ hm))
    hookq := fun hlq hm => hhq (h.hookq hlq (he ▸ hm))
    conv := fun hm => hconv (he ▸ hm)
    goodp := hgp
    goodq := hgq }

theorem TwoSided.transfer {w' : World α} (h : TwoSided E p q w)
    (ht : SameTabs w w') (hconv : (⟨p, q⟩ : Edge) ∈ w.edges → w'.val p = w'.val q)
    (hgp : GoodVal E p q (w'.val p)) (hgq : GoodVal E p q (w'.val q)) : TwoSided E p q w' :=
  h.transfer' ht.1 ht.2.1 (ht.2.2 ▸ id) (ht.2.2 ▸ id) hconv hgp hgq

theorem TwoSided.of_no_edges (hL : w.locked = [])
    (he : ∀ e ∈ w.edges, False) (hgp : GoodVal E p q (w.val p)) (hgq : GoodVal E p q (w.val q)) :
    TwoSided E p q w :=
  have hnil : w.edges = [] := List.eq_nil_iff_forall_not_mem.mpr he
  { locked := hL
    edges := fun e h => (he e h).elim
    nodup := hnil ▸ List.nodup_nil
    both := ⟨fun h => (he _ h).elim, fun h => (he _ h).elim⟩
    hookp := fun _ h => (he _ h).elim
    hookq := fun _ h => (he _ h).elim
    conv := fun h => (he _ h).elim
    goodp := hgp
    goodq := hgq }

/-- A command on a third trait. -/
theorem TwoSided.other {π : Type} {apply : World α → Pair → π → Except Exc (World α × Option α × Option π)}
    (hl : Local apply) (h : TwoSided E p q w) (r : Pair) (x : π) (d : Nat) (hrp : r ≠ p) (hrq : r ≠ q) :
    TwoSided E p q (finish w (cascade apply (d + 1) w r x)).world := by
  cases happ : apply w r x with
  | error e => rw [cascade_succ_error.mpr happ]; exact h
  | ok res =>
    obtain ⟨w1, ret, y⟩ := res
    rw [finish_no_partners hl d (h.partners_other r hrp hrq) happ]
    have hp := hl.val happ p hrp.symm
    have hq := hl.val happ q hrq.symm
    exact h.transfer (hl.sameTabs happ) (fun he => by rw [hp, hq]; exact h.conv he) (hp ▸ h.goodp) (hq ▸ h.goodq)

theorem TwoSided.assign_p [DecidableEq α] (hc : Compat E p q) (h : TwoSided E p q w) (v : AVal α) :
    TwoSided E p q (w.assign E p v).world := by
  cases hv : validate E p v with
  | error e =>
    rw [World.assign, World.budget, cascade_succ_error (e := e) |>.mpr (by simp [applyAssign, hv])]; exact h
  | ok y =>
    have hy : GoodVal E p q y := good_of_validate hc hv
    have htabs := assign_sameTabs E w p v (by simp [h.locked])
    by_cases he : (⟨p, q⟩ : Edge) ∈ w.edges
    · obtain ⟨_, hp', hq', _⟩ := assign_converges E w p q v y h.locked he hv (h.fix hc hy) (hy.validate_q hc)
        (Or.inr (h.conv he).symm)
      exact h.transfer htabs (fun _ => by rw [hp', hq']) (hp' ▸ hy) (hq' ▸ hy)
    · obtain ⟨w1, pay, happ, hw1⟩ := applyAssign_val w hv
      have hw := finish_no_partners (local_assign E) w.edges.length (by rw [h.partners_p hc, if_neg he]) happ
      have hq' : w1.val q = w.val q := (local_assign E).val happ q hc.ne.symm
      rw [World.assign, World.budget, hw] at htabs ⊢
      exact h.transfer htabs (fun he' => absurd he' he) (hw1 ▸ hy) (hq' ▸ h.goodq)

theorem TwoSided.mutate_p (hc : Compat E p q) (h : TwoSided E p q w) (op : Op α) :
    TwoSided E p q (w.mutate E p op).world := by
  cases happ : applyMutate E w p op with
  | error e => rw [World.mutate, World.budget, cascade_succ_error.mpr happ]; exact h
  | ok res =>
    -- the call succeeded on `p`'s own list; its items come from that list or from `p`'s item validator
    obtain ⟨w1, ret, pay⟩ := res
    obtain ⟨hl, o, hs, -, hcase⟩ := applyMutate_ok happ
    have hw1 : w1.val p = .l o.items := by
      rcases hcase with ⟨-, -, rfl⟩ | ⟨e, -, -, rfl⟩ <;> exact upd_same ..
    have hq1 : w1.val q = w.val q := (local_mutate E).val happ q hc.ne.symm
    have hvalp : w.val p = .l (w.list p) := h.goodp.list hl
    have hstep := listStep_ok hs
    have hsrc := step_src (E.tl p) hc.sort (w.list p) op o hstep
    have hgood : ∀ x, x ∈ w.list p ∨ Valid (E.tl p) x → ∀ k, E.iv p k x = .ok x ∧ E.iv q k x = .ok x := by
      rintro x (hx | ⟨k0, a, ha⟩) k
      · exact (hvalp ▸ h.goodp).2 x hx k
      · exact (hc.ipq k0 a x ha k).symm
    have hy : GoodVal E p q (.l o.items) := ⟨hl, fun x hx k => hgood x (hsrc.1 x hx) k⟩
    have htabs := mutate_sameTabs E w p op (by simp [h.locked])
    by_cases he : (⟨p, q⟩ : Edge) ∈ w.edges
    · rcases hcase with ⟨hev, hpay, -⟩ | ⟨e, hev, -, -⟩
      · -- nothing changed (C05), nothing to propagate
        rw [World.mutate, World.budget, cascade_of_apply happ, hpay] at htabs ⊢
        have hitems : o.items = w.list p := step_silent (E.tl p) hc.sort (w.list p) op o hstep hev
        refine h.transfer htabs (fun he => ?_) (hw1 ▸ hy) (hq1 ▸ h.goodq)
        exact hw1.trans (hitems ▸ hvalp.symm.trans ((h.conv he).trans hq1.symm))
      · have hfixv : valAll (E.iv q) 0 e.added = .ok e.added :=
          valAll_fixed (fun k x hx => (hgood x (hsrc.2 e hev x hx) k).2) 0
        obtain ⟨_, _, hp', hq'⟩ := mutate_converges E w p q op o e h.locked he hl (hc.kind ▸ hl)
          (h.hookp hl he) hs hev (by simp [World.list, (h.conv he).symm]) hfixv (h.noRevisit hc he)
        exact h.transfer htabs (fun _ => by rw [hp', hq']) (hp' ▸ hy) (hq' ▸ hy)
    · rw [World.mutate, World.budget,
        finish_no_partners (local_mutate E) w.edges.length (by rw [h.partners_p hc, if_neg he]) happ] at htabs ⊢
      exact h.transfer htabs (fun he' => absurd he' he) (hw1 ▸ hy) (hq1 ▸ h.goodq)

theorem assign_same_value [DecidableEq α] (E : Env α) (w : World α) (p : Pair) (v : AVal α)
    (hv : validate E p v = .ok (w.val p)) : w.assign E p v = { world := w } := by
  have happ : applyAssign E w p v = .ok (w, none, none) := by rw [applyAssign_of_validate w hv, if_pos rfl]
  rw [World.assign, World.budget, cascade_of_apply happ]; rfl

/-- `p.sync_trait(q)` (mutual). -/
theorem TwoSided.link_pq [DecidableEq α] (hc : Compat E p q) (h : TwoSided E p q w) :
    TwoSided E p q (w.link E p q true).world := by
  by_cases he : (⟨p, q⟩ : Edge) ∈ w.edges
  · have : (w.link E p q true).world = w := by simp [World.link, World.linkOne, he, h.both.mp he]
    rw [this]; exact h
  · have hnil : w.edges = [] := List.eq_nil_iff_forall_not_mem.mpr fun e hm => by
      rcases h.edges e hm with rfl | rfl
      · exact he hm
      · exact he (h.both.mpr hm)
    -- first half: `q` has no table yet, so only `q` changes: it takes `p`'s value
    obtain ⟨w1, pay, happ, hw1⟩ := applyAssign_val (w.register E p q) (h.goodp.validate_q hc)
    have h1 : w.linkOne E p q = { world := w1, ret := none } := by
      rw [World.linkOne, if_neg he]
      exact finish_no_partners (local_assign E) _ (by simp [World.partners, World.register, hnil, hc.ne]) happ
    have ht1 := (local_assign E).sameTabs happ
    have hp1 : w1.val p = w.val p := (local_assign E).val happ p hc.ne
    -- second half: `p` is assigned the value it holds
    have h2 : w1.linkOne E q p = { world := w1.register E q p } := by
      rw [World.linkOne, if_neg (by rw [ht1.1]; simp [World.register, hnil, hc.ne])]
      exact assign_same_value E _ p _ (by rw [hw1]; exact hp1 ▸ h.goodp.validate_p)
    have : (w.link E p q true).world = w1.register E q p := by simp [World.link, h1, h2]
    rw [this]
    have hedges : (w1.register E q p).edges = [⟨p, q⟩, ⟨q, p⟩] := by
      show w1.edges ++ _ = _; rw [ht1.1]; simp [World.register, hnil]
    exact
      { locked := ht1.2.1.trans h.locked
        edges := by rw [hedges]; simp
        nodup := by rw [hedges]; simp [hc.ne]
        both := by rw [hedges]; simp
        hookp := fun hl _ => register_hooked_mono E w1 q p p
          (ht1.2.2 ▸ register_hooked_mem E w p q hl (hc.kind ▸ hl))
        hookq := fun hl _ => register_hooked_mem E w1 q p hl (hc.kind.symm ▸ hl)
        conv := fun _ => hp1.trans hw1.symm
        goodp := hp1 ▸ h.goodp
        goodq := hw1 ▸ h.goodp }

/-- `a.sync_trait(b, remove=True)` (mutual), for any two traits. -/
theorem TwoSided.unlink {E : Env α} {p q : Pair} {w : World α} (h : TwoSided E p q w) (a b : Pair) :
    TwoSided E p q (w.unlink E a b true) := by
  by_cases hab : (⟨a, b⟩ : Edge) ∈ w.edges ∨ (⟨b, a⟩ : Edge) ∈ w.edges
  · -- one of the two entries is ours, so both are, and both go
    refine TwoSided.of_no_edges ((unlink_locked ..).trans h.locked) (fun e he => ?_)
      (unlink_val E w a b ▸ h.goodp) (unlink_val E w a b ▸ h.goodq)
    obtain ⟨h1, h2, h3⟩ := (mem_unlink_edges E w a b e).mp he
    have key : ∀ {a b : Pair}, (⟨a, b⟩ : Edge) ∈ w.edges → e = ⟨a, b⟩ ∨ e = ⟨b, a⟩ := fun hm => by
      rcases h.edges _ hm with h' | h' <;> cases h' <;> rcases h.edges e h1 with rfl | rfl <;> simp
    rcases hab with hm | hm <;> rcases key hm with rfl | rfl
    · exact h2 rfl
    · exact h3 rfl
    · exact h3 rfl
    · exact h2 rfl
  · have : w.unlink E a b true = w := by
      simp only [World.unlink, World.unlinkOne, if_true, if_neg (fun h' => hab (Or.inl h')),
        if_neg (fun h' => hab (Or.inr h'))]
    rw [this]; exact h

theorem TwoSided.kill (h : TwoSided E p q w) (o : Nat) : TwoSided E p q (w.kill o) := by
  have hL : (w.kill o).locked = [] := by simp [World.kill, h.locked]
  by_cases ho : p.1 = o ∨ q.1 = o
  · refine TwoSided.of_no_edges hL (fun e he => ?_) h.goodp h.goodq
    obtain ⟨h1, h2, h3⟩ := (mem_kill_edges w o e).mp he
    rcases h.edges e h1 with rfl | rfl <;> rcases ho with ho | ho
    · exact h2 ho
    · exact h3 ho
    · exact h3 ho
    · exact h2 ho
  · have hp : p.1 ≠ o := fun e => ho (Or.inl e)
    have hq : q.1 ≠ o := fun e => ho (Or.inr e)
    refine h.transfer' (List.filter_eq_self.mpr fun e he => ?_) (hL.trans h.locked.symm)
      (fun hm => List.mem_filter.mpr ⟨hm, by simpa using hp⟩)
      (fun hm => List.mem_filter.mpr ⟨hm, by simpa using hq⟩) h.conv h.goodp h.goodq
    rcases h.edges e he with rfl | rfl <;> simp [hp, hq]

end

/-- The commands of a two-sided history: assignments to and in-place mutations
of any trait of any object, (re-)linking the two traits mutually from either
side, mutual removal of any link, death of any object. -/
inductive Allowed (p q : Pair) : Cmd α → Prop where
  | assign (r : Pair) (v : AVal α) : Allowed p q (.assign r v)
  | mutate (r : Pair) (op : Op α) : Allowed p q (.mutate r op)
  | linkpq : Allowed p q (.link p q true)
  | linkqp : Allowed p q (.link q p true)
  | unlink (a b : Pair) : Allowed p q (.unlink a b true)
  | kill (o : Nat) : Allowed p q (.kill o)

theorem TwoSided.step [DecidableEq α] {E : Env α} {p q : Pair} {w : World α} (hc : Compat E p q)
    (h : TwoSided E p q w) {c : Cmd α} (ha : Allowed p q c) : TwoSided E p q (w.step E c).world := by
  cases ha with
  | assign r v =>
    by_cases hrp : r = p
    · subst hrp; exact h.assign_p hc v
    · by_cases hrq : r = q
      · subst hrq; exact ((h.symm hc).assign_p hc.symm v).symm hc.symm
      · exact h.other (local_assign E) r v _ hrp hrq
  | mutate r op =>
    by_cases hrp : r = p
    · subst hrp; exact h.mutate_p hc op
    · by_cases hrq : r = q
      · subst hrq; exact ((h.symm hc).mutate_p hc.symm op).symm hc.symm
      · exact h.other (local_mutate E) r op _ hrp hrq
  | linkpq => exact h.link_pq hc
  | linkqp => exact ((h.symm hc).link_pq hc.symm).symm hc.symm
  | unlink a b => exact h.unlink a b
  | kill o => exact h.kill o

/-- **Two-sided histories.** The invariant holds after every history. -/
theorem TwoSided.run [DecidableEq α] {E : Env α} {p q : Pair} (hc : Compat E p q) (cs : List (Cmd α)) (w : World α)
    (h : TwoSided E p q w) (hall : ∀ c ∈ cs, Allowed p q c) : TwoSided E p q (World.run E w cs) :=
  run_inv cs (fun _ c hm h => h.step hc (hall c hm)) w h

end TraitsVerif.Model.Sync
