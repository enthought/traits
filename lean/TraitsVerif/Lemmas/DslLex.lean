/-
C15 — the lexer `lex` reproduces the tokens of every rendering (`lex_rendering`,
completeness) and accepts only renderings of its output (`lex_sound`, soundness).
Core Lean only.
-/
import TraitsVerif.Lemmas.DslShape
namespace TraitsVerif.Model.Dsl

/-! ### character classes -/

theorem ws_facts {c : Char} (h : isWs c = true) :
    isWordStart c = false ∧ symTok c = none ∧ ∀ uw, isWordChar uw c = false := by
  simp only [isWs, Bool.or_eq_true, beq_iff_eq] at h
  rcases h with (((rfl | rfl) | rfl) | rfl) | rfl <;> exact ⟨rfl, rfl, fun _ => rfl⟩

def Tok.isWord : Tok → Bool
  | .name _ => true
  | .items => true
  | _ => false

/-- one entry of the if-chain `symTok`: what holds of the entry and of every later
hit holds of any hit -/
theorem symTok_entry {P : Char → Tok → Prop} {c c' : Char} {t t' : Tok} {r : Option Tok}
    (h : (if (c == c') = true then some t' else r) = some t)
    (here : P c' t') (later : r = some t → P c t) : P c t := by
  cases hc : c == c' with
  | false => rw [hc] at h; exact later h
  | true => rw [hc] at h; cases h; cases eq_of_beq hc; exact here

theorem symTok_some {c : Char} {t : Tok} (h : symTok c = some t) :
    t.text = [c] ∧ t.isWord = false ∧ isWordStart c = false ∧ ∀ uw, isWordChar uw c = false := by
  unfold symTok at h
  iterate 7 apply symTok_entry h ⟨rfl, rfl, rfl, fun _ => rfl⟩; intro h
  cases h

theorem exists_symTok {t : Tok} (h : t.isWord = false) : ∃ c, symTok c = some t := by
  cases t with
  | name | items => cases h
  | plus => exact ⟨'+', rfl⟩
  | star => exact ⟨'*', rfl⟩
  | conn c => cases c; exact ⟨'.', rfl⟩; exact ⟨':', rfl⟩
  | comma => exact ⟨',', rfl⟩
  | lb => exact ⟨'[', rfl⟩
  | rb => exact ⟨']', rfl⟩

/-! ### one step of the lexer, per character class -/

variable (uw : Char → Bool)

theorem lexGo_sym {c : Char} {t : Tok} (h : symTok c = some t) (s acc : List Char) (pp : Bool) :
    lexGo uw (c :: s) acc pp = (lexGo uw s [] (t == .plus)).map (fun r => flush pp acc ++ t :: r) := by
  obtain ⟨-, -, h2, h3⟩ := symTok_some h
  simp only [lexGo, h, h2, h3 uw, Bool.and_false, Bool.false_eq_true, if_false]

theorem lexGo_ws {c : Char} (h : isWs c = true) (s acc : List Char) (pp : Bool) :
    lexGo uw (c :: s) acc pp = (lexGo uw s [] (apAfter pp acc)).map (fun r => flush pp acc ++ r) := by
  obtain ⟨h1, h2, h3⟩ := ws_facts h
  simp only [lexGo, h, h1, h2, h3 uw, Bool.and_false, Bool.false_eq_true, if_false, if_true]

theorem lexGo_cont {c : Char} {acc : List Char} (ha : acc ≠ []) (h : isWordChar uw c = true)
    (s : List Char) (pp : Bool) : lexGo uw (c :: s) acc pp = lexGo uw s (acc ++ [c]) pp := by
  cases acc with
  | nil => exact absurd rfl ha
  | cons a acc => simp only [lexGo, h, List.isEmpty_cons, Bool.not_false, Bool.and_self, if_true]

theorem lexGo_start {c : Char} (h : isWordStart c = true) (s : List Char) (pp : Bool) :
    lexGo uw (c :: s) [] pp = lexGo uw s [c] pp := by
  simp only [lexGo, h, List.isEmpty_nil, Bool.not_true, Bool.false_and, Bool.false_eq_true, if_false,
    Bool.and_self, if_true]

theorem lexGo_none {c : Char} {acc : List Char} (h1 : symTok c = none) (h2 : isWs c = false)
    (h3 : (if acc.isEmpty then isWordStart c else isWordChar uw c) = false) (s : List Char) (pp : Bool) :
    lexGo uw (c :: s) acc pp = none := by
  cases acc with
  | nil =>
    simp only [List.isEmpty_nil, if_true] at h3
    simp only [lexGo, h1, h2, h3, List.isEmpty_nil, Bool.not_true, Bool.false_and, Bool.and_false,
      Bool.false_eq_true, if_false]
  | cons a acc =>
    simp only [List.isEmpty_cons, Bool.false_eq_true, if_false] at h3
    simp only [lexGo, h1, h2, h3, List.isEmpty_cons, Bool.and_false, Bool.false_and,
      Bool.false_eq_true, if_false]

/-! ### runs of blanks and of word characters -/

theorem apAfter_nil (pp : Bool) : apAfter pp [] = pp := Bool.and_true pp

theorem lexGo_skip_ws (w s : List Char) (pp : Bool) (h : allWs w = true) :
    lexGo uw (w ++ s) [] pp = lexGo uw s [] pp := by
  induction w with
  | nil => rfl
  | cons c w ih =>
    rw [allWs, List.all_cons, Bool.and_eq_true] at h
    rw [List.cons_append, lexGo_ws uw h.1, apAfter_nil, ih h.2]
    cases lexGo uw s [] pp <;> rfl

theorem lexGo_blanks {w : List Char} (h : allWs w = true) (hw : w ≠ []) (s acc : List Char) (pp : Bool) :
    lexGo uw (w ++ s) acc pp = (lexGo uw s [] (apAfter pp acc)).map (fun r => flush pp acc ++ r) := by
  cases w with
  | nil => exact absurd rfl hw
  | cons c w =>
    rw [allWs, List.all_cons, Bool.and_eq_true] at h
    rw [List.cons_append, lexGo_ws uw h.1, lexGo_skip_ws uw w s _ h.2]

theorem flush_cons (pp : Bool) (a : Char) (acc : List Char) :
    flush pp (a :: acc) = [wordTok pp (a :: acc)] := rfl

theorem lexGo_trail (trail acc : List Char) (pp : Bool) (h : allWs trail = true) :
    lexGo uw trail acc pp = some (flush pp acc) := by
  cases trail with
  | nil => rfl
  | cons c w =>
    have := lexGo_blanks uw h (List.cons_ne_nil c w) [] acc pp
    rw [List.append_nil] at this
    rw [this]
    exact congrArg some (List.append_nil _)

theorem lexGo_word_run (cs s acc : List Char) (pp : Bool) (hacc : acc ≠ [])
    (h : cs.all (isWordChar uw) = true) :
    lexGo uw (cs ++ s) acc pp = lexGo uw s (acc ++ cs) pp := by
  induction cs generalizing acc with
  | nil => rw [List.append_nil]; rfl
  | cons c cs ih =>
    rw [List.all_cons, Bool.and_eq_true] at h
    rw [List.cons_append, lexGo_cont uw hacc h.1, ih _ (by simp) h.2, List.append_assoc]
    rfl

theorem validName_items : validName uw itemsKw = true := rfl

theorem lexGo_name {n : Name} (h : validName uw n = true) (s : List Char) (pp : Bool) :
    lexGo uw (n ++ s) [] pp = lexGo uw s n pp := by
  cases n with
  | nil => cases h
  | cons c cs =>
    rw [validName, Bool.and_eq_true] at h
    rw [List.cons_append, lexGo_start uw h.1, lexGo_word_run uw cs s [c] pp (List.cons_ne_nil _ _) h.2]
    rfl

/-! ### which token lists come out of the lexer, and which go back in -/

/-- Every NAME / ITEMS token is the token the lexer makes of its own text in its place (`pp` = the
previous token is PLUS).  So NAMEs are identifiers, and the keyword rule: an identifier spelt `items`
is a NAME only directly after PLUS, and ITEMS never comes directly after PLUS. -/
def tokNames : Bool → List Tok → Bool
  | _, [] => true
  | pp, t :: ts =>
    (!t.isWord || (validName uw t.text && wordTok pp t.text == t)) && tokNames (t == .plus) ts

/-- No NAME / ITEMS directly after another: written without a blank between
them the two would be read as one identifier.  `pw` = the previous token is a word. -/
def sepWords : Bool → List Tok → Bool
  | _, [] => true
  | pw, t :: ts => !(pw && t.isWord) && sepWords t.isWord ts

theorem tokNames_sym {t : Tok} (h : t.isWord = false) (pp : Bool) (ts : List Tok) :
    tokNames uw pp (t :: ts) = tokNames uw (t == .plus) ts := by
  rw [tokNames, h]; rfl

theorem sepWords_sym {t : Tok} (h : t.isWord = false) (pw : Bool) (ts : List Tok) :
    sepWords pw (t :: ts) = sepWords false ts := by
  rw [sepWords, h, Bool.and_false]; rfl

theorem wordTok_text (pp : Bool) (n : Name) : (wordTok pp n).text = n := by
  rw [wordTok]
  split
  · rename_i h
    rw [Bool.and_eq_true, beq_iff_eq] at h
    exact h.2.symm
  · rfl

theorem wordTok_isWord (pp : Bool) (n : Name) : (wordTok pp n).isWord = true := by
  rw [wordTok]; split <;> rfl

theorem word_ne_plus {t : Tok} (h : t.isWord = true) : (t == .plus) = false := by
  cases t <;> first | rfl | cases h

theorem wordTok_names {pp : Bool} {n : Name} (hv : validName uw n = true) {ts : List Tok}
    (h : tokNames uw false ts = true) : tokNames uw pp (wordTok pp n :: ts) = true := by
  rw [tokNames, wordTok_text, hv, beq_self_eq_true, word_ne_plus (wordTok_isWord pp n), h,
    wordTok_isWord]
  rfl

theorem word_facts {t : Tok} {pp : Bool} {ts : List Tok} (hw : t.isWord = true)
    (h : tokNames uw pp (t :: ts) = true) :
    validName uw t.text = true ∧ wordTok pp t.text = t ∧ tokNames uw false ts = true := by
  rw [tokNames, hw, word_ne_plus hw, Bool.not_true, Bool.false_or, Bool.and_eq_true, Bool.and_eq_true,
    beq_iff_eq] at h
  exact ⟨h.1.1, h.1.2, h.2⟩

theorem flush_valid {n : Name} (hv : validName uw n = true) (pp : Bool) :
    flush pp n = [wordTok pp n] ∧ apAfter pp n = false ∧ (!n.isEmpty) = true := by
  cases n with
  | nil => cases hv
  | cons a n => exact ⟨rfl, Bool.and_false _, rfl⟩

/-! ### completeness -/

theorem lexGo_blanks_sym {w : List Char} (hw : allWs w = true) {c : Char} {t : Tok}
    (h : symTok c = some t) (s acc : List Char) (pp : Bool) :
    lexGo uw (w ++ c :: s) acc pp =
      (lexGo uw s [] (t == .plus)).map (fun r => flush pp acc ++ t :: r) := by
  cases w with
  | nil => exact lexGo_sym uw h s acc pp
  | cons c' w' =>
    rw [lexGo_blanks uw hw (List.cons_ne_nil _ _), lexGo_sym uw h]
    cases lexGo uw s [] (t == .plus) <;> rfl

/-- A text made of tokens with blanks before, between and after them is read
back as those tokens, from any state of the lexer that the first token fits:
the NAMEs are identifiers obeying the keyword rule and no word follows a word
(nor the pending identifier) directly. -/
theorem lexGo_complete {trail : List Char} (htr : allWs trail = true) :
    ∀ (d : List (List Char × Tok)), (∀ p ∈ d, allWs p.1 = true) → ∀ (acc : List Char) (pp : Bool),
    tokNames uw (apAfter pp acc) (d.map Prod.snd) = true →
    sepWords (!acc.isEmpty) (d.map Prod.snd) = true →
    lexGo uw (renderD d trail) acc pp = some (flush pp acc ++ d.map Prod.snd) := by
  intro d
  induction d with
  | nil =>
    intro _ acc pp _ _
    rw [renderD, lexGo_trail uw _ _ _ htr, List.map_nil, List.append_nil]
  | cons wt d ih =>
    obtain ⟨w, t⟩ := wt
    intro hws acc pp hn hs
    rw [List.forall_mem_cons] at hws
    have ih := ih hws.2
    rw [List.map_cons] at hn hs ⊢
    rw [renderD, List.append_assoc]
    cases ht : t.isWord with
    | false =>
      obtain ⟨c, hc⟩ := exists_symTok ht
      rw [tokNames_sym uw ht] at hn
      rw [sepWords_sym ht] at hs
      rw [(symTok_some hc).1, List.singleton_append, lexGo_blanks_sym uw hws.1 hc,
        ih [] _ (by rwa [apAfter_nil]) hs]
      rfl
    | true =>
      rw [sepWords, ht, Bool.and_true, Bool.not_not, Bool.and_eq_true, List.isEmpty_iff] at hs
      obtain ⟨rfl, hs⟩ := hs
      rw [apAfter_nil] at hn
      obtain ⟨hv, hwt, hn'⟩ := word_facts uw ht hn
      obtain ⟨hf, ha, he⟩ := flush_valid uw hv pp
      rw [lexGo_skip_ws uw _ _ _ hws.1, lexGo_name uw hv, ih t.text pp (by rwa [ha]) (by rwa [he]),
        hf, hwt]
      rfl

/-! ### soundness: an accepted text is a rendering of its tokens -/

/-- `IsRendering c` is `Renders (toks c)`: the tokens with blanks (possibly none) before, between
and after. -/
def Renders (ts : List Tok) (s : List Char) : Prop :=
  ∃ (d : List (List Char × Tok)) (trail : List Char),
    d.map Prod.snd = ts ∧ (∀ p ∈ d, allWs p.1 = true) ∧ allWs trail = true ∧ s = renderD d trail

theorem Renders.nil : Renders [] [] := ⟨[], [], rfl, nofun, rfl, rfl⟩

theorem Renders.tok {ts : List Tok} {s : List Char} (t : Tok) (h : Renders ts s) :
    Renders (t :: ts) (t.text ++ s) := by
  obtain ⟨d, trail, rfl, hws, htr, rfl⟩ := h
  exact ⟨([], t) :: d, trail, rfl, List.forall_mem_cons.mpr ⟨rfl, hws⟩, htr, rfl⟩

theorem Renders.ws {ts : List Tok} {s : List Char} {c : Char} (hc : isWs c = true)
    (h : Renders ts s) : Renders ts (c :: s) := by
  obtain ⟨d, trail, rfl, hws, htr, rfl⟩ := h
  cases d with
  | nil => exact ⟨[], c :: trail, rfl, nofun, by rw [allWs, List.all_cons, hc]; exact htr, rfl⟩
  | cons wt d =>
    rw [List.forall_mem_cons] at hws
    exact ⟨(c :: wt.1, wt.2) :: d, trail, rfl,
      List.forall_mem_cons.mpr ⟨by rw [allWs, List.all_cons, hc]; exact hws.1, hws.2⟩, htr, rfl⟩

/-- no identifier is pending, or what is pending is the beginning of one -/
def Pending (acc : List Char) : Prop := acc = [] ∨ validName uw acc = true

theorem validName_snoc {acc : List Char} {c : Char} (ha : (!acc.isEmpty) = true) (h : Pending uw acc)
    (hc : isWordChar uw c = true) : Pending uw (acc ++ [c]) := by
  cases acc with
  | nil => cases ha
  | cons a acc =>
    refine .inr ?_
    have h := h.resolve_left (List.cons_ne_nil _ _)
    rw [validName, Bool.and_eq_true] at h
    rw [List.cons_append, validName, h.1, List.all_append, h.2, List.all_cons, hc]; rfl

/-- emitting the pending identifier in front of what the rest of the text gives -/
theorem Renders.flush {acc s : List Char} {ts : List Tok} (pp : Bool) (ha : Pending uw acc)
    (hr : Renders ts s) (hn : tokNames uw (apAfter pp acc) ts = true) :
    Renders (flush pp acc ++ ts) (acc ++ s) ∧ tokNames uw pp (flush pp acc ++ ts) = true := by
  cases acc with
  | nil => exact ⟨hr, by rwa [apAfter_nil] at hn⟩
  | cons a acc =>
    have hv := ha.resolve_left (List.cons_ne_nil _ _)
    have := hr.tok (wordTok pp (a :: acc))
    rw [wordTok_text] at this
    exact ⟨this, wordTok_names uw hv (by rwa [(flush_valid uw hv pp).2.1] at hn)⟩

/-- A run of the lexer from the state `acc`, `pp` that returns `ts` has read `ts` from the pending
identifier put back in front of the text. -/
theorem lexGo_sound (s acc : List Char) (pp : Bool) :
    ∀ ts, Pending uw acc → lexGo uw s acc pp = some ts →
      Renders ts (acc ++ s) ∧ tokNames uw pp ts = true := by
  fun_induction lexGo uw s acc pp <;> intro ts ha h
  case case1 acc pp =>
    -- the end of the text
    cases h
    have := Renders.flush uw pp ha .nil rfl
    rwa [List.append_nil] at this
  case case2 c s acc pp hc ih =>
    -- the pending identifier goes on
    rw [Bool.and_eq_true] at hc
    have := ih ts (validName_snoc uw hc.1 ha hc.2) h
    rwa [List.append_assoc] at this
  case case3 c s acc pp _ hc ih =>
    -- an identifier starts
    rw [Bool.and_eq_true, List.isEmpty_iff] at hc
    obtain ⟨rfl, hc⟩ := hc
    exact ih ts (.inr (by rw [validName, hc]; rfl)) h
  case case4 c s acc pp _ _ t hsym ih =>
    -- a one-character token
    rw [Option.map_eq_some_iff] at h
    obtain ⟨r, hr, rfl⟩ := h
    obtain ⟨hrend, hn⟩ := ih r (.inl rfl) hr
    obtain ⟨htx, hw, -⟩ := symTok_some hsym
    have := hrend.tok t
    rw [htx] at this
    exact Renders.flush uw pp ha this (by rw [tokNames_sym uw hw]; exact hn)
  case case5 c s acc pp _ _ _ hw ih =>
    -- a blank
    rw [Option.map_eq_some_iff] at h
    obtain ⟨r, hr, rfl⟩ := h
    obtain ⟨hrend, hn⟩ := ih r (.inl rfl) hr
    exact Renders.flush uw pp ha (hrend.ws hw) hn
  -- any other character is rejected
  case case6 => cases h

theorem lex_sound (s : List Char) (ts : List Tok) (h : lex uw s = some ts) :
    Renders ts s ∧ tokNames uw false ts = true :=
  lexGo_sound uw s [] false ts (.inl rfl) h

/-! ### the token string of a tree: its names are identifiers, its words are apart -/

theorem wordTok_false (n : Name) : (wordTok false n == .name n) = (n != itemsKw) := by
  rw [wordTok, bne]
  cases n == itemsKw
  · exact beq_self_eq_true _
  · rfl

theorem tokNames_toks (c : Cst) : ∀ rest,
    tokNames uw false (toks c ++ rest) = (namesOk uw c && tokNames uw false rest) := by
  induction c with
  | items | any => intro rest; rfl
  | trait n => intro rest; exact congrArg (fun b => validName uw n && b && _) (wordTok_false n)
  | metadata n =>
    intro rest
    show (validName uw n && Tok.name n == .name n && tokNames uw false rest) = _
    rw [beq_self_eq_true, Bool.and_true]; rfl
  | group p ih => intro rest; rw [toks_group_append]; exact ih _
  | ser l cn r ihl ihr =>
    intro rest
    rw [toks_ser_append, ihl, namesOk, Bool.and_assoc]
    exact congrArg (_ && ·) (ihr rest)
  | par l r ihl ihr =>
    intro rest
    rw [toks_par_append, ihl, namesOk, Bool.and_assoc]
    exact congrArg (_ && ·) (ihr rest)

def endsWord : Cst → Bool
  | .trait _ => true
  | .items => true
  | .metadata _ => true
  | .any => false
  | .group _ => false
  | .ser _ _ r => endsWord r
  | .par _ r => endsWord r

theorem sepWords_toks (c : Cst) : ∀ rest,
    sepWords false (toks c ++ rest) = sepWords (endsWord c) rest := by
  induction c with
  | trait | items | metadata | any => intro rest; rfl
  | group p ih => intro rest; rw [toks_group_append, sepWords_sym rfl, ih, sepWords_sym rfl]; rfl
  | ser l cn r ihl ihr => intro rest; rw [toks_ser_append, ihl, sepWords_sym rfl]; exact ihr rest
  | par l r ihl ihr => intro rest; rw [toks_par_append, ihl, sepWords_sym rfl]; exact ihr rest

theorem lex_rendering (c : Cst) (s : List Char) (hn : namesOk uw c = true) (h : IsRendering c s) :
    lex uw s = some (toks c) := by
  obtain ⟨d, trail, hd, hws, htrail, rfl⟩ := h
  have h1 := tokNames_toks uw c []
  have h2 := sepWords_toks c []
  rw [List.append_nil, ← hd] at h1 h2
  rw [← hd]
  exact lexGo_complete uw htrail d hws [] false (by rw [apAfter_nil, h1, hn]; rfl) (h2.trans rfl)

end TraitsVerif.Model.Dsl
