/-
C15 — `create` never fails and returns `createD`, because the branches are de-duplicated before
the uniqueness check; the paths of the compiled graphs are the words of the expression
(`exprWords`), which for `toExpr c` are the documented `paths c`; equivalent spellings compile to
the same graphs (`create_equiv`).  A forest is handled through the list of its graphs, `elems`.
Core Lean only.
-/
import TraitsVerif.Model.DslDenote
namespace TraitsVerif.Model.Dsl
open TraitsVerif

deriving instance DecidableEq for Except

/-! ### forests: a `Forest` is the list of its graphs -/

namespace Forest

@[simp] theorem nil_append (g : Forest) : (Forest.nil ++ g) = g := rfl
@[simp] theorem cons_append (o k r g) : (Forest.cons o k r ++ g) = Forest.cons o k (r ++ g) := rfl

/-- The graphs of a list, as (node, children) pairs.  `++`, `any`, `all`, `filter` of forests are
those of this list, so what is needed of them comes from `List`. -/
def elems : Forest → List (Observer × Forest)
  | nil => []
  | cons o k r => (o, k) :: elems r

theorem elems_inj : ∀ {a b : Forest}, a.elems = b.elems → a = b
  | nil, nil, _ => rfl
  | cons .., cons .., h => by
    rw [elems, elems, List.cons.injEq, Prod.mk.injEq] at h
    rw [h.1.1, h.1.2, elems_inj h.2]

theorem elems_append (a b : Forest) : (a ++ b).elems = a.elems ++ b.elems := by
  induction a with
  | nil => rfl
  | cons o k r _ ih => rw [cons_append, elems, elems, ih]; rfl

theorem any_eq_elems (p : Observer → Forest → Bool) (f : Forest) :
    f.any p = f.elems.any (fun x => p x.1 x.2) := by
  induction f with
  | nil => rfl
  | cons o k r _ ihr => rw [any, elems, List.any_cons, ihr]

theorem all_eq_elems (p : Observer → Forest → Bool) (f : Forest) :
    f.all p = f.elems.all (fun x => p x.1 x.2) := by
  induction f with
  | nil => rfl
  | cons o k r _ ihr => rw [all, elems, List.all_cons, ihr]

theorem elems_filter (q : Observer → Forest → Bool) (f : Forest) :
    (f.filter q).elems = f.elems.filter (fun x => q x.1 x.2) := by
  induction f with
  | nil => rfl
  | cons o k r _ ihr =>
    rw [filter, elems, List.filter_cons]
    split <;> simp only [elems, ihr]

theorem append_assoc (a b c : Forest) : (a ++ b) ++ c = a ++ (b ++ c) :=
  elems_inj (by simp only [elems_append, List.append_assoc])

theorem append_ne_nil {a : Forest} (h : a ≠ nil) (b : Forest) : a ++ b ≠ nil := by
  cases a with
  | nil => exact absurd rfl h
  | cons => nofun

theorem unique_iff (f : Forest) :
    f.unique = true ↔ f.elems.Pairwise (fun x y => graphEq x.1 x.2 y.1 y.2 = false) := by
  induction f with
  | nil => exact ⟨fun _ => .nil, fun _ => rfl⟩
  | cons o k r _ ihr =>
    rw [unique, elems, List.pairwise_cons, Bool.and_eq_true, ihr, Bool.not_eq_true', any_eq_elems,
      List.any_eq_false]
    simp only [Bool.not_eq_true]

theorem wf_iff (f : Forest) : f.wf = true ↔ ∀ x ∈ f.elems, x.2.unique = true ∧ x.2.wf = true := by
  induction f with
  | nil => exact ⟨fun _ _ h => (nomatch h), fun _ => rfl⟩
  | cons o k r _ ihr =>
    rw [wf, elems, List.forall_mem_cons, Bool.and_eq_true, Bool.and_eq_true, ihr]

theorem wf_append (a b : Forest) : (a ++ b).wf = (a.wf && b.wf) := by
  rw [Bool.eq_iff_iff, Bool.and_eq_true, wf_iff, wf_iff, wf_iff, elems_append]
  exact List.forall_mem_append

/-! ### paths -/

/-- continuations below a node: its children's paths, or the empty path for a leaf -/
def tails : Forest → List (List Observer)
  | .nil => [[]]
  | f => f.paths

theorem tails_of_ne_nil {f : Forest} (h : f ≠ nil) : f.tails = f.paths := by
  cases f with
  | nil => exact absurd rfl h
  | cons => rfl

theorem paths_cons (o k r) : (Forest.cons o k r).paths = (tails k).map (o :: ·) ++ r.paths := by
  cases k <;> rfl

theorem paths_eq (f : Forest) : f.paths = f.elems.flatMap fun x => (tails x.2).map (x.1 :: ·) := by
  induction f with
  | nil => rfl
  | cons o k r _ ih => rw [paths_cons, elems, List.flatMap_cons, ih]

theorem paths_append (a b : Forest) : (a ++ b).paths = a.paths ++ b.paths := by
  rw [paths_eq, paths_eq, paths_eq, elems_append, List.flatMap_append]

/-! ### de-duplication -/

theorem elems_dedupe (o k r) : (dedupe (cons o k r)).elems =
    (o, k) :: (dedupe r).elems.filter (fun y => !graphEq o k y.1 y.2) := by
  rw [dedupe, elems, elems_filter]

theorem dedupe_sub (f : Forest) : ∀ x ∈ f.dedupe.elems, x ∈ f.elems := by
  induction f with
  | nil => exact fun _ h => h
  | cons o k r _ ihr =>
    intro x hx
    rw [elems_dedupe, List.mem_cons] at hx
    exact List.mem_cons.mpr (hx.imp_right fun h => ihr x (List.mem_filter.mp h).1)

theorem unique_dedupe (x : Forest) : x.dedupe.unique = true := by
  rw [unique_iff]
  induction x with
  | nil => exact .nil
  | cons o k r _ ihr =>
    rw [elems_dedupe, List.pairwise_cons]
    exact ⟨fun y hy => (Bool.not_eq_true' _).mp (List.mem_filter.mp hy).2, ihr.filter _⟩

theorem wf_dedupe (x : Forest) (h : x.wf = true) : x.dedupe.wf = true :=
  (wf_iff _).mpr fun y hy => (wf_iff x).mp h y (dedupe_sub x y hy)

theorem dedupe_of_unique (x : Forest) (h : x.unique = true) : x.dedupe = x := by
  induction x with
  | nil => rfl
  | cons o k r _ ihr =>
    rw [unique_iff, elems, List.pairwise_cons, ← unique_iff] at h
    refine elems_inj ?_
    rw [elems_dedupe, ihr h.2, elems, List.filter_eq_self.mpr fun y hy => by rw [h.1 y hy]; rfl]

end Forest

/-! ### `create` never fails; it returns `createD` -/

/-- **`_create_graphs` is total** (after fix 4a0994c): the uniqueness check of
`ObserverGraph.__init__` always passes. -/
theorem create_total (e : Expr) : ∀ br, create e br = .ok (createD e br) := by
  induction e with
  | single o => intro br; rw [create, Forest.unique_dedupe]; rfl
  | series a b iha ihb => intro br; rw [create, ihb br]; exact iha _
  | parallel a b iha ihb => intro br; rw [create, iha br, ihb br]; rfl

theorem compileExpr_ok {e : Expr} {gs : Forest} (h : compileExpr e = .ok gs) :
    gs = createD e .nil :=
  (Except.ok.inj ((create_total e .nil).symm.trans h)).symm

theorem wf_createD (e : Expr) : ∀ br, br.wf = true → (createD e br).wf = true := by
  induction e with
  | single o =>
    intro br h
    rw [createD, Forest.wf, Forest.unique_dedupe, Forest.wf_dedupe br h]; rfl
  | series a b iha ihb => intro br h; exact iha _ (ihb br h)
  | parallel a b iha ihb => intro br h; rw [createD, Forest.wf_append, iha br h, ihb br h]; rfl

theorem createU_ne_nil (e : Expr) : ∀ br, createU e br ≠ .nil := by
  induction e with
  | single o => nofun
  | series a b iha _ => exact fun br => iha _
  | parallel a b iha _ => exact fun br => Forest.append_ne_nil (iha br) _

theorem createD_ne_nil (e : Expr) : ∀ br, createD e br ≠ .nil := by
  induction e with
  | single o => nofun
  | series a b iha _ => exact fun br => iha _
  | parallel a b iha _ => exact fun br => Forest.append_ne_nil (iha br) _

/-- every expression hangs `br` below at least one node -/
theorem wf_createU_imp (e : Expr) : ∀ br, (createU e br).wf = true → br.unique = true ∧ br.wf = true := by
  induction e with
  | single o =>
    intro br h
    rw [createU, Forest.wf, Bool.and_eq_true, Bool.and_eq_true] at h
    exact h.1
  | series a b iha ihb => exact fun br h => ihb _ (iha _ h).2
  | parallel a b iha _ =>
    intro br h
    rw [createU, Forest.wf_append, Bool.and_eq_true] at h
    exact iha _ h.1

theorem createD_eq_createU (e : Expr) : ∀ br, (createU e br).wf = true → createD e br = createU e br := by
  induction e with
  | single o =>
    intro br h
    rw [createD, Forest.dedupe_of_unique br (wf_createU_imp (.single o) br h).1]; rfl
  | series a b iha ihb =>
    intro br h
    rw [createD, ihb br (wf_createU_imp a _ h).2]
    exact iha _ h
  | parallel a b iha ihb =>
    intro br h
    rw [createU, Forest.wf_append, Bool.and_eq_true] at h
    rw [createD, iha br h.1, ihb br h.2]; rfl

/-! ### paths of the compiled graphs -/

def crossO (ps qs : List (List Observer)) : List (List Observer) :=
  ps.flatMap (fun p => qs.map (fun q => p ++ q))

/-- the node sequences an expression stands for -/
def exprWords : Expr → List (List Observer)
  | .single o => [[o]]
  | .series a b => crossO (exprWords a) (exprWords b)
  | .parallel a b => exprWords a ++ exprWords b

theorem crossO_assoc (a b c : List (List Observer)) :
    crossO (crossO a b) c = crossO a (crossO b c) := by
  simp only [crossO, List.flatMap_assoc, List.map_flatMap, List.flatMap_map, List.map_map]
  congr 1; funext p
  congr 1; funext q
  simp [Function.comp_def, List.append_assoc]

theorem crossO_append_left (a b c : List (List Observer)) :
    crossO (a ++ b) c = crossO a c ++ crossO b c :=
  List.flatMap_append

theorem crossO_nilpath (a : List (List Observer)) : crossO a [[]] = a := by
  simp [crossO]

theorem mem_crossO {a t : List (List Observer)} {p : List Observer} :
    p ∈ crossO a t ↔ ∃ w ∈ a, ∃ q ∈ t, p = w ++ q := by
  simp only [crossO, List.mem_flatMap, List.mem_map, eq_comm]

theorem paths_createU (e : Expr) : ∀ br, (createU e br).paths = crossO (exprWords e) br.tails := by
  induction e with
  | single o =>
    intro br
    rw [createU, Forest.paths_cons]
    simp [exprWords, crossO, Forest.paths]
  | series a b iha ihb =>
    intro br
    rw [createU, exprWords, iha, Forest.tails_of_ne_nil (createU_ne_nil b br), ihb, crossO_assoc]
  | parallel a b iha ihb =>
    intro br
    rw [createU, exprWords, Forest.paths_append, iha, ihb, crossO_append_left]

/-! ### equal graphs have the same paths; de-duplication keeps the path set -/

namespace Forest

theorem mem_paths {f : Forest} {p : List Observer} :
    p ∈ f.paths ↔ ∃ x ∈ f.elems, ∃ q ∈ tails x.2, p = x.1 :: q := by
  simp only [paths_eq, List.mem_flatMap, List.mem_map, eq_comm]

theorem mem_tails {f : Forest} {p : List Observer} :
    p ∈ f.tails ↔ (f = nil ∧ p = []) ∨ p ∈ f.paths := by
  cases f with
  | nil => simp [tails, paths]
  | cons o k r => exact ⟨.inr, fun h => h.resolve_left (fun h => nomatch h.1)⟩

theorem depth_elem {f : Forest} {x : Observer × Forest} (h : x ∈ f.elems) :
    x.2.depth + 1 ≤ f.depth := by
  induction f with
  | nil => cases h
  | cons o k r _ ihr =>
    rw [elems, List.mem_cons] at h
    rw [depth]
    rcases h with rfl | h
    · exact Nat.le_max_left _ _
    · exact Nat.le_trans (ihr h) (Nat.le_max_right _ _)

/-- the empty list of graphs is `set`-equal to no other: a graph of the other list would have to
equal one of none -/
theorem setEq_nil_iff {d : Nat} {f1 f2 : Forest} (h : setEq (d + 1) f1 f2 = true) :
    f1 = nil ↔ f2 = nil := by
  cases f1 <;> cases f2
  · exact Iff.rfl
  · cases h
  · cases h
  · exact ⟨nofun, nofun⟩

theorem depth_le_zero {f : Forest} (h : f.depth ≤ 0) : f = nil := by
  cases f with
  | nil => rfl
  | cons o k r => rw [depth] at h; omega

theorem setEq_tails : ∀ (d : Nat) (f1 f2 : Forest), f1.depth ≤ d → f2.depth ≤ d →
    setEq d f1 f2 = true → ∀ p, p ∈ f1.tails ↔ p ∈ f2.tails := by
  intro d
  induction d with
  | zero =>
    intro f1 f2 h1 h2 _ p
    rw [depth_le_zero h1, depth_le_zero h2]
  | succ d ih =>
    intro f1 f2 h1 h2 h p
    have hn := setEq_nil_iff h
    simp only [setEq, Bool.and_eq_true, all_eq_elems, any_eq_elems, List.all_eq_true,
      List.any_eq_true, beq_iff_eq] at h
    -- the same paths: every graph of one list has an equal one in the other
    have hp : ∀ p, p ∈ f1.paths ↔ p ∈ f2.paths := by
      intro p
      rw [mem_paths, mem_paths]
      constructor
      · rintro ⟨x, hx, q, hq, rfl⟩
        obtain ⟨y, hy, hxy, he⟩ := h.1 x hx
        have dx := depth_elem hx
        have dy := depth_elem hy
        exact ⟨y, hy, q, (ih x.2 y.2 (by omega) (by omega) he q).mp hq, by rw [hxy]⟩
      · rintro ⟨y, hy, q, hq, rfl⟩
        obtain ⟨x, hx, hxy, he⟩ := h.2 y hy
        have dx := depth_elem hx
        have dy := depth_elem hy
        exact ⟨x, hx, q, (ih x.2 y.2 (by omega) (by omega) he q).mpr hq, by rw [hxy]⟩
    rw [mem_tails, mem_tails, hp, hn]

theorem graphEq_tails {o o' : Observer} {k k' : Forest} (h : graphEq o k o' k' = true) :
    o = o' ∧ ∀ q, q ∈ k.tails ↔ q ∈ k'.tails := by
  rw [graphEq, Bool.and_eq_true, beq_iff_eq] at h
  exact ⟨h.1, setEq_tails _ k k' (by omega) (by omega) h.2⟩

theorem mem_paths_dedupe (f : Forest) (p : List Observer) : p ∈ f.dedupe.paths ↔ p ∈ f.paths := by
  constructor
  · rw [mem_paths, mem_paths]
    exact fun ⟨x, hx, h⟩ => ⟨x, dedupe_sub f x hx, h⟩
  · induction f with
    | nil => exact id
    | cons o k r _ ihr =>
      rw [dedupe, paths_cons, paths_cons, List.mem_append, List.mem_append]
      intro h
      by_cases hp : p ∈ (tails k).map (o :: ·)
      · exact .inl hp
      refine .inr ?_
      -- a path through a dropped graph would be a path through the head
      obtain ⟨x, hx, t, ht, rfl⟩ := mem_paths.mp (ihr (h.resolve_left hp))
      refine mem_paths.mpr ⟨x, ?_, t, ht, rfl⟩
      rw [elems_filter, List.mem_filter, Bool.not_eq_true', ← Bool.not_eq_true]
      refine ⟨hx, fun hg => hp ?_⟩
      obtain ⟨e, hq⟩ := graphEq_tails hg
      exact List.mem_map.mpr ⟨t, (hq t).mpr ht, by rw [e]⟩

theorem mem_tails_dedupe (f : Forest) : ∀ p, p ∈ f.dedupe.tails ↔ p ∈ f.tails := by
  cases f with
  | nil => intro p; rfl
  | cons o k r => exact mem_paths_dedupe (cons o k r)

end Forest

/-- Only as a set: `dedupe` drops graphs whose paths occur already.  `paths_createU` is the
equation, for the graphs as written. -/
theorem mem_paths_createD (e : Expr) : ∀ br p,
    p ∈ (createD e br).paths ↔ p ∈ crossO (exprWords e) br.tails := by
  induction e with
  | single o =>
    intro br p
    simp only [createD, Forest.paths_cons, Forest.paths, List.append_nil, List.mem_map, exprWords,
      mem_crossO, List.mem_singleton, exists_eq_left, Forest.mem_tails_dedupe, List.singleton_append,
      eq_comm]
  | series a b iha ihb =>
    intro br p
    rw [createD, exprWords, iha, Forest.tails_of_ne_nil (createD_ne_nil b br), crossO_assoc,
      mem_crossO, mem_crossO]
    simp only [ihb]
  | parallel a b iha ihb =>
    intro br p
    rw [createD, exprWords, Forest.paths_append, List.mem_append, crossO_append_left, List.mem_append,
      iha, ihb]

/-! ### the list form: item by item -/

theorem compileItem_error {uw : Char → Bool} {it : Item} {e : Exc} (h : compileItem uw it = .error e) :
    e = .valueError ∧ ∃ s, it = .text s ∧ parseChars uw s = none := by
  cases it with
  | text s =>
    rw [compileItem, compileChars] at h
    cases hp : parseChars uw s with
    | none => rw [hp] at h; cases h; exact ⟨rfl, s, rfl, hp⟩
    | some c => rw [hp] at h; cases (create_total _ _).symm.trans h
  | expr x => cases (create_total _ _).symm.trans h

theorem compileItems_spec (uw : Char → Bool) (items : List Item) :
    match compileItems uw items with
    | .error e => e = .valueError ∧ ∃ it ∈ items, ∃ s, it = .text s ∧ parseChars uw s = none
    | .ok gs => (∀ it ∈ items, ∃ g, compileItem uw it = .ok g) ∧
        ∀ p, p ∈ gs.paths ↔ ∃ it ∈ items, ∃ g, compileItem uw it = .ok g ∧ p ∈ g.paths := by
  fun_induction compileItems uw items
  case case1 => exact ⟨nofun, fun p => by simp [Forest.paths]⟩
  case case2 it rest e he =>
    -- the first item is rejected
    obtain ⟨rfl, s, rfl, hp⟩ := compileItem_error he
    exact ⟨rfl, _, .head _, s, rfl, hp⟩
  case case3 it rest g hg e hr ih =>
    -- a later one is
    rw [hr] at ih
    exact ⟨ih.1, ih.2.imp fun x h => ⟨.tail _ h.1, h.2⟩⟩
  case case4 it rest g hg gs hr ih =>
    rw [hr] at ih
    refine ⟨List.forall_mem_cons.mpr ⟨⟨g, hg⟩, ih.1⟩, fun p => ?_⟩
    rw [Forest.paths_append, List.mem_append, ih.2 p]
    simp only [List.mem_cons, exists_eq_or_imp, hg, Except.ok.injEq, exists_eq_left']

/-! ### the code's notify propagation is the documented notify law -/

theorem notifies_some (c : Conn) : notifies (some c) = (c == .notify) := by
  cases c <;> rfl

theorem map_cross (ps qs : List Word) :
    (cross ps qs).map (·.map flag) = crossO (ps.map (·.map flag)) (qs.map (·.map flag)) := by
  simp [cross, crossO, List.map_flatMap, List.flatMap_map, Function.comp_def]

/-- `_handle_tree(tree, notify)` denotes the words of the tree flagged by the
following connector, when `notify` is what the law says for that follower. -/
theorem exprWords_toExpr (c : Cst) : ∀ (f : Option Conn),
    exprWords (toExpr c (notifies f)) = (lin c f).map (·.map flag) := by
  induction c with
  | trait | items | metadata | any => intro f; rfl
  | group p ih => exact ih
  | ser l c r ihl ihr =>
    intro f
    rw [toExpr, exprWords, lin, map_cross, ← notifies_some, ihl, ihr]
  | par l r ihl ihr =>
    intro f
    rw [toExpr, exprWords, lin, List.map_append, ihl, ihr]

theorem exprWords_toExpr_true (c : Cst) : crossO (exprWords (toExpr c true)) Forest.nil.tails = paths c :=
  (crossO_nilpath _).trans (exprWords_toExpr c none)

/-! ### shape of the words: the last atom carries the follower of the whole
expression, every other atom is followed by a connector -/

def Observer.notifyFlag : Observer → Bool
  | .named _ n _ => n
  | .listItems n _ => n
  | .dictItems n _ => n
  | .setItems n _ => n
  | .filtered n _ => n

def Observer.optionalFlag : Observer → Bool
  | .named _ _ o => o
  | .listItems _ o => o
  | .dictItems _ o => o
  | .setItems _ o => o
  | .filtered _ _ => false

def WordOk (f : Option Conn) (w : Word) : Prop :=
  ∃ (init : Word) (a : Atom), w = init ++ [(a, f)] ∧ ∀ x ∈ init, ∃ cn, x.2 = some cn

theorem WordOk.single (a : Atom) (f : Option Conn) : WordOk f [(a, f)] :=
  ⟨[], a, rfl, fun _ h => absurd h List.not_mem_nil⟩

theorem lin_wordOk (c : Cst) : ∀ f, ∀ w ∈ lin c f, WordOk f w := by
  induction c with
  | trait | metadata | any =>
    intro f w hw
    cases List.mem_singleton.mp hw
    exact .single _ f
  | items =>
    intro f w hw
    simp only [lin, List.mem_cons, List.not_mem_nil, or_false] at hw
    rcases hw with rfl | rfl | rfl | rfl <;> exact .single _ f
  | group p ih => exact ih
  | ser l cn r ihl ihr =>
    intro f w hw
    simp only [lin, cross, List.mem_flatMap, List.mem_map] at hw
    obtain ⟨p, hp, q, hq, rfl⟩ := hw
    obtain ⟨ip, ap, rfl, hip⟩ := ihl _ p hp
    obtain ⟨iq, aq, rfl, hiq⟩ := ihr _ q hq
    refine ⟨ip ++ [(ap, some cn)] ++ iq, aq, by simp only [List.append_assoc], ?_⟩
    simp only [List.mem_append, List.mem_singleton]
    rintro x ((hx | rfl) | hx)
    · exact hip x hx
    · exact ⟨cn, rfl⟩
    · exact hiq x hx
  | par l r ihl ihr =>
    intro f w hw
    rw [lin, List.mem_append] at hw
    exact hw.elim (ihl f w) (ihr f w)

theorem flag_notify (a : Atom) (f : Option Conn) :
    (flag (a, f)).notifyFlag = decide (f ≠ some .quiet) := by
  cases a <;> cases f with
  | none => rfl
  | some c => cases c <;> rfl

theorem flag_optional (a : Atom) (f : Option Conn) :
    (flag (a, f)).optionalFlag =
      (a == .itemsTrait || a == .dictItems || a == .listItems || a == .setItems) := by
  cases a <;> rfl

/-! ### spellings -/

/-- Same expression up to redundant brackets and re-association of `.`/`:`
chains and of `,` lists (whitespace is not part of a tree). -/
inductive Cst.Equiv : Cst → Cst → Prop
  | refl (c) : Cst.Equiv c c
  | symm {a b} : Cst.Equiv a b → Cst.Equiv b a
  | trans {a b c} : Cst.Equiv a b → Cst.Equiv b c → Cst.Equiv a c
  | unbracket (p) : Cst.Equiv (.group p) p
  | serAssoc (a c1 b c2 c) : Cst.Equiv (.ser (.ser a c1 b) c2 c) (.ser a c1 (.ser b c2 c))
  | parAssoc (a b c) : Cst.Equiv (.par (.par a b) c) (.par a (.par b c))
  | group {p q} : Cst.Equiv p q → Cst.Equiv (.group p) (.group q)
  | ser {l l' r r'} (c) : Cst.Equiv l l' → Cst.Equiv r r' → Cst.Equiv (.ser l c r) (.ser l' c r')
  | par {l l' r r'} : Cst.Equiv l l' → Cst.Equiv r r' → Cst.Equiv (.par l r) (.par l' r')

theorem createD_equiv {a b : Cst} (h : Cst.Equiv a b) :
    ∀ (n : Bool) (br : Forest), createD (toExpr a n) br = createD (toExpr b n) br := by
  induction h with
  | refl | unbracket | serAssoc => exact fun _ _ => rfl
  | symm _ ih => exact fun n br => (ih n br).symm
  | trans _ _ ih1 ih2 => exact fun n br => (ih1 n br).trans (ih2 n br)
  | parAssoc a b c => exact fun n br => Forest.append_assoc _ _ _
  | group _ ih => exact ih
  | ser c _ _ ihl ihr => intro n br; rw [toExpr, createD, ihr, ihl]; rfl
  | par _ _ ihl ihr => intro n br; rw [toExpr, createD, ihl, ihr]; rfl

theorem create_equiv {a b : Cst} (h : Cst.Equiv a b) (n : Bool) (br : Forest) :
    create (toExpr a n) br = create (toExpr b n) br := by
  rw [create_total, create_total, createD_equiv h]

end TraitsVerif.Model.Dsl
