/-
Symbolic execution of MiniC (`Model/MiniC.lean`): the equations of the interpreter, one per construct, and of the
tables of fields, function pointers and primitives, as `simp` lemmas.

Where the interpreter matches on an intermediate result, the equation hands that result to a combinator (`thenK`,
`ifK`, …) whose other arguments are the continuations as functions (`exec C b`, not `fun m => exec C b m`).  The
combinators reduce when the result has become a constructor, so `simp` runs a program on a symbolic state up to the
first result it cannot decide (the outcome of a model function, a flag of the trait), stops there without entering
the continuation, and goes on after a case split on that result.

Local variables are kept as a list (`ofList`): every assignment rewrites it in place, so two runs that reach the same
program point have states of the same shape, and a lemma about the rest of the program can be stated for that shape.
Where the two branches of a test meet again in one state (`if (dict == NULL) dict = PyDict_New()`), `simp +contextual`
knows in the branch that skipped the assignment that the test failed, the two states become equal, and the rest is run
once.

The equations are proved by `id rfl`, not `rfl`: a `rfl` simp lemma is applied definitionally, and the kernel would
then run the interpreter again.
-/
import TraitsVerif.Generated.AttrProg
namespace TraitsVerif.Lemmas.AttrSource
open TraitsVerif TraitsVerif.Model.Attr TraitsVerif.Model.MiniC
open TraitsVerif.Generated

/-! ### Local variables -/

def ofList : List Val → Nat → Val
  | [], _ => .stuck
  | v :: _, 0 => v
  | _ :: vs, n + 1 => ofList vs n

/-- `l` with position `i` set to `v`, padded with `stuck` (the value of an unbound variable) up to `i` -/
def setL : List Val → Nat → Val → List Val
  | [], 0, v => [v]
  | [], n + 1, v => .stuck :: setL [] n v
  | _ :: xs, 0, v => v :: xs
  | x :: xs, n + 1, v => x :: setL xs n v

attribute [simp] ofList setL

theorem ofList_setL (l : List Val) (i : Nat) (v : Val) (j : Nat) :
    ofList (setL l i v) j = if j = i then v else ofList l j := by
  induction l generalizing i j with
  | nil =>
    induction i generalizing j with
    | zero => cases j <;> simp
    | succ i ih => cases j <;> simp [ih]
  | cons x xs ih => cases i <;> cases j <;> simp [ih]

@[simp] theorem setVar_ofList (l : List Val) (i : Nat) (v : Val) : setVar (ofList l) i v = ofList (setL l i v) :=
  funext fun j => (ofList_setL l i v j).symm

theorem bindArgs_apply (l : List Val) (k j : Nat) :
    bindArgs k l j = if k ≤ j then ofList l (j - k) else .stuck := by
  induction l generalizing k with
  | nil => simp [bindArgs]
  | cons v vs ih =>
    simp only [bindArgs, ih]
    by_cases h : j = k
    · simp [h]
    · by_cases h' : k ≤ j
      · have : j - k = (j - (k + 1)) + 1 := by omega
        simp [h, h', this, show k + 1 ≤ j by omega]
      · simp [h, h', show ¬ k + 1 ≤ j by omega]

@[simp] theorem bindArgs_zero (l : List Val) : bindArgs 0 l = ofList l :=
  funext fun j => by simp [bindArgs_apply]

/-- variables not yet assigned may be given their places in advance -/
theorem ofList_append_stuck (l : List Val) (n : Nat) : ofList (l ++ List.replicate n .stuck) = ofList l := by
  funext j
  induction l generalizing j with
  | nil => induction n generalizing j with
    | zero => rfl
    | succ n ih => cases j <;> simp_all [List.replicate_succ]
  | cons v vs ih => cases j <;> simp [ih]

/-! ### Program points -/

/-- the statements from number `k` on (of a right-nested sequence) -/
def tailN : Nat → Stmt → Stmt
  | 0, s => s
  | n + 1, .seq _ b => tailN n b
  | _ + 1, s => s

def nthS : Nat → Stmt → Stmt
  | 0, .seq a _ => a
  | 0, s => s
  | n + 1, .seq _ b => nthS n b
  | _ + 1, s => s

/-! ### Control -/

def thenK (r : MS × Flow) (k : MS → MS × Flow) : MS × Flow :=
  match r with
  | (ms, .next) => k ms
  | r => r

def exprK : Val × MS → MS × Flow
  | (.stuck, ms) => (ms, .returned .stuck)
  | (_, ms) => (ms, .next)

/-- a condition: `z` when the value is `stuck`, else `t` or `e` by its truth -/
def ifK {α : Type} (r : Val × MS) (z t e : MS → α) : α :=
  match r with
  | (.stuck, ms) => z ms
  | (v, ms) => if truthy v then t ms else e ms

/-- the second operand of `&&` / `||` -/
def boolK : Val × MS → Val × MS
  | (.stuck, ms) => (.stuck, ms)
  | (v, ms) => (ofBool (truthy v), ms)

def castK : Val × MS → Val × MS
  | (.self, ms) => (.obj ms.s.self, ms)
  | r => r

def assignK (i : Nat) (r : Val × MS) : Val × MS :=
  (r.1, { r.2 with vars := setVar r.2.vars i r.1 })

def fptrK (C : IC) (r : Val × MS) (args : List Expr) : Val × MS :=
  match r with
  | (.fptr k, ms) => callFPtr C k (evalArgs C args ms).1 (evalArgs C args ms).2
  | (_, ms) => (.stuck, ms)

def forK (r : Val × MS) (f : MS → MS × Flow) (i : Nat) : MS × Flow :=
  match r with
  | (.int n, ms) => if 0 ≤ n then loop f i 0 n.toNat ms else (ms, .returned .stuck)
  | (_, ms) => (ms, .returned .stuck)

/-- the value of `traitd->post_setattr` -/
def postV (C : IC) : Val := match C.t.post with | some _ => .fptr .post | none => .null

/-- what `call` makes of the final machine state -/
def outOf : MS × Flow → Out
  | (ms, .returned v) => (v, ms.s, ms.err)
  | (ms, _) => (.stuck, ms.s, ms.err)

theorem call_eq (C : IC) (f : Func) (args : List Val) (s : OSt) (dn idn : Bool) (h : args.length = f.nparams) :
    call C f args s dn idn = outOf (exec C f.body ⟨bindArgs 0 args, s, dn, idn, none⟩) := by
  unfold call
  rw [if_neg (fun h' => h' h)]
  rfl

section
variable (C : IC) (ms : MS)

@[simp] theorem thenK_next (k : MS → MS × Flow) : thenK (ms, .next) k = k ms := id rfl
@[simp] theorem thenK_returned (v : Val) (k : MS → MS × Flow) : thenK (ms, .returned v) k = (ms, .returned v) := id rfl
@[simp] theorem thenK_broke (k : MS → MS × Flow) : thenK (ms, .broke) k = (ms, .broke) := id rfl

@[simp] theorem exprK_val {v : Val} (h : v ≠ .stuck) : exprK (v, ms) = (ms, .next) := by
  cases v <;> first | rfl | exact absurd rfl h

@[simp] theorem ifK_val {α : Type} {v : Val} (h : v ≠ .stuck) (z t e : MS → α) :
    ifK (v, ms) z t e = if truthy v then t ms else e ms := by
  cases v <;> first | rfl | exact absurd rfl h

@[simp] theorem boolK_val {v : Val} (h : v ≠ .stuck) : boolK (v, ms) = (.int (if truthy v then 1 else 0), ms) := by
  cases v <;> first | rfl | exact absurd rfl h

@[simp] theorem castK_self : castK (.self, ms) = (.obj ms.s.self, ms) := id rfl
@[simp] theorem castK_dict : castK (.dict, ms) = (.dict, ms) := id rfl
@[simp] theorem assignK_val (i : Nat) (v : Val) : assignK i (v, ms) = (v, { ms with vars := setVar ms.vars i v }) := id rfl
@[simp] theorem fptrK_fptr (k : FPtr) (args : List Expr) :
    fptrK C (.fptr k, ms) args = callFPtr C k (evalArgs C args ms).1 (evalArgs C args ms).2 := id rfl
@[simp] theorem forK_nat (n : Nat) (f : MS → MS × Flow) (i : Nat) : forK (.int n, ms) f i = loop f i 0 n ms := by
  simp [forK]
@[simp] theorem forK_add (a b : Nat) (f : MS → MS × Flow) (i : Nat) :
    forK (.int (a + b), ms) f i = loop f i 0 (a + b) ms := by
  rw [← Int.natCast_add, forK_nat]
@[simp] theorem outOf_returned (v : Val) : outOf (ms, .returned v) = (v, ms.s, ms.err) := id rfl

/-! ### The interpreter -/

@[simp] theorem exec_skip : exec C .skip ms = (ms, .next) := id rfl
@[simp] theorem exec_seq (a b : Stmt) : exec C (.seq a b) ms = thenK (exec C a ms) (exec C b) := id rfl
@[simp] theorem exec_expr (e : Expr) : exec C (.expr e) ms = exprK (eval C e ms) := id rfl
@[simp] theorem exec_ifS (c : Expr) (t e : Stmt) :
    exec C (.ifS c t e) ms = ifK (eval C c ms) (fun m => (m, .returned .stuck)) (exec C t) (exec C e) := by
  rw [exec]
  rcases eval C c ms with ⟨v, m⟩
  cases v <;> rfl
@[simp] theorem exec_ret (e : Expr) : exec C (.ret e) ms = ((eval C e ms).2, .returned (eval C e ms).1) := id rfl
@[simp] theorem exec_forRange (i : Nat) (b : Expr) (body : Stmt) :
    exec C (.forRange i b body) ms = forK (eval C b ms) (exec C body) i := by
  rw [exec]
  rcases eval C b ms with ⟨v, m⟩
  cases v <;> rfl
@[simp] theorem exec_brk : exec C .brk ms = (ms, .broke) := id rfl

@[simp] theorem eval_var (i : Nat) : eval C (.var i) ms = (ms.vars i, ms) := id rfl
@[simp] theorem eval_null : eval C .null ms = (.null, ms) := id rfl
@[simp] theorem eval_intLit (n : Int) : eval C (.intLit n) ms = (.int n, ms) := id rfl
@[simp] theorem eval_strLit : eval C .strLit ms = (.str, ms) := id rfl
@[simp] theorem eval_glob (g : Glob) : eval C (.glob g) ms = (getGlob g, ms) := id rfl
@[simp] theorem eval_field (e : Expr) (f : Fld) :
    eval C (.field e f) ms = (getField C (eval C e ms).2 (eval C e ms).1 f, (eval C e ms).2) := id rfl
@[simp] theorem eval_castObj (e : Expr) : eval C (.castObj e) ms = castK (eval C e ms) := id rfl
@[simp] theorem eval_not (e : Expr) :
    eval C (.not e) ms = ifK (eval C e ms) (fun m => (.stuck, m)) (fun m => (.int 0, m)) (fun m => (.int 1, m)) := by
  rw [eval]
  rcases eval C e ms with ⟨v, m⟩
  cases v <;> simp only [ifK] <;> cases truthy _ <;> rfl
@[simp] theorem eval_land (a b : Expr) :
    eval C (.bin .land a b) ms
      = ifK (eval C a ms) (fun m => (.stuck, m)) (boolK ∘ eval C b) (fun m => (.int 0, m)) := by
  rw [eval]
  rcases eval C a ms with ⟨v, m⟩
  cases v <;> rfl
@[simp] theorem eval_lor (a b : Expr) :
    eval C (.bin .lor a b) ms
      = ifK (eval C a ms) (fun m => (.stuck, m)) (fun m => (.int 1, m)) (boolK ∘ eval C b) := by
  rw [eval]
  rcases eval C a ms with ⟨v, m⟩
  cases v <;> rfl
@[simp] theorem eval_bin (op : BinOp) (a b : Expr) (h1 : op ≠ .land) (h2 : op ≠ .lor) :
    eval C (.bin op a b) ms
      = (binop op (eval C a ms).1 (eval C b (eval C a ms).2).1, (eval C b (eval C a ms).2).2) := by
  cases op <;> first | rfl | exact absurd rfl h1 | exact absurd rfl h2
@[simp] theorem eval_cond (c a b : Expr) :
    eval C (.cond c a b) ms = ifK (eval C c ms) (fun m => (.stuck, m)) (eval C a) (eval C b) := by
  rw [eval]
  rcases eval C c ms with ⟨v, m⟩
  cases v <;> rfl
@[simp] theorem eval_assign (i : Nat) (e : Expr) : eval C (.assign i e) ms = assignK i (eval C e ms) := id rfl
@[simp] theorem eval_assignField (b : Expr) (f : Fld) (e : Expr) :
    eval C (.assignField b f e) ms
      = ((setField (eval C b (eval C e ms).2).2 (eval C b (eval C e ms).2).1 f (eval C e ms).1).elim
          (.stuck, (eval C b (eval C e ms).2).2) (fun m => ((eval C e ms).1, m))) := by
  rw [eval]
  cases h : setField (eval C b (eval C e ms).2).2 (eval C b (eval C e ms).2).1 f (eval C e ms).1 <;> simp only [h, Option.elim]
@[simp] theorem eval_call (p : Prim) (args : List Expr) :
    eval C (.call p args) ms = callPrim C p (evalArgs C args ms).1 (evalArgs C args ms).2 := id rfl
@[simp] theorem eval_callPtr (f : Expr) (args : List Expr) :
    eval C (.callPtr f args) ms = fptrK C (eval C f ms) args := by
  rw [eval]
  rcases eval C f ms with ⟨v, m⟩
  cases v <;> rfl
@[simp] theorem evalArgs_nil : evalArgs C [] ms = ([], ms) := id rfl
@[simp] theorem evalArgs_cons (e : Expr) (es : List Expr) :
    evalArgs C (e :: es) ms
      = ((eval C e ms).1 :: (evalArgs C es (eval C e ms).2).1, (evalArgs C es (eval C e ms).2).2) := id rfl

/-! ### Values -/

@[simp] theorem truthy_ite (p : Prop) [Decidable p] : truthy (.int (if p then 1 else 0)) = decide p := by
  by_cases h : p <;> simp [truthy, h]

@[simp] theorem truthy_band (a b : Nat) : truthy (.int ((a &&& b : Nat) : Int)) = testFlag a b := by
  simp only [truthy, testFlag, bne, ne_eq, Int.natCast_eq_zero]
  cases h : (a &&& b == 0) <;> simp_all

/-- a condition without side effect yields a value, not two runs -/
@[simp] theorem ite_pair {α β : Type} (c : Prop) [Decidable c] (a b : α) (m : β) :
    (if c then (a, m) else (b, m)) = (if c then a else b, m) := (apply_ite (·, m) c a b).symm
@[simp] theorem ite_int (c : Prop) [Decidable c] (a b : Int) :
    (if c then Val.int a else Val.int b) = Val.int (if c then a else b) := (apply_ite Val.int c a b).symm
@[simp] theorem ite_obj (c : Prop) [Decidable c] (a b : Id) :
    (if c then Val.obj a else Val.obj b) = Val.obj (if c then a else b) := (apply_ite Val.obj c a b).symm

/-- … and an assignment under a condition yields one state with a conditional value, not two states -/
@[simp] theorem ite_ms (c : Prop) [Decidable c] (v w : Nat → Val) (s : OSt) (dn idn : Bool) (e : Option Exc) :
    (if c then (⟨v, s, dn, idn, e⟩ : MS) else ⟨w, s, dn, idn, e⟩) = ⟨if c then v else w, s, dn, idn, e⟩ := by
  split <;> rfl
@[simp] theorem ite_ofList (c : Prop) [Decidable c] (l m : List Val) :
    (if c then ofList l else ofList m) = ofList (if c then l else m) := (apply_ite ofList c l m).symm
@[simp] theorem ite_cons (c : Prop) [Decidable c] (a b : Val) (l m : List Val) :
    (if c then a :: l else b :: m) = (if c then a else b) :: (if c then l else m) := by
  split <;> rfl

@[simp] theorem testFlag_ite (b : Bool) {f : Nat} (hf : f ≠ 0) : testFlag (if b then f else 0) f = b := by
  cases b <;> simp [testFlag, hf]
@[simp] theorem no_notify_ne_zero : HASTRAITS_NO_NOTIFY ≠ 0 := by decide
@[simp] theorem veto_notify_ne_zero : HASTRAITS_VETO_NOTIFY ≠ 0 := by decide

@[simp low] theorem truthy_int (n : Int) : truthy (.int n) = decide (n ≠ 0) := id rfl
@[simp] theorem truthy_fptr (k : FPtr) : truthy (.fptr k) = true := id rfl
@[simp] theorem truthy_null : truthy .null = false := id rfl

@[simp] theorem ofBool_eq (b : Bool) : ofBool b = .int (if b then 1 else 0) := rfl

theorem binop_eq (a b : Val) (ha : a ≠ .stuck) (hb : b ≠ .stuck) : binop .eq a b = .int (if a = b then 1 else 0) := by
  simp only [binop.eq_3 a b ha hb, ofBool_eq, decide_eq_true_eq]
theorem binop_ne (a b : Val) (ha : a ≠ .stuck) (hb : b ≠ .stuck) : binop .ne a b = .int (if a ≠ b then 1 else 0) := by
  simp only [binop.eq_4 a b ha hb, ofBool_eq, decide_eq_true_eq]
attribute [simp] binop_eq binop_ne
@[simp] theorem binop_lt (a b : Int) : binop .lt (.int a) (.int b) = .int (if a < b then 1 else 0) := by
  simp only [binop, ofBool_eq, decide_eq_true_eq]
@[simp] theorem binop_gt (a b : Int) : binop .gt (.int a) (.int b) = .int (if a > b then 1 else 0) := by
  simp only [binop, ofBool_eq, decide_eq_true_eq]
@[simp] theorem binop_band (a b : Int) : binop .band (.int a) (.int b) = .int ((a.toNat &&& b.toNat : Nat) : Int) := id rfl
@[simp] theorem binop_add (a b : Int) : binop .add (.int a) (.int b) = .int (a + b) := id rfl

@[simp] theorem asList_nlv (o : Option (List Notifier)) (loc : Loc) : asList (nlv o loc) = some o := by
  cases o <;> rfl
@[simp] theorem nlv_ne_stuck (o : Option (List Notifier)) (loc : Loc) : (nlv o loc = .stuck) = False := by
  cases o <;> simp [nlv]
@[simp] theorem nlv_eq_null (o : Option (List Notifier)) (loc : Loc) : (nlv o loc = .null) = (o = none) := by
  cases o <;> simp [nlv]
@[simp] theorem hnV_nlv (a b : Option (List Notifier)) (l1 l2 : Loc) :
    hnV (nlv a l1) (nlv b l2) = .int (if hasNotifiers a b then 1 else 0) := by
  simp [hnV]
@[simp] theorem dict_ne_stuck (b : Bool) : ((if b then Val.null else Val.dict) = .stuck) = False := by
  cases b <;> simp
@[simp] theorem dict_eq_null (b : Bool) : ((if b then Val.null else Val.dict) = .null) = (b = true) := by
  cases b <;> simp
@[simp] theorem ptrv_some (v : Id) : ptrv (some v) = .obj v := id rfl
@[simp] theorem ptrv_none : ptrv none = .null := id rfl
@[simp] theorem ptrv_ne_stuck (o : Option Id) : (ptrv o = .stuck) = False := by
  cases o <;> simp [ptrv]
@[simp] theorem ptrv_eq_null (o : Option Id) : (ptrv o = .null) = (o = none) := by
  cases o <;> simp [ptrv]
@[simp] theorem tn_mk (s : OSt) (a b c f g h) : OSt.tn (OSt.mk a b c s.cn s.it f g h) = s.tn := rfl

attribute [simp] getGlob withS failS ofValue

@[simp] theorem retPtr_ok (v : Id) (s : OSt) : retPtr ms (.ok v, s) = (.obj v, withS ms s) := id rfl
@[simp] theorem retPtr_error (e : Exc) (s : OSt) : retPtr ms (.error e, s) = (.null, failS ms s e) := id rfl
@[simp] theorem retInt_none (s : OSt) : retInt ms (none, s) = (.int 0, withS ms s) := id rfl
@[simp] theorem retInt_some (e : Exc) (s : OSt) : retInt ms (some e, s) = (.int (-1), failS ms s e) := id rfl
@[simp] theorem ofInt_none (s : OSt) : ofInt (none, s) = (.int 0, s, none) := id rfl
@[simp] theorem ofInt_some (e : Exc) (s : OSt) : ofInt (some e, s) = (.int (-1), s, some e) := id rfl
@[simp] theorem ofPtr_ok (v : Id) (s : OSt) : ofPtr (.ok v, s) = (.obj v, s, none) := id rfl
@[simp] theorem ofPtr_error (e : Exc) (s : OSt) : ofPtr (.error e, s) = (.null, s, some e) := id rfl

@[simp] theorem postV_ne_stuck : (postV C = .stuck) = False := by
  cases h : C.t.post <;> simp [postV, h]
@[simp] theorem postV_eq_null : (postV C = .null) = (C.t.post = none) := by
  cases h : C.t.post <;> simp [postV, h]
@[simp] theorem fptrK_postV (h : C.t.post ≠ none) (args : List Expr) :
    fptrK C (postV C, ms) args = callFPtr C .post (evalArgs C args ms).1 (evalArgs C args ms).2 := by
  cases hp : C.t.post <;> simp_all [postV]

theorem postSetattr_none {t : TraitCore} (h : t.post = none) (E : Env) (v : Id) (s : OSt) :
    postSetattr E t v s = (none, s) := by
  simp only [postSetattr, h]

/-- `return f(…)` with the error indicator clear -/
@[simp] theorem out_retInt (vs : Nat → Val) (s : OSt) (dn idn : Bool) (r : Option Exc × OSt) :
    ((retInt ⟨vs, s, dn, idn, none⟩ r).1, (retInt ⟨vs, s, dn, idn, none⟩ r).2.s, (retInt ⟨vs, s, dn, idn, none⟩ r).2.err)
      = ofInt r := by
  rcases r with ⟨_ | e, s'⟩ <;> rfl
@[simp] theorem out_retPtr (vs : Nat → Val) (s : OSt) (dn idn : Bool) (r : Except Exc Id × OSt) :
    ((retPtr ⟨vs, s, dn, idn, none⟩ r).1, (retPtr ⟨vs, s, dn, idn, none⟩ r).2.s, (retPtr ⟨vs, s, dn, idn, none⟩ r).2.err)
      = ofPtr r := by
  rcases r with ⟨e | v, s'⟩ <;> rfl

/-! ### Fields, function pointers, primitives -/

@[simp] theorem getField_trait_flags : getField C ms .trait .flags = .int C.t.flags := id rfl
@[simp] theorem getField_trait_validate :
    getField C ms .trait .validate = (match C.t.validate with | some _ => .fptr .validate | none => .null) := id rfl
@[simp] theorem getField_trait_post : getField C ms .trait .post_setattr = postV C := id rfl
@[simp] theorem getField_trait_getattr : getField C ms .trait .getattr = .fptr .getattr := id rfl
@[simp] theorem getField_trait_setattr : getField C ms .trait .setattr = .fptr .setattr := id rfl
@[simp] theorem getField_trait_notifiers : getField C ms .trait .notifiers = nlv ms.s.tn .t := id rfl
@[simp] theorem getField_trait_dvt : getField C ms .trait .default_value_type = .int C.t.dvt := id rfl
@[simp] theorem getField_trait_dv : getField C ms .trait .default_value = ptrv C.t.dv := id rfl
@[simp] theorem getField_self_flags :
    getField C ms .self .flags = .int (if ms.s.noNotify then HASTRAITS_NO_NOTIFY else 0 : Nat) := id rfl
@[simp] theorem getField_self_notifiers : getField C ms .self .notifiers = nlv ms.s.on .o := id rfl
@[simp] theorem getField_self_dict : getField C ms .self .obj_dict = if ms.dictNull then .null else .dict := id rfl
@[simp] theorem getField_self_idict : getField C ms .self .itrait_dict = if ms.idictNull then .null else .idict := id rfl
@[simp] theorem getField_self_cdict : getField C ms .self .ctrait_dict = .cdict := id rfl
@[simp] theorem getField_obj_flags (v : Id) :
    getField C ms (.obj v) .flags = .int (if C.vflag v then HASTRAITS_VETO_NOTIFY else 0 : Nat) := id rfl
@[simp] theorem setField_dict : setField ms .self .obj_dict .dict = some { ms with dictNull := false } := id rfl

@[simp] theorem callFPtr_validate (v : Id) :
    callFPtr C .validate [.trait, .self, .name, .obj v] ms
      = retPtr ms ((runValidate C.E C.t v ms.s.ctx).1, { ms.s with ctx := (runValidate C.E C.t v ms.s.ctx).2 }) := id rfl
@[simp] theorem callFPtr_post (v : Id) :
    callFPtr C .post [.trait, .self, .name, .obj v] ms = retInt ms (postSetattr C.E C.t v ms.s) := id rfl
@[simp] theorem callFPtr_getattr :
    callFPtr C .getattr [.trait, .self, .name] ms = retPtr ms (traitGetattr C.E C.t ms.s) := id rfl
@[simp] theorem callFPtr_setattr (v : Option Id) :
    callFPtr C .setattr [.trait, .trait, .self, .name, ofValue v] ms = retInt ms (traitSetattr C.E C.t v ms.s) := by
  cases v <;> rfl

/-- `if (post_setattr != NULL) rc = post_setattr(trait, obj, name, v);` with `rc` 0 before: the NULL test may be
dropped, the model's `postSetattr` has it inside.  A `↓` lemma: it has to get in before `exec_ifS` makes the test a
case on `C.t.post`.  `hj` goes through `eval` because `simp` does not discharge `ms.vars j = .int 0` on a literal
state: its first step there is a projection reduction, and the proof it then finds is refused. -/
@[simp ↓] theorem exec_postIf (P : Expr) (args : List Expr) (j : Nat) (hP : eval C P ms = (postV C, ms))
    (hargs : ∃ v, evalArgs C args ms = ([.trait, .self, .name, .obj v], ms)) (hj : eval C (.var j) ms = (.int 0, ms)) :
    exec C (.ifS (.bin .ne P .null) (.expr (.assign j (.callPtr P args))) .skip) ms
      = exprK (assignK j (callFPtr C .post (evalArgs C args ms).1 (evalArgs C args ms).2)) := by
  obtain ⟨v, hv⟩ := hargs
  have h0 : setVar ms.vars j (.int 0) = ms.vars := funext fun i => by simp_all +contextual [setVar]
  cases hp : C.t.post <;> simp [hP, hp, hv, postSetattr, h0]
/-- the same with `if (rc < 0) return …;` inside the test: `T` does nothing while `rc` is 0, so it may follow the test -/
@[simp ↓] theorem exec_postIf_seq (P : Expr) (args : List Expr) (j : Nat) (T : Stmt) (hP : eval C P ms = (postV C, ms))
    (hT : exec C T ms = (ms, .next)) :
    exec C (.ifS (.bin .ne P .null) (.seq (.expr (.assign j (.callPtr P args))) T) .skip) ms
      = thenK (exec C (.ifS (.bin .ne P .null) (.expr (.assign j (.callPtr P args))) .skip) ms) (exec C T) := by
  cases hp : C.t.post <;> simp [hP, hp, hT]

@[simp] theorem prim_GetItem : callPrim C .PyDict_GetItem [.dict, .name] ms = (ptrv ms.s.slot, ms) := id rfl
@[simp] theorem prim_SetItem (v : Id) :
    callPrim C .PyDict_SetItem [.dict, .name, .obj v] ms = (.int 0, withS ms { ms.s with slot := some v }) := id rfl
@[simp] theorem prim_DelItem :
    callPrim C .PyDict_DelItem [.dict, .name] ms
      = (match ms.s.slot with
         | some _ => (.int 0, withS ms { ms.s with slot := none })
         | none => (.int (-1), failS ms ms.s .keyError)) := id rfl
@[simp] theorem prim_New : callPrim C .PyDict_New [] ms = (.dict, ms) := id rfl
@[simp] theorem prim_Check : callPrim C .PyUnicode_Check [.name] ms = (.int 1, ms) := id rfl
@[simp] theorem prim_invalid :
    callPrim C .invalid_attribute_error [.name] ms = (.int (-1), failS ms ms.s .typeError) := id rfl
@[simp] theorem prim_default :
    callPrim C .default_value_for [.trait, .self, .name] ms = retPtr ms (ms.s.defaultValueFor C.E C.t) := id rfl
@[simp] theorem prim_notify (tn on : Option (List Notifier)) (l1 l2 : Loc) (old new : Id) :
    callPrim C .call_notifiers [nlv tn l1, nlv on l2, .self, .name, .obj old, .obj new] ms
      = retInt ms (callNotifiers C.E C.t tn on old new ms.s) := by
  cases tn <;> cases on <;> rfl
@[simp] theorem prim_has (a b : Val) : callPrim C .has_notifiers [a, b] ms = (hnV a b, ms) := id rfl
@[simp] theorem prim_size (l : List Notifier) (loc : Loc) :
    callPrim C .PyList_GET_SIZE [.nlist l loc] ms = (.int l.length, ms) := id rfl
@[simp] theorem prim_getNotifier (l : List Notifier) (loc : Loc) (k : Nat) (h : k < l.length) :
    callPrim C .PyList_GET_ITEM [.nlist l loc, .int k] ms = (.item l[k] loc, ms) := by
  simp [callPrim, h]
@[simp] theorem prim_getItem (xs : List (Option (Notifier × Loc))) (k : Nat) :
    callPrim C .PyList_GET_ITEM [.items xs, .int k] ms
      = ((match xs[k]? with | some (some (n, loc)) => .item n loc | _ => .stuck), ms) := by
  simp only [callPrim, Int.toNat_natCast, Int.natCast_nonneg, if_true]
  rcases xs[k]? with _ | _ | ⟨n, loc⟩ <;> rfl
@[simp] theorem prim_listNew (n : Int) :
    callPrim C .PyList_New [.int n] ms = (.items (List.replicate n.toNat none), ms) := id rfl
@[simp] theorem prim_listSet (xs : List (Option (Notifier × Loc))) (i : Int) (n : Notifier) (loc : Loc)
    (h0 : 0 ≤ i) (h : i.toNat < xs.length) :
    callPrim C .list_set [.items xs, .int i, .item n loc] ms = (.items (xs.set i.toNat (some (n, loc))), ms) := by
  simp [callPrim, h0, h]
@[simp] theorem prim_callNotifier (n : Notifier) (loc : Loc) (old new : Id) :
    callPrim C .PyObject_Call [.item n loc, .args4 old new, .null] ms
      = (match callWrapper C.E C.t n loc old new ms.s with
         | (none, s) => (.obj noneId, withS ms s)
         | (some e, s) => (.null, failS ms s e)) := id rfl
@[simp] theorem prim_pack4 (o old new : Id) :
    callPrim C .PyTuple_Pack [.int 4, .obj o, .name, .obj old, .obj new] ms = (.args4 old new, ms) := id rfl
@[simp] theorem prim_pack1 (o : Id) : callPrim C .PyTuple_Pack [.int 1, .obj o] ms = (.args1, ms) := id rfl
@[simp] theorem prim_tpart (o : Option Id) (k : Int) :
    callPrim C .PyTuple_GET_ITEM [ptrv o, .int k] ms = (.tpart (o.getD noneId) k, ms) := by
  cases o <;> rfl
@[simp] theorem prim_isHT (v : Id) : callPrim C .PyHasTraits_Check [.obj v] ms = (ofBool (C.isHT v), ms) := id rfl
@[simp] theorem prim_callArgs (d : Id) (kw : Val) :
    callPrim C .PyObject_Call [.tpart d 0, .tpart d 1, kw] ms
      = retPtr ms ((callFactory C.E d ms.s.self ms.s.name noneId ms.s.ctx).1,
          { ms.s with ctx := (callFactory C.E d ms.s.self ms.s.name noneId ms.s.ctx).2 }) := by
  show (if d = d then _ else _) = _
  exact if_pos rfl
@[simp] theorem prim_callDefault (o : Option Id) :
    callPrim C .PyObject_Call [ptrv o, .args1, .null] ms
      = retPtr ms ((callFactory C.E (o.getD noneId) ms.s.self ms.s.name ms.s.self ms.s.ctx).1,
          { ms.s with ctx := (callFactory C.E (o.getD noneId) ms.s.self ms.s.name ms.s.self ms.s.ctx).2 }) := by
  cases o <;> rfl
/-- `PySequence_List`, `PyDict_Copy` and `call_class(TraitXObject, …)` all make a shallow copy -/
theorem copy_val (o : Option Id) :
    (match idOf (ptrv o) with
      | some d => (match ms.s.ctx.copyOf d with | (i, c) => (Val.obj i, withS ms { ms.s with ctx := c }))
      | none => (.stuck, ms))
      = (.obj (ms.s.ctx.copyOf (o.getD noneId)).1, withS ms { ms.s with ctx := (ms.s.ctx.copyOf (o.getD noneId)).2 }) := by
  cases o <;> rfl
@[simp] theorem prim_list (o : Option Id) :
    callPrim C .PySequence_List [ptrv o] ms
      = (.obj (ms.s.ctx.copyOf (o.getD noneId)).1, withS ms { ms.s with ctx := (ms.s.ctx.copyOf (o.getD noneId)).2 }) :=
  copy_val ms o
@[simp] theorem prim_dictCopy (o : Option Id) :
    callPrim C .PyDict_Copy [ptrv o] ms
      = (.obj (ms.s.ctx.copyOf (o.getD noneId)).1, withS ms { ms.s with ctx := (ms.s.ctx.copyOf (o.getD noneId)).2 }) :=
  copy_val ms o
@[simp] theorem prim_class (k : Nat) (o : Option Id) :
    callPrim C .call_class [.cls k, .trait, .self, .name, ptrv o] ms
      = (.obj (ms.s.ctx.copyOf (o.getD noneId)).1, withS ms { ms.s with ctx := (ms.s.ctx.copyOf (o.getD noneId)).2 }) :=
  copy_val ms o
@[simp] theorem prim_warn (r : Val) :
    callPrim C .warn_on_attribute_error [r] ms
      = (.int 0, { ms with err := if r = .null ∧ ms.err = some .attributeError ∧ C.E.warnError then some .other
                                   else ms.err }) := by
  show (_, ite _ _ _) = _
  split <;> rfl
@[simp] theorem prim_setString (e : Exc) :
    callPrim C .PyErr_SetString [.exc e, .str] ms = (.int 0, { ms with err := some e }) := id rfl
@[simp] theorem prim_setObject (e : Exc) (v : Val) :
    callPrim C .PyErr_SetObject [.exc e, v] ms = (.int 0, { ms with err := some e }) := id rfl
@[simp] theorem prim_matches (e : Exc) :
    callPrim C .PyErr_ExceptionMatches [.exc e] ms = (ofBool (decide (ms.err = some e)), ms) := id rfl
@[simp] theorem prim_idict :
    callPrim C .dict_getitem [.idict, .name] ms = ((if ms.s.it.isSome then .trait else .null), ms) := id rfl
@[simp] theorem prim_cdict : callPrim C .dict_getitem [.cdict, .name] ms = (.trait, ms) := id rfl

end
end TraitsVerif.Lemmas.AttrSource
