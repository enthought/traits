/-
`copy_traits` in deep mode (`clone_traits(copy='deep')`, or `copy="deep"` metadata): one iteration, then the loop,
where reads of the source and allocations for the clone alternate and still no container is shared.  Then
transient traits under `clone_traits`, and the environment `E0` of the witnesses in `Props/C14.lean`.
-/
import TraitsVerif.Lemmas.PersistObject
namespace TraitsVerif.Lemmas.Persist
open TraitsVerif TraitsVerif.Model.Persist

/-- One iteration of `copy_traits` whose effective mode is deep, on a slot the loop selects: the value read is
rebuilt (`deepcopyV` never raises) and the rebuilt value is assigned to the new slot, which succeeds
(`validate_rebuild`).  The new slot holds only containers allocated after the read. -/
theorem cloneSlot_deep {E : Env} (hI : Idem E) (hC : CopyStable E) {src : Slot} (hw : WFSlot E src) {all : Bool}
    (hc : (src.decl.copyable || (all && src.decl.kind != .event)) = true) {arg : Option CopyMode}
    (hm : effMode src.decl.copy arg = .deep) (oS oD n : Nat) :
    ∃ w n2, cloneSlot E oS oD arg all n src = (⟨src.decl, some w⟩, (readSlot E oS n src).2.1, n2) ∧
      norm w = norm (readSlot E oS n src).1 ∧ Live E oD src.decl.shape w ∧ (readSlot E oS n src).2.2 ≤ n2 ∧
      ∀ i ∈ ids w, (readSlot E oS n src).2.2 ≤ i ∧ i < n2 := by
  have hk : src.decl.kind ≠ .event := fun hk => by simp [Decl.copyable, hk] at hc
  have hf := (rebuild_fresh Binding.afterDeepcopy (readSlot E oS n src).1 (readSlot E oS n src).2.2).1
  obtain ⟨w, n2, h1, h2, h3, h4, h5⟩ := validate_rebuild Binding.afterDeepcopy hI hC (readSlot_spec hI hw oS n).1 oD
    (readSlot E oS n src).2.2 (rebuild Binding.afterDeepcopy (readSlot E oS n src).2.2 (readSlot E oS n src).1).2
  refine ⟨w, n2, by simp [cloneSlot, hc, hm, copyValue, deepcopyV_eq, assignSlot_fresh src.decl hk, h1], h2, h3,
    Nat.le_trans hf h4, fun i hi => ?_⟩
  rcases h5 i hi with h | h <;> omega

/-- What the no-sharing clause needs of a slot: well-formed, and - if it is one
of the slots that get copied - copied in deep mode (no `copy="ref"` /
`copy="shallow"` metadata, which ask for sharing). -/
structure DeepOK (E : Env) (arg : Option CopyMode) (all : Bool) (sl : Slot) : Prop where
  wf : WFSlot E sl
  deep : sl.decl.copyable = true ∨ (all = true ∧ sl.decl.kind ≠ .event) → effMode sl.decl.copy arg = .deep

/-- One iteration, selected or not, with the identity ranges: the allocator moves from `n` over `mid` to its end;
the source slot only gains identities allocated before `mid` (by the read), the new slot holds only identities
allocated from `mid` on. -/
theorem cloneSlot_ranges {E : Env} (hI : Idem E) (hC : CopyStable E) {arg : Option CopyMode} {all : Bool} {sl : Slot}
    (hd : DeepOK E arg all sl) (oS oD n m : Nat)
    (hb : (∀ i ∈ slotIds sl, i < m) ∧ (∀ i ∈ ids sl.decl.dflt, i < m)) :
    ∃ mid, n ≤ mid ∧ mid ≤ (cloneSlot E oS oD arg all n sl).2.2 ∧
      (∀ i ∈ slotIds (cloneSlot E oS oD arg all n sl).2.1, i < m ∨ (n ≤ i ∧ i < mid)) ∧
      (∀ i ∈ slotIds (cloneSlot E oS oD arg all n sl).1, mid ≤ i ∧ i < (cloneSlot E oS oD arg all n sl).2.2) := by
  by_cases hc : (sl.decl.copyable || (all && sl.decl.kind != .event)) = true
  · have hr := readSlot_ids (E := E) (n := n) hb oS
    obtain ⟨w, n2, e, -, -, hle, hids⟩ := cloneSlot_deep hI hC hd.wf hc (hd.deep (by simpa using hc)) oS oD n
    rw [e]
    exact ⟨_, hr.2, hle, hr.1, fun i hi => hids i (by simpa [slotIds] using hi)⟩
  · have e : cloneSlot E oS oD arg all n sl = (⟨sl.decl, none⟩, sl, n) := by simp [cloneSlot, hc]
    rw [e]
    exact ⟨n, Nat.le_refl _, Nat.le_refl _, fun i hi => .inl (hb.1 i hi), fun i hi => by simp [slotIds] at hi⟩

/-- **No sharing under `clone_traits(copy='deep')`** (and under `copy="deep"`
metadata with any `copy` argument): no container object of the clone is a
container object of the source - neither one that existed before, nor a default
the cloning materialised in the source. -/
theorem cloneL_no_sharing {E : Env} (hI : Idem E) (hC : CopyStable E) (oS oD m : Nat) (arg : Option CopyMode)
    (all : Bool) :
    ∀ (slots : List Slot) (n : Nat), m ≤ n → BelowAll m slots → (∀ sl ∈ slots, DeepOK E arg all sl) →
      n ≤ (cloneL E oS oD arg all n slots).2.2 ∧
      (∀ a ∈ (cloneL E oS oD arg all n slots).2.1, ∀ i ∈ slotIds a,
        i < m ∨ (n ≤ i ∧ i < (cloneL E oS oD arg all n slots).2.2)) ∧
      (∀ c ∈ (cloneL E oS oD arg all n slots).1, ∀ i ∈ slotIds c,
        n ≤ i ∧ i < (cloneL E oS oD arg all n slots).2.2) ∧
      (∀ c ∈ (cloneL E oS oD arg all n slots).1, ∀ i ∈ slotIds c,
        ∀ a ∈ (cloneL E oS oD arg all n slots).2.1, i ∉ slotIds a)
  | [], n, _, _, _ => by
    simp only [cloneL]
    exact ⟨Nat.le_refl _, fun _ h => (by cases h), fun _ h => (by cases h), fun _ h => (by cases h)⟩
  | sl :: sls, n, hmn, hb, hd => by
    -- reads and copies alternate, so no single boundary separates source and clone: each iteration has its own (`mid`),
    -- and what the later iterations allocate lies above everything this one did
    obtain ⟨mid, hm1, hm2, hh1, hh2⟩ := cloneSlot_ranges hI hC (hd sl (by simp)) oS oD n m (hb sl (by simp))
    obtain ⟨i1, i2, i3, i4⟩ := cloneL_no_sharing hI hC oS oD m arg all sls (cloneSlot E oS oD arg all n sl).2.2
      (by omega) (fun s hs => hb s (by simp [hs])) (fun s hs => hd s (by simp [hs]))
    simp only [cloneL]
    refine ⟨by omega, ?_, ?_, ?_⟩
    · intro a ha i hi
      rcases List.mem_cons.mp ha with rfl | ha
      · rcases hh1 i hi with h | h
        · exact Or.inl h
        · exact Or.inr ⟨h.1, by omega⟩
      · rcases i2 a ha i hi with h | h
        · exact Or.inl h
        · exact Or.inr ⟨by omega, h.2⟩
    · intro c hc i hi
      rcases List.mem_cons.mp hc with rfl | hc
      · have := hh2 i hi; omega
      · have := i3 c hc i hi; omega
    · intro c hc i hi a ha hia
      rcases List.mem_cons.mp hc with rfl | hc
      · have hci := hh2 i hi
        rcases List.mem_cons.mp ha with rfl | ha
        · rcases hh1 i hia with h | h <;> omega
        · rcases i2 a ha i hia with h | h <;> omega
      · have hci := i3 c hc i hi
        rcases List.mem_cons.mp ha with rfl | ha
        · rcases hh1 i hia with h | h <;> omega
        · exact i4 c hc i hi a ha hia

/-! ## Transient traits under `clone_traits` -/

theorem assignSlot_decl {E : Env} {o n : Nat} {sl sl' : Slot} {v : CVal} {n' : Nat}
    (h : assignSlot E o n sl v = .ok (sl', n')) : sl'.decl = sl.decl := by
  revert h
  fun_cases assignSlot E o n sl v <;> intro h <;> cases h <;> rfl

theorem cloneSlot_decl (E : Env) (oS oD : Nat) (arg : Option CopyMode) (all : Bool) (n : Nat) (src : Slot) :
    (cloneSlot E oS oD arg all n src).1.decl = src.decl := by
  fun_cases cloneSlot E oS oD arg all n src
  -- the copy raises; the assignment raises; the value is assigned; the slot is not selected
  · rfl
  · rfl
  · exact assignSlot_decl (sl := ⟨src.decl, none⟩) ‹_›
  · rfl

theorem cloneSlot_transient (E : Env) (oS oD : Nat) (arg : Option CopyMode) (n : Nat) (src : Slot)
    (ht : src.decl.transient = true) : (cloneSlot E oS oD arg false n src).1.val = none := by
  simp [cloneSlot, Decl.copyable, ht]

theorem cloneL_transient (E : Env) (oS oD : Nat) (arg : Option CopyMode) :
    ∀ (slots : List Slot) (n : Nat), ∀ c ∈ (cloneL E oS oD arg false n slots).1,
      c.decl.transient = true → c.val = none
  | [], n => by simp [cloneL]
  | sl :: sls, n => by
    intro c hc ht
    simp only [cloneL, List.mem_cons] at hc
    rcases hc with rfl | hc
    · rw [cloneSlot_decl] at ht
      exact cloneSlot_transient E oS oD arg n sl ht
    · exact cloneL_transient E oS oD arg sls _ c hc ht

/-! ## A concrete environment for witnesses and examples -/

/-- Leaf validators of the witnesses: tag 0 accepts integers only. -/
def lv0 : LeafTy → Leaf → Except Exc Leaf
  | 0, .int n => .ok (.int n)
  | 0, _ => .error .traitError
  | _, a => .ok a
def E0 : Env := ⟨lv0⟩

theorem E0_idem : Idem E0 := by
  intro t a b h
  cases t with
  | zero => cases a <;> simp [E0, lv0] at h ⊢ <;> (subst h; rfl)
  | succ t => simp_all [E0, lv0]

theorem E0_copyStable : CopyStable E0 := by
  intro t a n h
  cases t with
  | zero => cases a <;> simp [E0, lv0, Leaf.copiedAt] at h ⊢
  | succ t => simp [E0, lv0]

end TraitsVerif.Lemmas.Persist
