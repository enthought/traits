/-
What the twin theorem of C19 (a history after a failed call coincides with one
that never saw it) is stated through: the contents a history of
`TraitListObject` ends with, and a run split at any point.
-/
import TraitsVerif.Model.TraitListObject
namespace TraitsVerif.Model
variable {α : Type}

/-- The contents after a history (a failed step leaves them as they were). -/
def TraitListObject.final (c : LenCfg) (E : Env α) : List α → List (TOp α) → List α
  | l, [] => l
  | l, op :: ops =>
    match TraitListObject.tstep c E l op with
    | .error _ => TraitListObject.final c E l ops
    | .ok o => TraitListObject.final c E o.items ops

theorem TraitListObject.run_append (c : LenCfg) (E : Env α) (l : List α) (ops1 ops2 : List (TOp α)) :
    TraitListObject.run c E l (ops1 ++ ops2)
      = TraitListObject.run c E l ops1
        ++ TraitListObject.run c E (TraitListObject.final c E l ops1) ops2 := by
  induction ops1 generalizing l with
  | nil => simp [TraitListObject.run, TraitListObject.final]
  | cons op ops1 ih =>
    simp only [List.cons_append, TraitListObject.run, TraitListObject.final]
    cases h : TraitListObject.tstep c E l op with
    | error e => simp [ih]
    | ok o => simp [ih]

end TraitsVerif.Model
