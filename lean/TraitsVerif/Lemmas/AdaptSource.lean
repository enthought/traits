/-
`Model.Adapt` is the interpretation of the translated source
(`Generated/AdaptProg.lean`), part 1: the pure functions `provides_protocol`,
`mro_distance_to_protocol`, `_get_applicable_offers`,
`_by_weight_then_from_protocol_specificity`.  Each function body is executed
symbolically by `simp` with the interpreter's equations (`Lemmas/AdaptInterp.lean`);
every `for` loop by induction on the list it iterates.
-/
import TraitsVerif.Generated.AdaptProg
import TraitsVerif.Lemmas.AdaptInterp
namespace TraitsVerif.Lemmas.AdaptSource
open TraitsVerif TraitsVerif.Model.Adapt TraitsVerif.Model.PyA TraitsVerif.Generated.AdaptProg

variable {α : Type}

/-! ## Encodings of the model's data as PyA values -/

def encEdge (e : Edge) : Val α := .tuple [.int e.1, .offer e.2]
def encPath (p : List Offer) : Val α := .list (p.map .offer)
def encEntry (e : Entry) : Val α :=
  .tuple [.tuple [.int e.nAd, .int e.mroSum, .int e.cnt], encPath e.path, .ty e.cur]
def encDist : Option Nat → Val α
  | some n => .int n
  | none => .none

/-! ## `provides_protocol` -/

theorem provides_fn (C : Ctx α) (a b : Nat) (st : St α) (h0 : getVar st.vars 0 = .ok (.ty a))
    (h1 : getVar st.vars 1 = .ok (.ty b)) (htr : st.trace = []) :
    Returns (exec C 0 providesProtocolBody st) (.bool (C.cfg.provides a b)) := by
  simp [providesProtocolBody, h0, h1, htr]

theorem call_provides (cfg : Cfg) (f : Factory α) (s d a b : Nat) :
    (ctxAt adaptProg cfg f s (d + 1)).call "provides_protocol" [.ty a, .ty b] =
      .ok (.bool (cfg.provides a b)) :=
  callAt_of_returns (fn := ⟨2, 2, providesProtocolBody⟩) (by simp [adaptProg]) rfl (provides_fn _ a b _ rfl rfl rfl)

/-! ## `mro_distance_to_protocol` -/

section mro
variable (C : Ctx α)
  (hC : ∀ a b, C.call "provides_protocol" [.ty a, .ty b] = .ok (.bool (C.cfg.provides a b))) (p : Nat)
include hC

theorem mro_loop : ∀ (ts : List Nat) (st : St α) (n : Nat), getVar st.vars 1 = .ok (.ty p) →
    getVar st.vars 3 = .ok (.int n) →
    ∀ r, forLoop [4] (exec C 0 mroDistanceLoop1) (ts.map .ty) st = r →
      (r.2 = .next ∨ r.2 = .brk) ∧ r.1.trace = st.trace ∧
      getVar r.1.vars 3 = .ok (.int (n + countWhile (fun s => C.cfg.provides s p) ts : Nat)) := by
  intro ts
  unfold mroDistanceLoop1
  induction ts with
  | nil => intro st n _ h3 r hr; subst hr; simp [countWhile, h3]
  | cons t ts ih =>
    intro st n h1 h3 r hr
    simp only [List.map_cons, forLoop_cons, bindTargets_one] at hr
    cases hp : C.cfg.provides t p with
    | false =>
      simp [hC, hp, h1] at hr
      subst hr
      simp [countWhile, hp, h3]
    | true =>
      simp [hC, hp, h1, h3] at hr
      obtain ⟨hf, ht, hv⟩ := ih _ (n + 1) (by simp [h1]) (by simp) r hr
      refine ⟨hf, ht, ?_⟩
      rw [hv]; simp [countWhile, hp]; omega

theorem mro_fn (t : Nat) (st : St α) (h0 : getVar st.vars 0 = .ok (.ty t))
    (h1 : getVar st.vars 1 = .ok (.ty p)) (htr : st.trace = []) :
    Returns (exec C 0 mroDistanceBody st) (encDist (dist C.cfg t p)) := by
  cases hp : C.cfg.provides t p with
  | false => simp [mroDistanceBody, hC, hp, h0, h1, htr, dist, encDist]
  | true =>
    simp [mroDistanceBody, hC, hp, h0, h1]
    generalize hr : forLoop _ _ _ _ = r
    obtain ⟨hf, ht, hv⟩ := mro_loop C hC p _ _ 0 (by simp [h1]) (by simp) r hr
    obtain ⟨st', fl⟩ := r
    simp only at hf ht hv
    rcases hf with rfl | rfl <;> simp [hv, ht, htr, dist, hp, encDist]

end mro

theorem call_mro (cfg : Cfg) (f : Factory α) (s d t p : Nat) :
    (ctxAt adaptProg cfg f s (d + 2)).call "mro_distance_to_protocol" [.ty t, .ty p] =
      .ok (encDist (dist cfg t p)) :=
  callAt_of_returns (fn := ⟨2, 5, mroDistanceBody⟩) (by simp [adaptProg]) rfl (mro_fn _ (call_provides cfg f s d) p t _ rfl rfl rfl)

/-! ## `_by_weight_then_from_protocol_specificity` -/

/-- What the comparison function returns on two edges. -/
def cmpI (cfg : Cfg) (e1 e2 : Edge) : Int :=
  if e1.1 < e2.1 then -1 else if e2.1 < e1.1 then 1
  else if e1.2.frm = e2.2.frm then 0
  else if cfg.provides e1.2.frm e2.2.frm then -1
  else if cfg.provides e2.2.frm e1.2.frm then 1 else 0

theorem cmp_fn (C : Ctx α) (e1 e2 : Edge) (st : St α) (h0 : getVar st.vars 0 = .ok (encEdge e1))
    (h1 : getVar st.vars 1 = .ok (encEdge e2)) (htr : st.trace = []) :
    Returns (exec C 0 byWeightBody st) (.int (cmpI C.cfg e1 e2)) := by
  obtain ⟨d1, o1⟩ := e1
  obtain ⟨d2, o2⟩ := e2
  simp [byWeightBody, h0, h1, encEdge, cmpI]
  by_cases hd : d1 < d2
  · simp [hd, htr]
  · by_cases hd' : d2 < d1
    · simp [hd, hd', htr]
    · simp [hd, hd', isSame]
      by_cases hf : o1.frm = o2.frm
      · simp [hf, htr]
      · simp [hf, beq_false_of_ne hf]
        cases h4 : C.cfg.provides o1.frm o2.frm
        · simp
          cases h5 : C.cfg.provides o2.frm o1.frm <;> simp [htr]
        · simp [htr]

theorem call_cmp (cfg : Cfg) (f : Factory α) (s d : Nat) (e1 e2 : Edge) :
    (ctxAt adaptProg cfg f s (d + 1)).call "_by_weight_then_from_protocol_specificity" [encEdge e1, encEdge e2] =
      .ok (.int (cmpI cfg e1 e2)) :=
  callAt_of_returns (fn := ⟨2, 6, byWeightBody⟩) (by simp [adaptProg]) rfl (cmp_fn _ e1 e2 _ rfl rfl rfl)

theorem cmpI_lt (cfg : Cfg) (e1 e2 : Edge) : decide (cmpI cfg e1 e2 < 0) = edgeLt cfg e1 e2 := by
  obtain ⟨d1, o1⟩ := e1
  obtain ⟨d2, o2⟩ := e2
  simp only [cmpI, edgeLt]
  by_cases h1 : d1 < d2
  · simp [h1]
  · by_cases h2 : d2 < d1
    · simp [h1, h2, Nat.ne_of_gt h2]
    · obtain rfl : d1 = d2 := by omega
      by_cases h3 : o1.frm = o2.frm
      · simp [h3]
      · cases cfg.provides o1.frm o2.frm <;> cases cfg.provides o2.frm o1.frm <;> simp [h3]

/-! ## `_get_applicable_offers` -/

theorem containsOffer_path (o : Offer) (path : List Offer) :
    containsOffer (α := α) o (path.map .offer) = inPath o path := by
  simp [containsOffer, inPath, List.any_map, Function.comp_def]

section applicable
variable (C : Ctx α) (cur : Nat) (path : List Offer)

/-- The state of `_get_applicable_offers` between two statements of its loops: slots 0
(`current_protocol`) and 1 (`path`) hold the arguments, slot 2 (`edges`) the list built so far,
and no factory has been called. -/
structure AppSt (acc : List Edge) (st : St α) : Prop where
  h0 : getVar st.vars 0 = .ok (.ty cur)
  h1 : getVar st.vars 1 = .ok (encPath path)
  h2 : getVar st.vars 2 = .ok (.list (acc.map encEdge))
  ht : st.trace = []

variable {cur path}

theorem AppSt.setVar {acc : List Edge} {st : St α} (h : AppSt cur path acc st) {i : Nat} (hi : 3 ≤ i) (v : Val α) :
    AppSt cur path acc { st with vars := setVar st.vars i v } := by
  have h0 : 0 ≠ i := by omega
  have h1 : 1 ≠ i := by omega
  have h2 : 2 ≠ i := by omega
  exact ⟨by simp [h0, h.h0], by simp [h1, h.h1], by simp [h2, h.h2], h.ht⟩

theorem app_loop2 (d : Nat) : ∀ (g : List Offer) (acc : List Edge) (st : St α), AppSt cur path acc st →
    getVar st.vars 6 = .ok (.int d) →
    ∃ st', forLoop [7] (exec C 0 applicableOffersLoop2) (g.map .offer) st = (st', .next) ∧
      AppSt cur path (acc ++ (g.filter (fun o => !inPath o path)).map (fun o => (d, o))) st' := by
  intro g
  unfold applicableOffersLoop2
  induction g with
  | nil => intro acc st h _; exact ⟨st, rfl, by simpa using h⟩
  | cons o g ih =>
    intro acc st h h6
    simp only [List.map_cons, forLoop_cons, bindTargets_one]
    cases hin : inPath o path with
    | true =>
      obtain ⟨st', hl, h'⟩ := ih acc _ (h.setVar (i := 7) (by decide) (.offer o)) (by simp [h6])
      exact ⟨st', by simp [h.h1, encPath, containsOffer_path, hin, hl], by simpa [hin] using h'⟩
    | false =>
      obtain ⟨st', hl, h'⟩ := ih (acc ++ [(d, o)])
        ⟨setVar (setVar st.vars 7 (.offer o)) 2 (.list (acc.map encEdge ++ [.tuple [.int d, .offer o]])), st.counter,
          st.trace, st.reg⟩
        ⟨by simp [h.h0], by simp [h.h1], by simp [encEdge], h.ht⟩ (by simp [h6])
      exact ⟨st', by simp [h.h1, h.h2, h6, encPath, containsOffer_path, hin, hl], by simpa [hin] using h'⟩

variable (hmro : ∀ t p, C.call "mro_distance_to_protocol" [.ty t, .ty p] = .ok (encDist (dist C.cfg t p)))
include hmro

theorem app_body1 {acc : List Edge} {st : St α} (h : AppSt cur path acc st) (g : List Offer) (hg : g ≠ [])
    (h4 : getVar st.vars 4 = .ok (.list (g.map .offer))) :
    ∃ st', exec C 0 applicableOffersLoop1 st = (st', .next) ∧
      AppSt cur path (acc ++ groupEdges C.cfg cur path g) st' := by
  obtain ⟨o0, g', rfl⟩ := List.exists_cons_of_ne_nil hg
  cases hd : dist C.cfg cur o0.frm with
  | none =>
    refine ⟨_, by simp [applicableOffersLoop1, h.h0, h4, hmro, hd, encDist, isSame, -List.map_cons]; rfl, ?_⟩
    simpa [groupEdges, hd] using (h.setVar (i := 5) (by decide) _).setVar (i := 6) (by decide) _
  | some d =>
    obtain ⟨st', hl, h'⟩ := app_loop2 C d (o0 :: g') acc _
      ((h.setVar (i := 5) (by decide) (.ty o0.frm)).setVar (i := 6) (by decide) (.int d)) (by simp)
    refine ⟨st', ?_, by simpa [groupEdges, hd] using h'⟩
    simp [applicableOffersLoop1, h.h0, h4, hmro, hd, encDist, isSame, hl, -List.map_cons]

theorem app_loop1 : ∀ (gs : List (List Offer)), (∀ g ∈ gs, g ≠ []) → ∀ (acc : List Edge) (st : St α),
    AppSt cur path acc st →
    ∃ st', forLoop [3, 4] (exec C 0 applicableOffersLoop1) (gs.map fun g => .tuple [.opaque, .list (g.map .offer)]) st = (st', .next) ∧
      AppSt cur path (acc ++ gs.flatMap (groupEdges C.cfg cur path)) st' := by
  intro gs
  induction gs with
  | nil => intro _ acc st h; exact ⟨st, rfl, by simpa using h⟩
  | cons g gs ih =>
    intro hne acc st h
    obtain ⟨st1, hb, h'⟩ := app_body1 C hmro ((h.setVar (i := 3) (by decide) .opaque).setVar (i := 4) (by decide)
      (.list (g.map .offer))) g (hne g List.mem_cons_self) (by simp)
    obtain ⟨st', hl, h''⟩ := ih (fun g hg => hne g (List.mem_cons_of_mem _ hg)) _ st1 h'
    exact ⟨st', by simp only [List.map_cons, forLoop_cons, bindTargets_tuple, bindAll_cons, bindAll_nil, hb,
      andThen_next, hl], by simpa using h''⟩

theorem app_fn (hne : ∀ g ∈ C.cfg.groups, g ≠ []) (st : St α) (h0 : getVar st.vars 0 = .ok (.ty cur))
    (h1 : getVar st.vars 1 = .ok (encPath path)) (htr : st.trace = []) :
    Returns (exec C 0 applicableOffersBody st) (.list ((applicable C.cfg cur path).map encEdge)) := by
  obtain ⟨st', hl, h'⟩ := app_loop1 (cur := cur) (path := path) C hmro C.cfg.groups hne []
    { st with vars := setVar st.vars 2 (.list []) } ⟨by simp [h0], by simp [h1], by simp, htr⟩
  simp [applicableOffersBody, hl, h'.h2, h'.ht, applicable]

end applicable

/-- Every bucket of the registry is non-empty (`register_offer` creates a bucket with its first offer). -/
def NonEmptyGroups (cfg : Cfg) : Prop := ∀ g ∈ cfg.groups, g ≠ []

theorem call_applicable (cfg : Cfg) (hne : NonEmptyGroups cfg) (f : Factory α) (s d cur : Nat) (path : List Offer) :
    (ctxAt adaptProg cfg f s (d + 3)).call "_get_applicable_offers" [.ty cur, encPath path] =
      .ok (.list ((applicable cfg cur path).map encEdge)) :=
  callAt_of_returns (fn := ⟨2, 8, applicableOffersBody⟩) (by simp [adaptProg]) rfl (app_fn _ (call_mro cfg f s d) hne _ rfl rfl rfl)

end TraitsVerif.Lemmas.AdaptSource
