/-
The hand-written model of the legacy listener machinery (`Model/Legacy.lean`) equals the
interpretation (`Model/LisL.lean`) of the translated source (`Generated/LegacyProg.lean`):
helper lemmas for `C16_register_is_source` / `C16_handle_is_source`.
-/
import TraitsVerif.Lemmas.LegacyOps
import TraitsVerif.Generated.LegacyProg
namespace TraitsVerif.Model.LisL
open TraitsVerif.Model.Legacy TraitsVerif.Generated.LegacyProg List

/-! ### `_register_simple / _register_list / _register_dict` -/

/-- The `handle_*` methods `_register_<kind>` installs on `name` / `name_items` of a link. -/
def tlMeths : Attr → List (Bool × Meth)
  | .child => [(false, .simple)]
  | .kids => [(false, .list), (true, .listItems)]
  | .group => [(false, .list), (true, .listItems)]
  | .byname => [(false, .dict), (true, .dictItems)]

/-- The `_on_trait_change` calls of `_register_<kind>` for a non-final item and a handler with 0, 3
or 4 arguments: (on `name_items`?, whose handler, `dispatch="extended"`?) in call order. -/
def srcHooks (ty : LType) (l : Link) : List (Bool × Who × Bool) :=
  (if l.notify then
      (false, Who.user, false) ::
        (if isContainer l.attr && decide (ty = .any) then [(true, Who.user, false)] else [])
    else [])
  ++ (tlMeths l.attr).map (fun p => (p.1, Who.tl p.2, true))

def expectedTail (a : Attr) (remove : Bool) : Tail :=
  match a with
  | .child => .one (!remove)
  | .kids => .each (!remove) false
  | .group => .each (!remove) false
  | .byname => .each (!remove) true

/-- The translated `_register_simple / _register_list / _register_dict`, evaluated for every trait
kind, connector, handler type, `remove`, `deferred` and `name in object.__dict__`: the notifiers
are `srcHooks` (`remove` only reaches the `_on_trait_change` calls as their `remove=` argument),
and the method goes on into `next.register` / `next.unregister` of the one value of an Instance
link, of every item of a List / Set link, of every `.values()` item of a Dict link — except that
the walk is skipped exactly for a registration of a deferred item whose attribute is not yet in
`object.__dict__` (the F87 repair of /repo 0c9dae1).  A finite table: evaluated. -/
theorem summary_link (ty : LType) (l : Link) (remove deferred materialised : Bool) :
    (summary prog (dvtOf l.attr)
        { nextNone := false, notify := l.notify, type := typeNum prog ty, remove := remove,
          deferred := deferred, materialised := materialised }).hooks = srcHooks ty l ∧
    (summary prog (dvtOf l.attr)
        { nextNone := false, notify := l.notify, type := typeNum prog ty, remove := remove,
          deferred := deferred, materialised := materialised }).tail =
      if !remove && deferred && !materialised then Tail.none else expectedTail l.attr remove := by
  rcases l with ⟨a, n⟩
  revert n remove deferred materialised
  cases ty <;> cases a <;> decide +kernel

theorem srcHooks_toHook (ty : LType) (k : Nat) (l : Link) :
    (srcHooks ty l).map (toHook k l.attr) = linkHooks ty k l := by
  rcases l with ⟨a, n⟩
  cases ty <;> cases a <;> cases n <;> rfl

/-- The machinery's own handlers go with `dispatch="extended"`, the user's with `self.dispatch`. -/
theorem srcHooks_sync (ty : LType) (l : Link) :
    ∀ p ∈ srcHooks ty l, p.2.2 = (match p.2.1 with | .tl _ => true | .user => false) := by
  rcases l with ⟨a, n⟩
  cases ty <;> cases a <;> cases n <;> decide

/-- The notifiers a non-final item attaches (or detaches) are those of the source, in call order,
whatever `deferred` / `materialised`. -/
theorem linkHooks_is_source (ty : LType) (k : Nat) (l : Link) (remove deferred materialised : Bool) :
    (summary prog (dvtOf l.attr)
        { nextNone := false, notify := l.notify, type := typeNum prog ty, remove := remove,
          deferred := deferred, materialised := materialised }).hooks.map (toHook k l.attr) = linkHooks ty k l := by
  rw [(summary_link ty l remove deferred materialised).1, srcHooks_toHook]

/-- … and of the final item (`next is None`, a scalar trait: `_register_simple`). -/
theorem finalHooks_is_source (ty : LType) (fin : Final) (remove : Bool) :
    (summary prog .constant
        { nextNone := true, notify := true, type := typeNum prog ty, remove := remove }).hooks.map
      (toFinalHook fin) = finalHooks fin := by
  cases ty <;> cases remove <;> rfl

/-- How the source goes on into the next item of a plain (not deferred) item. -/
theorem walked_is_source (h : Heap) (ty : LType) (l : Link) (o : Nat) (remove : Bool) :
    walked h l.attr o (summary prog (dvtOf l.attr)
        { nextNone := false, notify := l.notify, type := typeNum prog ty, remove := remove }).tail
      = some (!remove, targets h l.attr o) := by
  rw [(summary_link ty l remove false true).2]
  rcases l with ⟨a, n⟩
  cases remove <;> cases a <;> rfl

theorem registerSkip_eval (nn nt : Bool) (act : Bool) :
    evalCond { nextNone := nn, notify := nt, type := 0, remove := false, valActive := act } prog.registerSkip = act := by
  cases act <;> rfl

theorem unregisterGuard_eval (nn nt : Bool) :
    evalCond { nextNone := nn, notify := nt, type := 0, remove := true } prog.unregisterGuard = true := rfl

/-- `ListenerItem.register` (`remove = false`) and `unregister` (`remove = true`) of the model are
the interpreted source: one walk, the direction being the `remove` flag of the source. -/
theorem regSrc_is_model (h : Heap) (ty0 : LType) (fin : Final) (remove : Bool) :
    ∀ (ls : List Link) (k o : Nat) (s : LState),
      regSrc prog h ty0 fin remove k ls o s =
        if remove then unregister h ty0 fin k ls o s else register h ty0 fin k ls o s
  | [], k, o, s => by
    simp only [register, unregister, regSrc, registerSkip_eval, unregisterGuard_eval, finalHooks_is_source]
    cases remove <;> by_cases hact : o ∈ s.active k <;> simp [hact]
  | l :: rest, k, o, s => by
    have ih : (fun b a => regSrc prog h ty0 fin remove (k + 1) rest a b) = _ :=
      funext fun b => funext fun a => regSrc_is_model h ty0 fin remove rest (k + 1) a b
    simp only [register, unregister, regSrc, registerSkip_eval, unregisterGuard_eval, linkHooks_is_source,
      walked_is_source, ih]
    cases remove <;> by_cases hact : o ∈ s.active k <;> simp [hact]

/-! ### the handle_* methods -/

/-- The event a history operation sends, as the handle_* methods see it. -/
def eventOf (h : Heap) (op : Op) (m : Mut) : Ev :=
  match op with
  | .dictSet o key =>
    match (h.obj o).byname.find? (·.1 = key) with
    | some e => ⟨[], [], [(e.2, h.next)]⟩
    | none => ⟨[], [h.next], []⟩
  | .dictUpdate o keys =>
    let r := dictUpd (h.obj o).byname ((dedupKeys keys).zip (freshIds h (dedupKeys keys).length))
    ⟨[], r.2.1, r.2.2⟩
  | _ => ⟨scUnregs m.script, scRegs m.script, []⟩

/-- The method for a trait: the rows of the dispatch in `ListenerItem.register`, by kind of trait. -/
def methOf : Trait → Option (Meth × Bool)
  | .link .child => some (.simple, false)
  | .link .kids => some (.list, false)
  | .link .group => some (.list, false)
  | .link .byname => some (.dict, false)
  | .items .kids => some (.listItems, true)
  | .items .group => some (.listItems, true)
  | .items .byname => some (.dictItems, true)
  | _ => none

/-- `handle_list` and `handle_dict`, whoever calls them: unregister the old items, register the new. -/
theorem runH_h_list (table : Meth → Option HStmt) (items : Bool) (f : Nat) (ev : Ev) :
    runH table items f ev h_list = unregAll ev.olds ++ regAll ev.news := by
  simp [h_list, runH, evalCond, evalAtom]

theorem runH_h_dict (table : Meth → Option HStmt) (items : Bool) (f : Nat) (ev : Ev) :
    runH table items f ev h_dict = unregAll ev.olds ++ regAll ev.news := by
  simp [h_dict, runH, evalCond, evalAtom]

theorem handle_simple_src (ev : Ev) :
    handleSrc prog .simple false ev = unregAll ev.olds ++ regAll ev.news := by
  simp [handleSrc, prog, h_simple, runH]

theorem handle_list_src (ev : Ev) :
    handleSrc prog .list false ev = unregAll ev.olds ++ regAll ev.news :=
  runH_h_list _ false 2 ev

theorem handle_dict_src (ev : Ev) :
    handleSrc prog .dict false ev = unregAll ev.olds ++ regAll ev.news :=
  runH_h_dict _ false 2 ev

/-- `handle_list_items` hands `removed` / `added` to `handle_list`. -/
theorem handle_listItems_src (ev : Ev) :
    handleSrc prog .listItems true ev = unregAll ev.olds ++ regAll ev.news := by
  simp [handleSrc, prog, h_listItems, runH, runH_h_list]

/-- `handle_dict_items` hands `removed` / `added` to `handle_dict`, then re-registers the changed values. -/
theorem handle_dictItems_src (ev : Ev) :
    handleSrc prog .dictItems true ev =
      unregAll ev.olds ++ regAll ev.news ++ ev.changed.flatMap (fun c => [Act.unreg c.1, Act.reg c.2]) := by
  cases hc : ev.changed <;> simp [handleSrc, prog, h_dictItems, runH, runH_h_dict, evalCond, evalAtom, hc]

/-! ### handler signatures outside the fragment -/

/-- DST signatures (handler(new) / handler(name, new); outside the model, oracle only): what the
source installs for them, as a table: on a notifying Instance link `handle_dst` alone, on a
notifying container link `handle_error` on both traits, never the user's handler; on a `:` link
the same re-registration handlers as for the other signatures. -/
def dstHooks (a : Attr) (notify : Bool) : List (Bool × Who × Bool) :=
  match a, notify with
  | .child, true => [(false, .tl .dst, true)]
  | .child, false => [(false, .tl .simple, true)]
  | .kids, true => [(false, .tl .error, true), (true, .tl .error, true)]
  | .kids, false => [(false, .tl .list, true), (true, .tl .listItems, true)]
  | .group, true => [(false, .tl .error, true), (true, .tl .error, true)]
  | .group, false => [(false, .tl .list, true), (true, .tl .listItems, true)]
  | .byname, true => [(false, .tl .error, true), (true, .tl .error, true)]
  | .byname, false => [(false, .tl .dict, true), (true, .tl .dictItems, true)]

theorem dst_hooks_table (l : Link) (remove : Bool) :
    (summary prog (dvtOf l.attr)
        { nextNone := false, notify := l.notify, type := prog.dstListener, remove := remove }).hooks
      = dstHooks l.attr l.notify := by
  rcases l with ⟨a, n⟩
  revert n remove
  cases a <;> decide +kernel

theorem wild_flags : wild.anytraitFirst = true ∧ wild.hooksTraitAdded = true := ⟨rfl, rfl⟩

end TraitsVerif.Model.LisL
