/-
C10, the separation invariant (`Good`).  In a world whose trait definitions are
all copy-promising (`GoodCore`), mutable objects reachable
from two different instances are disjoint, and disjoint from the class-level
default templates — after every history of operations.
-/
import TraitsVerif.Lemmas.AttrFresh
namespace TraitsVerif.Model.Attr
open TraitsVerif

/-! ### The invariant -/

/-- `t` is the definition of a class trait or of an instance trait. -/
def World.Cores (w : World) (t : TraitCore) : Prop :=
  (∃ k ∈ w.classes, ∃ p ∈ k.traits, p.2.ctrait.core = t) ∨ (∃ o ∈ w.insts, ∃ p ∈ o.itraits, p.2.core = t)

/-- Well-formed world with copy-promising defaults, in which instances are
separated. -/
structure Good (E : Env) (P : Nat) (w : World) : Prop where
  wf : CtxWF P w.ctx
  three : noneId < P
  cores : ∀ t, w.Cores t → GoodCore E P w.ctx t
  templ : ∀ t, w.Cores t → copyKind t → t.dv.getD noneId < w.ctx.alloc
  vals : ∀ (i : Nat) (o : Inst), w.insts[i]? = some o → ∀ n v, assocGet o.dict n = some v → v < w.ctx.alloc
  oids : ∀ (i : Nat) (o : Inst), w.insts[i]? = some o → o.oid < w.ctx.alloc ∧ heapGet w.ctx.heap o.oid = none
  distinct : ∀ (a b : Nat) (oa ob : Inst), w.insts[a]? = some oa → w.insts[b]? = some ob → oa.oid = ob.oid → a = b
  /-- mutable objects reachable from two instances are disjoint -/
  sepI : ∀ a b x, a ≠ b → w.ReachIdx a x → w.Mut x → ¬ w.ReachIdx b x
  /-- … and are not default templates -/
  sepC : ∀ a x, w.ReachIdx a x → w.Mut x → ∀ t, w.Cores t → copyKind t → x ≠ t.dv.getD noneId

theorem World.traitOf_cores (w : World) (i : Nat) (o : Inst) (n : Name) (td : TraitDef)
    (hi : w.insts[i]? = some o) (h : w.traitOf o n = some td) : w.Cores td.core := by
  unfold World.traitOf at h
  cases hg : assocGet o.itraits n with
  | some t =>
    simp only [hg] at h
    injection h with h
    subst h
    obtain ⟨p, hp, rfl⟩ := assocGet_mem _ _ _ hg
    exact Or.inr ⟨o, List.mem_of_getElem? hi, p, hp, rfl⟩
  | none =>
    simp only [hg] at h
    unfold World.classTrait at h
    cases hc : w.classes[o.cls]? with
    | none => simp [hc] at h
    | some k =>
      simp only [hc, Option.bind_some] at h
      unfold ClassRec.get at h
      cases hf : k.traits.find? (fun e => e.1 == n) with
      | none => simp [hf] at h
      | some p =>
        simp [hf] at h
        exact Or.inl ⟨k, List.mem_of_getElem? hc, p, List.mem_of_find?_eq_some hf, by rw [h]⟩

theorem reach_lt {E : Env} {P : Nat} {w : World} (g : Good E P w) (i : Nat) (x : Id) (h : w.ReachIdx i x) :
    x < w.ctx.alloc := by
  obtain ⟨o, ho, n, v, hv, hx⟩ := h
  have hvl := g.vals i o ho n v hv
  rcases hx with rfl | hx
  · exact hvl
  · unfold World.kids at hx
    cases hg : heapGet w.ctx.heap v with
    | none => simp [hg] at hx
    | some ys =>
      simp [hg] at hx
      exact (g.wf.heap v ys hg).2.2 x hx

/-- Separation is inherited by a world in which whatever is mutable and reachable from an instance was so before, or —
for the one instance `i` — did not exist before, and the templates are templates there were: an old object is below
the allocation counter, so it is neither new nor, by `g`, shared. -/
theorem Good.sep {E : Env} {P : Nat} {w w' : World} (g : Good E P w) (i : Nat)
    (hr : ∀ a x, w'.ReachIdx a x → w'.Mut x → (w.ReachIdx a x ∧ w.Mut x) ∨ (a = i ∧ w.ctx.alloc ≤ x))
    (hc : ∀ t, w'.Cores t → copyKind t → w.Cores t) :
    (∀ a b x, a ≠ b → w'.ReachIdx a x → w'.Mut x → ¬ w'.ReachIdx b x) ∧
    (∀ a x, w'.ReachIdx a x → w'.Mut x → ∀ t, w'.Cores t → copyKind t → x ≠ t.dv.getD noneId) := by
  constructor
  · intro a b x hab ha hm hb
    rcases hr a x ha hm with ⟨ha', hm'⟩ | ⟨rfl, hx⟩ <;> rcases hr b x hb hm with ⟨hb', -⟩ | ⟨rfl, hx'⟩
    · exact g.sepI a b x hab ha' hm' hb'
    · exact absurd (reach_lt g a x ha') (Nat.not_lt.mpr hx')
    · exact absurd (reach_lt g b x hb') (Nat.not_lt.mpr hx)
    · exact hab rfl
  · intro a x ha hm t ht hk
    rcases hr a x ha hm with ⟨ha', hm'⟩ | ⟨-, hx⟩
    · exact g.sepC a x ha' hm' t (hc t ht hk) hk
    · exact fun e => absurd (g.templ t (hc t ht hk) hk) (Nat.not_lt.mpr (e ▸ hx))

theorem Good.initial {E : Env} {P : Nat} (w : World) (hi : w.insts = []) (wf : CtxWF P w.ctx) (h3 : noneId < P)
    (hc : ∀ k ∈ w.classes, ∀ p ∈ k.traits, GoodCore E P w.ctx p.2.ctrait.core ∧
      (copyKind p.2.ctrait.core → p.2.ctrait.core.dv.getD noneId < w.ctx.alloc)) : Good E P w := by
  have hcore : ∀ t, w.Cores t → GoodCore E P w.ctx t ∧ (copyKind t → t.dv.getD noneId < w.ctx.alloc) := by
    rintro t (⟨k, hk, p, hp, rfl⟩ | ⟨o, ho, _⟩)
    · exact hc k hk p hp
    · rw [hi] at ho; cases ho
  have hno : ∀ {i : Nat} {o : Inst}, w.insts[i]? = some o → False := fun h => by rw [hi] at h; cases h
  exact ⟨wf, h3, fun t ht => (hcore t ht).1, fun t ht => (hcore t ht).2, fun _ _ h => (hno h).elim,
    fun _ _ h => (hno h).elim, fun _ _ _ _ h => (hno h).elim, fun _ _ _ _ ⟨_, h, _⟩ => (hno h).elim,
    fun _ _ ⟨_, h, _⟩ => (hno h).elim⟩

/-! ### Preservation by a statement that only allocates -/

/-- `w'` is `w` after a statement on instance `i` that only allocates: other
instances and the classes are untouched, instance `i` keeps its identity, its
values are old ones, atoms, itself or fresh identities, its trait definitions
are old ones or definitions already present in the world (or `extra`). -/
structure Extends (P : Nat) (i : Nat) (extra : TraitCore → Prop) (w w' : World) : Prop where
  classes : w'.classes = w.classes
  others : ∀ j, j ≠ i → w'.insts[j]? = w.insts[j]?
  grow : CGrow P w.ctx.alloc w.ctx w'.ctx
  self : ∀ o', w'.insts[i]? = some o' → ∃ o, w.insts[i]? = some o ∧ o'.oid = o.oid ∧
    (∀ n v, assocGet o'.dict n = some v →
      assocGet o.dict n = some v ∨ FreshVal P o.oid w.ctx.alloc w'.ctx.alloc v) ∧
    (∀ p ∈ o'.itraits, w.Cores p.2.core ∨ extra p.2.core)

theorem Extends.cores {P i : Nat} {extra : TraitCore → Prop} {w w' : World} (e : Extends P i extra w w')
    (t : TraitCore) (h : w'.Cores t) : w.Cores t ∨ extra t := by
  rcases h with ⟨k, hk, p, hp, rfl⟩ | ⟨o', ho', p, hp, rfl⟩
  · exact Or.inl (Or.inl ⟨k, e.classes ▸ hk, p, hp, rfl⟩)
  · obtain ⟨j, hj⟩ := List.getElem?_of_mem ho'
    by_cases hji : j = i
    · subst hji
      obtain ⟨o, -, -, -, hit⟩ := e.self o' hj
      exact hit p hp
    · rw [e.others j hji] at hj
      exact Or.inl (Or.inr ⟨o', List.mem_of_getElem? hj, p, hp, rfl⟩)

theorem Extends.reach_other {E : Env} {P i : Nat} {extra : TraitCore → Prop} {w w' : World}
    (g : Good E P w) (e : Extends P i extra w w') (j : Nat) (hj : j ≠ i) (x : Id) :
    w'.ReachIdx j x ↔ w.ReachIdx j x := by
  unfold World.ReachIdx World.kids
  rw [e.others j hj]
  constructor
  · rintro ⟨o, ho, n, v, hv, hx⟩
    have hvl := g.vals j o ho n v hv
    rw [e.grow.old v hvl] at hx
    exact ⟨o, ho, n, v, hv, hx⟩
  · rintro ⟨o, ho, n, v, hv, hx⟩
    have hvl := g.vals j o ho n v hv
    rw [← e.grow.old v hvl] at hx
    exact ⟨o, ho, n, v, hv, hx⟩

theorem Extends.reach_self {E : Env} {P i : Nat} {extra : TraitCore → Prop} {w w' : World}
    (g : Good E P w) (e : Extends P i extra w w') (x : Id) (h : w'.ReachIdx i x) :
    w.ReachIdx i x ∨ x < P ∨ (∃ o, w.insts[i]? = some o ∧ x = o.oid) ∨ w.ctx.alloc ≤ x := by
  obtain ⟨o', ho', n, v, hv, hx⟩ := h
  obtain ⟨o, ho, hoid, hvals, -⟩ := e.self o' ho'
  rcases hvals n v hv with hold | hfresh
  · -- an old value: its elements are the old elements
    have hvl := g.vals i o ho n v hold
    left
    unfold World.kids at hx
    rw [e.grow.old v hvl] at hx
    exact ⟨o, ho, n, v, hold, hx⟩
  · rcases hx with rfl | hx
    · rcases hfresh with h1 | h1 | h1
      · exact Or.inr (Or.inl h1)
      · exact Or.inr (Or.inr (Or.inl ⟨o, ho, h1⟩))
      · exact Or.inr (Or.inr (Or.inr h1.1))
    · unfold World.kids at hx
      cases hg : heapGet w'.ctx.heap v with
      | none => simp [hg] at hx
      | some ys =>
        simp [hg] at hx
        rcases hfresh with h1 | h1 | h1
        · -- atoms have no elements
          exact absurd h1 (Nat.not_lt.mpr (e.grow.wf.heap v ys hg).1)
        · -- the object itself is not a container
          have := (g.oids i o ho)
          rw [h1, e.grow.old o.oid this.1, this.2] at hg
          cases hg
        · rcases e.grow.new v ys h1.1 hg x hx with h2 | h2
          · exact Or.inr (Or.inl h2)
          · exact Or.inr (Or.inr (Or.inr h2))

theorem Extends.good {E : Env} {P i : Nat} {extra : TraitCore → Prop} {w w' : World}
    (g : Good E P w) (e : Extends P i extra w w')
    (hx : ∀ t, extra t → ¬ copyKind t ∧ ∀ c, GoodCore E P c t) : Good E P w' := by
  have hmut_old : ∀ x, x < w.ctx.alloc → (w'.Mut x ↔ w.Mut x) := by
    intro x hx
    unfold World.Mut
    rw [e.grow.old x hx]
  have hnot_mut_atom : ∀ x, x < P → ¬ w'.Mut x := by
    intro x hx hm
    unfold World.Mut at hm
    cases hg : heapGet w'.ctx.heap x with
    | none => simp [hg] at hm
    | some ys => exact absurd hx (Nat.not_lt.mpr (e.grow.wf.heap x ys hg).1)
  have hnot_mut_oid : ∀ o, w.insts[i]? = some o → ¬ w'.Mut o.oid := by
    intro o ho hm
    have := g.oids i o ho
    unfold World.Mut at hm
    rw [e.grow.old o.oid this.1, this.2] at hm
    simp at hm
  have hreach : ∀ a x, w'.ReachIdx a x → w'.Mut x → (w.ReachIdx a x ∧ w.Mut x) ∨ (a = i ∧ w.ctx.alloc ≤ x) := by
    intro a x hr hm
    have old : w.ReachIdx a x → w.ReachIdx a x ∧ w.Mut x := fun h => ⟨h, (hmut_old x (reach_lt g a x h)).mp hm⟩
    by_cases hai : a = i
    · subst hai
      rcases e.reach_self g x hr with h | h | ⟨o, ho, rfl⟩ | h
      · exact Or.inl (old h)
      · exact (hnot_mut_atom x h hm).elim
      · exact (hnot_mut_oid o ho hm).elim
      · exact Or.inr ⟨rfl, h⟩
    · exact Or.inl (old ((e.reach_other g a hai x).mp hr))
  have hsep := g.sep i hreach (fun t ht hk => (e.cores t ht).elim id (fun h => absurd hk (hx t h).1))
  have hoidOf : ∀ (j : Nat) (o' : Inst), w'.insts[j]? = some o' → ∃ o, w.insts[j]? = some o ∧ o'.oid = o.oid := by
    intro j o' ho'
    by_cases hji : j = i
    · subst hji
      obtain ⟨o, ho, hoid, -, -⟩ := e.self o' ho'
      exact ⟨o, ho, hoid⟩
    · rw [e.others j hji] at ho'
      exact ⟨o', ho', rfl⟩
  refine ⟨e.grow.wf, g.three, ?_, ?_, ?_, ?_, ?dist, hsep.1, hsep.2⟩
  case dist =>
    intro a b oa ob ha hb hab
    obtain ⟨oa0, ha0, ea⟩ := hoidOf a oa ha
    obtain ⟨ob0, hb0, eb⟩ := hoidOf b ob hb
    exact g.distinct a b oa0 ob0 ha0 hb0 (by rw [← ea, ← eb]; exact hab)
  · -- cores, templ: an old definition stays copy-promising as the context grows, its template being an old object
    intro t ht
    rcases e.cores t ht with h | h
    · exact ((GoodAt.mk g.wf (g.cores t h) (g.templ t h)).grow e.grow).core
    · exact (hx t h).2 _
  · intro t ht hk
    rcases e.cores t ht with h | h
    · exact ((GoodAt.mk g.wf (g.cores t h) (g.templ t h)).grow e.grow).templ hk
    · exact absurd hk (hx t h).1
  · -- vals
    intro j o' ho' n v hv
    by_cases hji : j = i
    · subst hji
      obtain ⟨o, ho, hoid, hvals, -⟩ := e.self o' ho'
      rcases hvals n v hv with h | h
      · exact Nat.lt_of_lt_of_le (g.vals j o ho n v h) e.grow.le
      · rcases h with h | h | h
        · exact Nat.lt_of_lt_of_le h e.grow.wf.base
        · rw [h]; exact Nat.lt_of_lt_of_le (g.oids j o ho).1 e.grow.le
        · exact h.2
    · rw [e.others j hji] at ho'
      exact Nat.lt_of_lt_of_le (g.vals j o' ho' n v hv) e.grow.le
  · -- oids
    intro j o' ho'
    obtain ⟨o, ho, hoid⟩ := hoidOf j o' ho'
    have := g.oids j o ho
    rw [hoid]
    exact ⟨Nat.lt_of_lt_of_le this.1 e.grow.le, by rw [e.grow.old _ this.1]; exact this.2⟩

/-! ### The operations of the world model -/

theorem absorb_cores (w : World) (i : Nat) (o : Inst) (n : Name) (td : TraitDef) (s : OSt) (hi : w.insts[i]? = some o)
    (hcore : w.Cores td.core) (p : Name × TraitDef) (hp : p ∈ (o.absorb n td.core s).itraits) : w.Cores p.2.core := by
  unfold Inst.absorb at hp
  simp only [] at hp
  cases hit : s.it with
  | none =>
    simp only [hit] at hp
    exact Or.inr ⟨o, List.mem_of_getElem? hi, p, hp, rfl⟩
  | some l =>
    simp only [hit] at hp
    rcases mem_assocSet _ _ _ _ hp with h | h
    · exact Or.inr ⟨o, List.mem_of_getElem? hi, p, h, rfl⟩
    · subst h
      simp only []
      cases hcur : assocGet o.itraits n with
      | none => simpa [hcur] using hcore
      | some t0 =>
        obtain ⟨q, hq, hq2⟩ := assocGet_mem _ _ _ hcur
        simp only [Option.map_some, Option.getD_some]
        exact Or.inr ⟨o, List.mem_of_getElem? hi, q, hq, by rw [hq2]⟩

theorem onAttr_extends {E : Env} {P : Nat} {w : World} (g : Good E P w) (i : Nat) (n : Name)
    (f : TraitCore → OSt → Res × OSt)
    (hf : ∀ t s, GoodAt E P t s.ctx → OGrow P s (f t s).2) :
    Extends P i (fun _ => False) w (w.onAttr i n f).2 := by
  have hrefl : Extends P i (fun _ => False) w w :=
    ⟨rfl, fun _ _ => rfl, CGrow.refl _ g.wf, fun o' ho' => ⟨o', ho', rfl, fun _ _ h => Or.inl h,
      fun p hp => Or.inl (Or.inr ⟨o', List.mem_of_getElem? ho', p, hp, rfl⟩)⟩⟩
  rcases onAttr_cases w i n f with ⟨h, -⟩ | ⟨o, td, r, s, hi, ht, hr, h⟩ <;> rw [h]
  · exact hrefl
  · have hcore := w.traitOf_cores i o n td hi ht
    have hs := hf td.core (w.focus o n) ⟨g.wf, g.cores td.core hcore, g.templ td.core hcore⟩
    rw [hr] at hs
    refine ⟨rfl, fun j hj => setInst_get_other w i j _ _ hj, hs.grow, ?_⟩
    intro o' ho'
    rw [setInst_get_self w i o _ _ hi] at ho'
    injection ho' with ho'
    subst ho'
    refine ⟨o, hi, rfl, ?_, ?_⟩
    · intro m u hu
      rw [absorb_dict] at hu
      split at hu
      · -- the attribute itself: what the statement left in the slot
        rename_i hmn
        subst hmn
        rcases hs.slot with e | ⟨v, e, fv⟩
        · exact Or.inl ((e ▸ hu : (w.focus o m).slot = some u))
        · right
          rw [hu] at e
          injection e with e
          exact e ▸ fv
      · exact Or.inl hu
    · exact fun p hp => Or.inl (absorb_cores w i o n td s hi hcore p hp)

theorem mutate_good {E : Env} {P : Nat} {w : World} (g : Good E P w) (i : Nat) (cid x : Id)
    (hr : w.ReachIdx i cid) (hx : x < P) : Good E P { w with ctx := (w.ctx.mutate cid x).2 } := by
  unfold Ctx.mutate
  cases hg : heapGet w.ctx.heap cid with
  | none => exact g
  | some ys =>
    simp only []
    split
    · exact g
    · have hmut : w.Mut cid := by unfold World.Mut; rw [hg]; rfl
      have hne : ∀ y, y ≠ cid → heapGet (heapSet w.ctx.heap cid (ys ++ [x])) y = heapGet w.ctx.heap y :=
        fun y hy => heapGet_heapSet_ne _ _ _ _ hy
      have hself : heapGet (heapSet w.ctx.heap cid (ys ++ [x])) cid = some (ys ++ [x]) :=
        heapGet_heapSet_self _ _ _
      have hreach : ∀ a y, World.ReachIdx { w with ctx := { w.ctx with heap := heapSet w.ctx.heap cid (ys ++ [x]) } } a y →
          w.ReachIdx a y ∨ y = x := by
        rintro a y ⟨o, ho, n, v, hv, hy⟩
        rcases hy with rfl | hy
        · exact Or.inl ⟨o, ho, n, y, hv, Or.inl rfl⟩
        · unfold World.kids at hy
          simp only [] at hy
          by_cases hvc : v = cid
          · subst hvc
            rw [hself] at hy
            simp at hy
            rcases hy with hy | hy
            · exact Or.inl ⟨o, ho, n, v, hv, Or.inr (by unfold World.kids; rw [hg]; exact hy)⟩
            · exact Or.inr hy
          · rw [hne v hvc] at hy
            exact Or.inl ⟨o, ho, n, v, hv, Or.inr hy⟩
      have hxnm : ¬ w.Mut x := by
        intro hm
        unfold World.Mut at hm
        cases hgx : heapGet w.ctx.heap x with
        | none => simp [hgx] at hm
        | some zs => exact absurd hx (Nat.not_lt.mpr (g.wf.heap x zs hgx).1)
      have hmut' : ∀ y, World.Mut { w with ctx := { w.ctx with heap := heapSet w.ctx.heap cid (ys ++ [x]) } } y ↔ w.Mut y := by
        intro y
        unfold World.Mut
        simp only []
        rw [heapSet_isSome _ _ _ _ hmut]
      have hsep := g.sep i (fun a y ha hm => (hreach a y ha).elim (fun h => Or.inl ⟨h, (hmut' y).mp hm⟩)
        (fun h => absurd (h ▸ (hmut' y).mp hm) hxnm)) (fun _ ht _ => ht)
      refine ⟨⟨g.wf.base, ?_⟩, g.three, ?_, g.templ, g.vals, ?_, g.distinct, hsep.1, hsep.2⟩
      · intro y zs hy
        simp only [] at hy
        by_cases hyc : y = cid
        · subst hyc
          rw [hself] at hy
          injection hy with hy
          subst hy
          obtain ⟨a1, a2, a3⟩ := g.wf.heap y ys hg
          refine ⟨a1, a2, fun z hz => ?_⟩
          rcases List.mem_append.mp hz with h | h
          · exact a3 z h
          · simp at h; subst h; exact Nat.lt_of_lt_of_le hx g.wf.base
        · rw [hne y hyc] at hy
          exact g.wf.heap y zs hy
      · intro t ht
        have gc := g.cores t ht
        refine ⟨gc.const, fun hkind => ?_, gc.factory, gc.validate⟩
        have : t.dv.getD noneId ≠ cid := fun e => g.sepC i cid hr hmut t ht hkind e.symm
        simp only []
        rw [hne _ this]
        exact gc.copy hkind
      · intro j o ho
        have := g.oids j o ho
        refine ⟨this.1, ?_⟩
        have : o.oid ≠ cid := fun e => by rw [e, hg] at this; cases this.2
        simp only []
        rw [hne _ this]
        exact (g.oids j o ho).2

/-- The world after `cls()`. -/
def World.withNew (w : World) (k : Nat) : World :=
  { w with insts := w.insts ++ [{ oid := w.ctx.alloc, cls := k }],
           ctx := { w.ctx with alloc := w.ctx.alloc + 1 } }

theorem withNew_get (w : World) (k j : Nat) (o : Inst) (ho : (w.withNew k).insts[j]? = some o) :
    w.insts[j]? = some o ∨ (j = w.insts.length ∧ o = { oid := w.ctx.alloc, cls := k }) := by
  unfold World.withNew at ho
  simp only [] at ho
  rcases Nat.lt_or_ge j w.insts.length with h | h
  · rw [List.getElem?_append_left h] at ho; exact Or.inl ho
  · rw [List.getElem?_append_right h] at ho
    right
    cases hj : j - w.insts.length with
    | zero => rw [hj] at ho; simp at ho; exact ⟨by omega, ho.symm⟩
    | succ m => rw [hj] at ho; simp at ho

/-- The new instance has no instance traits. -/
theorem withNew_cores (w : World) (k : Nat) (t : TraitCore) (h : (w.withNew k).Cores t) : w.Cores t := by
  rcases h with ⟨c, hc, p, hp, rfl⟩ | ⟨o, ho, p, hp, rfl⟩
  · exact Or.inl ⟨c, hc, p, hp, rfl⟩
  · unfold World.withNew at ho
    simp only [List.mem_append, List.mem_singleton] at ho
    rcases ho with ho | ho
    · exact Or.inr ⟨o, ho, p, hp, rfl⟩
    · subst ho
      simp at hp

/-- The new instance's identity is the allocation counter, which no instance has. -/
theorem withNew_distinct (w : World) (k : Nat) (hlt : ∀ (j : Nat) (o : Inst), w.insts[j]? = some o → o.oid < w.ctx.alloc)
    (hd : ∀ (a b : Nat) (oa ob : Inst), w.insts[a]? = some oa → w.insts[b]? = some ob → oa.oid = ob.oid → a = b)
    (a b : Nat) (oa ob : Inst) (ha : (w.withNew k).insts[a]? = some oa) (hb : (w.withNew k).insts[b]? = some ob)
    (hab : oa.oid = ob.oid) : a = b := by
  rcases withNew_get w k a oa ha with h1 | ⟨h1, rfl⟩
  · rcases withNew_get w k b ob hb with h2 | ⟨h2, rfl⟩
    · exact hd a b oa ob h1 h2 hab
    · exact absurd hab (Nat.ne_of_lt (hlt a oa h1))
  · rcases withNew_get w k b ob hb with h2 | ⟨h2, rfl⟩
    · exact absurd hab.symm (Nat.ne_of_lt (hlt b ob h2))
    · rw [h1, h2]

theorem new_good {E : Env} {P : Nat} {w : World} (g : Good E P w) (k : Nat) : Good E P (w.withNew k) := by
  have hget := fun j o ho => (withNew_get w k j o ho).imp id And.right
  have hreach : ∀ a y, (w.withNew k).ReachIdx a y → w.ReachIdx a y := by
    rintro a y ⟨o, ho, n, v, hv, hy⟩
    rcases hget a o ho with h | h
    · exact ⟨o, h, n, v, hv, hy⟩
    · subst h
      simp [assocGet] at hv
  have hcores := withNew_cores w k
  have hsep := g.sep 0 (fun a x ha hm => Or.inl ⟨hreach a x ha, hm⟩) (fun t ht _ => hcores t ht)
  refine ⟨⟨Nat.le_succ_of_le g.wf.base, fun x ys h => ?_⟩, g.three, fun t ht => ?_, fun t ht hk => ?_,
    fun j o ho n v hv => ?_, fun j o ho => ?_, withNew_distinct w k (fun j o h => (g.oids j o h).1) g.distinct,
    hsep.1, hsep.2⟩
  · obtain ⟨a1, a2, a3⟩ := g.wf.heap x ys h
    exact ⟨a1, Nat.lt_succ_of_lt a2, fun y hy => Nat.lt_succ_of_lt (a3 y hy)⟩
  · have gc := g.cores t (hcores t ht)
    exact ⟨gc.const, gc.copy, gc.factory, gc.validate⟩
  · exact Nat.lt_succ_of_lt (g.templ t (hcores t ht) hk)
  · rcases hget j o ho with h | h
    · exact Nat.lt_succ_of_lt (g.vals j o h n v hv)
    · subst h; simp [assocGet] at hv
  · rcases hget j o ho with h | h
    · exact ⟨Nat.lt_succ_of_lt (g.oids j o h).1, (g.oids j o h).2⟩
    · subst h
      exact ⟨Nat.lt_succ_self _, heapGet_fresh_none g.wf _ (Nat.le_refl _)⟩

/-- Side conditions on the operations of a history: assigned and inserted values
are atoms, traits added at run time are copy-promising and bring no template. -/
def OpOk (E : Env) (P : Nat) : WOp → Prop
  | .set _ _ v => v < P
  | .mutate _ _ x => x < P
  | .mutateInner _ _ x => x < P
  | .addTrait _ _ t => ¬ copyKind t ∧ ∀ c, GoodCore E P c t
  | .del _ _ => False        -- a reset re-arms the default: outside the histories of C10_fresh_partial / C10_once
  | _ => True

/-- Boolean version of `OpOk` for histories without `add_trait`. -/
def opOkB (P : Nat) : WOp → Bool
  | .set _ _ v => decide (v < P)
  | .mutate _ _ x => decide (x < P)
  | .mutateInner _ _ x => decide (x < P)
  | .addTrait _ _ _ => false
  | .del _ _ => false
  | _ => true

theorem opOk_of_bool {E : Env} {P : Nat} (l : List WOp) (h : l.all (opOkB P) = true) : ∀ op ∈ l, OpOk E P op := by
  intro op hop
  have hb : opOkB P op = true := List.all_eq_true.mp h op hop
  clear h hop
  cases op <;> simp_all [opOkB, OpOk]

theorem setInst_extends {E : Env} {P : Nat} {w : World} (g : Good E P w) (i : Nat) (o o' : Inst)
    (extra : TraitCore → Prop) (hi : w.insts[i]? = some o) (h1 : o'.oid = o.oid) (h2 : o'.dict = o.dict)
    (h3 : ∀ p ∈ o'.itraits, w.Cores p.2.core ∨ extra p.2.core) :
    Extends P i extra w (w.setInst i o' w.ctx) := by
  refine ⟨rfl, fun j hj => setInst_get_other w i j _ _ hj, CGrow.refl _ g.wf, ?_⟩
  intro o2 ho2
  rw [setInst_get_self w i o _ _ hi] at ho2
  injection ho2 with ho2
  subst ho2
  exact ⟨o, hi, h1, fun n v hv => Or.inl (h2 ▸ hv), h3⟩

theorem step_good {E : Env} {P : Nat} {w : World} (g : Good E P w) (op : WOp) (hop : OpOk E P op) :
    Good E P (World.step E w op).2 := by
  have hnone : ∀ t : TraitCore, False → ¬ copyKind t ∧ ∀ c, GoodCore E P c t := fun _ h => h.elim
  have hattr : ∀ i n (a : Op), (∀ v, a.assigned = some v → v < P) → a ≠ .del →
      Good E P (w.onAttr i n (fun t s => Attr.step E t s a)).2 := fun i n a ha hd =>
    (onAttr_extends g i n _ (fun t s gt => step_ogrow t s a gt ha hd)).good g hnone
  have hget := fun i n => hattr i n .get nofun nofun
  have hmut : ∀ i n x (op : WOp), op = .mutate i n x ∨ op = .mutateInner i n x → x < P →
      Good E P (World.step E w op).2 := by
    intro i n x op hop hx
    rcases step_mutate E w i n x op hop _ rfl with h | ⟨tgt, hr, h⟩ <;> rw [h]
    · exact hget i n
    · exact mutate_good (hget i n) i tgt x hr hx
  cases op with
  | new k =>
    simp only [World.step]
    split
    · exact new_good g k
    · exact g
  | get i n => exact hget i n
  | set i n v => exact hattr i n (.set v) (fun u h => Option.some.inj h ▸ hop) nofun
  | regDyn i n k => exact hattr i n _ nofun nofun
  | regObs i n k => exact hattr i n _ nofun nofun
  | regAny i k =>
    simp only [World.step]
    cases hi : w.insts[i]? with
    | none => exact g
    | some o =>
      simp only []
      have e := setInst_extends g i o
        { o with on := (({ on := o.on } : OSt).regAny k false).on } (fun _ => False) hi rfl rfl
        (fun p hp => Or.inl (Or.inr ⟨o, List.mem_of_getElem? hi, p, hp, rfl⟩))
      exact e.good g hnone
  | del i n => exact hop.elim
  | query i =>
    simp only [World.step]
    cases w.insts[i]? <;> exact g
  | addTrait i n t =>
    simp only [World.step, World.addTrait]
    cases hi : w.insts[i]? with
    | none => exact g
    | some o =>
      simp only []
      have e := setInst_extends g i o
        { o with itraits := assocSet o.itraits n { core := t, notifiers := match w.traitOf o n with
            | some td => td.notifiers.map (fun l => l)
            | none => none } } (fun c => c = t) hi rfl rfl (by
          intro p hp
          rcases mem_assocSet _ _ _ _ hp with h | h
          · exact Or.inl (Or.inr ⟨o, List.mem_of_getElem? hi, p, h, rfl⟩)
          · subst h; exact Or.inr rfl)
      exact e.good g (fun c (hc : c = t) => by rw [hc]; exact hop)
  | mutate i n x => exact hmut i n x _ (Or.inl rfl) hop
  | mutateInner i n x => exact hmut i n x _ (Or.inr rfl) hop

theorem run_good {E : Env} {P : Nat} (h : List WOp) (w : World) (g : Good E P w) (H : ∀ op ∈ h, OpOk E P op) :
    Good E P (World.run E w h) :=
  World.run_induction E (Good E P) (OpOk E P) (fun _ op g hop => step_good g op hop) h w g H

end TraitsVerif.Model.Attr
