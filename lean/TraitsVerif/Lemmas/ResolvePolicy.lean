/-
Per-kind facts about the setters / getters and histories (`run`).
-/
import TraitsVerif.Lemmas.ResolveHier
namespace TraitsVerif.Model.Resolve
open TraitsVerif

theorem setattrKind_disallow {E : Env} {t : Trait} (h : t.kind = .disallow) (d : Map Val) (n : Name)
    (v : Option Val) : setattrKind E t d n v = .error .traitError := by
  unfold setattrKind; rw [h]

theorem getattrKind_disallow {E : Env} {t : Trait} (h : t.kind = .disallow) (d : Map Val) (n : Name) :
    getattrKind E t d n = .error .attributeError := by
  unfold getattrKind; rw [h]

theorem setattrKind_constant {E : Env} {t : Trait} (h : t.kind = .constant) (d : Map Val) (n : Name)
    (v : Option Val) : setattrKind E t d n v = .error .traitError := by
  unfold setattrKind; rw [h]

theorem getattrKind_constant {E : Env} {t : Trait} (h : t.kind = .constant) (d : Map Val) (n : Name) :
    getattrKind E t d n = .ok (t.dflt, d) := by
  unfold getattrKind; rw [h]

theorem getattrKind_event {E : Env} {t : Trait} (h : t.kind = .event) (d : Map Val) (n : Name) :
    getattrKind E t d n = .error .attributeError := by
  unfold getattrKind; rw [h]

theorem setattrKind_event {E : Env} {t : Trait} (h : t.kind = .event) (d : Map Val) (n : Name)
    (v : Option Val) :
    setattrKind E t d n v = match v, t.validator with
      | some v, some i => (E.validate i 0 v).map (fun _ => d)
      | _, _ => .ok d := by
  unfold setattrKind; rw [h]
  cases v with
  | none => rfl
  | some v => cases t.validator <;> rfl

theorem setattrKind_event_dict {E : Env} {t : Trait} (h : t.kind = .event) {d d' : Map Val} {n : Name}
    {v : Option Val} (hk : setattrKind E t d n v = .ok d') : d' = d := by
  rw [setattrKind_event h] at hk
  split at hk
  · obtain ⟨_, _, rfl⟩ := Except.map_eq_ok hk; rfl
  · cases hk; rfl

theorem setattrKind_readonly_del {E : Env} {t : Trait} (h : t.kind = .readonly) (d : Map Val) (n : Name) :
    setattrKind E t d n none = .error .traitError := by
  unfold setattrKind; rw [h]

theorem setattrKind_readonly_set {E : Env} {t : Trait} (h : t.kind = .readonly) (hd : t.dflt = .undef)
    (d : Map Val) (n : Name) (v : Val) :
    setattrKind E t d n (some v) =
      if d.get n = none ∨ d.get n = some .undef then .ok (d.set n v) else .error .traitError := by
  unfold setattrKind; rw [h]
  simp only [hd, ne_eq, not_true_eq_false, ↓reduceIte]
  cases hg : d.get n with
  | none => simp [setattrPython]
  | some cur =>
    by_cases hc : cur = .undef
    · subst hc; simp [setattrPython]
    · simp [hc]

theorem setattrKind_readonly_default {E : Env} {t : Trait} (h : t.kind = .readonly) (hd : t.dflt ≠ .undef)
    (d : Map Val) (n : Name) (v : Option Val) : setattrKind E t d n v = .error .traitError := by
  unfold setattrKind; rw [h]
  cases v with
  | none => rfl
  | some v => simp [hd]

theorem getattrKind_readonly {E : Env} {t : Trait} (h : t.kind = .readonly) (d : Map Val) (n : Name) :
    getattrKind E t d n = .ok (t.dflt, d.set n t.dflt) := by
  unfold getattrKind; rw [h]

theorem getattrKind_trait {E : Env} {t : Trait} (h : t.kind = .trait) (d : Map Val) (n : Name) :
    getattrKind E t d n = .ok (t.dflt, d.set n t.dflt) := by
  unfold getattrKind; rw [h]

theorem setattrKind_trait_untyped {E : Env} {t : Trait} (h : t.kind = .trait) (hv : t.validator = none)
    (d : Map Val) (n : Name) (v : Val) : setattrKind E t d n (some v) = .ok (d.set n v) := by
  unfold setattrKind; rw [h]; simp only [hv]

theorem step_removeTrait_spec (E : Env) {w : World} {oi : Nat} {o : Obj} {c : Cls} (ho : w.objs[oi]? = some o)
    (hc : w.classes[o.cls]? = some c) (name : Name) :
    ∃ o', (step E w (.removeTrait oi name)).1.objs[oi]? = some o' ∧ o'.itraits.get name = none ∧
      o'.cls = o.cls ∧ (step E w (.removeTrait oi name)).1.classes = w.classes ∧
      (step E w (.removeTrait oi name)).2 = .ok (.bool (o.itraits.get name).isSome) ∧
      (∀ k, k ≠ name → o'.itraits.get k = o.itraits.get k ∧ o'.dict.get k = o.dict.get k) := by
  simp only [step]
  rw [withObj_eq ho hc, removeTrait_eq]
  cases h0 : trait0 c o name with
  | none =>
    obtain ⟨hi, _⟩ := trait0_none h0
    exact ⟨o, ho, hi, rfl, rfl, by rw [hi]; rfl, fun _ _ => ⟨rfl, rfl⟩⟩
  | some _ =>
    exact ⟨_, getElem?_set_self' ho, Map.get_erase_same _ _, rfl, rfl, rfl,
      fun k hk => ⟨Map.get_erase_ne _ (Ne.symm hk), Map.get_erase_ne _ (Ne.symm hk)⟩⟩

/-! ### histories -/

theorem run_append (E : Env) (w : World) (a b : List Op) :
    (run E w (a ++ b)).1 = (run E (run E w a).1 b).1 := by
  induction a generalizing w with
  | nil => rfl
  | cons op a ih => simp only [List.cons_append, run]; exact ih _

theorem run_snoc (E : Env) (w : World) (a : List Op) (op : Op) :
    (run E w (a ++ [op])).1 = (step E (run E w a).1 op).1 := by
  rw [run_append]; rfl

theorem GovDict_run (E : Env) {P : Trait → Prop} {w : World} (hw : NoDeleg w) {oi : Nat} {name : Name}
    {r : Option Val} (hg : GovAt P w oi name) (hd : DictAt w oi name r)
    (hset : ∀ t d value d', P t → d.get name = r → setattrKind E t d name value = .ok d' → d'.get name = r)
    (hget : ∀ t d v d', P t → d.get name = r → d.get name = none →
      getattrKind E t d name = .ok (v, d') → d'.get name = r)
    {ops : List Op} (hplain : ∀ op ∈ ops, op.Plain)
    (hadd : ∀ op ∈ ops, ∀ t, op = .addTrait oi name t → P t)
    (hrem : ∀ op ∈ ops, op = .removeTrait oi name → r = none) :
    NoDeleg (run E w ops).1 ∧ GovAt P (run E w ops).1 oi name ∧ DictAt (run E w ops).1 oi name r :=
  run_invariant E (I := fun w => NoDeleg w ∧ GovAt P w oi name ∧ DictAt w oi name r)
    (ok := fun op => op.Plain ∧ (∀ t, op = .addTrait oi name t → P t) ∧ (op = .removeTrait oi name → r = none))
    (fun _ _ ⟨hw, hg, hd⟩ ⟨hp, ha, hr⟩ => ⟨NoDeleg_step E hw hp, GovDict_step E hw hg hd ha hset hget hr⟩)
    ⟨hw, hg, hd⟩ fun op h => ⟨hplain op h, hadd op h, hrem op h⟩

end TraitsVerif.Model.Resolve
