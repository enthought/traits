/-
Facts about the builtin-dict model `Py.Dict` (association lists): lookups after
`set` / `erase` / `update`, preservation of the no-duplicate-keys invariant, and
`d.update(dict(pairs)) = d.update(pairs)` including insertion order.
-/
import TraitsVerif.Py.Dict
import TraitsVerif.Lemmas.Common
namespace TraitsVerif.Py.Dict
variable {K V : Type} [DecidableEq K]

@[simp] theorem get?_nil (k : K) : get? ([] : Dict K V) k = none := rfl

theorem get?_cons (k' : K) (v : V) (d : Dict K V) (k : K) :
    get? ((k', v) :: d) k = if k' = k then some v else get? d k := rfl

theorem contains_eq (d : Dict K V) (k : K) : contains d k = (get? d k).isSome := rfl

theorem get?_eq_none_iff {d : Dict K V} {k : K} : get? d k = none ↔ k ∉ keys d := by
  fun_induction get? d k <;> simp_all [keys]
  rename_i h _; exact fun _ e => h e.symm

theorem contains_iff {d : Dict K V} {k : K} : contains d k = true ↔ k ∈ keys d := by
  rw [contains_eq, ← Option.ne_none_iff_isSome, Ne, get?_eq_none_iff, Classical.not_not]

theorem contains_false_iff {d : Dict K V} {k : K} : contains d k = false ↔ get? d k = none := by
  rw [contains_eq]; cases get? d k <;> simp

theorem mem_of_get? {d : Dict K V} {k : K} {v : V} (h : get? d k = some v) : (k, v) ∈ d := by
  fun_induction get? d k <;> simp_all

theorem get?_of_mem {d : Dict K V} (hwf : WF d) {k : K} {v : V} (h : (k, v) ∈ d) : get? d k = some v := by
  induction d with
  | nil => cases h
  | cons p d ih =>
    obtain ⟨k', v'⟩ := p
    simp only [WF, keys, List.map_cons, List.nodup_cons] at hwf
    rw [get?_cons]
    rcases List.mem_cons.mp h with h | h
    · cases h; simp
    · have : k ∈ keys d := List.mem_map.mpr ⟨(k, v), h, rfl⟩
      have hne : k' ≠ k := fun e => hwf.1 (e ▸ this)
      simp only [hne, if_false]; exact ih hwf.2 h

theorem get?_append (a b : Dict K V) (k : K) :
    get? (a ++ b) k = match get? a k with | some v => some v | none => get? b k := by
  fun_induction get? a k <;> simp_all [get?_cons]

/-! #### set -/

/-! The arms of `set`: the dict is empty; the key is the first one; it is not. -/

theorem get?_set (d : Dict K V) (k : K) (v : V) (k2 : K) :
    get? (set d k v) k2 = if k = k2 then some v else get? d k2 := by
  fun_induction set d k v <;> grind [get?_cons, get?]

theorem keys_set (d : Dict K V) (k : K) (v : V) :
    keys (set d k v) = if contains d k then keys d else keys d ++ [k] := by
  fun_induction set d k v <;> simp_all [keys, contains, get?]
  split <;> simp [*]

theorem wf_set {d : Dict K V} (h : WF d) (k : K) (v : V) : WF (set d k v) := by
  unfold WF at *
  rw [keys_set]
  split
  · exact h
  · rename_i hc
    rw [List.nodup_append]
    refine ⟨h, by simp, ?_⟩
    intro a ha b hb
    simp only [List.mem_singleton] at hb
    subst hb
    intro e; subst e
    exact hc (contains_iff.mpr ha)

theorem set_ne_nil (d : Dict K V) (k : K) (v : V) : set d k v ≠ [] := by
  fun_cases set d k v <;> simp

theorem set_set (d : Dict K V) (k : K) (v w : V) : set (set d k v) k w = set d k w := by
  fun_induction set d k v <;> simp_all [set]

theorem set_comm_of_contains (d : Dict K V) (k k2 : K) (v v2 : V)
    (hc : contains d k = true) (hne : k ≠ k2) :
    set (set d k2 v2) k v = set (set d k v) k2 v2 := by
  induction d with
  | nil => simp [contains_eq] at hc
  | cons p d ih =>
    obtain ⟨k', v'⟩ := p
    simp only [set]
    by_cases h1 : k' = k
    · subst h1
      simp [hne, set]
    · have hc' : contains d k = true := by
        simpa [contains_eq, get?_cons, h1] using hc
      by_cases h2 : k' = k2
      · subst h2; simp [h1, set]
      · simp [h1, h2, set, ih hc']

/-! #### erase -/

theorem get?_filter (p : K → Bool) (d : Dict K V) (k : K) :
    get? (d.filter fun q => p q.1) k = if p k then get? d k else none := by
  induction d with
  | nil => simp
  | cons q d ih =>
    obtain ⟨k', v⟩ := q
    by_cases hk : k' = k
    · subst hk; cases hp : p k' <;> simp [hp, get?_cons, ih]
    · cases hp : p k' <;> simp [hp, get?_cons, ih, hk]

theorem get?_map (f : K → V → V) (d : Dict K V) (k : K) :
    get? (d.map fun q => (q.1, f q.1 q.2)) k = (get? d k).map (f k) := by
  induction d with
  | nil => rfl
  | cons q d ih =>
    obtain ⟨k', v⟩ := q
    by_cases hk : k' = k <;> simp [get?_cons, ih, hk]

theorem get?_erase (d : Dict K V) (k k2 : K) :
    get? (erase d k) k2 = if k2 = k then none else get? d k2 := by
  rw [erase, get?_filter fun x => decide (x ≠ k)]
  by_cases h : k2 = k <;> simp [h]

theorem keys_erase_sublist (d : Dict K V) (k : K) : (keys (erase d k)).Sublist (keys d) := by
  unfold keys erase
  exact List.Sublist.map _ List.filter_sublist

theorem wf_erase {d : Dict K V} (h : WF d) (k : K) : WF (erase d k) :=
  List.Nodup.sublist (keys_erase_sublist d k) h

theorem mem_erase {d : Dict K V} {k : K} {p : K × V} (h : p ∈ erase d k) : p ∈ d :=
  (List.mem_filter.mp h).1

/-! #### dropLast / getLast? (popitem) -/

omit [DecidableEq K] in
theorem wf_dropLast {d : Dict K V} (h : WF d) : WF d.dropLast :=
  List.Nodup.sublist (List.Sublist.map _ (List.dropLast_sublist d)) h

theorem popitem_eq_erase {d : Dict K V} (hwf : WF d) {k : K} {v : V} (h : d.getLast? = some (k, v)) :
    get? d k = some v ∧ d.dropLast = erase d k := by
  have hd := (Common.dropLast_append_of_getLast? h).symm
  refine ⟨get?_of_mem hwf (hd ▸ by simp), ?_⟩
  generalize d.dropLast = d' at hd
  subst hd
  simp only [WF, keys, List.map_append, List.map_cons, List.map_nil, List.nodup_append] at hwf
  have : ∀ p ∈ d', (!decide (p.1 = k)) = true := fun p hp => by
    simpa using hwf.2.2 p.1 (List.mem_map_of_mem hp) k (by simp)
  simpa [erase, List.filter_append] using (List.filter_eq_self.mpr this).symm

/-! #### update -/

/-- The value the last pair with key `k` carries. -/
def lastVal : List (K × V) → K → Option V
  | [], _ => none
  | (k', v) :: ps, k =>
    match lastVal ps k with
    | some x => some x
    | none => if k' = k then some v else none

theorem get?_update (d : Dict K V) (ps : List (K × V)) (k : K) :
    get? (update d ps) k = match lastVal ps k with | some x => some x | none => get? d k := by
  induction ps generalizing d with
  | nil => rfl
  | cons p ps ih =>
    obtain ⟨k', v⟩ := p
    simp only [update, ih, get?_set, lastVal]
    cases lastVal ps k with
    | some x => rfl
    | none => by_cases h : k' = k <;> simp [h]

theorem wf_update {d : Dict K V} (h : WF d) (ps : List (K × V)) : WF (update d ps) := by
  induction ps generalizing d with
  | nil => exact h
  | cons p ps ih => exact ih (wf_set h _ _)

omit [DecidableEq K] in
theorem wf_nil : WF ([] : Dict K V) := by simp [WF, keys]

theorem wf_ofPairs (ps : List (K × V)) : WF (ofPairs ps) := wf_update wf_nil ps

theorem contains_set_self (d : Dict K V) (k : K) (v : V) : contains (set d k v) k = true := by
  simp [contains_eq, get?_set]

theorem contains_set_of_contains {d : Dict K V} {k : K} (h : contains d k = true) (k2 : K) (v : V) :
    contains (set d k2 v) k = true := by
  simp only [contains_eq, get?_set] at *
  split <;> simp [h]

/-- A key already present keeps its slot, so overwriting it commutes with an update that does not mention it. -/
theorem set_update_comm (a : Dict K V) (e : List (K × V)) (k : K) (v : V)
    (hk : k ∉ e.map Prod.fst) (hc : contains a k = true) :
    set (update a e) k v = update (set a k v) e := by
  induction e generalizing a with
  | nil => rfl
  | cons p r ih =>
    obtain ⟨k2, v2⟩ := p
    simp only [List.map_cons, List.mem_cons, not_or] at hk
    simp only [update]
    rw [ih (set a k2 v2) hk.2 (contains_set_of_contains hc _ _)]
    rw [set_comm_of_contains a k k2 v v2 hc hk.1]

theorem update_set (d : Dict K V) (e : Dict K V) (hwf : WF e) (k : K) (v : V) :
    update d (set e k v) = set (update d e) k v := by
  induction e generalizing d with
  | nil => rfl
  | cons p e ih =>
    obtain ⟨k1, v1⟩ := p
    have hwf' : k1 ∉ keys e ∧ WF e := by simpa [WF, keys] using hwf
    simp only [set]
    by_cases h : k1 = k
    · subst h
      simp only [if_true, update]
      rw [set_update_comm (set d k1 v1) e k1 v hwf'.1 (contains_set_self _ _ _), set_set]
    · simp only [h, if_false, update]
      exact ih (set d k1 v1) hwf'.2

theorem update_update (d e : Dict K V) (hwf : WF e) (ps : List (K × V)) :
    update d (update e ps) = update (update d e) ps := by
  induction ps generalizing e with
  | nil => rfl
  | cons p ps ih =>
    simp only [update]
    rw [ih (set e p.1 p.2) (wf_set hwf _ _), update_set d e hwf]

theorem update_ofPairs (d : Dict K V) (ps : List (K × V)) : update d (ofPairs ps) = update d ps := by
  unfold ofPairs
  rw [update_update d [] wf_nil ps]; rfl

theorem mem_set {d : Dict K V} {k : K} {v : V} {p : K × V} (h : p ∈ set d k v) :
    p ∈ d ∨ p.2 = v ∧ (p.1 = k ∨ ∃ w, (p.1, w) ∈ d) := by
  fun_induction set d k v <;> grind

end TraitsVerif.Py.Dict
