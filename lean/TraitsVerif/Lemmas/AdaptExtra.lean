/-
Consequences of the `_adapt` loop theorems for `adaptInner` (what `Props/C17.lean` states
about valid chains), which offer a returned chain ends with, uniqueness of the queue
counters along a run, and what `register_offer` builds.
-/
import TraitsVerif.Lemmas.AdaptLoop
namespace TraitsVerif.Lemmas.Adapt
open TraitsVerif TraitsVerif.Model.Adapt
variable {α : Type}

/-! ## `_adapt` in terms of valid chains -/

section inner
variable {cfg : Cfg} {src target : Nat} {f : Factory α} {adaptee : α}

/-- Soundness needs no assumption on the factories. -/
theorem adaptInner_sound (hh : Homogeneous cfg) {path : List Offer} {a : α} {tr : List CallRec}
    (h : adaptInner cfg f src adaptee target = (.found path a, tr)) :
    ValidChain cfg src target path ∧ ∃ k, SucceedsFrom f k path adaptee a := by
  obtain ⟨w, l1, d, o, l2, hw, rfl, hes, harr, -, tr', hwalk⟩ :=
    adaptLoop_found _ _ (WF.initial cfg src target) _ _ _ h
  exact ⟨Cand.valid hh ⟨w.path, d, o, rfl, hw.reach, (hw.mem_edges _).1 (by rw [hes]; simp), harr⟩, _,
    (walk_done_iff f _ _ _ _).1 hwalk⟩

theorem adapt_adapted {hasDefault : Bool} {path : List Offer} {a : α} {tr : List CallRec} :
    adapt cfg f src adaptee target hasDefault = (.adapted path a, tr) ↔
      cfg.provides src target = false ∧ adaptInner cfg f src adaptee target = (.found path a, tr) := by
  unfold adapt
  cases cfg.provides src target
  · rcases adaptInner cfg f src adaptee target with ⟨r, tr'⟩
    cases r <;> cases hasDefault <;> simp [noneResult]
  · simp

theorem adaptInner_cases (hnr : NoRaise f) (cfg : Cfg) (src : Nat) (adaptee : α) (target : Nat) :
    (adaptInner cfg f src adaptee target).1 = .notFound ∨
      ∃ p a tr, adaptInner cfg f src adaptee target = (.found p a, tr) := by
  rcases hin : adaptInner cfg f src adaptee target with ⟨r, tr⟩
  cases r with
  | notFound => exact .inl rfl
  | found p a => exact .inr ⟨p, a, tr, rfl⟩
  | raised e =>
    obtain ⟨k, o, a', hf⟩ := adaptLoop_raised cfg f adaptee target _ _ e (congrArg Prod.fst hin)
    exact absurd hf (hnr k o a' e)
  | outOfFuel => exact absurd (congrArg Prod.fst hin) (fuel_suffices cfg f src adaptee target)

theorem ValidChain.cand (hh : Homogeneous cfg) {chain : List Offer} {a : α}
    (hv : ValidChain cfg src target chain) (hs : SucceedsFrom f 0 chain adaptee a) :
    ∃ c, Cand cfg src target c ∧ c.length ≤ chain.length ∧ ¬ Fails f adaptee c := by
  obtain ⟨c, hc, hpre⟩ := exists_cand_prefix hh chain [] Reach.nil hv.nonempty
    (by simpa using hv.applicable) (by simpa using hv.simple) (by simpa using hv.arrives)
  obtain ⟨t, rfl⟩ : c <+: chain := by simpa using hpre
  exact ⟨c, hc, by simp, fun hf => hf (SucceedsFrom_prefix c t 0 adaptee a hs)⟩

theorem adaptInner_spec (hdet : Deterministic f) (hh : Homogeneous cfg) {chain : List Offer} {a' : α}
    (hv : ValidChain cfg src target chain) (hs : SucceedsFrom f 0 chain adaptee a') :
    (adaptInner cfg f src adaptee target).1 ≠ .notFound ∧
    ∀ path a tr, adaptInner cfg f src adaptee target = (.found path a, tr) → path.length ≤ chain.length := by
  obtain ⟨c, hc, hlen, hnf⟩ := hv.cand hh hs
  have hspec := adaptLoop_spec hdet hc hnf (fuelFor cfg) _ (Inv.init cfg src target f adaptee)
  exact ⟨hspec.1, fun path a tr h => Nat.le_trans (hspec.2 path a tr h) hlen⟩

/-! ## Which offer comes last -/

/-- The last offer of the chain `_adapt` returns: among the arriving one-edge extensions of the same
queued path whose factories all succeed, none comes before it in any order the sort respects.  (The
chain was found while expanding that path, as the first arriving edge — in `list.sort` order — whose
walk did not fail.) -/
theorem last_step_order {S : Edge → Edge → Prop} {P : Edge → Prop} (H : Compat (edgeLt cfg) S P)
    (hdet : Deterministic f) {p : List Offer} {o : Offer} {a : α} {tr : List CallRec}
    (h : adaptInner cfg f src adaptee target = (.found (p ++ [o]) a, tr))
    (hP : ∀ x ∈ kids cfg src p, P x)
    {d' : Nat} {o' : Offer} (hk : (d', o') ∈ kids cfg src p) (harr : cfg.provides o'.to target = true)
    (hok : ¬ Fails f adaptee (p ++ [o'])) :
    ∃ d, (d, o) ∈ kids cfg src p ∧ ((d', o') = (d, o) ∨ ¬ S (d', o') (d, o)) := by
  obtain ⟨w, l1, d, o₁, l2, hw, hp, hes, -, hfail, -⟩ := adaptLoop_found _ _ (WF.initial cfg src target) _ _ _ h
  obtain ⟨rfl, ho⟩ := List.append_inj' hp rfl
  obtain rfl : o = o₁ := by simpa using ho
  have hmem : ∀ x, x ∈ l1 ++ (d, o) :: l2 ↔ x ∈ kids cfg src w.path := fun x => hes ▸ hw.mem_edges x
  refine ⟨d, (hmem _).1 (by simp), ?_⟩
  have hsorted := pySort_sorted H (applicable cfg w.cur w.path) fun x hx => hP x ((hw.mem_edges x).1 (mem_pySort.2 hx))
  rw [hes] at hsorted
  rcases List.mem_append.1 ((hmem _).2 hk) with hin | hin
  · obtain ⟨tr', htr⟩ := hfail _ hin harr
    exact absurd (walk_failed_fails hdet htr) hok
  · rcases List.mem_cons.1 hin with heq | hin
    · exact .inl heq
    · exact .inr ((List.pairwise_cons.1 (List.pairwise_append.1 hsorted).2.1).1 _ hin)

end inner

structure OneStep (cfg : Cfg) (f : Factory α) (src : Nat) (adaptee : α) (target : Nat) (o : Offer) : Prop where
  reg : Registered cfg o
  app : cfg.provides src o.frm = true
  arr : cfg.provides o.to target = true
  ok : ∃ a, f 0 o adaptee = .adapter a

/-- The comparison of `_adapt` is a strict weak order on these edges. -/
def WeakOn (cfg : Cfg) (es : List Edge) : Prop :=
  (∀ a ∈ es, ∀ b ∈ es, ∀ c ∈ es, edgeLt cfg a b = true → edgeLt cfg a c = true ∨ edgeLt cfg c b = true) ∧
  (∀ a ∈ es, ∀ b ∈ es, edgeLt cfg a b = true → edgeLt cfg b a = false)

/-! ### two orders the comparison of `_adapt` respects -/

/-- The MRO distance is the primary key of the comparison, so the sort respects the order by distance. -/
theorem edgeLt_compat_dist (cfg : Cfg) : Compat (edgeLt cfg) (fun e1 e2 : Edge => e1.1 < e2.1) (fun _ => True) := by
  refine ⟨fun a b c _ _ _ (hab : a.1 < b.1) => ?_, fun a b _ _ hlt => ?_, fun a b _ _ hlt => ?_⟩
  · show a.1 < c.1 ∨ c.1 < b.1
    omega
  · simp only [edgeLt, Bool.or_eq_true, Bool.and_eq_true, decide_eq_true_eq, beq_iff_eq] at hlt
    show ¬ b.1 < a.1
    omega
  · have : ¬ (edgeLt cfg a b = true) := by simp [hlt]
    simp only [edgeLt, Bool.or_eq_true, Bool.and_eq_true, decide_eq_true_eq, beq_iff_eq] at this
    show ¬ a.1 < b.1
    omega

theorem WeakOn.compat {cfg : Cfg} {es : List Edge} (hw : WeakOn cfg es) :
    Compat (edgeLt cfg) (fun e1 e2 : Edge => edgeLt cfg e1 e2 = true) (· ∈ es) :=
  ⟨fun a b c ha hb hc hab => hw.1 a ha b hb c hc hab,
    fun a b ha hb hlt hba => Bool.false_ne_true ((hw.2 a ha b hb hlt).symm.trans hba),
    fun _ _ _ _ hlt hab => Bool.false_ne_true (hlt.symm.trans hab)⟩

theorem one_step_order {cfg : Cfg} {src target : Nat} {f : Factory α} {adaptee : α}
    {S : Edge → Edge → Prop} {P : Edge → Prop} (H : Compat (edgeLt cfg) S P)
    (hP : ∀ x ∈ applicable cfg src [], P x)
    (hdet : Deterministic f) (hh : Homogeneous cfg) {o : Offer} {a : α} {tr : List CallRec}
    (h : adaptInner cfg f src adaptee target = (.found [o] a, tr))
    {o' : Offer} (h' : OneStep cfg f src adaptee target o') :
    ∃ d d', dist cfg src o.frm = some d ∧ dist cfg src o'.frm = some d' ∧
      ((d', o') = (d, o) ∨ ¬ S (d', o') (d, o)) := by
  obtain ⟨d', hmo'⟩ := applicable_of hh (cur := src) (path := []) h'.reg h'.app (by simp)
  obtain ⟨a', ha'⟩ := h'.ok
  obtain ⟨d, hmo, hor⟩ := last_step_order H hdet (p := []) h hP hmo' h'.arr fun hf => hf ⟨a', a', ha', rfl⟩
  exact ⟨d, d', (applicable_facts hh hmo).2.2.2, (applicable_facts hh hmo').2.2.2, hor⟩

/-! ## Counters are unique along a run (the hypothesis of `heap_is_sorted_list`) -/

def CntInv (st : St) : Prop :=
  (∀ e ∈ st.queue, e.cnt < st.counter) ∧ st.queue.Pairwise (fun a b => a.cnt ≠ b.cnt)

theorem processEdges_cnt {cfg : Cfg} {f : Factory α} {adaptee : α} {target : Nat} {w : Entry} (es : List Edge)
    (st : St) : ∀ (st' : St) (r : Option (Res α)),
    processEdges cfg f adaptee target w es st = (r, st') → CntInv st → CntInv st' := by
  fun_induction processEdges cfg f adaptee target w es st <;> intro st' r h hc
  case case1 => cases h; exact hc
  case case2 => cases h; exact hc
  case case3 => cases h; exact hc
  case case4 ih => exact ih st' r h hc
  -- the edge does not arrive: the pushed entry takes the counter, which goes up by one
  case case5 ih =>
    refine ih st' r h ⟨fun e he => ?_, ?_⟩
    · rcases mem_qInsert.1 he with rfl | he
      · exact Nat.lt_succ_self _
      · exact Nat.lt_succ_of_lt (hc.1 e he)
    · exact ((qInsert_perm _ _).pairwise_iff (fun {x y} hxy => Ne.symm hxy)).2
        (List.pairwise_cons.2 ⟨fun e he => Nat.ne_of_gt (hc.1 e he), hc.2⟩)

/-- The states the `while` loop goes through. -/
inductive Run (cfg : Cfg) (f : Factory α) (adaptee : α) (target src : Nat) : St → Prop
  | init : Run cfg f adaptee target src (initSt src)
  | step {st st' : St} {w : Entry} {rest : List Entry} : Run cfg f adaptee target src st →
      st.queue = w :: rest →
      processEdges cfg f adaptee target w (pySort (edgeLt cfg) (applicable cfg w.cur w.path))
        { st with queue := rest } = (none, st') →
      Run cfg f adaptee target src st'

theorem Run.cntInv {cfg : Cfg} {f : Factory α} {adaptee : α} {target src : Nat} {st : St}
    (h : Run cfg f adaptee target src st) : CntInv st := by
  induction h with
  | init => simp [CntInv, initSt]
  | @step st st' w rest _ hq hpe ih =>
    obtain ⟨h1, h2⟩ := ih
    rw [hq] at h1 h2
    exact processEdges_cnt _ _ _ _ hpe
      ⟨fun e he => h1 e (List.mem_cons_of_mem _ he), (List.pairwise_cons.1 h2).2⟩

theorem Run.sorted {cfg : Cfg} {f : Factory α} {adaptee : α} {target src : Nat} {st : St}
    (h : Run cfg f adaptee target src st) : QSorted st.queue := by
  induction h with
  | init => simp [QSorted, initSt]
  | @step st st' w rest _ hq hpe ih =>
    rw [hq] at ih
    exact (processEdges_none _ _ _ hpe).2.2.2.2 (List.pairwise_cons.1 ih).2

/-! ## `register_offer` -/

/-- What `register_offer` maintains: no bucket is empty, every offer sits under its own key (and has
property `S`, if all registered offers have it). -/
def RegInv (S : Offer → Prop) (reg : List (Nat × List Offer)) : Prop :=
  ∀ kv ∈ reg, kv.2 ≠ [] ∧ ∀ x ∈ kv.2, x.key = kv.1 ∧ S x

theorem RegInv.register {S : Offer → Prop} {reg : List (Nat × List Offer)} (h : RegInv S reg) {o : Offer}
    (ho : S o) : RegInv S (registerOffer reg o) := by
  intro kv hkv
  unfold registerOffer at hkv
  split at hkv
  · obtain ⟨kv0, hkv0, rfl⟩ := List.mem_map.1 hkv
    by_cases hk : (kv0.1 == o.key) = true
    · simp only [hk, if_true, List.mem_append, List.mem_singleton]
      refine ⟨by simp, fun x hx => ?_⟩
      rcases hx with hx | rfl
      · exact (h kv0 hkv0).2 x hx
      · exact ⟨(beq_iff_eq.1 hk).symm, ho⟩
    · simpa only [hk, Bool.false_eq_true, if_false] using h kv0 hkv0
  · rcases List.mem_append.1 hkv with hkv | hkv
    · exact h kv hkv
    · obtain rfl := List.mem_singleton.1 hkv
      exact ⟨by simp, fun x hx => by obtain rfl := List.mem_singleton.1 hx; exact ⟨rfl, ho⟩⟩

theorem registry_inv {S : Offer → Prop} (os : List Offer) (hs : ∀ o ∈ os, S o) : RegInv S (registry os) := by
  have : ∀ (os : List Offer) (reg : List (Nat × List Offer)), RegInv S reg → (∀ o ∈ os, S o) →
      RegInv S (os.foldl registerOffer reg) := by
    intro os
    induction os with
    | nil => exact fun _ h _ => h
    | cons o os ih =>
      exact fun reg h hs => ih _ (h.register (hs o List.mem_cons_self)) fun x hx => hs x (List.mem_cons_of_mem _ hx)
  exact this os [] (fun _ h => nomatch h) hs

/-- Distinct protocols have distinct names ⇒ the buckets `register_offer` builds are
homogeneous. -/
theorem groupsOf_homogeneous (os : List Offer)
    (hnames : ∀ o ∈ os, ∀ o' ∈ os, o.key = o'.key → o.frm = o'.frm)
    (provides : Nat → Nat → Bool) (supers : Nat → List Nat) :
    Homogeneous ⟨provides, supers, groupsOf os⟩ := by
  intro g hg o0 h0 o ho
  obtain ⟨kv, hkv, rfl⟩ := List.mem_map.1 hg
  have hinv := (registry_inv (S := (· ∈ os)) os fun o ho => ho) kv hkv
  obtain ⟨k1, m1⟩ := hinv.2 o ho
  obtain ⟨k0, m0⟩ := hinv.2 o0 (List.mem_of_mem_head? h0)
  exact hnames o m1 o0 m0 (by rw [k1, k0])

end TraitsVerif.Lemmas.Adapt
