/-
The loops of both validators in terms of the members' own validators.

Union, the two passes of TraitCompound.validate and the C loop over a compound
descriptor are all "first result that is not a TraitError" (`firstAccept`).  For a
compound the descriptor `TraitCompound.set_validate` builds makes
`validate_trait_complex` try the alternatives that have a fast validator in
declaration order (a nested compound in place, as a unit), then the `None` of
Either(…, None), then the alternatives without a fast validator — and the
result is exactly what the first alternative that does not say TraitError gives
on its own.  Consequence (`…_of`): whatever holds of TraitError and of every
member's result holds of the compound's result.

Last, the typed tuples: the C element loop over the inner traits' validators is
the Python one (`tupleItems_ctrait`); the compiled and the Python validator of
Tuple side by side (`tuple_rel`, `tuple_of`), ValidatedTuple, and BaseTuple as
ValidatedTuple without `fvalidate`.
-/
import TraitsVerif.Lemmas.ValFast
import TraitsVerif.Lemmas.ValInduct
namespace TraitsVerif.Model.Val
open TraitsVerif TraitsVerif.Py.Value

variable (E : Env)

/-- Alternatives with a `fast_validate`, in declaration order. -/
def fastAlts (alts : List TraitType) : List TraitType := alts.filter (fun t => (descOf E t).isSome)
/-- Alternatives without one (`slow_validates`), in declaration order. -/
def slowAlts (alts : List TraitType) : List TraitType := alts.filter (fun t => !(descOf E t).isSome)

theorem ctraitValidate_of_some {t : TraitType} {d : Desc} (v : Val) (hd : descOf E t = some d) :
    ctraitValidate E t v = fastAlone E d v := by
  simp only [ctraitValidate, ctraitValidateWith, hd]

theorem ctraitValidate_of_none {t : TraitType} (v : Val) (hd : descOf E t = none) :
    ctraitValidate E t v = if hasPy t then pyValidate E t v else .ok v := by
  simp only [ctraitValidate, ctraitValidateWith, hd]

/-! ## The Python loops -/

theorem unionFirst_eq_firstAccept (ts : List TraitType) (v : Val) :
    unionFirst E ts v = firstAccept (ts.map (ctraitValidate E · v)) := by
  induction ts with
  | nil => rfl
  | cons t ts ih =>
    rw [unionFirst, List.map_cons, firstAccept_cons, ih]
    rfl

theorem pySel_true (ts : List TraitType) (v : Val) :
    pySel E true ts v = firstAccept ((fastAlts E ts).map (pyValidate E · v)) := by
  induction ts with
  | nil => rfl
  | cons t ts ih =>
    rw [pySel, ih]
    cases hd : (descOf E t).isSome
    · simp [fastAlts, hd]
    · simp only [fastAlts, List.filter_cons, hd, if_true, List.map_cons, firstAccept_cons]
      rfl

theorem pySel_false (ts : List TraitType) (v : Val) :
    pySel E false ts v = firstAccept ((slowAlts E ts).map (ctraitValidate E · v)) := by
  induction ts with
  | nil => rfl
  | cons t ts ih =>
    rw [pySel, ih]
    cases hd : descOf E t with
    | some d => simp [slowAlts, hd]
    | none =>
      simp only [slowAlts, List.filter_cons, hd, Option.isSome_none, Bool.not_false, if_true, List.map_cons,
        firstAccept_cons, ctraitValidate_of_none E v hd]
      rfl

/-! ## The shape of descriptors -/

/-- The entries a descriptor contributes to an enclosing compound. -/
def Desc.entries : Desc → List Desc
  | .complex ds => ds
  | d => [d]

/-- What `descOf` returns — a stand-alone alternative, or a compound made of
entries — said by what it means for an enclosing compound: the entries spliced
in are legal, there is at least one, and together they act like the descriptor. -/
def Desc.Shape (d : Desc) : Prop :=
  (∀ x ∈ d.entries, x.isEntry = true) ∧ d.entries ≠ [] ∧
    ∀ v, firstAccept (d.entries.map (altAlone E · v)) = fastAlone E d v

theorem Desc.Shape.of_isAlt {d : Desc} (h : d.isAlt = true) : d.Shape E := by
  have he : d.entries = [d] := by cases d <;> first | rfl | cases h
  rw [Desc.Shape, he]
  refine ⟨fun x hx => ?_, List.cons_ne_nil _ _, fun v => ?_⟩
  · cases List.mem_singleton.mp hx
    exact Desc.isEntry_of_isAlt d h
  · rw [List.map_singleton, firstAccept_cons, altAlone_of_isAlt E d v h]
    cases fastAlone E d v <;> rfl

theorem Desc.Shape.of_entries {ds : List Desc} (h : ∀ x ∈ ds, x.isEntry = true) (hne : ds ≠ []) :
    (Desc.complex ds).Shape E :=
  ⟨h, hne, fun v => by rw [fastAlone_complex, fastComplex_first E ds v h]; rfl⟩

theorem flatFast_cons_none {t : TraitType} (ts : List TraitType) (hd : descOf E t = none) :
    flatFast E (t :: ts) = flatFast E ts := by
  rw [flatFast, hd]; rfl

theorem flatFast_cons_some {t : TraitType} {d : Desc} (ts : List TraitType) (hd : descOf E t = some d) :
    flatFast E (t :: ts) = d.entries ++ flatFast E ts := by
  rw [flatFast, hd]; cases d <;> rfl

/-- What follows the spliced fast entries in the descriptor of a compound: the
`(enum, (None,))` entry of Either(…, None) and the `(slow, self)` entry. -/
def tailEntries (alts : List TraitType) (wn : Bool) : List Desc :=
  (if wn then [Desc.enum [Val.none]] else []) ++
    (if anySlow E alts then [Desc.slow (fun v => pySel E false alts v)] else [])

theorem compound_isEntry (alts : List TraitType) (wn : Bool) (h : ∀ x ∈ flatFast E alts, x.isEntry = true) :
    ∀ x ∈ flatFast E alts ++ tailEntries E alts wn, x.isEntry = true := by
  intro x hx
  rcases List.mem_append.mp hx with hx | hx
  · exact h x hx
  · unfold tailEntries at hx
    rcases List.mem_append.mp hx with hx | hx <;> split at hx <;>
      first | cases List.mem_singleton.mp hx; rfl | cases hx

theorem descOf_either (alts : List TraitType) (wn : Bool) :
    (descOf E (.either alts wn) = none ∧ wn = false ∧ flatFast E alts = []) ∨
    (descOf E (.either alts wn) = some (.complex (flatFast E alts ++ tailEntries E alts wn)) ∧
      flatFast E alts ++ tailEntries E alts wn ≠ []) := by
  unfold descOf tailEntries
  rw [← List.append_assoc]
  cases hf : flatFast E alts ++ (if wn then [Desc.enum [Val.none]] else []) with
  | nil =>
    obtain ⟨h0, hw⟩ := List.append_eq_nil_iff.mp hf
    cases wn
    · exact Or.inl ⟨rfl, rfl, h0⟩
    · cases hw
  | cons x xs => exact Or.inr ⟨rfl, fun h => nomatch h⟩

theorem descOf_compoundH (hs : List TraitType) : descOf E (.compoundH hs) = descOf E (.either hs false) := by
  unfold descOf
  simp only [Bool.false_eq_true, if_false, List.append_nil]
  cases flatFast E hs <;> rfl

theorem pyValidate_compoundH (hs : List TraitType) (v : Val) :
    pyValidate E (.compoundH hs) v = pyValidate E (.either hs false) v := by
  unfold pyValidate
  cases pySel E true hs v <;> rfl

theorem ctraitValidate_compoundH (hs : List TraitType) (v : Val) :
    ctraitValidate E (.compoundH hs) v = ctraitValidate E (.either hs false) v := by
  simp only [ctraitValidate, ctraitValidateWith, descOf_compoundH, pyValidate_compoundH, hasPy]

theorem descOf_leaf (t : TraitType) (d : Desc) (hs : t.subs = none)
    (hd : descOf E t = some d) : d.isAlt = true ∧ ∀ items, d ≠ .tuple items := by
  cases t <;> cases hs
  case «instance» =>
    unfold descOf at hd
    split at hd
    · split at hd <;> cases hd <;> exact ⟨rfl, fun _ h => nomatch h⟩
    · cases hd; exact ⟨rfl, fun _ h => nomatch h⟩
  case instanceH => unfold descOf at hd; split at hd <;> cases hd <;> exact ⟨rfl, fun _ h => nomatch h⟩
  all_goals cases hd <;> exact ⟨rfl, fun _ h => nomatch h⟩

/-- `Desc.Shape` for the spliced fast entries of a list of alternatives. -/
theorem flatFast_shape (ts : List TraitType) (h : ∀ t ∈ ts, ∀ d, descOf E t = some d → d.Shape E) :
    (∀ x ∈ flatFast E ts, x.isEntry = true) ∧ (flatFast E ts = [] → fastAlts E ts = []) ∧
    ∀ v, firstAccept ((flatFast E ts).map (altAlone E · v)) =
      firstAccept ((fastAlts E ts).map (ctraitValidate E · v)) := by
  induction ts with
  | nil => exact ⟨fun _ hx => (nomatch hx), fun _ => rfl, fun _ => rfl⟩
  | cons t ts ih =>
    obtain ⟨i1, i2, i3⟩ := ih fun t' ht' => h t' (List.mem_cons_of_mem _ ht')
    cases hd : descOf E t with
    | none =>
      have hfa : fastAlts E (t :: ts) = fastAlts E ts := by simp [fastAlts, hd]
      rw [flatFast_cons_none E ts hd, hfa]
      exact ⟨i1, i2, i3⟩
    | some d =>
      obtain ⟨s1, s2, s3⟩ := h t (List.mem_cons_self ..) d hd
      have hfa : fastAlts E (t :: ts) = t :: fastAlts E ts := by simp [fastAlts, hd]
      rw [flatFast_cons_some E ts hd, hfa]
      refine ⟨fun x hx => ?_, fun h0 => absurd (List.append_eq_nil_iff.mp h0).1 s2, fun v => ?_⟩
      · rcases List.mem_append.mp hx with hx | hx
        · exact s1 x hx
        · exact i1 x hx
      · rw [List.map_append, firstAccept_append, s3, i3, List.map_cons, firstAccept_cons,
          ctraitValidate_of_some E v hd]

theorem descOf_shape : ∀ (t : TraitType) (d : Desc), descOf E t = some d → d.Shape E :=
  TraitType.induct
    (fun t hs _ d hd => .of_isAlt E (descOf_leaf E t d hs hd).1)
    (fun t _ d hd => nomatch hd)
    (fun t ts hs ih d hd => by
      have either : ∀ wn, descOf E (.either ts wn) = some d → d.Shape E := by
        intro wn hd
        rcases descOf_either E ts wn with ⟨h, _, _⟩ | ⟨h, hne⟩ <;> cases h.symm.trans hd
        exact .of_entries E (compound_isEntry E ts wn (flatFast_shape E ts ih).1) hne
      cases t <;> cases hs
      case tuple => cases hd; exact .of_isAlt E rfl
      case either wn => exact either wn hd
      case compoundH => exact either false (descOf_compoundH E ts ▸ hd)
      all_goals cases hd)

/-! ## Evaluation order -/

theorem slowAlts_of_not_anySlow (ts : List TraitType) (h : anySlow E ts = false) : slowAlts E ts = [] := by
  induction ts with
  | nil => rfl
  | cons t ts ih =>
    rw [anySlow, Bool.or_eq_false_iff, Bool.not_eq_false'] at h
    rw [slowAlts, List.filter_cons, h.1]; exact ih h.2

theorem tail_first (alts : List TraitType) (wn : Bool) (v : Val) :
    firstAccept ((tailEntries E alts wn).map (altAlone E · v)) =
      firstAccept ((if wn then [fastAlone E (.enum [Val.none]) v] else []) ++
        (slowAlts E alts).map (ctraitValidate E · v)) := by
  rw [tailEntries, List.map_append, firstAccept_append, firstAccept_append, ← pySel_false]
  have hslow : firstAccept ((if anySlow E alts then [Desc.slow (fun v => pySel E false alts v)] else []).map
      (altAlone E · v)) = pySel E false alts v := by
    split
    · simp only [List.map_singleton, firstAccept_cons, altAlone]
      cases pySel E false alts v <;> rfl
    · rename_i ha
      rw [pySel_false, slowAlts_of_not_anySlow E alts (by simpa using ha)]; rfl
  rw [hslow]
  cases wn <;> rfl

/-- What assignment runs for Either(t1, …, tn[, None]) (and, with `wn = false`,
for a TraitCompound): the alternatives that have a fast validator in declaration
order — a nested compound in place, as a unit —, then `None`, then the
alternatives without a fast validator; the first one whose own CTrait validator
does not say TraitError decides.  Also when the compound has no descriptor at all. -/
theorem ctraitValidate_either (alts : List TraitType) (wn : Bool) (v : Val) :
    ctraitValidate E (.either alts wn) v = firstAccept (
      (fastAlts E alts).map (ctraitValidate E · v) ++
      ((if wn then [fastAlone E (.enum [Val.none]) v] else []) ++
       (slowAlts E alts).map (ctraitValidate E · v))) := by
  obtain ⟨f1, f2, f3⟩ := flatFast_shape E alts fun t _ => descOf_shape E t
  rcases descOf_either E alts wn with ⟨hd, rfl, hf⟩ | ⟨hd, _⟩
  · rw [ctraitValidate_of_none E v hd]
    conv => lhs; unfold pyValidate
    simp only [hasPy, if_true, pySel_true, f2 hf, pySel_false]
    rfl
  · rw [ctraitValidate_of_some E v hd, fastAlone_complex,
      fastComplex_first E _ v (compound_isEntry E alts wn f1), List.map_append,
      firstAccept_append, firstAccept_append, f3, tail_first]

/-- TraitCompound.validate for Either(t1, …, tn[, None]): the Python `validate` of
the alternatives that have a fast validator, then `None`, then `slow_validate`. -/
theorem pyValidate_either (alts : List TraitType) (wn : Bool) (v : Val) :
    pyValidate E (.either alts wn) v = firstAccept (
      (fastAlts E alts).map (pyValidate E · v) ++
      ((if wn then [pyEnumValidate [Val.none] v] else []) ++
       (slowAlts E alts).map (ctraitValidate E · v))) := by
  conv => lhs; unfold pyValidate
  rw [firstAccept_append, firstAccept_append, ← pySel_true, ← pySel_false]
  cases pySel E true alts v <;> cases wn <;> simp only [if_true, Bool.false_eq_true, if_false] <;>
    first | rfl | (rw [firstAccept_cons]; cases pyEnumValidate [Val.none] v <;> rfl)

theorem ctraitValidate_union (alts : List TraitType) (v : Val) :
    ctraitValidate E (.union alts) v = firstAccept (alts.map (ctraitValidate E · v)) := by
  rw [← unionFirst_eq_firstAccept]; rfl

/-! ## What holds of every member's result holds of the compound's -/

variable {E}

/-- Over the three stretches of a compound's alternatives. -/
theorem firstAccept_alternatives_of {P : Res → Prop} {f g : TraitType → Res} {alts : List TraitType} {wn : Bool}
    {n : Res} (hte : P .traitError) (hf : ∀ t ∈ alts, P (f t)) (hn : wn = true → P n) (hg : ∀ t ∈ alts, P (g t)) :
    P (firstAccept ((fastAlts E alts).map f ++ ((if wn then [n] else []) ++ (slowAlts E alts).map g))) := by
  refine firstAccept_of_forall _ hte fun r hr => ?_
  simp only [List.mem_append, List.mem_map, fastAlts, slowAlts, List.mem_filter] at hr
  rcases hr with ⟨t, ⟨ht, _⟩, rfl⟩ | hr | ⟨t, ⟨ht, _⟩, rfl⟩
  · exact hf t ht
  · split at hr
    · cases List.mem_singleton.mp hr; exact hn ‹_›
    · cases hr
  · exact hg t ht

theorem ctraitValidate_either_of {P : Res → Prop} {alts : List TraitType} {wn : Bool} {v : Val}
    (hte : P .traitError) (hm : ∀ t ∈ alts, P (ctraitValidate E t v))
    (hn : wn = true → P (fastAlone E (.enum [Val.none]) v)) : P (ctraitValidate E (.either alts wn) v) :=
  ctraitValidate_either E alts wn v ▸ firstAccept_alternatives_of hte hm hn hm

theorem pyValidate_either_of {P : Res → Prop} {alts : List TraitType} {wn : Bool} {v : Val}
    (hte : P .traitError) (hf : ∀ t ∈ alts, P (pyValidate E t v)) (hs : ∀ t ∈ alts, P (ctraitValidate E t v))
    (hn : wn = true → P (pyEnumValidate [Val.none] v)) : P (pyValidate E (.either alts wn) v) :=
  pyValidate_either E alts wn v ▸ firstAccept_alternatives_of hte hf hn hs

theorem ctraitValidate_union_of {P : Res → Prop} {alts : List TraitType} {v : Val}
    (hte : P .traitError) (hm : ∀ t ∈ alts, P (ctraitValidate E t v)) : P (ctraitValidate E (.union alts) v) := by
  rw [ctraitValidate_union]
  refine firstAccept_of_forall _ hte fun r hr => ?_
  obtain ⟨t, ht, rfl⟩ := List.mem_map.mp hr
  exact hm t ht

/-! ## Typed tuples: the element loop -/

variable (E)

theorem tupleItems_ctrait (items : List TraitType) (vs : List Val) :
    tupleItems E (ctraitDescL E items) vs = ctraitValidateL E items vs := by
  induction items generalizing vs with
  | nil => rfl
  | cons t ts ih =>
    cases vs with
    | nil => rfl
    | cons b bs =>
      rw [ctraitDescL, tupleItems, ctraitValidateL, ih]
      cases descOf E t <;> cases hasPy t <;> rfl

theorem ctraitDescL_length (items : List TraitType) : (ctraitDescL E items).length = items.length := by
  induction items with
  | nil => rfl
  | cons t ts ih => rw [ctraitDescL, List.length_cons, ih, List.length_cons]

theorem ctraitValidateL_cons (t : TraitType) (ts : List TraitType) (b : Val) (bs : List Val) :
    ctraitValidateL E (t :: ts) (b :: bs) =
      match ctraitValidate E t b with
      | .traitError => .error none
      | .raised e => .error (some e)
      | .ok a =>
        match ctraitValidateL E ts bs with
        | .error x => .error x
        | .ok as => .ok (a :: as) := by
  rw [ctraitValidateL]; rfl

theorem ctraitValidateL_raised (ts : List TraitType) (vs : List Val) (e : Exc)
    (h : ctraitValidateL E ts vs = .error (some e)) : ∃ t ∈ ts, ∃ b, ctraitValidate E t b = .raised e := by
  induction ts generalizing vs with
  | nil => cases h
  | cons t ts ih =>
    cases vs with
    | nil => cases h
    | cons b bs =>
      rw [ctraitValidateL_cons] at h
      cases hr : ctraitValidate E t b with
      | traitError => rw [hr] at h; cases h
      | raised e' => rw [hr] at h; cases h; exact ⟨t, List.mem_cons_self .., b, hr⟩
      | ok a =>
        rw [hr] at h
        cases hrest : ctraitValidateL E ts bs with
        | ok as => rw [hrest] at h; cases h
        | error x =>
          rw [hrest] at h; cases h
          obtain ⟨t', ht', hb⟩ := ih bs hrest
          exact ⟨t', List.mem_cons_of_mem _ ht', hb⟩

variable {E}

/-- The compiled and the Python validator of Tuple(t1, …, tn) side by side: both
say TraitError, both pass the same exception out of the element loop, or both
return a tuple of the validated elements — the compiled one the value itself
(of whatever tuple subclass) when no element changed. -/
theorem tuple_rel {R : Res → Res → Prop} {items : List TraitType} {v : Val} (hte : R .traitError .traitError)
    (herr : ∀ vs e, ctraitValidateL E items vs = .error (some e) → R (.raised e) (.raised e))
    (hok : ∀ sub vs sub' ws, v = .tuple sub vs → (sub = false → sub' = false) → items.length = vs.length →
      ctraitValidateL E items vs = .ok ws → R (.ok (.tuple sub' ws)) (.ok (.tuple false ws))) :
    R (fastAlone E (.tuple (ctraitDescL E items)) v) (pyValidate E (.tuple items) v) := by
  unfold fastAlone pyValidate
  rcases v with a | ⟨sub, vs⟩ | vs
  · exact hte
  · simp only [tupleCheckWith, ctraitDescL_length, tupleItems_ctrait]
    by_cases hl : items.length = vs.length
    · rw [if_pos hl, if_pos hl.symm]
      cases hr : ctraitValidateL E items vs with
      | error x =>
        cases x
        · exact hte
        · exact herr vs _ hr
      | ok ws =>
        by_cases hb : Val.beqL ws vs = true
        · simp only [hb, if_true]
          exact (Val.beqL_iff ws vs).mp hb ▸ hok sub vs sub ws rfl id hl hr
        · simp only [hb]
          exact hok sub vs false ws rfl (fun _ => rfl) hl hr
    · rw [if_neg hl, if_neg fun h => hl h.symm]
      exact hte
  · exact hte

theorem tuple_of {P : Res → Prop} {items : List TraitType} {v : Val} (hte : P .traitError)
    (herr : ∀ vs e, ctraitValidateL E items vs = .error (some e) → P (.raised e))
    (hok : ∀ sub vs sub' ws, v = .tuple sub vs → items.length = vs.length →
      ctraitValidateL E items vs = .ok ws → P (.ok (.tuple sub' ws))) :
    P (fastAlone E (.tuple (ctraitDescL E items)) v) ∧ P (pyValidate E (.tuple items) v) :=
  tuple_rel (R := fun a b => P a ∧ P b) ⟨hte, hte⟩ (fun vs e h => ⟨herr vs e h, herr vs e h⟩)
    (fun sub vs sub' ws hv _ hl h => ⟨hok sub vs sub' ws hv hl h, hok sub vs false ws hv hl h⟩)

/-- ValidatedTuple(t1, …, tn[, fvalidate=f]).validate: exceptions of the element
loop are swallowed, those of `fvalidate` are not. -/
theorem validatedTuple_of {P : Res → Prop} {items : List TraitType} {fv : Option Nat} {v : Val}
    (hte : P .traitError) (herr : ∀ f x e, E.pred f x = .error e → P (.raised e))
    (hok : ∀ vs ws, ((∃ sub, v = .tuple sub vs) ∨ v = .list vs) → items.length = vs.length →
      ctraitValidateL E items vs = .ok ws → (∀ f, fv = some f → E.pred f (.tuple false ws) = .ok true) →
      P (.ok (.tuple false ws))) :
    P (pyValidate E (.validatedTuple items fv) v) := by
  unfold pyValidate
  rcases v with a | ⟨sub, vs⟩ | vs
  · exact hte
  all_goals
    dsimp only
    split
    · rename_i hl
      cases hr : ctraitValidateL E items vs with
      | error x => exact hte
      | ok ws =>
        cases fv with
        | none => exact hok vs ws (by simp) hl.symm hr (fun _ h => nomatch h)
        | some f =>
          dsimp only
          cases hp : E.pred f (.tuple false ws) with
          | error e => exact herr _ _ _ hp
          | ok b =>
            cases b
            · exact hte
            · exact hok vs ws (by simp) hl.symm hr (fun _ h => Option.some.inj h ▸ hp)
    · exact hte

theorem pyValidate_baseTuple (items : List TraitType) (v : Val) :
    pyValidate E (.baseTuple items) v = pyValidate E (.validatedTuple items none) v := by
  unfold pyValidate
  rcases v with a | ⟨sub, vs⟩ | vs <;> try rfl
  all_goals
    split
    · cases ctraitValidateL E items vs <;> rfl
    · rfl

end TraitsVerif.Model.Val
