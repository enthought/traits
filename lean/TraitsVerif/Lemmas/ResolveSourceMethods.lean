/-
`…_src` lemmas for `_has_traits_trait` (the C function behind the Python method `_trait`), `add_trait` and
`remove_trait`: of the lookup code they call only `get_trait(obj, name, 0)`.
-/
import TraitsVerif.Lemmas.ResolveSource
namespace TraitsVerif.Model.ResL
open TraitsVerif TraitsVerif.Model.Resolve TraitsVerif.Generated

theorem user6_m_trait (E : Env) (a : List V) (st : St) : user6 E .m_trait a st = user4 E .m_trait a st := rfl

/-! ### `_has_traits_trait`: the C function behind the Python method `_trait(name, instance)` returns
what `get_trait` returns for every `instance ≥ -1` (the delegate chain of `instance = -2` is not
interpreted: the reader emits its loop as `Stmt.opaque`). -/

theorem runFun_env (Γ : Ctx) (fn : Fun) (args : List V) (st : St) (e : List (Var × V)) :
    runFun Γ fn args { st with env := e } =
      ({ (runFun Γ fn args st).1 with env := e }, (runFun Γ fn args st).2) := by
  unfold runFun
  simp only
  rcases execs Γ fn.py fn.body { st with env := bind fn.params args } with ⟨s', f⟩
  cases f <;> rfl

theorem has_traits_trait_src (E : Env) (st : St) (name : Name) (inst : Int) (hinst : -1 ≤ inst) :
    asGetTrait (user8 E .has_traits_trait [.obj, .name name, .int inst] st) =
      asGetTrait (user7 E .get_trait [.obj, .name name, .int inst] st) := by
  obtain ⟨w, oi, o, c, nI, nO, fr, er, env⟩ := st
  simp only [user8, runFun_mk]
  simp only [user7]
  have hcall := runFun_env ⟨E, user6 E⟩ ResolveC.get_trait [.obj, .name name, .int inst] (St.mk w oi o c nI nO fr er env)
  have hge : inst ≥ -1 := hinst
  generalize runFun ⟨E, user6 E⟩ ResolveC.get_trait [.obj, .name name, .int inst] (St.mk w oi o c nI nO fr er env) = r
    at hcall ⊢
  obtain ⟨⟨w', oi', o', c', nI', nO', fr', er', env'⟩, v⟩ := r
  resl_eval [ResolveC.has_traits_trait, user7, hcall, hge]
  rfl

/-! ### `add_trait`, `remove_trait` -/

theorem add_trait_src (E : Env) (st : St) (name : Name) (t : Trait) (hI : st.nullI = true → st.o.itraits = []) :
    asPy (user7 E .m_add_trait [.obj, .name name, .trait t] st) = some (addTrait st.w st.oi st.o st.c name t) := by
  obtain ⟨w, oi, o, c, nI, nO, fr, er, env⟩ := st
  have h0 := fun env' => (get_trait0_src E (St.mk w oi o c nI nO fr er env') name hI).2
  simp only [user7, runFun_mk, addTrait]
  resl_eval [ResolvePy.add_trait, user6_m_trait, h0, trait0V_ne_null]
  cases ht : trait0 c o name <;> resl_eval [trait0V, ht] <;> rfl

theorem remove_trait_src (E : Env) (st : St) (name : Name) (hI : st.nullI = true → st.o.itraits = [])
    (ho : st.w.objs[st.oi]? = some st.o) :
    asPy (user7 E .m_remove_trait [.obj, .name name] st) = some (removeTrait st.w st.oi st.o st.c name) := by
  obtain ⟨w, oi, o, c, nI, nO, fr, er, env⟩ := st
  replace ho : w.objs[oi]? = some o := ho
  have h0 := fun env' => (get_trait0_src E (St.mk w oi o c nI nO fr er env') name hI).2
  simp only [user7, runFun_mk, removeTrait]
  resl_eval [ResolvePy.remove_trait, user6_m_trait, h0, trait0V_ne_null]
  cases ht : trait0 c o name with
  | none => resl_eval [trait0V, ht]; rfl
  | some t0 =>
    resl_eval [trait0V, ht]
    cases hd : o.dict.get name with
    | some v =>
      resl_eval [hd, setDict_eq _ ho]
      cases hi : o.itraits.get name <;> resl_eval [hi] <;> rfl
    | none =>
      -- no value to delete: `d.erase name = d`, and without instance trait the world is unchanged
      rw [Map.erase_of_get_none _ _ hd]
      resl_eval [hd]
      cases hi : o.itraits.get name with
      | some _ => resl_eval [hi]; rfl
      | none =>
        resl_eval [hi]
        rw [set_getElem?_self ho]; rfl

end TraitsVerif.Model.ResL
