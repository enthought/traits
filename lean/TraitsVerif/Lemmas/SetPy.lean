/-
Facts about the builtin-set model `Py.PSet` (duplicate-free lists up to
permutation): membership after each operation and preservation of `WF`.
-/
import TraitsVerif.Py.Set
set_option linter.unusedSectionVars false
namespace TraitsVerif.Py.PSet
variable {α : Type} [DecidableEq α]

theorem mem_insert {s : PSet α} {x y : α} : x ∈ insert s y ↔ x ∈ s ∨ x = y := by
  unfold insert; split <;> simp_all

theorem wf_insert {s : PSet α} (h : WF s) (y : α) : WF (insert s y) := by
  unfold insert WF at *; split
  · exact h
  · rw [List.nodup_append]; refine ⟨h, by simp, ?_⟩
    intro a ha b hb; simp at hb; subst hb; intro e; subst e; contradiction

theorem mem_erase {s : PSet α} {x y : α} : x ∈ erase s y ↔ x ∈ s ∧ x ≠ y := by
  simp [erase, List.mem_filter]

theorem wf_filter {s : PSet α} (h : WF s) (p : α → Bool) : WF (s.filter p) :=
  List.Nodup.sublist List.filter_sublist h

theorem wf_erase {s : PSet α} (h : WF s) (y : α) : WF (erase s y) := wf_filter h _

theorem mem_union {s : PSet α} {t : List α} {x : α} : x ∈ union s t ↔ x ∈ s ∨ x ∈ t := by
  unfold union
  induction t generalizing s with
  | nil => simp
  | cons y t ih => simp only [List.foldl_cons, ih, mem_insert, List.mem_cons]; grind

theorem wf_union {s : PSet α} (h : WF s) (t : List α) : WF (union s t) := by
  unfold union
  induction t generalizing s with
  | nil => exact h
  | cons y t ih => exact ih (wf_insert h y)

theorem mem_ofList {t : List α} {x : α} : x ∈ ofList t ↔ x ∈ t := by
  simp [ofList, mem_union]

theorem wf_nil : WF ([] : PSet α) := List.nodup_nil

theorem wf_ofList (t : List α) : WF (ofList t) := wf_union wf_nil t

theorem mem_inter {s : PSet α} {t : List α} {x : α} : x ∈ inter s t ↔ x ∈ s ∧ x ∈ t := by
  simp [inter, List.mem_filter]

theorem mem_diff {s : PSet α} {t : List α} {x : α} : x ∈ diff s t ↔ x ∈ s ∧ x ∉ t := by
  simp [diff, List.mem_filter]

theorem wf_inter {s : PSet α} (h : WF s) (t : List α) : WF (inter s t) := wf_filter h _
theorem wf_diff {s : PSet α} (h : WF s) (t : List α) : WF (diff s t) := wf_filter h _

theorem mem_symm {s : PSet α} {t : List α} {x : α} :
    x ∈ symm s t ↔ (x ∈ s ∧ x ∉ t) ∨ (x ∈ t ∧ x ∉ s) := by
  simp [symm, mem_diff, mem_ofList]

theorem wf_symm {s : PSet α} (h : WF s) (t : List α) : WF (symm s t) := by
  unfold symm WF
  rw [List.nodup_append]
  refine ⟨wf_diff h t, wf_diff (wf_ofList t) s, ?_⟩
  intro a ha b hb e
  subst e
  rw [mem_diff] at ha hb
  exact hb.2 ha.1

theorem mem_foldl_diff {args : List (List α)} {s : PSet α} {x : α} :
    x ∈ args.foldl diff s ↔ x ∈ s ∧ ∀ a ∈ args, x ∉ a := by
  induction args generalizing s with
  | nil => simp
  | cons a args ih => simp only [List.foldl_cons, ih, mem_diff, List.mem_cons]; grind

theorem mem_foldl_inter {args : List (List α)} {s : PSet α} {x : α} :
    x ∈ args.foldl inter s ↔ x ∈ s ∧ ∀ a ∈ args, x ∈ a := by
  induction args generalizing s with
  | nil => simp
  | cons a args ih => simp only [List.foldl_cons, ih, mem_inter, List.mem_cons]; grind

theorem wf_foldl {f : PSet α → List α → PSet α} (hf : ∀ {s : PSet α}, WF s → ∀ t, WF (f s t)) {s : PSet α}
    (h : WF s) (args : List (List α)) : WF (args.foldl f s) := by
  induction args generalizing s with
  | nil => exact h
  | cons a args ih => exact ih (hf h a)

theorem popChoice_mem {s : PSet α} {hint : Option α} {x : α} (h : popChoice s hint = some x) : x ∈ s := by
  revert h
  fun_cases popChoice s hint <;> intro h
  · cases h; assumption                              -- the hint is a member
  all_goals exact List.mem_of_mem_head? h

theorem popChoice_none {s : PSet α} {hint : Option α} : popChoice s hint = none ↔ s = [] := by
  fun_cases popChoice s hint <;> simp_all [List.head?_eq_none_iff]
  rintro rfl; contradiction

theorem popChoice_good {s : PSet α} {x : α} (h : x ∈ s) : popChoice s (some x) = some x := by
  simp [popChoice, h]

theorem equiv_nil {s : PSet α} (h : Equiv s []) : s = [] := by
  cases s with
  | nil => rfl
  | cons y s => have := (h y).mp (by simp); cases this

theorem Equiv.refl (s : PSet α) : Equiv s s := fun _ => Iff.rfl
theorem Equiv.symm {a b : PSet α} (h : Equiv a b) : Equiv b a := fun x => (h x).symm
theorem Equiv.trans {a b c : PSet α} (h : Equiv a b) (h' : Equiv b c) : Equiv a c :=
  fun x => (h x).trans (h' x)

theorem Equiv.perm {a b : PSet α} (h : Equiv a b) (ha : WF a) (hb : WF b) : a.Perm b :=
  (List.perm_ext_iff_of_nodup ha hb).mpr h

end TraitsVerif.Py.PSet
