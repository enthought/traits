/-
The event emitted by slice assignment / deletion satisfies the replay law and
the normal form — the heart of property C05.  Whatever the slice, the selected
positions are a forward progression read in one direction or the other
(`slice_canon` in SeqSlice); the event of a forward progression is
dealt with once (`forward_nf`, `forward_replay_set`, `forward_replay_del`).
-/
import TraitsVerif.Lemmas.SeqSlice
namespace TraitsVerif.Model
open TraitsVerif TraitsVerif.Py
variable {α : Type}

theorem replay_idx (l : List α) (n : Int) (removed added : List α) (hn : 0 ≤ n) :
    replay l ⟨.idx n, removed, added⟩
      = some (l.take n.toNat ++ added ++ l.drop (n.toNat + removed.length)) := by
  simp [replay, hn]

theorem replay_slc_set (l : List α) (a b k : Int) (removed added : List α) (q : Nat)
    (hk : 2 ≤ k) (ha : 0 ≤ a) (hb : a + q * k + 1 = b) (hbn : b ≤ l.length)
    (hlen : added.length = q + 1) :
    replay l ⟨.slc a b k, removed, added⟩
      = some (setPositions l (positions a k (q + 1)) added) := by
  obtain ⟨hidx, hsl⟩ := normal_indices l.length hk ha hb hbn
  have hadd : added ≠ [] := by intro h; simp [h] at hlen
  simp only [replay, List.isEmpty_iff, hadd, if_false, Py.setSlice, hidx]
  rw [if_neg (by omega), hsl, if_neg (by simp [hlen])]
  rfl

theorem replay_slc_del (l : List α) (a b k : Int) (removed : List α) (q : Nat)
    (hk : 2 ≤ k) (ha : 0 ≤ a) (hb : a + q * k + 1 = b) (hbn : b ≤ l.length) :
    replay l ⟨.slc a b k, removed, []⟩
      = some (delPositions l (positions a k (q + 1))) := by
  obtain ⟨hidx, hsl⟩ := normal_indices l.length hk ha hb hbn
  simp only [replay, List.isEmpty_nil, if_true, Py.delSlice, hidx]
  rw [if_neg (by omega), hsl]
  rfl

/-- The event for a slice, as `TraitList.__setitem__`/`__delitem__` build it. -/
def sliceEvent (n : Nat) (a b k : Int) (removed added : List α) : Event α :=
  let r := normalizeCore n a b k
  ⟨r.2, if r.1 then removed.reverse else removed, if r.1 then added.reverse else added⟩

/-! ### The event of a forward progression

`lo, lo + st, …, lo + q * st` inside the list, `st ≥ 1`: `_normalize_slice_or_index` reports it as the index `lo`
when the positions are adjacent (or there is one only), else as the slice `lo : lo + q * st + 1 : st`. -/

section Forward
variable {l : List α} {lo st : Int} {q : Nat} (hlo : 0 ≤ lo) (hst : 1 ≤ st) (hn : lo + q * st < l.length)
include hn

theorem forward_block (hc : st = 1 ∨ q = 0) :
    positions lo st (q + 1) = positions lo 1 (q + 1) ∧ lo + ((q + 1 : Nat) : Int) ≤ l.length := by
  rcases hc with rfl | rfl
  · exact ⟨rfl, by push_cast; omega⟩
  · exact ⟨rfl, by push_cast; omega⟩

include hlo hst

theorem forward_removed : (getPositions l (positions lo st (q + 1))).length = q + 1 := by
  rw [getPositions_length (positions_in_range_pos hlo (by omega) hn), positions_length]

theorem forward_nf {added : List α} (hadd : added = [] ∨ added.length = q + 1) :
    NormalForm l ⟨if st = 1 ∨ q = 0 then .idx lo else .slc lo (lo + q * st + 1) st,
      getPositions l (positions lo st (q + 1)), added⟩ := by
  have hrl := forward_removed hlo hst hn
  by_cases hc : st = 1 ∨ q = 0
  · obtain ⟨hstep, hle⟩ := forward_block hn hc
    simp only [hc, if_true, NormalForm, hrl]
    exact ⟨hlo, hle, by rw [hstep]; exact getPositions_contig l _ _ hlo hle⟩
  · have hq : (0 : Int) ≤ q * st := Int.mul_nonneg (by omega) (by omega)
    simp only [hc, if_false, NormalForm, hrl]
    exact ⟨hlo, by omega, by omega, by omega, getSlice_normal l _ _ _ q (by omega) hlo rfl (by omega), hadd⟩

theorem forward_replay_set {ys : List α} (hlen : ys.length = q + 1) :
    replay l ⟨if st = 1 ∨ q = 0 then .idx lo else .slc lo (lo + q * st + 1) st,
      getPositions l (positions lo st (q + 1)), ys⟩ = some (setPositions l (positions lo st (q + 1)) ys) := by
  have hrl := forward_removed hlo hst hn
  by_cases hc : st = 1 ∨ q = 0
  · obtain ⟨hstep, hle⟩ := forward_block hn hc
    have := setPositions_contig l lo ys hlo (by rw [hlen]; exact hle)
    rw [hlen] at this
    rw [hstep] at hrl
    simp only [hc, if_true, replay_idx _ _ _ _ hlo, hrl, hstep, this]
  · simp only [hc, if_false]
    exact replay_slc_set l _ _ _ _ _ q (by omega) hlo rfl (by omega) hlen

theorem forward_replay_del :
    replay l ⟨if st = 1 ∨ q = 0 then .idx lo else .slc lo (lo + q * st + 1) st,
      getPositions l (positions lo st (q + 1)), []⟩ = some (delPositions l (positions lo st (q + 1))) := by
  have hrl := forward_removed hlo hst hn
  by_cases hc : st = 1 ∨ q = 0
  · obtain ⟨hstep, hle⟩ := forward_block hn hc
    rw [hstep] at hrl
    simp only [hc, if_true, replay_idx _ _ _ _ hlo, hrl, hstep, delPositions_contig l _ hlo _ hle, List.append_nil]
  · simp only [hc, if_false]
    exact replay_slc_del l _ _ _ _ q (by omega) hlo rfl (by omega)

end Forward

theorem setSlice_event {l : List α} {s : Slice} {ys l' : List α} {a b k : Int}
    (hidx : s.indices l.length = some (a, b, k))
    (hset : Py.setSlice l s ys = .ok l')
    (hne : ¬ (ys = [] ∧ getPositions l (positions a k (sliceLen a b k)) = [])) :
    replay l (sliceEvent l.length a b k (getPositions l (positions a k (sliceLen a b k))) ys) = some l'
    ∧ NormalForm l (sliceEvent l.length a b k (getPositions l (positions a k (sliceLen a b k))) ys) := by
  simp only [Py.setSlice, hidx] at hset
  by_cases hk1 : k = 1
  · subst hk1
    simp only [if_true, Except.ok.injEq] at hset
    obtain ⟨ha, hle, hsp⟩ := splice_eq_block ys hidx
    have hrem := getPositions_contig l a _ ha hle
    have hlen := selected_length hidx
    simp only [sliceEvent, normalizeCore_one, Bool.false_eq_true, if_false, NormalForm, replay_idx _ _ _ _ ha, hlen]
    exact ⟨by rw [← hset, hsp], ha, hle, hrem⟩
  · rw [if_neg hk1] at hset
    split at hset
    · cases hset
    · rename_i hlen
      simp only [ne_eq, Decidable.not_not] at hlen
      cases hset
      cases hq : sliceLen a b k with
      | zero => exact (hne ⟨List.length_eq_zero_iff.mp (hlen.trans hq), by rw [hq]; rfl⟩).elim
      | succ q =>
        rw [hq] at hlen
        obtain ⟨lo, st, hlo, hst, hn, hnorm, hpos⟩ := slice_canon hidx hq
        by_cases hk : k < 0 <;> simp only [sliceEvent, hnorm, hpos, hk, decide_true, decide_false, if_true, if_false,
          Bool.false_eq_true]
        · -- read downwards: the same assignment with `ys` turned round
          have hrange := positions_in_range_pos (q := q) hlo (by omega : 0 < st) hn
          have hrev := setPositions_reverse l (positions lo st (q + 1)) ys.reverse (by simp [hlen])
            (fun p hp => (hrange p hp).1) (positions_nodup (by omega) _)
          rw [List.reverse_reverse] at hrev
          rw [getPositions_reverse, List.reverse_reverse, hrev]
          exact ⟨forward_replay_set hlo hst hn (by simp [hlen]), forward_nf hlo hst hn (.inr (by simp [hlen]))⟩
        · exact ⟨forward_replay_set hlo hst hn hlen, forward_nf hlo hst hn (.inr hlen)⟩

theorem delSlice_event {l : List α} {s : Slice} {l' : List α} {a b k : Int}
    (hidx : s.indices l.length = some (a, b, k))
    (hdel : Py.delSlice l s = .ok l')
    (hne : getPositions l (positions a k (sliceLen a b k)) ≠ []) :
    replay l (sliceEvent l.length a b k (getPositions l (positions a k (sliceLen a b k))) []) = some l'
    ∧ NormalForm l (sliceEvent l.length a b k (getPositions l (positions a k (sliceLen a b k))) []) := by
  by_cases hk1 : k = 1
  · -- contiguous: the same list operation as `l[s] = []`
    refine setSlice_event hidx ?_ fun h => hne h.2
    simpa only [Py.delSlice, Py.setSlice, hidx, hk1, if_true] using hdel
  · simp only [Py.delSlice, hidx, if_neg hk1, Except.ok.injEq] at hdel
    cases hdel
    cases hq : sliceLen a b k with
    | zero => exact (hne (by rw [hq]; rfl)).elim
    | succ q =>
      obtain ⟨lo, st, hlo, hst, hn, hnorm, hpos⟩ := slice_canon hidx hq
      -- read upwards or downwards, the same positions go
      by_cases hk : k < 0 <;> simp only [sliceEvent, hnorm, hpos, hk, decide_true, decide_false, if_true, if_false,
        Bool.false_eq_true, getPositions_reverse, List.reverse_reverse, List.reverse_nil, delPositions_reverse] <;>
      exact ⟨forward_replay_del hlo hst hn, forward_nf hlo hst hn (.inl rfl)⟩

end TraitsVerif.Model
