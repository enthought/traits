/-
Cluster `obs`: reading a trait whose CONTAINER default (`List` / `Dict` / `Set`:
`TRAIT_{LIST,DICT,SET}_OBJECT_DEFAULT_VALUE`) has not been materialised preserves
the refinement invariant (complements `read_preserves` of `ObsInvSet.lean`, which
covers constant defaults).

Two steps: (1) allocating a cell nothing refers to changes no from-scratch hook list
(`alloc_hookList`, `alloc_preserves`); (2) in the allocated heap the read is the
assignment of an existing empty container to an unset trait: `fire_preserves`.
-/
import TraitsVerif.Lemmas.ObsInvSet
namespace TraitsVerif.Model.Obs
open TraitsVerif

/-! ### what an object refers to -/

def Obj.refs : Obj → List W
  | .inst fs => fs.flatMap (fun f => valObjects f.val)
  | .list l => l.map some
  | .dict l => l.map (fun kv => some kv.2)
  | .set l => l.map some
  | .junk => []

/-- no cell of the heap refers to `y` (decidable on a concrete heap) -/
def Unref (h : Heap) (y : Id) : Prop := ∀ p ∈ h, some y ∉ p.2.refs

theorem Heap.get_mem (h : Heap) (i : Id) : h.get i = .junk ∨ (i, h.get i) ∈ h := by
  fun_induction Heap.get h i with
  | case1 => exact .inl rfl                                           -- not in the heap
  | case2 o h => exact .inr (List.mem_cons_self ..)                   -- found at the head
  | case3 j o h i _ ih => exact ih.imp id (List.mem_cons_of_mem _)    -- further down

theorem Unref.at {h : Heap} {y : Id} (hu : Unref h y) (x : W) : some y ∉ (h.at x).refs := by
  cases x with
  | none => simp [Heap.at, Obj.refs]
  | some i =>
    rcases Heap.get_mem h i with h1 | h1
    · simp [Heap.at, h1, Obj.refs]
    · exact hu _ h1

theorem objects_refs (h : Heap) (ob : Observer) (x : W) (w : W)
    (hm : w ∈ (okOr [] (objects h ob x) : List W)) : w ∈ (h.at x).refs := by
  revert hm
  -- the arms that hand nothing on (error, or optional and absent) are closed at once
  fun_cases objects h ob x <;> simp only [okOr, List.not_mem_nil, false_imp_iff]
  case case1 n _ _ ht =>                                  -- `named n`, the trait exists: its value
    intro hm
    simp only [hasTrait, fieldVal] at ht hm
    split at ht
    · next fs hg =>
      rw [hg]
      cases hf : findField fs n with
      | none => simp [hf] at ht
      | some f => exact List.mem_flatMap.2 ⟨f, List.mem_of_find?_eq_some hf, by simpa [hg, hf] using hm⟩
    · cases ht
  case case4 hg => rw [hg]; exact id                      -- list items on a list
  case case7 hg => rw [hg]; exact id                      -- dict items on a dict: the values
  case case10 hg => rw [hg]; exact id                     -- set items on a set
  case case13 fl _ fs hg =>                               -- `filtered` on an instance: the matching traits' values
    rw [hg]
    intro hm
    obtain ⟨f, hf, hv⟩ := List.mem_flatMap.1 hm
    exact List.mem_flatMap.2 ⟨f, (List.mem_filter.1 hf).1, hv⟩

theorem objects_unref {h : Heap} {y : Id} (hu : Unref h y) (ob : Observer) (x : W) :
    some y ∉ (okOr [] (objects h ob x) : List W) :=
  fun hm => hu.at x (objects_refs h ob x _ hm)

/-! ### (1) allocation of an unreferenced cell -/

theorem alloc_hookList (h : Heap) (y : Id) (c : Obj) (hu : Unref h y) (k : HKey) :
    ∀ g : Graph, ∀ (e : Bool) (x : W), x ≠ some y → hookList (h.upd y c) k e g x = hookList h k e g x := by
  apply Graph.ind
  intro ob cs ih e x hx
  obtain ⟨h1, h2, h3⟩ := iter_congr_at (h := h) (h' := h.upd y c) ob x (Heap.at_upd_ne h y c x hx)
  rw [hookList_node, hookList_node, hookListCs_flat, hookListCs_flat, h2, h3]
  congr 2
  · simp [ownItems, h1]
  · exact Common.flatMap_congr (fun c' hc' => Common.flatMap_congr (fun w hw =>
      ih c' hc' true w (fun e' => objects_unref hu ob x (e' ▸ hw))))

theorem alloc_preserves (h : Heap) (H : Hooks) (regs : List Reg) (y : Id) (c : Obj)
    (hu : Unref h y) (hroots : ∀ r ∈ regs, r.x ≠ y) (hinv : HooksEqReach h H regs) :
    HooksEqReach (h.upd y c) H regs := by
  refine ⟨hinv.1, ?_⟩
  intro o q
  rw [hinv.2]
  unfold specCnt
  apply sum_map_congr
  intro r hr
  rw [alloc_hookList h y c hu r.k r.g true (some r.x) (fun e => hroots r hr (Option.some.inj e))]

/-! ### (2) the read -/

/-- Reading `o.n` whose default — a fresh empty container `c` in cell `fresh` — has not been
materialised.  `fr` is the assignment fragment IN THE ALLOCATED HEAP, for the value `.ref fresh`
(exactly the hypotheses of assigning an existing empty container to the unset trait). -/
theorem read_alloc_preserves (E : Env) (st : St) (regs : List Reg) (o : Id) (n : Name) (fresh : Id) (c : Obj)
    (fs : List Field) (f : Field) (hinv : HooksEqReach st.h st.H regs)
    (hu : Unref st.h fresh) (hroots : ∀ r ∈ regs, r.x ≠ fresh)
    (hc : ∀ fs', c ≠ .inst fs')
    (hmat : materialise st.h f.dflt fresh = (st.h.upd fresh c, .ref fresh))
    (fr : SetFrag E ⟨st.h.upd fresh c, st.H⟩ regs o n (.ref fresh) fs f) (hunset : f.val = .unset) :
    HooksEqReach (mutate E st (.read o n fresh)).st.h (mutate E st (.read o n fresh)).st.H regs ∧
    (mutate E st (.read o n fresh)).err = none ∧ (mutate E st (.read o n fresh)).delivered = [] := by
  have hinv' : HooksEqReach (st.h.upd fresh c) st.H regs := alloc_preserves st.h st.H regs fresh c hu hroots hinv
  obtain ⟨hfire, _, _⟩ := fire_preserves E ⟨st.h.upd fresh c, st.H⟩ regs o n (.ref fresh) fs f hinv' fr
  have ho : st.h.get o = .inst fs := by
    have := fr.ho
    simp only [Heap.get_upd] at this
    split at this
    · exact absurd this (hc fs)
    · exact this
  have hu' : (f.val == Val.unset) = true := by rw [hunset]; rfl
  simp only [mutate, ho, fr.hf, hu', if_true, hmat]
  rw [hunset] at hfire
  exact ⟨hfire.1, hfire.2, fire_unset_delivered ..⟩

/-! ### non-vacuity witness

`a.kids` is a `List` trait never read (absent from `__dict__`), `a.observe(handler,
"kids.items.value")`; then `a.kids` is read: cell 100 is the fresh list. -/
namespace ContDefaultWitness

def fld (n : Name) (v : Val) : Field := ⟨n, false, .val (if n == nValue then .int 0 else .none), v, .equality⟩
def kidsF : Field := ⟨nKids, false, .newList, .unset, .equality⟩

def cKey : HKey := ⟨0, 0⟩
def cFs : List Field := [kidsF, fld nTraitAdded .unset]
def cHeap : Heap := [(0, .inst cFs), (1, .inst [fld nValue (.int 3), fld nTraitAdded .unset])]
def cGraph : Graph := .node (.named nKids true false) [.node (.listItems true false) [.node (.named nValue true false) []]]
def cSt : St := ⟨cHeap, (addRemove cHeap cKey false true cGraph (some 0) Hooks.empty).H⟩
def cRegs : List Reg := [⟨cKey, cGraph, 0⟩]

theorem cInv : HooksEqReach cSt.h cSt.H cRegs := .of_observe cHeap cKey cGraph 0 (by decide)

theorem cUnref : Unref cSt.h 100 := by
  intro p hp
  simp [cSt, cHeap] at hp
  rcases hp with rfl | rfl <;> decide

theorem cHooks : cSt.H.get (.trait 0 nKids) =
    [.user cKey 1, .maint .trait (.node (.listItems true false) [.node (.named nValue true false) []]) cKey] := rfl
theorem cVisits : visits (cSt.h.upd 100 (.list [])) 0 nKids cGraph (some 0) =
    [.node (.listItems true false) [.node (.named nValue true false) []]] := rfl

theorem cFrag : SetFrag {} ⟨cSt.h.upd 100 (.list []), cSt.H⟩ cRegs 0 nKids (.ref 100) cFs kidsF :=
  .of_single rfl rfl (fun _ => rfl) (by intro m; simp)
    (by intro c k hm; rw [cHooks] at hm; simp at hm; exact hm)
    rfl (by decide) cVisits (by decide) (by decide)

/-- … the theorem applies to the first read of `a.kids` -/
example : HooksEqReach (mutate {} cSt (.read 0 nKids 100)).st.h (mutate {} cSt (.read 0 nKids 100)).st.H cRegs :=
  (read_alloc_preserves {} cSt cRegs 0 nKids 100 (.list []) cFs kidsF cInv cUnref
    (by intro r hr; simp [cRegs] at hr; subst hr; decide) (by intro _ e; cases e) rfl cFrag rfl).1

/-- the fresh list carries the user notifier and the item maintainer; nothing was delivered;
a later `a.kids.append(b)` hooks `b.value` -/
example : cnt (mutate {} cSt (.read 0 nKids 100)).st.H (.cont 100) (.user cKey) = 1 ∧
    cnt (mutate {} cSt (.read 0 nKids 100)).st.H (.cont 100)
      (.maint .list (.node (.named nValue true false) []) cKey) = 1 ∧
    (mutate {} cSt (.read 0 nKids 100)).delivered = [] ∧
    cnt (mutate {} (mutate {} cSt (.read 0 nKids 100)).st (.listAppend 100 1)).st.H (.trait 1 nValue) (.user cKey) = 1 := by
  decide

end ContDefaultWitness

end TraitsVerif.Model.Obs
