/-
`…_src` lemmas for the functions the entry points call: `__prefix_trait__` and `get_prefix_trait` —
each says, for an arbitrary state, which state and value the call leaves behind.
-/
import TraitsVerif.Lemmas.ResolveSource
namespace TraitsVerif.Model.ResL
open TraitsVerif TraitsVerif.Model.Resolve TraitsVerif.Generated

/-! ### `__prefix_trait__` -/

theorem sliceTo_nat (n : Name) (k : Nat) : sliceTo n (k : Int) = n.take k := by
  simp [sliceTo]

theorem sliceTo_two (n : Name) : sliceTo n 2 = n.take 2 := sliceTo_nat n 2

theorem sliceTo_neg_one (n : Name) : sliceTo n (-1) = stem n := by
  simp [sliceTo, stem]

theorem sliceFrom_neg_one (n : Name) : sliceFrom n (-1) = n.drop (n.length - 1) := by
  simp [sliceFrom]

theorem sliceFrom_neg_two (n : Name) : sliceFrom n (-2) = n.drop (n.length - 2) := by
  simp [sliceFrom]

theorem kindName_delegate (k : Kind) : kindName k = ['d', 'e', 'l', 'e', 'g', 'a', 't', 'e'] ↔ k = .delegate := by
  cases k <;> decide

theorem classDunder_eq : classDunder = ['_', '_', 'c', 'l', 'a', 's', 's', '_', '_'] := by decide

theorem isDunder_iff (n : Name) :
    isDunder n = true ↔ n.take 2 = ['_', '_'] ∧ n.drop (n.length - 2) = ['_', '_'] := by
  simp [isDunder]

theorem endsUnderscore_iff (n : Name) : endsUnderscore n = true ↔ n.drop (n.length - 1) = ['_'] := by
  simp [endsUnderscore]

/-- The body of the `for prefix in prefix_traits["*"]` loop of `__prefix_trait__` (its fourth statement). -/
def prefixLoopBody : List Stmt :=
  match ResolvePy.prefix_trait.stmt 3 with
  | .forIn _ _ body => body
  | _ => []

/-- The loop over a list `ps` of wildcards returns the trait of the first one that matches, provided
that one is what `prefix_traits[prefix]` finds. -/
theorem prefix_loop (Γ : Ctx) (name : Name) (ps : List (Name × Trait)) : ∀ st : St,
    (∀ e ∈ ps, e.1 ≠ ['*']) → (∀ e, firstMatch ps name = some e → Map.get st.c.prefixes e.1 = some e.2) →
    st.get .p1 = .name name → st.get .l1 = .dict .P →
    ∃ env', forLoop (fun s => execs Γ true prefixLoopBody s) .l2 (ps.map (·.1)) st =
      ({ st with env := env' }, match firstMatch ps name with | some e => .ret (.trait e.2) | none => .next) := by
  induction ps with
  | nil => intro st _ _ _ _; exact ⟨st.env, rfl⟩
  | cons x xs ih =>
    intro st hstar hget hname hpt
    obtain ⟨w, oi, o, c, nI, nO, fr, er, env⟩ := st
    simp only [St.get] at hname hpt
    simp only [firstMatch_cons] at hget ⊢
    simp only [List.map_cons, forLoop, prefixLoopBody, Fun.stmt, ResolvePy.prefix_trait, List.getD_cons_succ,
      List.getD_cons_zero]
    cases hm : prefixMatches x.1 name with
    | true =>
      have hx : x.1 = name.take x.1.length := by simpa [prefixMatches] using hm
      have hg : Map.get c.prefixes x.1 = some x.2 := hget x (by rw [hm]; rfl)
      refine ⟨(.l0, .trait x.2) :: (.l2, .name x.1) :: env, ?_⟩
      resl_eval [hname, hpt, sliceTo_nat, V.name.injEq, ← hx, hg, hstar x List.mem_cons_self]
    | false =>
      have hx : ¬ x.1 = name.take x.1.length := by simpa [prefixMatches] using hm
      obtain ⟨env', h⟩ := ih (St.mk w oi o c nI nO fr er ((.l2, .name x.1) :: env))
        (fun e he => hstar e (List.mem_cons_of_mem _ he)) (fun e he => hget e (by rw [hm]; exact he)) hname hpt
      simp only [prefixLoopBody, Fun.stmt, ResolvePy.prefix_trait, List.getD_cons_succ, List.getD_cons_zero] at h
      refine ⟨env', ?_⟩
      resl_eval [hname, hpt, sliceTo_nat, V.name.injEq, hx, h]

/-- What the call `obj.__prefix_trait__(name, is_set)` returns in the interpreter,
in terms of the model's `prefixTrait`. -/
def prefixTraitV (st : St) (name : Name) (b : Bool) : St × V :=
  match prefixTrait st.c st.o name b with
  | .ok t => (st, .trait t)
  | .error e => ({ st with err := some e }, .null)

def NoStar (c : Cls) : Prop := ∀ e ∈ c.prefixes, e.1 ≠ ['*']

section prefix_trait
variable (E : Env) (w : World) (oi : Nat) (o : Obj) (c : Cls) (nI nO : Bool) (fr : Option DictId)
  (er : Option Exc) (env e : List (Var × V)) (name : Name)
  (h0 : envGet env .p0 = .obj) (h1 : envGet env .p1 = .name name)
include h0 h1

/-- From `prefix_traits = self.__prefix_traits__` on: the first matching wildcard, else SystemError. -/
theorem prefix_trait_search (hstar : NoStar c) :
    leave e true (execs ⟨E, user4 E⟩ true (ResolvePy.prefix_trait.body.drop 2) (St.mk w oi o c nI nO fr er env)) =
      match firstMatch c.prefixes name with
      | some x => (St.mk w oi o c nI nO fr er e, .trait x.2)
      | none => (St.mk w oi o c nI nO fr (some .other) e, .null) := by
  obtain ⟨env', hl⟩ := prefix_loop ⟨E, user4 E⟩ name c.prefixes (St.mk w oi o c nI nO fr er ((.l1, .dict .P) :: env))
    hstar (fun _ h => firstMatch_get h) h1 rfl
  cases hf : firstMatch c.prefixes name <;> simp only [prefixLoopBody, Fun.stmt, ResolvePy.prefix_trait, List.getD_cons_succ, List.getD_cons_zero, hf] at hl <;>
    resl_eval [ResolvePy.prefix_trait, List.drop_succ_cons, List.drop_zero, h0, hl]

/-- The test for a trailing underscore (the `name_` shadow of a delegate `name`), given what the
statements after it return. -/
theorem prefix_trait_shadow (b : Bool) (hI : nI = true → o.itraits = []) (hdu : isDunder name = false) (ss : List Stmt)
    (hss : ∀ env', envGet env' .p0 = .obj → envGet env' .p1 = .name name →
      leave e true (execs ⟨E, user4 E⟩ true ss (St.mk w oi o c nI nO fr er env')) =
        match firstMatch c.prefixes name with
        | some x => (St.mk w oi o c nI nO fr er e, .trait x.2)
        | none => (St.mk w oi o c nI nO fr (some .other) e, .null)) :
    leave e true (execs ⟨E, user4 E⟩ true (ResolvePy.prefix_trait.stmt 1 :: ss) (St.mk w oi o c nI nO fr er env)) =
      prefixTraitV (St.mk w oi o c nI nO fr er e) name b := by
  have hm := fun env' => (get_trait0_src E (St.mk w oi o c nI nO fr er env') (stem name) hI).2
  simp only [Fun.stmt, ResolvePy.prefix_trait, List.getD_cons_succ, List.getD_cons_zero]
  simp only [prefixTraitV, prefixTrait, hdu, trait0V] at hm ⊢
  by_cases heu : endsUnderscore name = true
  · have h3 := (endsUnderscore_iff name).mp heu
    cases ht : trait0 c o (stem name) with
    | some t =>
      resl_eval [h0, h1, sliceFrom_neg_one, sliceTo_neg_one, V.name.injEq, h3, hm, ht, kindName_delegate, heu]
      by_cases hk : t.kind = .delegate
      · resl_eval [hk]
      · resl_eval [h0, h1, hk, hss]
        cases firstMatch c.prefixes name <;> rfl
    | none =>
      resl_eval [h0, h1, sliceFrom_neg_one, sliceTo_neg_one, V.name.injEq, h3, hm, ht, heu, hss]
      cases firstMatch c.prefixes name <;> rfl
  · have h3 : ¬ name.drop (name.length - 1) = ['_'] := fun h => heu ((endsUnderscore_iff name).mpr h)
    resl_eval [h0, h1, sliceFrom_neg_one, V.name.injEq, h3, heu, hss]
    cases firstMatch c.prefixes name <;> rfl

omit h0 in
/-- A name that is not `__xxx__` passes the first statement (both orders of failing the test). -/
theorem prefix_trait_not_dunder (hdu : isDunder name = false) :
    exec ⟨E, user4 E⟩ true (ResolvePy.prefix_trait.stmt 0) (St.mk w oi o c nI nO fr er env) =
      (St.mk w oi o c nI nO fr er env, .next) := by
  have hdu' : ¬ isDunder name = true := by rw [hdu]; exact Bool.false_ne_true
  rw [isDunder_iff] at hdu'
  simp only [Fun.stmt, ResolvePy.prefix_trait, List.getD_cons_zero]
  by_cases h2 : name.take 2 = ['_', '_']
  · have h3 : ¬ name.drop (name.length - 2) = ['_', '_'] := fun h => hdu' ⟨h2, h⟩
    resl_eval [h1, sliceTo_two, sliceFrom_neg_two, V.name.injEq, h2, h3]
  · resl_eval [h1, sliceTo_two, V.name.injEq, h2]

end prefix_trait

theorem prefix_trait_src (E : Env) (st : St) (name : Name) (b : Bool)
    (hI : st.nullI = true → st.o.itraits = []) (hstar : NoStar st.c) :
    user5 E .m_prefix_trait [.obj, .name name, .int (if b then 1 else 0)] st = prefixTraitV st name b := by
  obtain ⟨w, oi, o, c, nI, nO, fr, er, env⟩ := st
  simp only [user5, runFun_mk]
  by_cases hdu : isDunder name = true
  · obtain ⟨h1, h2⟩ := (isDunder_iff name).mp hdu
    simp only [prefixTraitV, prefixTrait, hdu, classDunder_eq]
    resl_eval [ResolvePy.prefix_trait, sliceTo_two, sliceFrom_neg_two, V.name.injEq, h1, h2]
    by_cases hcl : name = ['_', '_', 'c', 'l', 'a', 's', 's', '_', '_']
    · resl_eval [hcl]
    · resl_eval [hcl]
      cases b <;> resl_eval []
  · rw [Bool.not_eq_true] at hdu
    exact (leave_skip (prefix_trait_not_dunder E w oi o c nI nO fr er _ name rfl hdu) _ _).trans
      (prefix_trait_shadow E w oi o c nI nO fr er _ env name rfl rfl b hI hdu _
        fun env' h0 h1 => prefix_trait_search E w oi o c nI nO fr er env' env name h0 h1 hstar)

/-! ### `get_prefix_trait`

Stated the way its callers use it: what the call leaves behind next to what the model's
`getPrefixTrait` returns.  `i` is the C `int is_set`. -/

theorem user5_get_trait (E : Env) (a : List V) (st : St) : user5 E .get_trait a st = user4 E .get_trait a st := rfl

section get_prefix_trait
variable (E : Env) (w : World) (oi : Nat) (o : Obj) (c : Cls) (nI nO : Bool) (name : Name) (b : Bool) (i : Int)
  (hi : i = if b then 1 else 0) (hI : nI = true → o.itraits = []) (hstar : NoStar c)
include hi hI hstar

theorem get_prefix_trait_error {x : Exc} (hpt : prefixTrait c o name b = .error x) :
    getPrefixTrait w oi o c name b = (w, .error x) ∧
    ∀ fr er env, user6 E .get_prefix_trait [.obj, .name name, .int i] (St.mk w oi o c nI nO fr er env) =
      (St.mk w oi o c nI nO fr (some x) env, .null) := by
  subst hi
  refine ⟨getPrefixTrait_error hpt, fun fr er env => ?_⟩
  have hp := fun env' => prefix_trait_src E (St.mk w oi o c nI nO fr er env') name b hI hstar
  simp only [user6, runFun_mk, prefixTraitV, hpt] at hp ⊢
  resl_eval [ResolveC.get_prefix_trait, hp]

/-- On success the result is cached in the class dictionary, `trait_added` fires, and the name is looked
up again: `tt` is an instance trait a listener has just added, or the cached trait. -/
theorem get_prefix_trait_ok {t : Trait} (hpt : prefixTrait c o name b = .ok t) :
    ∃ tt, getPrefixTrait w oi o c name b =
        ({ classes := w.classes.set o.cls { c with ctraits := c.ctraits.set name t },
           objs := w.objs.set oi (fireTraitAdded o name) }, .ok tt) ∧
      ∀ fr er env, user6 E .get_prefix_trait [.obj, .name name, .int i] (St.mk w oi o c nI nO fr er env) =
        (((St.mk w oi o c nI nO fr er env).putCTraits (c.ctraits.set name t)).fire name, .trait tt) := by
  subst hi
  refine ⟨_, by simp only [getPrefixTrait, hpt]; rfl, fun fr er env => ?_⟩
  have hp := fun env' => prefix_trait_src E (St.mk w oi o c nI nO fr er env') name b hI hstar
  have hg := fun fr er env' => get_trait0_run ⟨E, user3 E⟩
    (St.mk { classes := w.classes.set o.cls { c with ctraits := c.ctraits.set name t },
             objs := w.objs.set oi (fireTraitAdded o name) }
      oi (fireTraitAdded o name) { c with ctraits := c.ctraits.set name t }
      (nI && (fireTraitAdded o name).itraits.isEmpty) nO fr er env') name
    (by simp only [Bool.and_eq_true, List.isEmpty_iff]; exact fun h => h.2)
  simp only [user6, runFun_mk, prefixTraitV, hpt] at hp ⊢
  resl_eval [ResolveC.get_prefix_trait, hp, user5_get_trait, user4, hg, trait0V, trait0]
  cases (fireTraitAdded o name).itraits.get name <;> rfl

end get_prefix_trait

end TraitsVerif.Model.ResL
